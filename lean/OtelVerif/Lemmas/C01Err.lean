import OtelVerif.Lemmas.C01Loose
import OtelVerif.Model.C01Err
/-!
# C01 — the queue machine with storage errors (`Model/C01Err.lean`): every label keeps `InvE` (= poisoned, or `InvR`)

A failing call changes memory only (`LiveInvE.mem_step`) and may give requests up (`InvR.dropMore`).
-/
namespace OtelVerif.C01

/-- `InvR` up to the ghost `dropped`, unless `Batch(get ri, get wi)` has failed: the code then runs with fresh indexes over old data and
    nothing is claimed any more -/
def InvE (ce : CfgE) : Prop := ce.poisoned = true ∨ InvR ce.base ce.dropped

theorem mem_itemsAt {s : Store} {l : List Nat} {j : Nat} {r : Req} (hj : j ∈ l) (hr : s.items j = some r) :
    r ∈ itemsAt s l := by
  unfold itemsAt
  exact List.mem_filterMap.mpr ⟨j, hj, hr⟩

theorem InvR.dropMore {c : Cfg} {drp : List Req} (h : InvR c drp) (dr : List Req) : InvR c (dr ++ drp) := by
  have hd : ∀ r, r ∈ drp → r ∈ dr ++ drp := fun r hr => List.mem_append_right _ hr
  refine ⟨h.st, ?_, ?_⟩
  · intro q hq
    rcases h.main q hq with (hf | hf) | hrec
    · left; left; exact hf
    · left; right; exact hd q hf
    · right; exact hrec
  · intro m pc heq
    have hl := h.live m pc heq
    exact hl.mem_step (fun _ h => h) hd rfl (Nat.le_refl _) hl.riWi (fun j h1 h2 => by omega) (fun j hj => hj)
      hl.cdiNodup hl.outst (fun j _ hj => Or.inl hj)
      (hl.pc.transport rfl rfl rfl rfl hd)

theorem InvR.relive {c : Cfg} {drp : List Req} (h : InvR c drp) {m' : Mem} {pc' : Pc} {res : Res}
    (hl : LiveInvE c.st c.finalised drp m' pc') : InvR { c with ph := .live m' pc', res := res } drp :=
  InvR.mkLive rfl h.st h.main hl

theorem invR_readErr {c : Cfg} {drp : List Req} {m : Mem} {pc0 : Pc} (h : InvR c drp)
    (hl : LiveInvE c.st c.finalised drp m pc0) (hk : KL c.st m pc0 = m.cdi) (hne : m.ri ≠ m.wi) :
    InvR { c with ph := .live { m with ri := m.ri + 1, cdi := swapRemove (m.cdi ++ [m.ri]) m.ri,
                                       size := if m.ri + 1 = m.wi then 0 else m.size } (.fin1 m.ri .read), res := .none }
      (itemsAt c.st [m.ri] ++ drp) := by
  have hnot : m.ri ∉ m.cdi := fun hm => by have := hl.cdiLt _ hm; have := hl.riLe; omega
  have hsw : swapRemove (m.cdi ++ [m.ri]) m.ri = m.cdi := swapRemove_append_self _ _ hnot
  have hriWi := hl.riWi
  have h2 := h.dropMore (itemsAt c.st [m.ri])
  have hd : ∀ r, r ∈ drp → r ∈ itemsAt c.st [m.ri] ++ drp := fun r hr => List.mem_append_right _ hr
  have hos : OS c.st c.finalised (itemsAt c.st [m.ri] ++ drp) m.ri := by
    intro q hq; right; exact List.mem_append_left _ (mem_itemsAt (by simp) hq)
  refine InvR.mkLive rfl h2.st h2.main ?_
  refine hl.mem_step (fun _ h => h) hd rfl (by dsimp only; omega) (by dsimp only; omega) ?_ ?_ ?_ ?_ ?_ ⟨hos, ?_⟩
  · intro j h1 h2'
    dsimp only at h2'
    have : j = m.ri := by omega
    rw [this]; exact hos
  · intro j hj; dsimp only at hj; rw [hsw] at hj; exact hj
  · dsimp only; rw [hsw]; exact hl.cdiNodup
  · intro p hp
    obtain ⟨h1, h3⟩ := hl.outst p hp
    exact ⟨h1, by dsimp only; rw [hsw]; exact h3⟩
  · intro j _ hj; left; rw [hk] at hj; show j ∈ swapRemove (m.cdi ++ [m.ri]) m.ri; rw [hsw]; exact hj
  · dsimp only; rw [hsw]; exact hnot

/-- recovery is skipped (`Get di` or the retrieve batch failed): everything listed in `di` is given up -/
theorem invR_skipRecovery {c : Cfg} {drp : List Req} {m : Mem} {pc0 : Pc} (h : InvR c drp)
    (hl : LiveInvE c.st c.finalised drp m pc0) :
    InvR { c with ph := .live m .idle } (itemsAt c.st c.st.di ++ drp) := by
  have h2 := h.dropMore (itemsAt c.st c.st.di)
  have hd : ∀ r, r ∈ drp → r ∈ itemsAt c.st c.st.di ++ drp := fun r hr => List.mem_append_right _ hr
  refine InvR.mkLive rfl h2.st h2.main ?_
  refine hl.mem_step (fun _ h => h) hd rfl (Nat.le_refl _) hl.riWi (fun j h1 h2 => by omega) (fun j hj => hj)
    hl.cdiNodup hl.outst ?_ trivial
  intro j hj _
  right
  intro q hq
  right; exact List.mem_append_left _ (mem_itemsAt hj hq)

theorem invR_moveErr {c : Cfg} {drp : List Req} {m : Mem} {i : Nat} {v : Option Req} {rest : List (Nat × Option Req)}
    (h : InvR c drp) (hl : LiveInvE c.st c.finalised drp m (.moving ((i, v) :: rest))) :
    InvR { c with ph := .live m (afterMove rest) } (v.toList ++ drp) := by
  have hm := hl.mov
  obtain ⟨_, hiv⟩ := hm.listed (i, v) (by simp)
  dsimp only at hiv
  have h2 := h.dropMore v.toList
  have hd : ∀ r, r ∈ drp → r ∈ v.toList ++ drp := fun r hr => List.mem_append_right _ hr
  have hnd' : (rest.map Prod.fst).Nodup := (List.nodup_cons.mp hm.nodup).2
  refine InvR.mkLive rfl h2.st h2.main (liveE_afterMove ?_)
  refine hl.mem_step (fun _ h => h) hd rfl (Nat.le_refl _) hl.riWi (fun j h1 h2 => by omega) (fun j hj => hj)
    hl.cdiNodup hl.outst ?_ ⟨fun p hp => hm.listed p (List.mem_cons_of_mem _ hp), hnd', hm.cdi, hm.outst⟩
  intro j _ hj
  have hk2 : j = i ∨ j ∈ rest.map Prod.fst := by simpa [KL] using hj
  rcases hk2 with e | hk2
  · right
    intro q hq
    right
    rw [e, hiv] at hq
    exact List.mem_append_left _ (by simp [hq])
  · left; exact hk2

/-- what every branch of a `do*Err` owes: `poisoned` untouched, `InvR` kept.  A branch is the base operation (`ErrOK.base`:
    no storage call was due) or a call that failed, which is memory-only (`ErrOK.failed`). -/
def ErrOK (ce ce' : CfgE) : Prop :=
  ce'.poisoned = ce.poisoned ∧ (InvR ce.base ce.dropped → InvR ce'.base ce'.dropped)

theorem ErrOK.base {ce : CfgE} {c' : Cfg} (h : InvR ce.base ce.dropped → InvR c' ce.dropped) :
    ErrOK ce { ce with base := c' } := ⟨rfl, h⟩

theorem ErrOK.failed {ce : CfgE} {c' : Cfg} {dr : List Req} (h : InvR ce.base ce.dropped → InvR c' (dr ++ ce.dropped)) :
    ErrOK ce (ce.failed c' dr) := ⟨rfl, fun hi => (h hi).same rfl rfl rfl rfl⟩

theorem doReadErr_ok {ce : CfgE} {m : Mem} {pc0 : Pc} (hph : ce.base.ph = .live m pc0) (hk : KL ce.base.st m pc0 = m.cdi) :
    ErrOK ce (doReadErr ce m) := by
  fun_cases doReadErr ce m
  · exact .base fun h => invR_doRead h (h.live _ _ hph) hk
  · exact .base fun h => invR_doRead h (h.live _ _ hph) hk
  · next _ he m' => exact .failed fun h => invR_readErr h (h.live _ _ hph) hk he

theorem doOfferErr_ok {ce : CfgE} {m : Mem} (hph : ce.base.ph = .live m .idle) (r : Req) : ErrOK ce (doOfferErr ce m r) := by
  fun_cases doOfferErr ce m r
  · exact .base fun h => invR_doOffer h hph r
  · exact .failed fun h => h.same rfl rfl rfl rfl

theorem doDoneErr_ok {ce : CfgE} {m : Mem} (hph : ce.base.ph = .live m .idle) (i : Nat) (oc : Outcome) :
    ErrOK ce (doDoneErr ce m i oc) := by
  fun_cases doDoneErr ce m i oc
  · exact .base fun h => invR_doDone h hph i _
  · exact .base fun h => invR_doDone h hph i .shutdownErr
  · next r hlook _ => exact .failed fun h => invR_done_unlisted h (h.live m _ hph) hlook

theorem doShutdownErr_ok {ce : CfgE} {m : Mem} (hph : ce.base.ph = .live m .idle) : ErrOK ce (doShutdownErr ce m) := by
  fun_cases doShutdownErr ce m
  · exact .base fun h => invR_doShutdown h hph
  · exact .failed fun h =>
      InvR.mkLive rfl h.st h.main ((h.live m _ hph).restate rfl rfl rfl (h.live m _ hph).outst rfl trivial)

theorem doWakeErr_ok {ce : CfgE} {m : Mem} (hph : ce.base.ph = .live m .idle) : ErrOK ce (doWakeErr ce m) := by
  fun_cases doWakeErr ce m
  · exact ⟨rfl, id⟩
  · exact .base fun h => invR_doWake h hph
  · exact .failed fun h => InvR.mkLive rfl h.st h.main ((h.live m _ hph).waiting _)

theorem doTickErr_ok {ce : CfgE} {m : Mem} {pc : Pc} (hph : ce.base.ph = .live m pc) : ErrOK ce (doTickErr ce m pc) := by
  have skip : ∀ {pc0}, ce.base.ph = .live m pc0 → ErrOK ce (ce.failed { ce.base with ph := .live m .idle } (itemsAt ce.base.st ce.base.st.di)) :=
    fun hph => .failed fun h => invR_skipRecovery h (h.live m _ hph)
  cases pc with
  | idle => exact ⟨rfl, id⟩
  | backup => exact .failed fun h => h.repc hph rfl trivial
  | readRet i r => exact .base fun h => invR_doTick h hph
  | readFin i => exact .failed fun h => invR_readFin_unlisted h (h.live m _ hph)
  | readLoop => exact doReadErr_ok hph rfl
  | init1 =>
    simp only [doTickErr]
    split
    · exact .failed fun h => h.repc hph rfl (h.live m _ hph).pc
    · exact skip hph
  | init2 => exact skip hph
  | init3 ds =>
    refine .failed fun h => ?_
    obtain ⟨hds, -⟩ : ds = ce.base.st.di ∧ m.cdi = [] ∧ m.outst = [] := (h.live m _ hph).pc
    subst hds
    exact invR_skipRecovery h (h.live m _ hph)
  | moving todo =>
    match todo with
    | [] => exact .base fun h => invR_doMove h hph
    | (i, none) :: rest => exact .failed fun h => invR_moveErr (v := none) h (h.live m _ hph)
    | (i, some r) :: rest => exact .failed fun h => invR_moveErr (v := some r) h (h.live m _ hph)
  | movingBackup todo => exact .failed fun h => (h.repc (pc' := .moving todo) hph rfl (h.live m _ hph).pc).afterMove rfl
  | fin1 i k => exact .failed fun h => h.repc (pc' := .fin2 i k) hph rfl (h.live m _ hph).pc
  | fin2 i k => exact .failed fun h => h.repc hph (KL_finCont _ _ _ _) (pcInvE_finCont _ _ _ _ _ _)
  | fin3 i k => exact .failed fun h => h.repc hph (KL_finCont _ _ _ _) (pcInvE_finCont _ _ _ _ _ _)

theorem fireErr_step (ce : CfgE) (l : Label) : (fireErr ce l).poisoned = true ∨ ErrOK ce (fireErr ce l) := by
  -- the cases in the order of the definition of `fireErr`: each label followed by its "not enabled" case
  fun_cases fireErr ce l
  · exact Or.inr (.base fun h => InvR.mkDead rfl h.st h.main)
  · exact Or.inl rfl
  · exact Or.inr ⟨rfl, id⟩
  · exact Or.inr (doTickErr_ok ‹_›)
  · exact Or.inr ⟨rfl, id⟩
  · exact Or.inr (doOfferErr_ok ‹_› _)
  · exact Or.inr ⟨rfl, id⟩
  · exact Or.inr (doReadErr_ok ‹_› rfl)
  · exact Or.inr ⟨rfl, id⟩
  · exact Or.inr (doDoneErr_ok ‹_› _ _)
  · exact Or.inr ⟨rfl, id⟩
  · exact Or.inr (doShutdownErr_ok ‹_›)
  · exact Or.inr ⟨rfl, id⟩
  · exact Or.inr (doWakeErr_ok ‹_›)
  · exact Or.inr ⟨rfl, id⟩
  · exact Or.inr (.base fun h => invR_fire h (.cancel _))
  · exact Or.inr (.base fun h => invR_fire h (.promote _))

theorem invE_fireE {ce : CfgE} (h : InvE ce) (l : LabelE) : InvE (fireE ce l) := by
  cases l with
  | fail b => exact h
  | op l =>
    simp only [fireE]
    split
    · rcases fireErr_step ce l with hp | ⟨he, hi⟩
      · exact Or.inl hp
      · exact h.imp (fun hp => he.trans hp) hi
    · exact h.imp id fun hr => invR_fire hr l

theorem invE_initE (k : Conf) : InvE (initE k) :=
  Or.inr (InvR.mkDead rfl stInv_empty.toE fun _ hr => nomatch hr)

theorem invE_runE (k : Conf) (ls : List LabelE) : InvE (runE k ls) :=
  List.foldlRecOn (motive := InvE) ls fireE (invE_initE k) fun _ h l _ => invE_fireE h l

theorem runE_ops (k : Conf) (ls : List Label) :
    (runE k (ls.map .op)).base = run k ls ∧ (runE k (ls.map .op)).dropped = [] ∧
    (runE k (ls.map .op)).poisoned = false ∧ (runE k (ls.map .op)).failNext = false := by
  unfold runE run
  suffices ∀ (ce : CfgE), ce.failNext = false →
      ((ls.map LabelE.op).foldl fireE ce).base = ls.foldl fire ce.base ∧
      ((ls.map LabelE.op).foldl fireE ce).dropped = ce.dropped ∧
      ((ls.map LabelE.op).foldl fireE ce).poisoned = ce.poisoned ∧
      ((ls.map LabelE.op).foldl fireE ce).failNext = false from this (initE k) rfl
  induction ls with
  | nil => intro ce h; exact ⟨rfl, rfl, rfl, h⟩
  | cons l ls ih =>
    intro ce h
    simp only [List.map_cons, List.foldl_cons]
    have e : fireE ce (.op l) = { ce with base := fire ce.base l } := by simp [fireE, h]
    rw [e]
    exact ih _ h

end OtelVerif.C01

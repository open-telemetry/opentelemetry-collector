import OtelVerif.Lemmas.C01GlueInv
import OtelVerif.Lemmas.C01Drain
/-!
# C01 — liveness of the glue machine under an explicit fair schedule

`restartG` / `drainAllG` run a concrete FAIR continuation of any glue configuration: death, a whole start-up, then consumer goroutine 0
round after round (`Read`, the export returns nil, `OnDone`).  Their queue component is `drainAll (restart q)` of Lemmas/C01Drain.lean
(the simulation `At`), so the liveness theorem of the queue machine lifts.
-/
namespace OtelVerif.C01

def ticksG : Nat → GCfg → GCfg
  | 0, g => g
  | n + 1, g => ticksG n (fireG g (.env .tick))

def restartG (g : GCfg) : GCfg :=
  ticksG (2 * g.q.st.di.length + 4) (fireG (fireG g (.env .crash)) (.env .start))

/-- one fair round of consumer goroutine 0 with a destination that accepts the request -/
def drainStepG (g : GCfg) : GCfg :=
  let g1 := fireG (fireG g (.cRead 0)) (.env .tick)
  match g1.q.res with
  | .readItem _ _ => fireG (fireG (fireG (fireG g1 (.cInvoke 0)) (.expRet 0 .ok)) (.cDone 0)) (.env .tick)
  | _ => g1

def drainG : Nat → GCfg → GCfg
  | 0, g => g
  | n + 1, g => drainG n (drainStepG g)

def drainAllG (g : GCfg) : GCfg := drainG (g.q.st.W - g.q.st.R) g

/-- where a round of consumer goroutine 0 stands; between rounds it is `At g c .idle none` -/
structure At (g : GCfg) (c : Cfg) (p : CPc) (op : Option (Nat × OpK)) : Prop where
  q : g.q = c
  pc : g.cons[0]? = some p
  op : g.inOp = op

theorem tickG_quiet {g : GCfg} (h : g.inOp = none) : fireG g (.env .tick) = qfire g .tick := by
  rw [fireG_tick]
  split
  · next heq => rw [h] at heq; cases heq
  · exact settle_none (g := qfire g .tick) h

theorem At.tick {g : GCfg} {c : Cfg} {p : CPc} (a : At g c p none) : At (fireG g (.env .tick)) (fire c .tick) p none := by
  obtain ⟨rfl, hp, ho⟩ := a
  rw [tickG_quiet ho]
  exact ⟨rfl, hp, ho⟩

theorem At.ticks (n : Nat) : ∀ {g : GCfg} {c : Cfg}, At g c .idle none → GInv g →
    At (ticksG n g) (ticks n c) .idle none ∧ GInv (ticksG n g) := by
  induction n with
  | zero => exact fun a hg => ⟨a, hg⟩
  | succ n ih => exact fun a hg => ih a.tick (hg.fireG _)

theorem restartG_spec {g : GCfg} (hg : GInv g) (hn : 0 < g.gk.n) :
    At (restartG g) (restart g.q) .idle none ∧ GInv (restartG g) := by
  unfold restartG restart
  refine At.ticks _ ⟨rfl, ?_, rfl⟩ ((hg.fireG _).fireG _)
  show (List.replicate g.gk.n CPc.idle)[0]? = some CPc.idle
  rw [List.getElem?_replicate, if_pos hn]

theorem read_of_ready {c : Cfg} (hi : Inv c) (hr : Ready c) (hlt : c.st.R < c.st.W) :
    ∃ m m' r, c.ph = .live m .idle ∧ (fire c .read).ph = .live m' (.readRet m.ri r) := by
  obtain ⟨m, rd⟩ := hr
  have hph := rd.ph
  have hl := hi.live m _ hph
  have hne : m.ri ≠ m.wi := by rw [hl.ri, hl.wi]; exact Nat.ne_of_lt hlt
  obtain ⟨r, hitem⟩ := hi.head hph hne
  refine ⟨m, { m with ri := m.ri + 1, cdi := m.cdi ++ [m.ri], size := if m.ri + 1 = m.wi then 0 else m.size }, r, hph, ?_⟩
  rw [fire_read_idle hph]
  exact (doRead_item rd.stopped hne hitem).1

theorem length_pos_of_getElem?_zero {α : Type} {l : List α} {p : α} (h : l[0]? = some p) : 0 < l.length :=
  (List.getElem?_eq_some_iff.mp h).1

theorem At.cRead {g : GCfg} {c : Cfg} {m m' : Mem} {i : Nat} {r : Req} (a : At g c .idle none) (hph : c.ph = .live m .idle)
    (hp1 : (fire c .read).ph = .live m' (.readRet i r)) :
    At (fireG g (.cRead 0)) (fire c .read) .inQueue (some (0, .read)) := by
  obtain ⟨rfl, hp, ho⟩ := a
  rw [fireG_cRead, if_pos ⟨ho, idle_iff.mpr ⟨_, hph⟩, hp⟩]
  rw [settle_busy]
  · exact ⟨rfl, List.getElem?_set_self (length_pos_of_getElem?_zero hp), rfl⟩
  · unfold Cfg.idle; rw [show (qfire g .read).q.ph = _ from hp1]

theorem At.tick_ret {g : GCfg} {c : Cfg} {p : CPc} {m : Mem} {i : Nat} {r : Req} (a : At g c p (some (0, .read)))
    (hph : c.ph = .live m (.readRet i r)) : At (fireG g (.env .tick)) (fire c .tick) (.got i r) none := by
  obtain ⟨rfl, hp, ho⟩ := a
  rw [fireG_tick, hph, ho]
  exact ⟨rfl, List.getElem?_set_self (length_pos_of_getElem?_zero hp), rfl⟩

theorem At.cInvoke {g : GCfg} {c : Cfg} {op : Option (Nat × OpK)} {i : Nat} {r : Req} (a : At g c (.got i r) op) :
    At (fireG g (.cInvoke 0)) c (.sending i r) op := by
  obtain ⟨rfl, hp, ho⟩ := a
  rw [fireG_cInvoke, hp]
  exact ⟨rfl, List.getElem?_set_self (length_pos_of_getElem?_zero hp), ho⟩

theorem At.expRet_ok {g : GCfg} {c : Cfg} {op : Option (Nat × OpK)} {i : Nat} {r : Req} (a : At g c (.sending i r) op) :
    At (fireG g (.expRet 0 .ok)) c (.ret i r none) op := by
  obtain ⟨rfl, hp, ho⟩ := a
  rw [fireG_expRet, hp]
  exact ⟨rfl, List.getElem?_set_self (length_pos_of_getElem?_zero hp), ho⟩

theorem At.tick_done {g : GCfg} {c : Cfg} {p : CPc} {m : Mem} (a : At g c p (some (0, .done))) (hph : c.ph = .live m .backup) :
    At (fireG g (.env .tick)) (fire c .tick) .idle none := by
  obtain ⟨rfl, hp, ho⟩ := a
  rw [fireG_tick, hph]
  show At (settle (qfire g .tick)) _ _ _
  rw [settle_idle (g := qfire g .tick) ho (by rw [show (qfire g .tick).q = _ from fire_tick hph]; rfl)]
  exact ⟨rfl, List.getElem?_set_self (length_pos_of_getElem?_zero hp), rfl⟩

theorem doDone_ph {c : Cfg} {m : Mem} (i : Nat) (oc : Outcome) (h : c.ph = .live m .idle) :
    ∃ m', (doDone c m i oc).ph = .live m' .idle ∨ (doDone c m i oc).ph = .live m' .backup := by
  unfold doDone
  split
  · exact ⟨m, .inl h⟩
  · cases oc
    · dsimp only
      split
      · exact ⟨_, .inr rfl⟩
      · exact ⟨_, .inl rfl⟩
    · exact ⟨_, .inl rfl⟩

/-- if the size back-up is still due the goroutine stays inside `onDone` until the next tick -/
theorem At.cDone_tick {g : GCfg} {c : Cfg} {m : Mem} {i : Nat} {r : Req} (a : At g c (.ret i r none) none)
    (hph : c.ph = .live m .idle) :
    At (fireG (fireG g (.cDone 0)) (.env .tick)) (fire (fire c (.done i .final)) .tick) .idle none := by
  obtain ⟨rfl, hp, ho⟩ := a
  have hlen := length_pos_of_getElem?_zero hp
  rw [fireG_cDone, if_pos ⟨ho, idle_iff.mpr ⟨_, hph⟩⟩, hp]
  show At (fireG (settle { qfire g (.done i .final) with inOp := some (0, .done), cons := g.cons.set 0 .inQueue }) _) _ _ _
  obtain ⟨m', h' | h'⟩ := doDone_ph i .final hph <;> rw [← fire_done_idle hph] at h'
  · rw [settle_idle (j := 0) (k := .done)]
    · exact At.tick ⟨rfl, List.getElem?_set_self (by rw [List.length_set]; exact hlen), rfl⟩
    · rfl
    · exact idle_iff.mpr ⟨_, h'⟩
  · rw [settle_busy]
    · exact At.tick_done ⟨rfl, List.getElem?_set_self hlen, rfl⟩ h'
    · unfold Cfg.idle; rw [show (qfire g _).q.ph = _ from h']

theorem drainStepG_spec {g : GCfg} {c : Cfg} (a : At g c .idle none) (hg : GInv g) (hi : Inv c) (hr : Ready c)
    (hlt : c.st.R < c.st.W) : At (drainStepG g) (drainStep c) .idle none ∧ GInv (drainStepG g) := by
  obtain ⟨m, m', r, hph, hp1⟩ := read_of_ready hi hr hlt
  have b := (a.cRead hph hp1).tick_ret hp1
  obtain ⟨hph2, -, -, hres⟩ := tick_readRet hp1
  unfold drainStepG drainStep
  dsimp only
  rw [b.q, hres]
  exact ⟨b.cInvoke.expRet_ok.cDone_tick hph2, (((((hg.fireG _).fireG _).fireG _).fireG _).fireG _).fireG _⟩

theorem drainG_spec (n : Nat) : ∀ {g : GCfg} {c : Cfg}, At g c .idle none → GInv g → Inv c → Ready c → c.st.W - c.st.R = n →
    (drainG n g).q = drain n c ∧ GInv (drainG n g) := by
  induction n with
  | zero => exact fun a hg _ _ _ => ⟨a.q, hg⟩
  | succ n ih =>
    intro g c a hg hi hr hn
    have hlt := Nat.lt_of_sub_eq_succ hn
    obtain ⟨hr1, hi1, -, hR1, hW1, -⟩ := drainStep_spec hi hr hlt
    obtain ⟨a1, hg1⟩ := drainStepG_spec a hg hi hr hlt
    exact ih a1 hg1 hi1 hr1 (by rw [hW1, hR1, Nat.sub_add_eq, hn]; rfl)

theorem drainAllG_restartG_q {g : GCfg} (hg : GInv g) (hn : 0 < g.gk.n) (hi : Inv g.q) :
    (drainAllG (restartG g)).q = drainAll (restart g.q) ∧ GInv (drainAllG (restartG g)) := by
  obtain ⟨a, hg'⟩ := restartG_spec hg hn
  obtain ⟨hready, hi', -⟩ := restart_ready hi
  unfold drainAllG drainAll
  rw [a.q]
  exact drainG_spec _ a hg' hi' hready rfl

end OtelVerif.C01

import OtelVerif.Lemmas.C04Slots
import OtelVerif.Lemmas.C04Done
/-! C04: the accounting of `Done`s and of the reported outcomes holds along every history of the batcher -/
namespace OtelVerif.C04

/-- the record of a history: for every flush that ends, its outcome under every request one of its `Done`s belongs to -/
def doneLog (c : BCfg) : BState → List BLabel → List (Nat × Err)
  | _, [] => []
  | s, l :: ls =>
    (match l with
     | .finish fid err =>
       (match s.flights.find? (fun f => f.fid = fid) with
        | some f => logAll s.refs err f.dones
        | none => [])
     | _ => []) ++ doneLog c (bstep c s l).1 ls

theorem doneLog_cons (c : BCfg) (s : BState) (l : BLabel) (ls : List BLabel) :
    doneLog c s (l :: ls) = doneLog c s [l] ++ doneLog c (bstep c s l).1 ls := by
  simp only [doneLog, List.append_nil]

theorem consumedIds_cons (l : BLabel) (ls : List BLabel) : consumedIds (l :: ls) = consumedIds [l] ++ consumedIds ls := by
  cases l <;> rfl

/-- the `Ledger` of a state, and `FOK` -/
def SLedger (s : BState) (fired log : List (Nat × Err)) (consumed : List Nat) : Prop :=
  Ledger s.refs s.dones fired log consumed ∧ FOK s

theorem sledger_init : SLedger {} [] [] [] := ⟨ledger_init, fok_init⟩

theorem consume_ledger (c : BCfg) (s : BState) (fired log : List (Nat × Err)) (consumed : List Nat) (id : Nat) (units : Parts)
    (h : SLedger s fired log consumed) (hid : id ∉ consumed) :
    SLedger ((s.consume c id units).1.start (s.consume c id units).2) fired log (id :: consumed) := by
  obtain ⟨k, first, chs, ds, hs⟩ := consume_step c s id units
  obtain ⟨hnew, hold⟩ := mkDone_view s id k hs.kpos
  refine ⟨?_, hs.fok h.2⟩
  rw [hs.refs]
  refine add_ledger h.1 hid hs.kpos (fun d' hd' => ?_) hnew (fun hd => ?_) hs.dones
  · obtain ⟨r, hv, _⟩ := h.1.held d' hd'
    rw [hv]; exact hold d' r hv
  · -- the new `Done` is held by nobody: its request is new, and a held `Done` keeps its view
    obtain ⟨r, hv, _, _, hc⟩ := h.1.held _ hd
    have := (hold _ r hv).symm.trans hnew
    exact hid (by rw [Option.some.inj this] at hc; exact hc)

theorem finish_ledger (c : BCfg) (s : BState) (fired log : List (Nat × Err)) (consumed : List Nat) (fid : Nat) (err : Err)
    (h : SLedger s fired log consumed) :
    SLedger (s.finish fid err).1 (fired ++ (s.finish fid err).2) (log ++ doneLog c s [.finish fid err]) consumed := by
  rcases finish_step s fid err h.2 with ⟨hf, e⟩ | ⟨f, hf⟩
  · have hl : doneLog c s [.finish fid err] = [] := by simp only [doneLog, hf, List.append_nil]
    rw [e, hl, List.append_nil, List.append_nil]
    exact h
  · have hl : doneLog c s [.finish fid err] = logAll s.refs err f.dones := by simp only [doneLog, hf.found, List.append_nil]
    have hp : (f.dones ++ (s.finish fid err).1.dones).Perm s.dones := by
      rw [dones_eq_slots, dones_eq_slots s]
      exact (hf.slots.flatMap_right (·.2)).symm
    refine ⟨?_, hf.fok⟩
    rw [hl, hf.refs, hf.fired]
    exact onDoneAll_ledger err f.dones s.refs _ fired log consumed (h.1.congr hp (fun _ => Iff.rfl))

theorem flush_ledger (s : BState) (fired log : List (Nat × Err)) (consumed : List Nat) (h : SLedger s fired log consumed) :
    SLedger (s.flushCur.1.start s.flushCur.2) fired log consumed := by
  have hf := flush_step s
  refine ⟨?_, hf.fok h.2⟩
  rw [hf.refs]
  refine h.1.congr ?_ (fun _ => Iff.rfl)
  rw [dones_eq_slots, dones_eq_slots]
  exact hf.slots.flatMap_right _

theorem bstep_ledger (c : BCfg) (s : BState) (fired log : List (Nat × Err)) (consumed : List Nat) (l : BLabel)
    (h : SLedger s fired log consumed) (hnew : ∀ id ∈ consumedIds [l], id ∉ consumed) :
    SLedger (bstep c s l).1 (fired ++ (bstep c s l).2) (log ++ doneLog c s [l]) (consumedIds [l] ++ consumed) := by
  cases l with
  | consume id units =>
    show SLedger _ (fired ++ []) (log ++ []) (id :: consumed)
    rw [List.append_nil, List.append_nil]
    exact consume_ledger c s fired log consumed id units h (hnew id (List.mem_singleton.mpr rfl))
  | flush =>
    show SLedger _ (fired ++ []) (log ++ []) consumed
    rw [List.append_nil, List.append_nil]
    exact flush_ledger s fired log consumed h
  | finish fid err => exact finish_ledger c s fired log consumed fid err h

theorem brun_ledger (c : BCfg) :
    ∀ (ls : List BLabel) (s : BState) (fired log : List (Nat × Err)) (consumed : List Nat), SLedger s fired log consumed →
      (consumedIds ls).Nodup → (∀ id ∈ consumedIds ls, id ∉ consumed) →
      SLedger (brun c s ls).1 (fired ++ (brun c s ls).2) (log ++ doneLog c s ls) (consumedIds ls ++ consumed) := by
  intro ls
  induction ls with
  | nil =>
    intro s fired log consumed h _ _
    show SLedger s (fired ++ []) (log ++ []) consumed
    rw [List.append_nil, List.append_nil]
    exact h
  | cons l ls ih =>
    intro s fired log consumed h hnd hnew
    rw [consumedIds_cons] at hnd hnew
    obtain ⟨_, hnd2, hdis⟩ := List.nodup_append.mp hnd
    have h1 := bstep_ledger c s fired log consumed l h (fun id hid => hnew id (List.mem_append.mpr (Or.inl hid)))
    have h2 := ih _ _ _ _ h1 hnd2 (fun id hid hm => by
      rcases List.mem_append.mp hm with hm | hm
      · exact hdis id hm id hid rfl
      · exact hnew id (List.mem_append.mpr (Or.inr hid)) hm)
    rw [brun_cons, doneLog_cons, consumedIds_cons, ← List.append_assoc, ← List.append_assoc]
    refine ⟨h2.1.congr (List.Perm.refl _) (fun x => ?_), h2.2⟩
    simp only [List.mem_append] -- the same members, bracketed differently
    exact ⟨fun o => o.elim (fun o' => o'.elim (fun a => Or.inr (Or.inl a)) Or.inl) (fun a => Or.inr (Or.inr a)),
      fun o => o.elim (fun a => Or.inl (Or.inr a)) (fun o' => o'.elim (fun a => Or.inl (Or.inl a)) Or.inr)⟩

end OtelVerif.C04

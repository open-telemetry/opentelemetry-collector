import OtelVerif.Model.C01Config
/-! C01 — which queue option the exporter ends up with.  (Namespace `C01.Cfg` is also that of the queue machine's `structure Cfg`.) -/
namespace OtelVerif.C01
open OtelVerif.C01.Cfg

/-- the queue option that counts: the LAST enabled `WithQueue` / `WithQueueBatch` (disabled ones are ignored) -/
def lastEnabledQueue : List Opt → Option QCfg
  | [] => none
  | o :: os =>
    match lastEnabledQueue os with
    | some q => some q
    | none => match o with
      | .queue q => if q.enabled then some q else none
      | _ => none

theorem applyOpts_queueCfg (opts : List Opt) : ∀ be : BE,
    (opts.foldl applyOpt be).queueCfg = (lastEnabledQueue opts).getD be.queueCfg := by
  induction opts with
  | nil => intro be; rfl
  | cons o os ih =>
    intro be
    rw [List.foldl_cons, ih]
    simp only [lastEnabledQueue]
    cases h : lastEnabledQueue os with
    | some q => rfl
    | none =>
      cases o with
      | queue q =>
        simp only [applyOpt]
        by_cases he : q.enabled = true <;> simp [he]
      | batcher b => rfl
      | retry e => simp only [applyOpt]; cases e <;> rfl

end OtelVerif.C01

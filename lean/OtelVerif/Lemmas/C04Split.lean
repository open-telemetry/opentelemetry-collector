import OtelVerif.Model.C04
/-!
C04: the results of the split loop started on `req`, without the fuel and the accumulator of `splitLoop`
(`Splits o max req out`, one constructor per way an iteration can go); `mergeSplit_cases`: from `mergeSplit` to `Splits`.
-/
namespace OtelVerif.C04

inductive Splits {P : Type} (o : Ops P) (max : Int) : Req P → List (Req P) → Prop
  | fits (req : Req P) (h : ¬ (req.norm o).cached > max) : Splits o max req [req.norm o]
  /-- nothing extracted and nothing to move: whatever `extract` took goes back -/
  | stuck (req : Req P) (h : (req.norm o).cached > max) (hrm : (o.extract max req.p).2.2 = 0)
      (hmv : (o.moveFirst (o.extract max req.p).2.1 (o.extract max req.p).1).2.2 = false) :
      Splits o max req
        [{ p := o.append (o.moveFirst (o.extract max req.p).2.1 (o.extract max req.p).1).1
                  (o.moveFirst (o.extract max req.p).2.1 (o.extract max req.p).1).2.1,
           cached := o.size (o.append (o.moveFirst (o.extract max req.p).2.1 (o.extract max req.p).1).1
                  (o.moveFirst (o.extract max req.p).2.1 (o.extract max req.p).1).2.1) }]
  /-- nothing extracted within `max`: the first item leaves alone -/
  | moved (req : Req P) (out : List (Req P)) (h : (req.norm o).cached > max) (hrm : (o.extract max req.p).2.2 = 0)
      (hmv : (o.moveFirst (o.extract max req.p).2.1 (o.extract max req.p).1).2.2 = true)
      (tail : Splits o max
        { p := (o.moveFirst (o.extract max req.p).2.1 (o.extract max req.p).1).1,
          cached := o.size (o.moveFirst (o.extract max req.p).2.1 (o.extract max req.p).1).1 } out) :
      Splits o max req ({ p := (o.moveFirst (o.extract max req.p).2.1 (o.extract max req.p).1).2.1, cached := -1 } :: out)
  /-- the extracted part leaves, the loop goes on with the rest and the memoised size minus `removedSize` -/
  | extracted (req : Req P) (out : List (Req P)) (h : (req.norm o).cached > max) (hrm : (o.extract max req.p).2.2 ≠ 0)
      (tail : Splits o max
        { p := (o.extract max req.p).2.1, cached := (req.norm o).cached - (o.extract max req.p).2.2 } out) :
      Splits o max req ({ p := (o.extract max req.p).1, cached := -1 } :: out)

theorem splitLoop_succ {P : Type} (o : Ops P) (max : Int) (n : Nat) (req : Req P) (res : List (Req P)) :
    splitLoop o max (n + 1) req res =
      if (req.norm o).cached > max then
        if (o.extract max req.p).2.2 = 0 then
          if (o.moveFirst (o.extract max req.p).2.1 (o.extract max req.p).1).2.2 = true then
            splitLoop o max n
              { p := (o.moveFirst (o.extract max req.p).2.1 (o.extract max req.p).1).1,
                cached := o.size (o.moveFirst (o.extract max req.p).2.1 (o.extract max req.p).1).1 }
              (res ++ [{ p := (o.moveFirst (o.extract max req.p).2.1 (o.extract max req.p).1).2.1, cached := -1 }])
          else
            some (res ++ [{ p := o.append (o.moveFirst (o.extract max req.p).2.1 (o.extract max req.p).1).1
                                (o.moveFirst (o.extract max req.p).2.1 (o.extract max req.p).1).2.1,
                            cached := o.size (o.append (o.moveFirst (o.extract max req.p).2.1 (o.extract max req.p).1).1
                                (o.moveFirst (o.extract max req.p).2.1 (o.extract max req.p).1).2.1) }])
        else
          splitLoop o max n { p := (o.extract max req.p).2.1, cached := (req.norm o).cached - (o.extract max req.p).2.2 }
            (res ++ [{ p := (o.extract max req.p).1, cached := -1 }])
      else some (res ++ [req.norm o]) := by
  simp only [splitLoop, beq_iff_eq]
  rfl

theorem splitLoop_splits {P : Type} (o : Ops P) (max : Int) :
    ∀ (fuel : Nat) (req : Req P) (res out : List (Req P)), splitLoop o max fuel req res = some out →
      ∃ tail, out = res ++ tail ∧ Splits o max req tail := by
  intro fuel
  induction fuel with
  | zero => intro req res out h; cases h
  | succ n ih =>
    intro req res out h
    rw [splitLoop_succ] at h
    by_cases hgt : (req.norm o).cached > max
    · rw [if_pos hgt] at h
      by_cases hrm : (o.extract max req.p).2.2 = 0
      · rw [if_pos hrm] at h
        by_cases hmv : (o.moveFirst (o.extract max req.p).2.1 (o.extract max req.p).1).2.2 = true
        · rw [if_pos hmv] at h
          obtain ⟨tail, rfl, ht⟩ := ih _ _ _ h
          exact ⟨_ :: tail, by rw [List.append_assoc]; rfl, .moved req tail hgt hrm hmv ht⟩
        · rw [if_neg hmv] at h
          injection h with h
          exact ⟨_, h.symm, .stuck req hgt hrm (Bool.eq_false_iff.mpr hmv)⟩
      · rw [if_neg hrm] at h
        obtain ⟨tail, rfl, ht⟩ := ih _ _ _ h
        exact ⟨_ :: tail, by rw [List.append_assoc]; rfl, .extracted req tail hgt hrm ht⟩
    · rw [if_neg hgt] at h
      injection h with h
      exact ⟨_, h.symm, .fits req hgt⟩

theorem Splits.ne_nil {P : Type} {o : Ops P} {max : Int} {req : Req P} {out : List (Req P)} (h : Splits o max req out) :
    out ≠ [] := by
  cases h <;> simp

def merged {P : Type} (o : Ops P) (r1 : Req P) : Option (Req P) → Req P
  | some r2 => mergeTo o r1 r2
  | none => r1

theorem mergeSplit_cases {P : Type} (o : Ops P) (max : Int) (r1 : Req P) (r2 : Option (Req P)) (out : List (Req P))
    (h : mergeSplit o max r1 r2 = some out) :
    (max = 0 ∧ out = [merged o r1 r2]) ∨
    (max ≠ 0 ∧ ∃ out0, Splits o max (merged o r1 r2) out0 ∧ out = dropEmptyLast o out0) := by
  have hm : mergeSplit o max r1 r2 = if max == 0 then some [merged o r1 r2] else split o max (merged o r1 r2) := by
    cases r2 <;> rfl
  rw [hm] at h
  split at h
  · next h0 =>
    injection h with h
    exact Or.inl ⟨by simpa using h0, h.symm⟩
  · next h0 =>
    simp only [split, splitRaw, Option.map_eq_some_iff] at h
    obtain ⟨out0, hl, rfl⟩ := h
    obtain ⟨tail, he, ht⟩ := splitLoop_splits o max _ _ _ _ hl
    rw [List.nil_append] at he
    exact Or.inr ⟨by simpa using h0, tail, ht, by rw [he]⟩

end OtelVerif.C04

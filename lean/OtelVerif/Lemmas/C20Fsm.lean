import OtelVerif.Lemmas.C20
import OtelVerif.Gen.CollectorFsm
/-!
# C20 — the documented lifecycle FSM, and the model's statements read back as source facts

First half: every label keeps the state word or moves it along an edge of `fsmEdge` (`fire_st_edge`), so the history of any run is
an `fsmPath` (`stHist_path`); `fsmTraceBad` accepts only strict paths (`fsmTraceBad_none`).

The second half derives, FROM THE MODEL (by executing `stepRun` / `pickEv` on probe states and reading the event
log), the facts that the translator `collectorfsm` extracts from `otelcol/collector.go`: the `setCollectorState`
sites, the order of the calls that matter in each lifecycle function, the outcome of each select branch. Props/C20
states their equality with the regenerated data — a source change re-checks it.
-/
namespace OtelVerif.C20

/-! ## the state word moves along `fsmEdge` -/

/-- the strictly documented chain (what the property text spells out) -/
def fsmDocumented : CState → CState → Bool
  | .starting, .running | .running, .closing | .closing, .closed => true
  | _, _ => false

theorem fsmDocumented_sub (a b : CState) (h : fsmDocumented a b = true) : fsmEdge a b = true := by
  cases a <;> cases b <;> simp_all [fsmDocumented, fsmEdge]

theorem st_external (v : Variant) {s s' : S} {l : Label} (h : fire v s l = some s') (hl : ∀ ok, l ≠ .step ok) :
    s'.st = s.st := by
  rcases fire_cases v h with ⟨-, hc⟩ | ⟨-, -, rfl⟩ | ⟨ok, rfl, -⟩ | ⟨e, -, -, hp⟩
  · exact congrArg Core.st hc.core
  · rfl
  · exact absurd rfl (hl ok)
  · exact congrArg Core.st (pickEv_picked hp).core

theorem Pc.stores_edge {p : Pc} {a b : CState} (ha : p.stateAt = some a) (hb : p.stores = some b) : fsmEdge a b = true := by
  cases p <;> (try (rename_i rl; cases rl)) <;> cases hb <;> cases ha <;> rfl

/-- the sequence of values of the state word along a run from `s` (one entry per label, up to the first disabled one) -/
def stHist (v : Variant) (s : S) : List Label → List CState
  | [] => []
  | l :: ls => match fire v s l with
    | some s' => s'.st :: stHist v s' ls
    | none => []

/-- `fsmPath a cs`: starting from `a`, each next value is the same or an FSM edge away -/
def fsmPath : CState → List CState → Prop
  | _, [] => True
  | a, b :: cs => (b = a ∨ fsmEdge a b = true) ∧ fsmPath b cs

theorem fire_st_edge (v : Variant) {s s' : S} {l : Label} (hi : Good s.core) (h : fire v s l = some s') :
    s'.st = s.st ∨ fsmEdge s.st s'.st = true := by
  cases l with
  | step ok =>
    have sh := stepRun_stepped h
    have hp : s.pc ≠ .done := fun hd => by have := sh.pc; rw [hd] at this; cases this
    rw [show s'.st = s.pc.stores.getD s.st from congrArg Core.st sh.core]
    cases hs : s.pc.stores with
    | none => exact Or.inl rfl
    | some b => exact Or.inr (Pc.stores_edge (hi.atPc hp).st hs)
  | _ => exact Or.inl (st_external v h nofun)

theorem stHist_path (v : Variant) (ls : List Label) : ∀ (s : S), Good s.core → fsmPath s.st (stHist v s ls) := by
  induction ls with
  | nil => intro s _; trivial
  | cons l ls ih =>
    intro s hi
    simp only [stHist]
    cases hf : fire v s l with
    | none => trivial
    | some s' => exact ⟨fire_st_edge v hi hf, ih s' (good_fire v hi hf)⟩

/-- every consecutive pair is an edge of the FSM (no stuttering) -/
def fsmStrict : List CState → Prop
  | a :: b :: cs => fsmEdge a b = true ∧ fsmStrict (b :: cs)
  | _ => True

theorem fsmTraceBad_none : ∀ (l : List CState), fsmTraceBad l = none → fsmStrict l
  | [] => fun _ => trivial
  | [_] => fun _ => trivial
  | a :: b :: cs => fun h => by
    simp only [fsmTraceBad] at h
    split at h
    · rename_i he
      exact ⟨he, fsmTraceBad_none (b :: cs) h⟩
    · cases h

theorem fsmStrict_path : ∀ (a : CState) (cs : List CState), fsmStrict (a :: cs) → fsmPath a cs
  | _, [] => fun _ => trivial
  | _, b :: cs => fun h => ⟨Or.inr h.1, fsmStrict_path b cs h.2⟩

/-! ## the model's statements read back as source-level facts -/

/-- a probe state at program point `pc` (a service exists, so `service.Shutdown` does not nil-deref) -/
def probe (pc : Pc) : S := { pc := pc, svc := some 1, gen := 1, live := [1], created := [1] }

/-- source-level name of what an event of the log records -/
def TEv.callName : TEv → Option String
  | .st c => some ("set:" ++ c.name)
  | .created _ _ => some "service.New"
  | .started _ _ => some "service.Start"
  | .shut _ _ => some "service.Shutdown"
  | .prov => some "provider.Shutdown"
  | _ => none

/-- the Go function a program point belongs to -/
def Pc.func : Pc → String
  | .setup1 _ | .setup2 _ | .setup3 _ | .setupSd _ | .setup4 _ => "Collector.setupConfigurationComponents"
  | .reload1 | .reload2 => "Collector.reloadConfiguration"
  | .shut1 | .shut2 | .shut3 | .shut4 => "Collector.shutdown"
  | .initFail | .idle | .select | .done => "Collector.Run"

/-- what the statement at `pc` does, as source-level call names (read from the log it appends), followed by
`call:setup` when control passes into `setupConfigurationComponents` -/
def Pc.effects (pc : Pc) (ok : Bool) : List String :=
  match stepRun (probe pc) ok with
  | none => []
  | some s' =>
    s'.log.filterMap TEv.callName ++
      (match pc, s'.pc with
       | .setup1 _, _ => []
       | _, .setup1 _ => ["call:setup"]
       | _, _ => [])

/-- the straight path of a function: follow `ok = true` from `pc` while the program point stays in the same function -/
def straight (fuel : Nat) (pc : Pc) : List String :=
  match fuel with
  | 0 => []
  | n + 1 =>
    match stepRun (probe pc) true with
    | none => []
    | some s' => pc.effects true ++ (if s'.pc.func = pc.func ∧ s'.pc ≠ .done then straight n s'.pc else [])

/-- the same program point on the initial path (the `rl` flag only records whether a reload is in progress) -/
def Pc.unrl : Pc → Pc
  | .setup1 _ => .setup1 false | .setup2 _ => .setup2 false | .setup3 _ => .setup3 false
  | .setupSd _ => .setupSd false | .setup4 _ => .setup4 false | pc => pc

/-- program points in source order, one per statement (the `rl` flag does not change the code executed) -/
def sourcePcs : List Pc :=
  [.setup1 false, .setup2 false, .setup3 false, .setupSd false, .setup4 false, .reload1, .reload2, .initFail,
   .shut1, .shut2, .shut3, .shut4]

/-- the `setCollectorState` sites of the MODEL: (function, state) for every program point whose statement stores a state -/
def modelSetSites : List (String × String) :=
  sourcePcs.flatMap (fun pc => ((stepRun (probe pc) true).map (·.log)).getD [] |>.filterMap
    (fun e => match e with | .st c => some (pc.func, c.name) | _ => none))

/-- labels of the regenerated call sequences that the model has a counterpart for -/
def modelled (x : Nat × String) : Bool :=
  ["set:Starting", "set:Running", "set:Closing", "set:Closed", "service.New", "service.Start", "service.Shutdown",
   "provider.Shutdown", "call:setup"].contains x.2

def genSeq (f : String) (depth : Nat) : List String :=
  ((Gen.CollectorFsm.callSeq.lookup f).getD []).filter (fun x => x.1 == depth && modelled x) |>.map (·.2)

/-- outcome of the select receiving `e`, read from the model -/
def pickOutcome (e : Ev) : String :=
  let ready : S := { pc := .select, nWatchOk := 1, nWatchErr := 1, nHup := 1, nTerm := 1, nAsync := 1, chanClosed := true, ctxDone := true }
  match pickEv ready e with
  | some s' => if s'.pc = .reload1 then "reload" else if s'.pc = .shut1 then "stop" else "?"
  | none => "?"

/-- the model's select table in the translator's format: channel, distinguishing condition, outcome if it holds / not -/
def modelBranches : List (String × String × String × String) :=
  [("col.configProvider.Watch()", "err != nil", pickOutcome .watchErr, pickOutcome .watchOk),
   ("col.asyncErrorChannel", "", pickOutcome .async, pickOutcome .async),
   ("col.signalsChannel", "s != syscall.SIGHUP", pickOutcome .term, pickOutcome .hup),
   ("col.shutdownChan", "", pickOutcome .shutdown, pickOutcome .shutdown),
   ("ctx.Done()", "", pickOutcome .ctx, pickOutcome .ctx)]

/-- `return col.shutdown(context.Background())` and `break LOOP; return col.shutdown(ctx)` are the same program point -/
def normOutcome (s : String) : String := if s == "stop-background-ctx" then "stop" else s

def genBranches : List (String × String × String × String) :=
  Gen.CollectorFsm.selectBranches.map (fun b => (b.1, b.2.1, normOutcome b.2.2.1, normOutcome b.2.2.2))

def CState.ofName : String → Option CState
  | "Starting" => some .starting | "Running" => some .running | "Closing" => some .closing | "Closed" => some .closed | _ => none

end OtelVerif.C20

import OtelVerif.Model.Wire
/-! # Wire primitives: each decoder inverts its encoder (`*_spec`: what a successful read returns); `sovBits_eq_sov`: the generated `sovX` formula is the varint length -/
namespace OtelVerif.Wire

theorem varint_length (n : Nat) : (varint n).length = sov n := by
  induction n using Nat.strongRecOn with
  | _ n ih =>
    rw [varint, sov]
    split
    · rfl
    · next h => simp [ih (n / 128) (by omega)]; omega

theorem sov_pos (n : Nat) : 0 < sov n := by
  rw [sov]; split <;> omega

theorem varint_ne_nil (n : Nat) : varint n ≠ [] := by
  rw [varint]; split <;> simp

theorem decVarintAux_varint (n : Nat) : ∀ (shift acc : Nat) (rest : Bytes),
    n * 2 ^ shift < 2 ^ 64 → shift < 64 →
    decVarintAux shift acc (varint n ++ rest) = some ((acc + n * 2 ^ shift) % 2 ^ 64, rest) := by
  induction n using Nat.strongRecOn with
  | _ n ih =>
    intro shift acc rest hb hsh
    rw [varint]
    split
    · next hlt =>
      simp [decVarintAux, Nat.not_le.mpr hsh, hlt, Nat.mod_eq_of_lt hlt]
    · next hge =>
      have hn : 128 ≤ n := Nat.le_of_not_lt hge
      have hq : 1 ≤ n / 128 := (Nat.le_div_iff_mul_le (by omega)).mpr (by omega)
      have hpow : 2 ^ (shift + 7) = 128 * 2 ^ shift := by rw [Nat.pow_add]; omega
      have hle : n / 128 * 2 ^ (shift + 7) ≤ n * 2 ^ shift := by
        rw [hpow, ← Nat.mul_assoc]
        exact Nat.mul_le_mul_right _ (Nat.div_mul_le_self n 128)
      have hb' : n / 128 * 2 ^ (shift + 7) < 2 ^ 64 := Nat.lt_of_le_of_lt hle hb
      have hsh' : shift + 7 < 64 := by
        have h1 : 2 ^ (shift + 7) ≤ n / 128 * 2 ^ (shift + 7) := Nat.le_mul_of_pos_left _ hq
        have h2 : 2 ^ (shift + 7) < 2 ^ 64 := Nat.lt_of_le_of_lt h1 hb'
        exact (Nat.pow_lt_pow_iff_right (by omega)).mp h2
      have hbyte : ¬ (n % 128 + 128 < 128) := by omega
      have hmod : (n % 128 + 128) % 128 = n % 128 := by omega
      simp only [List.cons_append, decVarintAux, Nat.not_le.mpr hsh, if_false, hbyte, hmod]
      rw [ih (n / 128) (Nat.div_lt_self (by omega) (by omega)) (shift + 7) _ rest hb' hsh']
      have := Nat.div_add_mod n 128
      have key : n % 128 * 2 ^ shift + n / 128 * (128 * 2 ^ shift) = n * 2 ^ shift :=
        calc n % 128 * 2 ^ shift + n / 128 * (128 * 2 ^ shift)
            = (n % 128 + 128 * (n / 128)) * 2 ^ shift := by rw [Nat.add_mul]; congr 1; ac_rfl
          _ = n * 2 ^ shift := by rw [Nat.add_comm, this]
      rw [hpow, Nat.add_assoc, key]

theorem decVarint_varint (n : Nat) (h : n < 2 ^ 64) (rest : Bytes) :
    decVarint (varint n ++ rest) = some (n, rest) := by
  have := decVarintAux_varint n 0 0 rest (by simpa using h) (by omega)
  simp only [Nat.pow_zero, Nat.mul_one, Nat.zero_add] at this
  rw [decVarint, this, Nat.mod_eq_of_lt h]

/-- the decoder always consumes at least one byte, and returns a 64-bit value -/
theorem decVarintAux_spec : ∀ (bs : Bytes) (shift acc v : Nat) (r : Bytes),
    decVarintAux shift acc bs = some (v, r) → r.length < bs.length ∧ v < 2 ^ 64 := by
  intro bs
  induction bs with
  | nil => intro _ _ _ _ h; simp [decVarintAux] at h
  | cons b bs ih =>
    intro shift acc v r h
    simp only [decVarintAux] at h
    split at h
    · simp at h
    · split at h
      · simp only [Option.some.injEq, Prod.mk.injEq] at h
        rw [← h.1, ← h.2]; exact ⟨by simp, Nat.mod_lt _ (by decide)⟩
      · have := ih _ _ _ _ h; exact ⟨by simp; omega, this.2⟩

theorem decVarint_length {bs : Bytes} {v : Nat} {r : Bytes} (h : decVarint bs = some (v, r)) :
    r.length < bs.length := (decVarintAux_spec bs 0 0 v r h).1

theorem decVarint_lt {bs : Bytes} {v : Nat} {r : Bytes} (h : decVarint bs = some (v, r)) : v < 2 ^ 64 :=
  (decVarintAux_spec bs 0 0 v r h).2

theorem le_length (k n : Nat) : (le k n).length = k := by
  induction k generalizing n with
  | zero => rfl
  | succ k ih => simp [le, ih]

theorem unle_le (k : Nat) : ∀ (n : Nat) (rest : Bytes), n < 256 ^ k → unle k (le k n ++ rest) = some (n, rest) := by
  induction k with
  | zero => intro n rest h; simp at h; simp [le, unle, h]
  | succ k ih =>
    intro n rest h
    have h' : n / 256 < 256 ^ k := by
      rw [Nat.pow_succ] at h
      exact Nat.div_lt_of_lt_mul (by rw [Nat.mul_comm]; exact h)
    simp only [le, List.cons_append, unle, ih (n / 256) rest h']
    have := Nat.div_add_mod n 256
    simp only [Nat.mod_mod]
    congr 2
    omega

theorem unle_spec : ∀ (k : Nat) (bs : Bytes) (v : Nat) (r : Bytes), unle k bs = some (v, r) →
    r.length + k = bs.length ∧ v < 256 ^ k := by
  intro k
  induction k with
  | zero => intro bs v r h; simp [unle] at h; simp [h.2, ← h.1]
  | succ k ih =>
    intro bs v r h
    cases bs with
    | nil => simp [unle] at h
    | cons b bs =>
      simp only [unle] at h
      split at h
      · simp at h
      · next v' r' heq =>
        simp only [Option.some.injEq, Prod.mk.injEq] at h
        have := ih bs v' r' heq
        have hb : b % 256 < 256 := Nat.mod_lt _ (by decide)
        rw [← h.1, ← h.2, Nat.pow_succ]
        exact ⟨by simp; omega, by omega⟩

theorem lenDelim_lenPrefixed (p rest : Bytes) (h : p.length < 2 ^ 63) :
    lenDelim (lenPrefixed p ++ rest) = some (p, rest) := by
  have h64 : p.length < 2 ^ 64 := Nat.lt_trans h (by decide)
  simp only [lenDelim, lenPrefixed, List.append_assoc, decVarint_varint _ h64]
  simp [Nat.not_le.mpr h]

theorem lenDelim_length {bs p r : Bytes} (h : lenDelim bs = some (p, r)) :
    p.length + r.length < bs.length := by
  simp only [lenDelim] at h
  split at h
  · simp at h
  · next len r' heq =>
    have := decVarint_length heq
    split at h
    · simp at h
    · split at h
      · simp at h
      · simp only [Option.some.injEq, Prod.mk.injEq] at h
        rw [← h.1, ← h.2]; simp; omega

/-! ## the generated `sovX` formula equals the byte count -/

theorem log2_unique (m k : Nat) (h1 : 2 ^ k ≤ m) (h2 : m < 2 ^ (k + 1)) : Nat.log2 m = k := by
  have hm : m ≠ 0 := by
    have : 0 < 2 ^ k := Nat.pow_pos (by decide)
    omega
  apply Nat.le_antisymm
  · have := (Nat.log2_lt hm).mpr h2; omega
  · exact (Nat.le_log2 hm).mpr h1

theorem bitLen_or_one (n : Nat) (hn : 1 ≤ n) : bitLen (n ||| 1) = bitLen n := by
  have hn0 : n ≠ 0 := by omega
  have hor0 : n ||| 1 ≠ 0 := by
    have := Nat.left_le_or (n := n) (m := 1); omega
  simp only [bitLen, hn0, hor0, if_false]
  congr 1
  let k := Nat.log2 n
  have h1 : 2 ^ k ≤ n := Nat.log2_self_le hn0
  have h2 : n < 2 ^ (k + 1) := Nat.lt_log2_self
  apply log2_unique
  · exact Nat.le_trans h1 Nat.left_le_or
  · apply Nat.or_lt_two_pow h2
    have : 2 ^ 1 ≤ 2 ^ (k + 1) := Nat.pow_le_pow_right (by decide) (by omega)
    omega

theorem bitLen_div128 (n : Nat) (hn : 128 ≤ n) : bitLen n = bitLen (n / 128) + 7 := by
  have hn0 : n ≠ 0 := by omega
  have hd0 : n / 128 ≠ 0 := by
    have : 1 ≤ n / 128 := (Nat.le_div_iff_mul_le (by decide)).mpr (by omega)
    omega
  simp only [bitLen, hn0, hd0, if_false]
  let k := Nat.log2 (n / 128)
  have h1 : 2 ^ k ≤ n / 128 := Nat.log2_self_le hd0
  have h2 : n / 128 < 2 ^ (k + 1) := Nat.lt_log2_self
  have : Nat.log2 n = k + 7 := by
    apply log2_unique
    · rw [Nat.pow_add]
      have := (Nat.le_div_iff_mul_le (by decide : 0 < 128)).mp h1
      simpa using this
    · have := (Nat.div_lt_iff_lt_mul (by decide : 0 < 128)).mp h2
      rw [show k + 7 + 1 = (k + 1) + 7 by omega, Nat.pow_add]
      simpa using this
  omega

theorem sovBits_eq_sov (n : Nat) : sovBits n = sov n := by
  induction n using Nat.strongRecOn with
  | _ n ih =>
    rw [sov]
    split
    · next hlt =>
      -- one byte
      simp only [sovBits]
      have hor : n ||| 1 < 2 ^ 7 := Nat.or_lt_two_pow (by simpa using hlt) (by decide)
      have hor0 : n ||| 1 ≠ 0 := by
        have := Nat.right_le_or (n := n) (m := 1); omega
      have hl : Nat.log2 (n ||| 1) < 7 := (Nat.log2_lt hor0).mpr hor
      simp only [bitLen, hor0, if_false]
      omega
    · next hge =>
      have hn : 128 ≤ n := by omega
      have hrec := ih (n / 128) (by omega)
      rw [← hrec]
      simp only [sovBits]
      rw [bitLen_or_one n (by omega), bitLen_div128 n hn]
      have hq : 1 ≤ n / 128 := (Nat.le_div_iff_mul_le (by decide)).mpr (by omega)
      rw [bitLen_or_one (n / 128) hq]; omega

end OtelVerif.Wire

import OtelVerif.Model.Payload
/-!
`walk` (one `RemoveIf` pass with a stateful closure), shared by C04 (extract / moveFirst) and C17 (split):
the equations of `walk`, flattening and count of an optional child, `sumBy`, and `walk_nodes`.
-/
namespace OtelVerif.Payload

def oflat {α β : Type} (f : α → List β) (o : Option α) : List β := o.toList.flatMap f

@[simp] theorem oflat_none {α β : Type} (f : α → List β) : oflat f none = [] := rfl
@[simp] theorem oflat_some {α β : Type} (f : α → List β) (a : α) : oflat f (some a) = f a := by
  simp [oflat]

theorem oflat_if_len {α β γ : Type} (f : α → List β) (b : Bool) (l : List γ) (mk : List γ → α) (h : f (mk []) = []) :
    oflat f (if (b && (l.length == 0)) = true then none else some (mk l)) = f (mk l) := by
  cases l with
  | nil => cases b <;> simp [h]
  | cons a l => simp

theorem oflat_if_len' {α β γ : Type} (f : α → List β) (l : List γ) (mk : List γ → α) (h : f (mk []) = []) :
    oflat f (if (l.length == 0) = true then none else some (mk l)) = f (mk l) :=
  oflat_if_len f true l mk h

theorem walk_stopped {α σ : Type} (stop : σ → Bool) (fits : σ → α → Option σ) (cut : σ → α → Option α × Option α × σ)
    (s : σ) (hs : stop s = true) (l : List α) : walk stop fits cut s l = ⟨[], l, s⟩ := by
  induction l with
  | nil => rfl
  | cons c cs ih => simp only [walk, hs, if_true, ih]

theorem walk_fits {α σ : Type} (stop : σ → Bool) (fits : σ → α → Option σ) (cut : σ → α → Option α × Option α × σ)
    (s s1 : σ) (c : α) (cs : List α) (hs : stop s = false) (hf : fits s c = some s1) :
    walk stop fits cut s (c :: cs) =
      ⟨c :: (walk stop fits cut s1 cs).dest, (walk stop fits cut s1 cs).rem, (walk stop fits cut s1 cs).st⟩ := by
  simp only [walk, hs, Bool.false_eq_true, if_false, hf]

theorem walk_cuts {α σ : Type} (stop : σ → Bool) (fits : σ → α → Option σ) (cut : σ → α → Option α × Option α × σ)
    (s : σ) (c : α) (cs : List α) (hs : stop s = false) (hf : fits s c = none) :
    walk stop fits cut s (c :: cs) =
      ⟨(cut s c).1.toList ++ (walk stop fits cut (cut s c).2.2 cs).dest,
       (cut s c).2.1.toList ++ (walk stop fits cut (cut s c).2.2 cs).rem, (walk stop fits cut (cut s c).2.2 cs).st⟩ := by
  simp only [walk, hs, Bool.false_eq_true, if_false, hf]

theorem sumBy_nil {α : Type} (f : α → Nat) : sumBy f [] = 0 := rfl
theorem sumBy_cons {α : Type} (f : α → Nat) (a : α) (l : List α) : sumBy f (a :: l) = f a + sumBy f l := by
  simp [sumBy]
theorem sumBy_append {α : Type} (f : α → Nat) (l₁ l₂ : List α) : sumBy f (l₁ ++ l₂) = sumBy f l₁ + sumBy f l₂ := by
  simp [sumBy]

theorem sumBy_eq_length_flatMap {α β : Type} {f : α → List β} {cnt : α → Nat} (h : ∀ a, cnt a = (f a).length) (l : List α) :
    sumBy cnt l = (l.flatMap f).length := by
  induction l with
  | nil => rfl
  | cons a l ih => rw [sumBy_cons, List.flatMap_cons, List.length_append, h, ih]

theorem sumBy_one {α : Type} (l : List α) : sumBy (fun _ => 1) l = l.length := by
  induction l with
  | nil => rfl
  | cons a l ih => rw [sumBy_cons, ih]; simp; omega

theorem nil_of_not_pos {α : Type} {l : List α} (h : decide (l.length > 0) = false) : l = [] := by
  cases l with
  | nil => rfl
  | cons a l => simp at h

def ocnt {α : Type} (f : α → Nat) (o : Option α) : Nat := sumBy f o.toList
@[simp] theorem ocnt_none {α : Type} (f : α → Nat) : ocnt f none = 0 := rfl
@[simp] theorem ocnt_some {α : Type} (f : α → Nat) (a : α) : ocnt f (some a) = f a := by simp [ocnt, sumBy]

/-- a pass never adds nodes to the source, and removes at least one whenever the observed part `g` of the closure
state changed -/
theorem walk_nodes {α σ γ : Type} [DecidableEq γ] (stop : σ → Bool) (fits : σ → α → Option σ)
    (cut : σ → α → Option α × Option α × σ) (n : α → Nat) (g : σ → γ)
    (hn : ∀ c, 0 < n c)
    (hcut : ∀ s c, stop s = false → (ocnt n (cut s c).2.1 ≤ n c ∧ (g (cut s c).2.2 ≠ g s → ocnt n (cut s c).2.1 < n c))) :
    ∀ (s : σ) (l : List α),
      sumBy n (walk stop fits cut s l).rem ≤ sumBy n l ∧
      (g (walk stop fits cut s l).st ≠ g s → sumBy n (walk stop fits cut s l).rem < sumBy n l) := by
  intro s l
  induction l generalizing s with
  | nil => simp [walk, sumBy_nil]
  | cons c cs ih =>
    by_cases hs : stop s = true
    · rw [walk_stopped stop fits cut s hs]
      exact ⟨Nat.le_refl _, fun h => absurd rfl h⟩
    · have hs' : stop s = false := by simpa using hs
      cases hf : fits s c with
      | some s1 =>
        have := ih s1
        have := hn c
        rw [walk_fits stop fits cut s s1 c cs hs' hf, sumBy_cons]
        dsimp only
        exact ⟨by omega, fun _ => by omega⟩
      | none =>
        have h1 := hcut s c hs'
        have h2 := ih (cut s c).2.2
        have e : sumBy n (cut s c).2.1.toList = ocnt n (cut s c).2.1 := rfl
        rw [walk_cuts stop fits cut s c cs hs' hf, sumBy_cons]
        dsimp only
        rw [sumBy_append, e]
        refine ⟨by omega, fun h => ?_⟩
        by_cases hk : g (cut s c).2.2 = g s
        · have := h2.2 (by rw [hk]; exact h)
          omega
        · have := h1.2 hk
          omega

end OtelVerif.Payload

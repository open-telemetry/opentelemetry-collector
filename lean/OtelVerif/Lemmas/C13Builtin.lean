import OtelVerif.Model.C13Faithful
import OtelVerif.Gen.ConfigSchemas
/-! # C13 — the regenerated tables of the built-in components, by evaluation (alone in needing `Gen.ConfigSchemas`) -/
namespace OtelVerif.C13
open OtelVerif.Gen

/-- one evaluation for `C13_builtin_defaults_shaped`, `C13_builtin_keys_unique`, `C13_builtin_no_opaque_map_key` and
`C13_builtin_hooks_modelled`: the kernel's work is decoding the key literals, once per evaluation -/
theorem builtin_checked : ∀ c ∈ ConfigSchemas.components,
    shape c.2.1 c.2.2 = true ∧ keysUnique c.2.1 = true ∧ noOpaqueKey c.2.1 = true ∧
    (componentHooks ConfigSchemas.customPositions c.1).elim false (fun hooks => hooks.all (fun h => h.wellPlaced c.2.1)) = true := by
  decide +kernel

end OtelVerif.C13

/-!
# Peeling: the success condition of a topological sort, once

`C09.peel` (component graph: a node is marked when all its successors are) and `C10.extPeel` (extensions: an extension is released when
all its dependencies are) are the same function.  Its general form has `extPeel`'s shape: items `ι` carry a key `α` and the keys they
depend on; a round releases the keys of the items not yet released all of whose dependencies are.  `C09.peel` is the case `key = id` (`C09.peel_eq`, `C10.extPeel_eq`).
`gEdges` is the dependency graph whose orders `Lemmas/C10Exists.lean` speaks of.
-/
namespace OtelVerif

section
variable {ι α : Type} [DecidableEq α]

def gpeelStep (key : ι → α) (dp : ι → List α) (items : List ι) (done : List α) : List α :=
  done ++ (items.filter (fun e => !(decide (key e ∈ done)) && (dp e).all (fun d => decide (d ∈ done)))).map key

def gpeel (key : ι → α) (dp : ι → List α) (items : List ι) : Nat → List α
  | 0 => []
  | k + 1 => gpeelStep key dp items (gpeel key dp items k)

variable {key : ι → α} {dp : ι → List α} {items : List ι}

theorem gpeelStep_eq (key : ι → α) (dp : ι → List α) (items : List ι) (done : List α) :
    ∃ fresh, gpeelStep key dp items done = done ++ fresh ∧ fresh.Sublist (items.map key) ∧
      ∀ a, a ∈ fresh ↔ a ∉ done ∧ ∃ e, e ∈ items ∧ key e = a ∧ ∀ d ∈ dp e, d ∈ done := by
  refine ⟨_, rfl, List.Sublist.map _ List.filter_sublist, fun a => ?_⟩
  simp only [List.mem_map, List.mem_filter, Bool.and_eq_true, Bool.not_eq_true', decide_eq_false_iff_not, List.all_eq_true,
    decide_eq_true_eq]
  constructor
  · rintro ⟨e, ⟨he, hn, hd⟩, rfl⟩; exact ⟨hn, e, he, rfl, hd⟩
  · rintro ⟨hn, e, he, rfl, hd⟩; exact ⟨e, ⟨he, hn, hd⟩, rfl⟩

theorem mem_gpeel_succ {k : Nat} {a : α} :
    a ∈ gpeel key dp items (k + 1) ↔ a ∈ gpeel key dp items k ∨
      ∃ e, e ∈ items ∧ key e = a ∧ ∀ d ∈ dp e, d ∈ gpeel key dp items k := by
  obtain ⟨fresh, heq, _, hmem⟩ := gpeelStep_eq key dp items (gpeel key dp items k)
  rw [gpeel, heq, List.mem_append, hmem]
  by_cases h : a ∈ gpeel key dp items k <;> simp [h]

theorem gpeel_mono {k k' : Nat} {a : α} (h : a ∈ gpeel key dp items k) (hk : k ≤ k') : a ∈ gpeel key dp items k' := by
  induction hk with
  | refl => exact h
  | step _ ih => exact mem_gpeel_succ.mpr (Or.inl ih)

end

/-- the dependency graph of the items: an edge from every dependency to the key of its dependent -/
def gEdges {ι α : Type} (key : ι → α) (dp : ι → List α) (items : List ι) : List (α × α) :=
  items.flatMap (fun e => (dp e).map (fun d => (d, key e)))

theorem mem_gEdges {ι α : Type} {key : ι → α} {dp : ι → List α} {items : List ι} {a b : α} :
    (a, b) ∈ gEdges key dp items ↔ ∃ e, e ∈ items ∧ a ∈ dp e ∧ b = key e := by
  simp only [gEdges, List.mem_flatMap, List.mem_map, Prod.mk.injEq]
  constructor
  · rintro ⟨e, he, d, hd, rfl, rfl⟩; exact ⟨e, he, hd, rfl⟩
  · rintro ⟨e, he, hd, rfl⟩; exact ⟨e, he, a, hd, rfl, rfl⟩

end OtelVerif

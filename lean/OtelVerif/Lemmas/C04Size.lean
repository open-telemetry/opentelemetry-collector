import OtelVerif.Lemmas.C04Drop
/-! C04: the memoised size of every request `split` returns is exact when `removedSize` is exactly what the source shrinks by -/
namespace OtelVerif.C04

/-- `cachedSize` is unset or the size of the payload -/
def Req.exact {P : Type} (o : Ops P) (r : Req P) : Prop := r.cached = -1 ∨ r.cached = o.size r.p

/-- `removedSize` is exact; sizes add under `append` -/
structure SizeExact {P : Type} (o : Ops P) : Prop where
  extract : ∀ cap p, o.size (o.extract cap p).2.1 = o.size p - (o.extract cap p).2.2
  append : ∀ a b, o.size (o.append a b) = o.size a + o.size b

theorem norm_cached {P : Type} (o : Ops P) (r : Req P) (h : r.exact o) : (r.norm o).cached = o.size r.p := by
  simp only [Req.norm, Req.size]
  rcases h with h | h
  · simp [h]
  · by_cases h1 : (r.cached == -1) = true
    · simp [h1]
    · simp [h]

theorem extracted_exact {P : Type} {o : Ops P} (hs : SizeExact o) (max : Int) (req : Req P) (hreq : req.exact o) :
    Req.exact o { p := (o.extract max req.p).2.1, cached := (req.norm o).cached - (o.extract max req.p).2.2 } :=
  Or.inr (by show (req.norm o).cached - (o.extract max req.p).2.2 = o.size (o.extract max req.p).2.1
             rw [hs.extract, norm_cached o req hreq])

theorem Splits.exact {P : Type} {o : Ops P} (hs : SizeExact o) {max : Int} {req : Req P} {out : List (Req P)}
    (h : Splits o max req out) (hreq : req.exact o) : ∀ r ∈ out, r.exact o := by
  induction h with
  | fits req _ =>
    intro r hr
    rw [List.mem_singleton.mp hr]
    exact Or.inr (norm_cached o req hreq)
  | stuck req _ _ _ =>
    intro r hr
    rw [List.mem_singleton.mp hr]
    exact Or.inr rfl
  | moved req out _ _ _ _ ih =>
    intro r hr
    rcases List.mem_cons.mp hr with rfl | hr
    · exact Or.inl rfl
    · exact ih (Or.inr rfl) r hr
  | extracted req out _ _ _ ih =>
    intro r hr
    rcases List.mem_cons.mp hr with rfl | hr
    · exact Or.inl rfl
    · exact ih (extracted_exact hs max req hreq) r hr

theorem merged_exact {P : Type} (o : Ops P) (hs : SizeExact o) (r1 : Req P) (r2 : Option (Req P)) (h1 : r1.exact o)
    (h2 : ∀ r, r2 = some r → r.exact o) : (merged o r1 r2).exact o := by
  cases r2 with
  | none => exact h1
  | some r2 =>
    have e1 : r1.size o = o.size r1.p := norm_cached o r1 h1
    have e2 : r2.size o = o.size r2.p := norm_cached o r2 (h2 r2 rfl)
    exact Or.inr (by simp only [merged, mergeTo, hs.append, e1, e2])

theorem mergeSplit_exact {P : Type} (o : Ops P) (hs : SizeExact o) (max : Int) (r1 : Req P) (r2 : Option (Req P))
    (out : List (Req P)) (h : mergeSplit o max r1 r2 = some out) (h1 : r1.exact o) (h2 : ∀ r, r2 = some r → r.exact o) :
    ∀ r ∈ out, r.exact o := by
  have hm := merged_exact o hs r1 r2 h1 h2
  rcases mergeSplit_cases o max r1 r2 out h with ⟨_, rfl⟩ | ⟨_, out0, hsp, rfl⟩
  · intro r hr; rw [List.mem_singleton.mp hr]; exact hm
  · intro r hr; exact hsp.exact hs hm r (dropEmptyLast_mem o out0 r hr)

end OtelVerif.C04

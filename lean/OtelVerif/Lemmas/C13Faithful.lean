import OtelVerif.Model.C13Faithful
/-!
# C13 — lemmas about `decodeV` / `encodeV`

Inductions over the key-space schema (`KS.induct`): an optional, a struct, or a kind decoded wholesale (`KS.flat`); the results
are `decode_spec` and `effective_shows`.
-/
namespace OtelVerif.C13

def KS.flat : KS → Bool
  | .struct _ | .ptr _ => false
  | _ => true

mutual
theorem KS.induct {motive : KS → Prop} (flat : ∀ S, S.flat = true → motive S) (ptr : ∀ s, motive s → motive (.ptr s))
    (struct : ∀ fs, (∀ f ∈ fs, motive f.2) → motive (.struct fs)) : ∀ S, motive S
  | .ptr s => ptr s (KS.induct flat ptr struct s)
  | .struct fs => struct fs (KS.inductF flat ptr struct fs)
  | .scalar => flat _ rfl | .opaque => flat _ rfl | .text _ => flat _ rfl | .custom _ => flat _ rfl | .iface => flat _ rfl
  | .slice _ => flat _ rfl | .map _ _ => flat _ rfl
theorem KS.inductF {motive : KS → Prop} (flat : ∀ S, S.flat = true → motive S) (ptr : ∀ s, motive s → motive (.ptr s))
    (struct : ∀ fs, (∀ f ∈ fs, motive f.2) → motive (.struct fs)) : ∀ (fs : List (String × KS)), ∀ f ∈ fs, motive f.2
  | [], _, h => nomatch h
  | (_, s) :: fs, f, h => by
    cases h with
    | head => exact KS.induct flat ptr struct s
    | tail _ h => exact KS.inductF flat ptr struct fs f h
end

/-! ## kinds decoded wholesale -/

theorem decodeV_flat {S : KS} {d : TV} {v : Val} {t : TV} (hf : S.flat = true) (hd : decodeV S d v = some t) :
    t = .atom v := by
  cases S <;> cases v <;> simp only [KS.flat, decodeV, reduceCtorEq, Option.some.injEq, Bool.false_eq_true] at hf hd <;> exact hd.symm

theorem kindAt_flat {S : KS} (hf : S.flat = true) (k : String) (p : List String) : kindAt S (k :: p) = none := by
  cases S <;> simp [KS.flat, kindAt] at hf ⊢

theorem getPath_flat {S : KS} (hf : S.flat = true) (t : TV) (k : String) (p : List String) : getPath S t (k :: p) = none := by
  cases S <;> simp [KS.flat, getPath] at hf ⊢

theorem getS_flat {S : KS} (hf : S.flat = true) (t : TV) (k : String) (p : List String) : getS S t (k :: p) = none := by
  cases S <;> simp [KS.flat, getS] at hf ⊢

theorem shape_flat {S : KS} (hf : S.flat = true) (a : Val) : shape S (.atom a) = true := by
  cases S <;> simp [KS.flat, shape] at hf ⊢

/-! ## optionals -/

theorem shapeF_zero_of {fs : List (String × KS)} (ih : ∀ f ∈ fs, shape f.2 (zero f.2) = true) : shapeF fs (zeroF fs) = true := by
  induction fs with
  | nil => rfl
  | cons f fs ihf =>
    simp only [zeroF, shapeF, ih f (List.mem_cons_self ..), ihf (fun g hg => ih g (List.mem_cons_of_mem _ hg)), Bool.and_self]

theorem shape_zero (S : KS) : shape S (zero S) = true := by
  induction S using KS.induct with
  | flat S hf => cases S <;> first | rfl | cases hf
  | ptr s _ => rfl
  | struct fs ih => simp only [zero, shape]; exact shapeF_zero_of ih

theorem ptr_default (s : KS) (d : TV) : ∃ d', (shape (.ptr s) d = true → shape s d' = true) ∧
    (∀ v, decodeV (.ptr s) d v = decodeV s d' v) ∧ ∀ k p, getPath (.ptr s) d (k :: p) = getPath s d' (k :: p) := by
  cases d with
  | nilp => exact ⟨zero s, fun _ => shape_zero s, fun _ => rfl, fun _ _ => rfl⟩
  | atom a => exact ⟨.atom a, id, fun _ => rfl, fun _ _ => rfl⟩
  | struct fs => exact ⟨.struct fs, id, fun _ => rfl, fun _ _ => rfl⟩

theorem getS_ptr_of_ne_nil (s : KS) (t : TV) (p : List String) (hn : t ≠ .nilp) : getS (.ptr s) t p = getS s t p := by
  cases p with
  | nil => simp only [getS]
  | cons k p => cases t <;> first | exact absurd rfl hn | simp only [getS]

theorem getPath_ptr_of_ne_nil (s : KS) (t : TV) (p : List String) (hn : t ≠ .nilp) : getPath (.ptr s) t p = getPath s t p := by
  cases p with
  | nil => simp only [getPath]
  | cons k p => cases t <;> first | exact absurd rfl hn | simp only [getPath]

theorem shape_ptr_of_ne_nil (s : KS) (r : TV) (hn : r ≠ .nilp) : shape (.ptr s) r = shape s r := by
  cases r <;> first | exact absurd rfl hn | simp only [shape]

theorem encodeV_ptr_of_ne_nil (s : KS) (t : TV) (hn : t ≠ .nilp) : encodeV (.ptr s) t = encodeV s t := by
  cases t <;> first | exact absurd rfl hn | simp only [encodeV]

theorem kindAt_ptr_leaf (s : KS) (p : List String) :
    (kindAt (.ptr s) p).map isLeafKind = (kindAt s p).map isLeafKind := by
  cases p with
  | nil => simp only [kindAt, Option.map_some, isLeafKind]
  | cons k p => simp only [kindAt]

/-! ## structs -/

theorem shape_struct {fs : List (String × KS)} {t : TV} (h : shape (.struct fs) t = true) :
    ∃ tfs, t = .struct tfs ∧ shapeF fs tfs = true := by
  cases t <;> simp only [shape, Bool.false_eq_true] at h
  exact ⟨_, rfl, h⟩

theorem shapeF_cons {k : String} {s : KS} {fs : List (String × KS)} {tfs : List (String × TV)}
    (h : shapeF ((k, s) :: fs) tfs = true) : ∃ kt t tfs', tfs = (kt, t) :: tfs' ∧ shape s t = true ∧ shapeF fs tfs' = true := by
  cases tfs with
  | nil => simp [shapeF] at h
  | cons th tfs => exact ⟨th.1, th.2, tfs, rfl, by simpa only [shapeF, Bool.and_eq_true] using h⟩

theorem decodeV_struct {fs : List (String × KS)} {d : TV} {v : Val} {t : TV} (hd : decodeV (.struct fs) d v = some t) :
    ∃ dfs kvs tfs, d = .struct dfs ∧ v = .map kvs ∧ t = .struct tfs ∧
      kvs.all (fun p => (fs.map (·.1)).contains p.1) = true ∧ decodeFs fs dfs kvs = some tfs := by
  cases d <;> cases v <;> simp only [decodeV, reduceCtorEq] at hd
  rename_i dfs kvs
  split at hd
  · rename_i hall
    obtain ⟨tfs, hf, rfl⟩ := Option.map_eq_some_iff.mp hd
    exact ⟨dfs, kvs, tfs, rfl, rfl, rfl, hall, hf⟩
  · cases hd

theorem decodeFs_cons {k0 kd : String} {s0 : KS} {fs : List (String × KS)} {dv : TV} {dfs tfs : List (String × TV)}
    {kvs : List (String × Val)} (hd : decodeFs ((k0, s0) :: fs) ((kd, dv) :: dfs) kvs = some tfs) :
    ∃ t0 rest, tfs = (k0, t0) :: rest ∧ decodeFs fs dfs kvs = some rest ∧
      ((∃ v0, lookupVal kvs k0 = some v0 ∧ decodeV s0 dv v0 = some t0) ∨ (lookupVal kvs k0 = none ∧ t0 = dv)) := by
  simp only [decodeFs] at hd
  split at hd
  · rename_i v0 hl
    split at hd
    · rename_i t0 rest h1 h2; cases hd; exact ⟨t0, rest, rfl, h2, .inl ⟨v0, hl, h1⟩⟩
    · cases hd
  · rename_i hl
    split at hd
    · rename_i rest h2; cases hd; exact ⟨dv, rest, rfl, h2, .inr ⟨hl, rfl⟩⟩
    · cases hd

theorem valGet_cons {kvs : List (String × Val)} {k : String} {p : List String} {x : Val}
    (h : valGet (.map kvs) (k :: p) = some x) : ∃ v', lookupVal kvs k = some v' ∧ valGet v' p = some x := by
  simpa only [valGet, Option.bind_eq_some_iff] using h

theorem untouched_nil (v : Val) : untouched v [] = false := by
  cases v <;> rfl

/-! ## what decoding guarantees -/

/-- never a nil optional, shape kept, written leaves reflected, untouched siblings unchanged -/
def DecodeSpec (S : KS) : Prop := ∀ (d : TV) (v : Val) (t : TV), shape S d = true → decodeV S d v = some t →
  t ≠ .nilp ∧ shape S t = true ∧
  (∀ (p : List String) (x : Val), valGet v p = some x → (kindAt S p).map isLeafKind = some true → getS S t p = some (.atom x)) ∧
  (∀ p : List String, untouched v p = true → getPath S t p = getPath S d p)

theorem decodeFs_spec_of {fs : List (String × KS)} (ih : ∀ f ∈ fs, DecodeSpec f.2)
    (dfs : List (String × TV)) (kvs : List (String × Val)) (tfs : List (String × TV))
    (hs : shapeF fs dfs = true) (hd : decodeFs fs dfs kvs = some tfs) :
    shapeF fs tfs = true ∧
    (∀ (k : String) (p : List String) (v' x : Val), lookupVal kvs k = some v' → valGet v' p = some x →
      (kindAtF fs k p).map isLeafKind = some true → getSF fs tfs k p = some (.atom x)) ∧
    (∀ (k : String) (p : List String), untouched (.map kvs) (k :: p) = true → getF fs tfs k p = getF fs dfs k p) := by
  induction fs generalizing dfs tfs with
  | nil =>
    simp only [decodeFs, Option.some.injEq] at hd
    subst hd
    exact ⟨rfl, fun k p v' x _ _ hk => by simp [kindAtF] at hk, fun k p _ => by simp only [getF]⟩
  | cons f fs ihf =>
    obtain ⟨k0, s0⟩ := f
    obtain ⟨kd, dv, dfs, rfl, hs0, hs⟩ := shapeF_cons hs
    obtain ⟨t0, rest, rfl, hrest, h0⟩ := decodeFs_cons hd
    obtain ⟨r1, r2, r3⟩ := ihf (fun f hf => ih f (List.mem_cons_of_mem _ hf)) dfs rest hs hrest
    have ih0 := ih _ (List.mem_cons_self ..) dv
    refine ⟨?_, fun k p v' x hl hv hk => ?_, fun k p hu => ?_⟩
    · simp only [shapeF, Bool.and_eq_true]
      refine ⟨?_, r1⟩
      rcases h0 with ⟨v0, _, hd0⟩ | ⟨_, rfl⟩
      · exact (ih0 v0 t0 hs0 hd0).2.1
      · exact hs0
    · simp only [kindAtF] at hk
      simp only [getSF]
      split
      · rename_i hk0
        cases eq_of_beq hk0
        rw [if_pos hk0] at hk
        rcases h0 with ⟨v0, hl0, hd0⟩ | ⟨hl0, _⟩
        · cases hl.symm.trans hl0
          exact (ih0 v' t0 hs0 hd0).2.2.1 p x hv hk
        · cases hl.symm.trans hl0
      · rename_i hk0
        rw [if_neg hk0] at hk
        exact r2 k p v' x hl hv hk
    · simp only [getF]
      split
      · rename_i hk0
        cases eq_of_beq hk0
        rcases h0 with ⟨v0, hl0, hd0⟩ | ⟨_, rfl⟩
        · simp only [untouched, hl0] at hu
          exact (ih0 v0 t0 hs0 hd0).2.2.2 p hu
        · rfl
      · exact r3 k p hu

theorem decode_spec (S : KS) : DecodeSpec S := by
  induction S using KS.induct with
  | flat S hf =>
    intro d v t _ hd
    cases decodeV_flat hf hd
    refine ⟨TV.noConfusion, shape_flat hf v, fun p x hv hk => ?_, fun p hu => ?_⟩
    · cases p with
      | cons k p => rw [kindAt_flat hf] at hk; cases hk
      | nil => simp only [valGet, Option.some.injEq] at hv; rw [getS, hv]
    · cases p with
      | nil => rw [untouched_nil] at hu; cases hu
      | cons k p => rw [getPath_flat hf, getPath_flat hf]
  | ptr s ih =>
    intro d v t hs hd
    obtain ⟨d', hs', hd', hg⟩ := ptr_default s d
    rw [hd'] at hd
    obtain ⟨hn, r1, r2, r3⟩ := ih d' v t (hs' hs) hd
    refine ⟨hn, by rwa [shape_ptr_of_ne_nil s t hn], fun p x hv hk => ?_, fun p hu => ?_⟩
    · rw [getS_ptr_of_ne_nil s t p hn]
      exact r2 p x hv (kindAt_ptr_leaf s p ▸ hk)
    · cases p with
      | nil => rw [untouched_nil] at hu; cases hu
      | cons k p => rw [getPath_ptr_of_ne_nil s t _ hn, hg]; exact r3 (k :: p) hu
  | struct fs ih =>
    intro d v t hs hd
    obtain ⟨dfs, kvs, tfs, rfl, rfl, rfl, _, hf⟩ := decodeV_struct hd
    simp only [shape] at hs ⊢
    obtain ⟨r1, r2, r3⟩ := decodeFs_spec_of ih dfs kvs tfs hs hf
    refine ⟨TV.noConfusion, r1, fun p x hv hk => ?_, fun p hu => ?_⟩
    · cases p with
      | nil => simp [kindAt, isLeafKind] at hk
      | cons k p =>
        obtain ⟨v', hl, hv'⟩ := valGet_cons hv
        simp only [kindAt] at hk
        simp only [getS]
        exact r2 k p v' x hl hv' hk
    · cases p with
      | nil => rw [untouched_nil] at hu; cases hu
      | cons k p => simp only [getPath]; exact r3 k p hu

theorem decode_shape (S : KS) (d : TV) (v : Val) (t : TV) (hs : shape S d = true) (hd : decodeV S d v = some t) :
    shape S t = true :=
  (decode_spec S d v t hs hd).2.1

theorem written_reflected (S : KS) (d : TV) (v : Val) (t : TV) (p : List String) (x : Val)
    (hs : shape S d = true) (hd : decodeV S d v = some t) (hv : valGet v p = some x)
    (hk : (kindAt S p).map isLeafKind = some true) : getS S t p = some (.atom x) :=
  (decode_spec S d v t hs hd).2.2.1 p x hv hk

/-! ## the effective configuration shows the typed one -/

/-- what the effective configuration shows for a leaf of kind `k` holding `x` -/
def shownAs (k : Option KS) (x : Val) : Option EV := k.map (fun k => encodeV k (.atom x))

/-- what encoding guarantees, with no decoder in it: what a well-shaped typed configuration holds at a key path is
shown there as the position's kind encodes it -/
def EncodeSpec (S : KS) : Prop := ∀ (t : TV) (p : List String) (t' : TV),
  shape S t = true → getS S t p = some t' → evGet (encodeV S t) p = (kindAt S p).map (fun k => encodeV k t')

theorem effectiveF_of {fs : List (String × KS)}
    (ih : ∀ f ∈ fs, EncodeSpec f.2)
    (tfs : List (String × TV)) (k : String) (p : List String) (t' : TV)
    (hs : shapeF fs tfs = true) (hg : getSF fs tfs k p = some t') :
    (((encodeF fs tfs).find? (fun q => q.1 == k)).map (·.2)).bind (fun e => evGet e p)
      = (kindAtF fs k p).map (fun k => encodeV k t') := by
  induction fs generalizing tfs with
  | nil => simp [getSF] at hg
  | cons f fs ihf =>
    obtain ⟨k0, s0⟩ := f
    obtain ⟨kt, t0, tfs, rfl, hs0, hs⟩ := shapeF_cons hs
    simp only [getSF] at hg
    simp only [kindAtF, encodeF, List.find?]
    by_cases hk0 : (k0 == k) = true
    · simp only [hk0, if_true] at hg ⊢
      simp only [Option.map_some, Option.bind_some]
      exact ih _ (List.mem_cons_self ..) t0 p t' hs0 hg
    · simp only [hk0, Bool.false_eq_true, if_false] at hg ⊢
      exact ihf (fun f hf => ih f (List.mem_cons_of_mem _ hf)) tfs hs hg

theorem effective_shows (S : KS) : EncodeSpec S := by
  -- at the empty path both sides encode the value itself, whatever the kind
  have nil : ∀ (S : KS) (t t' : TV), getS S t [] = some t' →
      evGet (encodeV S t) [] = (kindAt S []).map (fun k => encodeV k t') := by
    intro S t t' hg
    simp only [getS, Option.some.injEq] at hg
    simp only [hg, evGet, kindAt, Option.map_some]
  induction S using KS.induct with
  | flat S hf =>
    intro t p t' _ hg
    cases p with
    | nil => exact nil S t t' hg
    | cons k p => rw [getS_flat hf] at hg; cases hg
  | ptr s ih =>
    intro t p t' hs hg
    cases p with
    | nil => exact nil _ t t' hg
    | cons k p =>
      have hn : t ≠ .nilp := fun h => by simp [h, getS] at hg
      rw [getS_ptr_of_ne_nil s t _ hn] at hg
      rw [shape_ptr_of_ne_nil s t hn] at hs
      rw [encodeV_ptr_of_ne_nil s t hn]
      exact ih t (k :: p) t' hs hg
  | struct fs ih =>
    intro t p t' hs hg
    cases p with
    | nil => exact nil _ t t' hg
    | cons k p =>
      obtain ⟨tfs, rfl, hs⟩ := shape_struct hs
      simp only [getS] at hg
      simp only [kindAt, encodeV, evGet]
      exact effectiveF_of ih tfs k p t' hs hg

/-! ## field lists -/

theorem shapeF_zero : ∀ fs : List (String × KS), shapeF fs (zeroF fs) = true :=
  fun _ => shapeF_zero_of (fun f _ => shape_zero f.2)

theorem decodeFs_shape : ∀ (fs : List (String × KS)) (dfs : List (String × TV)) (kvs : List (String × Val))
    (tfs : List (String × TV)), shapeF fs dfs = true → decodeFs fs dfs kvs = some tfs → shapeF fs tfs = true :=
  fun _ dfs kvs tfs hs hd => (decodeFs_spec_of (fun f _ => decode_spec f.2) dfs kvs tfs hs hd).1

theorem fields_written : ∀ (fs : List (String × KS)) (dfs : List (String × TV)) (kvs : List (String × Val))
    (tfs : List (String × TV)) (k : String) (p : List String) (v' x : Val),
    shapeF fs dfs = true → decodeFs fs dfs kvs = some tfs → lookupVal kvs k = some v' → valGet v' p = some x →
    (kindAtF fs k p).map isLeafKind = some true → getSF fs tfs k p = some (.atom x) :=
  fun _ dfs kvs tfs k p v' x hs hd => (decodeFs_spec_of (fun f _ => decode_spec f.2) dfs kvs tfs hs hd).2.1 k p v' x

theorem fields_untouched : ∀ (fs : List (String × KS)) (dfs : List (String × TV)) (kvs : List (String × Val))
    (tfs : List (String × TV)) (k : String) (p : List String),
    shapeF fs dfs = true → decodeFs fs dfs kvs = some tfs → untouched (.map kvs) (k :: p) = true →
    getF fs tfs k p = getF fs dfs k p :=
  fun _ dfs kvs tfs k p hs hd => (decodeFs_spec_of (fun f _ => decode_spec f.2) dfs kvs tfs hs hd).2.2 k p

theorem effectiveF : ∀ (fs : List (String × KS)) (tfs : List (String × TV)) (k : String) (p : List String) (x : Val),
    shapeF fs tfs = true → getSF fs tfs k p = some (.atom x) → (kindAtF fs k p).map isLeafKind = some true →
    (((encodeF fs tfs).find? (fun q => q.1 == k)).map (·.2)).bind (fun e => evGet e p)
      = shownAs (kindAtF fs k p) x :=
  fun _ tfs k p _ hs hg _ => effectiveF_of (fun f _ => effective_shows f.2) tfs k p _ hs hg
end OtelVerif.C13

import OtelVerif.Model.C03Direct
import OtelVerif.Lemmas.C03
/-!
# C03, queue-less exporters: lemmas on the direct LTS (`Model/C03Direct.lean`) for `Props/C03Direct.lean`

`dfire` is inverted label by label (`dfire_send` … `dfire_giveUp`, collected in `dfire_shape` over `Upd`); `PendZero`, `att_step` are the state
facts; `checkDirect_iff`, `root_*` read the monitor; `DisjFl` / `Fresh` and `DRec.evs` serve the joint invariant `BInv` of state and trace.
-/
namespace OtelVerif.C03.Direct

theorem drunFrom_step (s : DState) (l : DLabel) (ls : List DLabel) : drunFrom s (l :: ls) = (dfire s l).bind (fun s' => drunFrom s' ls) := by
  simp only [drunFrom]; cases dfire s l <;> rfl

theorem dreachable_of_drunFrom {s s' : DState} (ls : List DLabel) (h : DReachable s) (hr : drunFrom s ls = some s') :
    DReachable s' :=
  run_induction (ok := fun _ => True) (fun _ => rfl) drunFrom_step (fun _ l _ h _ hf => .step l h hf) ls s s' h (fun _ _ => trivial) hr

theorem mem_of_mem_evsAfter (p : Ev → Bool) {e : Ev} : ∀ {l : List Ev}, e ∈ evsAfter p l → e ∈ l
  | [], h => by simp [evsAfter] at h
  | a :: l, h => by
    simp only [evsAfter] at h
    split at h
    · exact List.mem_cons_of_mem _ h
    · exact List.mem_cons_of_mem _ (mem_of_mem_evsAfter p h)

/-- a step other than `send` / `shutdown` rewrites exactly one flight, keeps its items, and never makes it `pending` again -/
structure Upd (s s' : DState) (f : Nat) (fl fl' : DFlight) : Prop where
  get : s.flights[f]? = some fl
  eq : s' = { s with flights := s.flights.set f fl' }
  items : fl'.items = fl.items
  notPending : fl'.st ≠ .pending

theorem dfire_send {s s' : DState} {b : Batch} (h : dfire s (.send b) = some s') :
    s' = { s with flights := s.flights ++ [DFlight.new b] } := (Option.some.inj h).symm

theorem dfire_shutdown {s s' : DState} (h : dfire s .shutdown = some s') : s.stopped = false ∧ s' = { s with stopped := true } := by
  simp only [dfire] at h
  split at h
  · next hc => exact ⟨hc, (Option.some.inj h).symm⟩
  · cases h

theorem dfire_expStart {s s' : DState} {f : Nat} (h : dfire s (.expStart f) = some s') :
    ∃ fl, Upd s s' f fl { fl with st := .calling, attempts := fl.attempts + 1 } ∧
      (fl.st = .pending ∨ (fl.st = .backoff ∧ s.stopped = false)) := by
  simp only [dfire] at h
  cases hfl : s.flights[f]? with
  | none => simp [hfl] at h
  | some fl =>
    simp only [hfl] at h
    split at h
    · next hc =>
      simp only [Option.some.injEq] at h
      exact ⟨fl, ⟨hfl, h.symm, rfl, by simp⟩, hc⟩
    · simp at h

theorem dfire_expEnd {s s' : DState} {f : Nat} {o : Outcome} {a : After} (h : dfire s (.expEnd f o a) = some s') :
    ∃ fl fl', Upd s s' f fl fl' ∧ fl.st = .calling ∧ fl'.attempts = fl.attempts ∧
      (fl'.st = .backoff → s.stopped = false ∧ s.retry = true) ∧ (fl'.st = .backoff ∨ fl'.st = .done) := by
  simp only [dfire] at h
  cases hfl : s.flights[f]? with
  | none => simp [hfl] at h
  | some fl =>
    simp only [hfl] at h
    split at h
    · next hc =>
      -- `.drop` (three outcomes) is unguarded, `.trans` with `.again` / `.keep` is guarded, the other four pairs give `none`
      cases o <;> cases a <;> simp only [dend, Option.some.injEq, reduceCtorEq] at h
      all_goals first
        | exact ⟨fl, _, ⟨hfl, h.symm, rfl, by simp⟩, hc, rfl, by simp, by simp⟩
        | (split at h
           · next hg =>
             simp only [Option.some.injEq] at h
             exact ⟨fl, _, ⟨hfl, h.symm, rfl, by simp⟩, hc, rfl, by simp [hg.1, hg.2], by simp⟩
           · simp at h)
    · simp at h

theorem dfire_giveUp {s s' : DState} {f : Nat} {k : Bool} (h : dfire s (.giveUp f k) = some s') :
    ∃ fl, Upd s s' f fl { fl with st := .done, failures := fl.failures + 0, kept := k } ∧ fl.st = .backoff ∧
      (k = true → s.stopped = true) := by
  simp only [dfire] at h
  cases hfl : s.flights[f]? with
  | none => simp [hfl] at h
  | some fl =>
    simp only [hfl] at h
    split at h
    · next hc =>
      simp only [dend, Option.some.injEq] at h
      exact ⟨fl, ⟨hfl, h.symm, rfl, by simp⟩, hc.1, hc.2⟩
    · simp at h

/-- the three shapes of a step: a new pending flight · the stop · one flight rewritten (attempts + 1 exactly when the step is an
`expStart`, and then the flight was `pending`, or in `backoff` with the retry sender not stopped) -/
theorem dfire_shape {s s' : DState} {l : DLabel} (h : dfire s l = some s') :
    (∃ b, l = .send b ∧ s' = { s with flights := s.flights ++ [DFlight.new b] }) ∨
    (l = .shutdown ∧ s.stopped = false ∧ s' = { s with stopped := true }) ∨
    (∃ f fl fl', Upd s s' f fl fl' ∧
      ((l = .expStart f ∧ fl'.attempts = fl.attempts + 1 ∧ (fl.st = .pending ∨ (fl.st = .backoff ∧ s.stopped = false))) ∨
       ((∀ g, l ≠ .expStart g) ∧ fl'.attempts = fl.attempts))) := by
  cases l with
  | send b => exact .inl ⟨b, rfl, dfire_send h⟩
  | shutdown => exact .inr (.inl ⟨rfl, dfire_shutdown h⟩)
  | expStart f =>
    obtain ⟨fl, hu, hc⟩ := dfire_expStart h
    exact .inr (.inr ⟨f, fl, _, hu, .inl ⟨rfl, rfl, hc⟩⟩)
  | expEnd f o a =>
    obtain ⟨fl, fl', hu, _, ha, _⟩ := dfire_expEnd h
    exact .inr (.inr ⟨f, fl, fl', hu, .inr ⟨by simp, ha⟩⟩)
  | giveUp f k =>
    obtain ⟨fl, hu, _⟩ := dfire_giveUp h
    exact .inr (.inr ⟨f, fl, _, hu, .inr ⟨by simp, rfl⟩⟩)

/-- a flight that has not called yet has no attempt -/
def PendZero (s : DState) : Prop := ∀ (f : Nat) (fl : DFlight), s.flights[f]? = some fl → fl.st = .pending → fl.attempts = 0

theorem pendZero_step {s s' : DState} {l : DLabel} (hi : PendZero s) (h : dfire s l = some s') : PendZero s' := by
  rcases dfire_shape h with ⟨b, _, rfl⟩ | ⟨_, _, rfl⟩ | ⟨f, fl, fl', hu, _⟩
  · intro g gl hg hp
    rcases getElem?_append_singleton hg with hg | ⟨_, rfl⟩
    · exact hi g gl hg hp
    · rfl
  · exact hi
  · intro g gl hg hp
    rw [hu.eq] at hg
    rcases getElem?_set_cases hg with ⟨_, rfl⟩ | ⟨_, hg⟩
    · exact absurd hp hu.notPending
    · exact hi g gl hg hp

theorem pendZero_of_reachable {s : DState} (h : DReachable s) : PendZero s := by
  induction h with
  | init retry => intro f fl hf; simp [dinit] at hf
  | step l _ hf ih => exact pendZero_step ih hf

theorem stopped_step {s s' : DState} {l : DLabel} (hs : s.stopped = true) (h : dfire s l = some s') : s'.stopped = true := by
  rcases dfire_shape h with ⟨b, _, rfl⟩ | ⟨_, hn, _⟩ | ⟨f, fl, fl', hu, _⟩
  · exact hs
  · rw [hs] at hn; cases hn
  · rw [hu.eq]; exact hs

theorem att_step {s s' : DState} {l : DLabel} (hi : PendZero s) (hs : s.stopped = true) (h : dfire s l = some s')
    {f : Nat} {fl : DFlight} (hfl : s.flights[f]? = some fl) :
    ∃ fl', s'.flights[f]? = some fl' ∧ fl'.items = fl.items ∧
      (fl'.attempts = fl.attempts ∨ (fl.attempts = 0 ∧ fl'.attempts = 1)) := by
  rcases dfire_shape h with ⟨b, _, rfl⟩ | ⟨_, _, rfl⟩ | ⟨g, gl, gl', hu, hk⟩
  · exact ⟨fl, get_append_some hfl, rfl, .inl rfl⟩
  · exact ⟨fl, hfl, rfl, .inl rfl⟩
  · rw [hu.eq]
    by_cases hfg : f = g
    · subst hfg
      have : gl = fl := by have := hu.get; rw [hfl] at this; exact (Option.some.inj this).symm
      subst this
      refine ⟨gl', get_set_self hfl, hu.items, ?_⟩
      rcases hk with ⟨_, ha, hp | ⟨_, hn⟩⟩ | ⟨_, ha⟩
      · have h0 := hi f gl hfl hp
        exact .inr ⟨h0, by omega⟩
      · rw [hs] at hn; cases hn
      · exact .inl ha
    · exact ⟨fl, by simp only []; rw [List.getElem?_set_ne (Ne.symm hfg)]; exact hfl, rfl, .inl rfl⟩

theorem checkDirect_iff (t : List Ev) :
    checkDirect t = true ↔
      ∀ c items, (c, items) ∈ startsOf (evsAfter isShutRet t) → rootOfCall (startsOf t) (c, items) = c := by
  simp only [checkDirect, lateRetries, List.isEmpty_iff, List.map_eq_nil_iff, List.filter_eq_nil_iff]
  constructor
  · intro h c items hm
    have := h (c, items) hm
    simpa using this
  · intro h p hp
    have := h p.1 p.2 hp
    simpa using this

theorem root_append_mem {l l' : List (Nat × List Item)} {p : Nat × List Item} (hp : p ∈ l) :
    rootOfCall (l ++ l') p = rootOfCall l p := by
  obtain ⟨c, b⟩ := p
  cases b with
  | nil => simp [rootOfCall]
  | cons x xs =>
    simp only [rootOfCall, List.find?_append]
    have hsome : (l.find? (fun q => q.2.contains x)).isSome = true := by
      rw [List.find?_isSome]; exact ⟨(c, x :: xs), hp, by simp⟩
    cases hfd : l.find? (fun q => q.2.contains x) with
    | none => rw [hfd] at hsome; simp at hsome
    | some q => simp

theorem root_fresh {l : List (Nat × List Item)} {c : Nat} {b : List Item}
    (h : ∀ q ∈ l, ∀ x ∈ b, x ∉ q.2) : rootOfCall (l ++ [(c, b)]) (c, b) = c := by
  cases b with
  | nil => simp [rootOfCall]
  | cons x xs =>
    simp only [rootOfCall, List.find?_append]
    have hnone : l.find? (fun q => q.2.contains x) = none := by
      rw [List.find?_eq_none]
      intro q hq
      have := h q hq x (by simp)
      simpa using this
    rw [hnone]; simp

/-- the item lists of the `send`s of a schedule; the bridge asks them pairwise `Disj`, i.e. item ids unique across requests -/
def sendsOf : List DLabel → List Batch
  | [] => []
  | .send b :: ls => b :: sendsOf ls
  | _ :: ls => sendsOf ls

def Disj (a b : Batch) : Prop := ∀ x ∈ a, x ∉ b

/-- no flight of `s` shares an item with `b` -/
def Fresh (s : DState) (b : Batch) : Prop := ∀ fl ∈ s.flights, Disj fl.items b

/-- distinct flights share no item -/
def DisjFl (s : DState) : Prop :=
  ∀ (f g : Nat) (fl gl : DFlight) (x : Item),
    s.flights[f]? = some fl → s.flights[g]? = some gl → x ∈ fl.items → x ∈ gl.items → f = g

theorem disjFl_upd {s s' : DState} {f : Nat} {fl fl' : DFlight} (hd : DisjFl s) (hu : Upd s s' f fl fl') : DisjFl s' := by
  intro g k gl kl x hg hk hxg hxk
  rw [hu.eq] at hg hk
  have key : ∀ (g : Nat) (gl : DFlight), (s.flights.set f fl')[g]? = some gl → ∃ gl0, s.flights[g]? = some gl0 ∧ gl0.items = gl.items := by
    intro g gl hg
    rcases getElem?_set_cases hg with ⟨rfl, rfl⟩ | ⟨_, hg⟩
    · exact ⟨fl, hu.get, hu.items.symm⟩
    · exact ⟨gl, hg, rfl⟩
  obtain ⟨gl0, hg0, hgi⟩ := key g gl hg
  obtain ⟨kl0, hk0, hki⟩ := key k kl hk
  exact hd g k gl0 kl0 x hg0 hk0 (hgi ▸ hxg) (hki ▸ hxk)

theorem disjFl_send {s : DState} {b : Batch} (hd : DisjFl s) (hfr : Fresh s b) :
    DisjFl { s with flights := s.flights ++ [DFlight.new b] } := by
  intro g k gl kl x hg hk hxg hxk
  rcases getElem?_append_singleton hg with hg | ⟨rfl, rfl⟩ <;> rcases getElem?_append_singleton hk with hk | ⟨rfl, rfl⟩
  · exact hd g k gl kl x hg hk hxg hxk
  · exact absurd hxk (hfr gl (List.mem_of_getElem? hg) x hxg)
  · exact absurd hxg (hfr kl (List.mem_of_getElem? hk) x hxk)
  · rfl

theorem fresh_step {s s' : DState} {l : DLabel} {b : Batch} (hl : ∀ b', l ≠ .send b') (hfr : Fresh s b)
    (h : dfire s l = some s') : Fresh s' b := by
  rcases dfire_shape h with ⟨b', hb', _⟩ | ⟨_, _, rfl⟩ | ⟨f, fl, fl', hu, _⟩
  · exact absurd hb' (hl b')
  · exact hfr
  · intro gl hgl
    rw [hu.eq] at hgl
    rcases List.mem_or_eq_of_mem_set hgl with hgl | rfl
    · exact hfr gl hgl
    · rw [hu.items]; exact hfr fl (List.mem_of_getElem? hu.get)

def DRec.evs (r : DRec) : DLabel → List Ev
  | .shutdown => [.shutReq, .shutRet]
  | .expStart f => [.es r.calls ((r.s.flights[f]?.map (·.items)).getD [])]
  | .expEnd f o _ =>
    match r.pending.lookup f with
    | some c => [.ee c (o != .ok)]
    | none => []
  | _ => []

theorem dstep_spec {r r' : DRec} {l : DLabel} (h : r.step l = some r') :
    dfire r.s l = some r'.s ∧ r'.tr = r.tr ++ r.evs l := by
  unfold DRec.step at h
  cases hf : dfire r.s l with
  | none => simp [hf] at h
  | some s' =>
    simp only [hf] at h
    cases l with
    | expEnd f o a =>
      simp only [DRec.evs]
      dsimp only at h
      split at h
      · next c hc => simp only [Option.some.injEq] at h; subst h; simp [hc]
      · next hc => simp only [Option.some.injEq] at h; subst h; simp [hc]
    | _ => simp only [Option.some.injEq] at h; subst h; simp [DRec.evs]

/-- the joint invariant of state and recorded trace -/
structure BInv (r : DRec) : Prop where
  pend0 : PendZero r.s
  disj : DisjFl r.s
  /-- a recorded call belongs to a flight that counts it -/
  starts : ∀ c b, (c, b) ∈ startsOf r.tr → ∃ (f : Nat) (fl : DFlight), r.s.flights[f]? = some fl ∧ fl.items = b ∧ 1 ≤ fl.attempts
  stop : r.s.stopped = r.tr.any isShutRet
  good : ∀ c b, (c, b) ∈ startsOf (evsAfter isShutRet r.tr) → rootOfCall (startsOf r.tr) (c, b) = c

theorem binv_start (retry : Bool) : BInv (DRec.start retry) := by
  refine ⟨?_, ?_, ?_, ?_, ?_⟩
  · intro f fl hf; simp [DRec.start, dinit] at hf
  · intro f g fl gl x hf; simp [DRec.start, dinit] at hf
  · intro c b h; simp [DRec.start, startsOf] at h
  · simp [DRec.start, dinit]
  · intro c b h; simp [DRec.start, startsOf, evsAfter] at h

theorem binv_upd {r r' : DRec} {f : Nat} {fl fl' : DFlight} (hi : BInv r) (hp0 : PendZero r'.s) (hu : Upd r.s r'.s f fl fl')
    (evs : List Ev) (htr : r'.tr = r.tr ++ evs) (hns : evs.any isShutRet = false)
    (hk : (startsOf evs = [] ∧ fl'.attempts = fl.attempts) ∨
          (∃ c, startsOf evs = [(c, fl.items)] ∧ fl'.attempts = fl.attempts + 1 ∧
            (fl.st = .pending ∨ (fl.st = .backoff ∧ r.s.stopped = false)))) : BInv r' := by
  have hge : fl.attempts ≤ fl'.attempts := by
    rcases hk with ⟨_, h⟩ | ⟨_, _, h, _⟩ <;> omega
  have hfl' : r'.s.flights[f]? = some fl' := by rw [hu.eq]; exact get_set_self hu.get
  have hstopEq : r'.s.stopped = r.s.stopped := by rw [hu.eq]
  -- an old start keeps a witness
  have hold : ∀ c b, (c, b) ∈ startsOf r.tr → ∃ (g : Nat) (gl : DFlight), r'.s.flights[g]? = some gl ∧ gl.items = b ∧ 1 ≤ gl.attempts := by
    intro c b hm
    obtain ⟨g, gl, hg, hgi, hga⟩ := hi.starts c b hm
    by_cases hgf : g = f
    · subst hgf
      have : gl = fl := by have := hu.get; rw [hg] at this; exact Option.some.inj this
      subst this
      exact ⟨g, fl', hfl', hu.items.trans hgi, by omega⟩
    · exact ⟨g, gl, by rw [hu.eq]; simp only []; rw [List.getElem?_set_ne (Ne.symm hgf)]; exact hg, hgi, hga⟩
  refine ⟨hp0, disjFl_upd hi.disj hu, ?_, ?_, ?_⟩
  · intro c b hm
    rw [htr, startsOf_append, List.mem_append] at hm
    rcases hm with hm | hm
    · exact hold c b hm
    · rcases hk with ⟨h0, _⟩ | ⟨c0, h1, ha, _⟩
      · rw [h0] at hm; simp at hm
      · rw [h1] at hm
        simp only [List.mem_singleton, Prod.mk.injEq] at hm
        exact ⟨f, fl', hfl', hu.items.trans hm.2.symm, by omega⟩
  · rw [hstopEq, htr, List.any_append, hns, Bool.or_false]; exact hi.stop
  · intro c b hm
    rw [htr, evsAfter_append] at hm
    cases hany : r.tr.any isShutRet with
    | false =>
      rw [hany] at hm
      simp only [Bool.false_eq_true, if_false] at hm
      rw [evsAfter_none _ _ hns] at hm
      simp [startsOf] at hm
    | true =>
      rw [hany] at hm
      simp only [if_true] at hm
      rw [startsOf_append, List.mem_append] at hm
      rw [htr, startsOf_append]
      rcases hm with hm | hm
      · rw [root_append_mem (mem_startsOf.mpr (mem_of_mem_evsAfter _ (mem_startsOf.mp hm)))]
        exact hi.good c b hm
      · rcases hk with ⟨h0, _⟩ | ⟨c0, h1, _, hst⟩
        · rw [h0] at hm; simp at hm
        · rw [h1] at hm ⊢
          simp only [List.mem_singleton, Prod.mk.injEq] at hm
          obtain ⟨rfl, rfl⟩ := hm
          have hstopped : r.s.stopped = true := by rw [hi.stop]; exact hany
          have hpend : fl.st = .pending := by
            rcases hst with hp | ⟨_, hn⟩
            · exact hp
            · rw [hstopped] at hn; cases hn
          have h0 : fl.attempts = 0 := hi.pend0 f fl hu.get hpend
          apply root_fresh
          intro q hq x hx hxq
          obtain ⟨g, gl, hg, hgi, hga⟩ := hi.starts q.1 q.2 hq
          have hgf : f = g := hi.disj f g fl gl x hu.get hg hx (hgi ▸ hxq)
          subst hgf
          have : gl = fl := by have := hu.get; rw [hg] at this; exact Option.some.inj this
          subst this
          omega

theorem binv_step {r r' : DRec} {l : DLabel} (hi : BInv r) (hfr : ∀ b, l = .send b → Fresh r.s b)
    (h : r.step l = some r') : BInv r' := by
  obtain ⟨hf, htr⟩ := dstep_spec h
  have hp0 : PendZero r'.s := pendZero_step hi.pend0 hf
  cases l with
  | send b =>
    have hs := dfire_send hf
    have htr' : r'.tr = r.tr := by rw [htr]; simp [DRec.evs]
    refine ⟨hp0, ?_, ?_, ?_, ?_⟩
    · rw [hs]; exact disjFl_send hi.disj (hfr b rfl)
    · intro c b' hm
      rw [htr'] at hm
      obtain ⟨g, gl, hg, hgi, hga⟩ := hi.starts c b' hm
      exact ⟨g, gl, by rw [hs]; exact get_append_some hg, hgi, hga⟩
    · rw [htr', hs]; exact hi.stop
    · rw [htr']; exact hi.good
  | shutdown =>
    obtain ⟨hn, hs⟩ := dfire_shutdown hf
    have htr' : r'.tr = r.tr ++ [.shutReq, .shutRet] := by rw [htr]; rfl
    have hany : r.tr.any isShutRet = false := by rw [← hi.stop]; exact hn
    refine ⟨hp0, ?_, ?_, ?_, ?_⟩
    · rw [hs]; exact hi.disj
    · intro c b hm
      rw [htr', startsOf_append] at hm
      simp only [startsOf, List.filterMap_cons, List.filterMap_nil, List.append_nil] at hm
      obtain ⟨g, gl, hg, hgi, hga⟩ := hi.starts c b hm
      exact ⟨g, gl, by rw [hs]; exact hg, hgi, hga⟩
    · rw [hs, htr']; simp [isShutRet]
    · intro c b hm
      rw [htr', evsAfter_append, hany] at hm
      simp [evsAfter, isShutRet, startsOf] at hm
  | expStart f =>
    obtain ⟨fl, hu, hc⟩ := dfire_expStart hf
    refine binv_upd hi hp0 hu _ htr ?_ (.inr ⟨r.calls, ?_, rfl, hc⟩)
    · simp [DRec.evs, isShutRet]
    · simp [DRec.evs, startsOf, hu.get]
  | expEnd f o a =>
    obtain ⟨fl, fl', hu, _, ha, _⟩ := dfire_expEnd hf
    refine binv_upd hi hp0 hu _ htr ?_ (.inl ⟨?_, ha⟩)
    · simp only [DRec.evs]; split <;> simp [isShutRet]
    · simp only [DRec.evs]; split <;> simp [startsOf]
  | giveUp f k =>
    obtain ⟨fl, hu, _⟩ := dfire_giveUp hf
    exact binv_upd hi hp0 hu _ htr (by simp [DRec.evs]) (.inl ⟨by simp [DRec.evs, startsOf], rfl⟩)

theorem binv_run {r r' : DRec} (ls : List DLabel) (hi : BInv r) (hd : (sendsOf ls).Pairwise Disj)
    (hfr : ∀ b ∈ sendsOf ls, Fresh r.s b) (h : r.run ls = some r') : BInv r' := by
  induction ls generalizing r with
  | nil => simp [DRec.run] at h; exact h ▸ hi
  | cons l ls ih =>
    simp only [DRec.run] at h
    cases hst : r.step l with
    | none => simp [hst] at h
    | some r1 =>
      simp only [hst] at h
      have hf := (dstep_spec hst).1
      cases l with
      | send b =>
        simp only [sendsOf, List.pairwise_cons] at hd
        simp only [sendsOf, List.mem_cons] at hfr
        have hi1 : BInv r1 := binv_step hi (fun b' hb' => by cases hb'; exact hfr b (.inl rfl)) hst
        refine ih hi1 hd.2 ?_ h
        intro b' hb' gl hgl
        rw [dfire_send hf] at hgl
        simp only [List.mem_append, List.mem_singleton] at hgl
        rcases hgl with hgl | rfl
        · exact hfr b' (.inr hb') gl hgl
        · exact hd.1 b' hb'
      | _ =>
        have hi1 : BInv r1 := binv_step hi (fun b' hb' => by cases hb') hst
        exact ih hi1 hd (fun b hb => fresh_step (by simp) (hfr b hb) hf) h

/-! ## the schedules of the examples in `Props/C03Direct.lean` -/

/-- a flight in back-off at the stop: it ends kept, without a further call -/
def demoBackoff : List DLabel :=
  [.send [1, 2], .expStart 0, .expEnd 0 .trans .again, .shutdown, .giveUp 0 true]

/-- a `Send` entering after the stop: one late FIRST call, which fails and ends its `Send` with a shutdown error -/
def demoLate : List DLabel :=
  [.shutdown, .send [7], .expStart 0, .expEnd 0 .trans .keep]

/-- both, with more callers: back-off at the stop, a flight pending at the stop, a `Send` after the stop -/
def demoMixed : List DLabel :=
  [.send [1, 2], .expStart 0, .expEnd 0 .trans .again, .send [3], .shutdown, .giveUp 0 true, .expStart 1,
   .expEnd 1 .trans .keep, .send [4], .expStart 2, .expEnd 2 .ok .drop]

end OtelVerif.C03.Direct

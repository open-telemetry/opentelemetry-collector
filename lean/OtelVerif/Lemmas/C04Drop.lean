import OtelVerif.Lemmas.C04Split
/-! `split()` does not return an emptied receiver: how the facts about the results of the loop (`Splits`) carry over to `split`;
`flatReqs`, `empty_flat` -/
namespace OtelVerif.C04
open OtelVerif.Payload

def flatReqs {P β : Type} (flat : P → List β) (rs : List (Req P)) : List β := rs.flatMap (fun r => flat r.p)

theorem flatReqs_cons {P β : Type} (flat : P → List β) (r : Req P) (rs : List (Req P)) :
    flatReqs flat (r :: rs) = flat r.p ++ flatReqs flat rs := rfl

theorem flatReqs_append {P β : Type} (flat : P → List β) (a b : List (Req P)) :
    flatReqs flat (a ++ b) = flatReqs flat a ++ flatReqs flat b := by simp [flatReqs]

theorem flatReqs_single {P β : Type} (flat : P → List β) (r : Req P) : flatReqs flat [r] = flat r.p := by
  simp [flatReqs]

theorem dropEmptyLast_cases {P : Type} (o : Ops P) (rs : List (Req P)) :
    dropEmptyLast o rs = rs ∨
    ∃ init l, rs = init ++ [l] ∧ init ≠ [] ∧ o.empty l.p = true ∧ dropEmptyLast o rs = init := by
  unfold dropEmptyLast
  cases hl : rs.getLast? with
  | none => exact Or.inl rfl
  | some l =>
    by_cases hc : (decide (rs.length > 1) && o.empty l.p) = true
    · right
      obtain ⟨init, rfl⟩ : ∃ init, rs = init ++ [l] := by
        obtain ⟨init, hi⟩ := List.getLast?_eq_some_iff.mp hl
        exact ⟨init, hi⟩
      simp only [Bool.and_eq_true, decide_eq_true_eq, List.length_append, List.length_singleton] at hc
      refine ⟨init, l, rfl, ?_, hc.2, ?_⟩
      · intro h0; rw [h0] at hc; simp at hc
      · simp only [List.length_append, List.length_singleton, hc.1, hc.2, decide_true, Bool.and_self, if_true,
          List.dropLast_concat]
    · left
      simp only [hc, Bool.false_eq_true, if_false]

theorem dropEmptyLast_mem {P : Type} (o : Ops P) (rs : List (Req P)) (r : Req P) (h : r ∈ dropEmptyLast o rs) : r ∈ rs := by
  rcases dropEmptyLast_cases o rs with e | ⟨init, l, hrs, _, _, e⟩
  · rwa [e] at h
  · rw [e] at h; rw [hrs]; exact List.mem_append_left _ h

theorem dropEmptyLast_flat {P β : Type} (o : Ops P) (flat : P → List β) (hE : ∀ p, o.empty p = true → flat p = [])
    (rs : List (Req P)) : flatReqs flat (dropEmptyLast o rs) = flatReqs flat rs := by
  rcases dropEmptyLast_cases o rs with e | ⟨init, l, hrs, _, hl, e⟩
  · rw [e]
  · rw [e, hrs, flatReqs_append, flatReqs_single, hE l.p hl, List.append_nil]

theorem dropEmptyLast_head {P : Type} (o : Ops P) (rs : List (Req P)) : (dropEmptyLast o rs).head? = rs.head? := by
  rcases dropEmptyLast_cases o rs with e | ⟨init, l, hrs, hne, _, e⟩
  · rw [e]
  · rw [e, hrs, List.head?_append]
    cases init with
    | nil => exact absurd rfl hne
    | cons a t => rfl

theorem empty_flat {α β : Type} (f : α → List β) (b : Bool) : ∀ p : List α, (b && p.isEmpty) = true → p.flatMap f = [] := by
  intro p hp
  rw [Bool.and_eq_true, List.isEmpty_iff] at hp
  rw [hp.2]
  rfl

theorem dropEmptyLast_ne_nil {P : Type} (o : Ops P) (rs : List (Req P)) (h : rs ≠ []) : dropEmptyLast o rs ≠ [] := by
  rcases dropEmptyLast_cases o rs with e | ⟨init, l, _, hne, _, e⟩
  · rwa [e]
  · rwa [e]

end OtelVerif.C04

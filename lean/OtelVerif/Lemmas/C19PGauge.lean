import OtelVerif.Lemmas.C19Exp
/-! # C19, queue-size gauge of the persistent queue: the `≤` instance of `QSizeInv`; the specification and the schedules that `Props/C19PGauge.lean` speaks of -/
namespace OtelVerif.C19
open OtelVerif.C03

theorem pgaugeInv_reachable {s : State} (h : Reachable s) : QSizeInv (· ≤ ·) (fun _ => True) s :=
  qsizeInv_reachable (Nat.le_refl 0) (fun _ _ k e => Nat.add_le_add_right e k) (fun a b c e => by omega)
    (fun _ _ _ b => Nat.zero_le b) h

/-- the schedule of the non-vacuity examples: `[1]` is dispatched (the reset sets the size to 0), then `[2]` is enqueued -/
def demoPGauge : List Label := [.offer [1], .read 0, .offer [2]]

/-- the statement of `C19_gauge_lts` for persistent queues -/
def C19_gauge_persistent_eq_full : Prop :=
  ∀ s : State, Reachable s → s.cfg.persistent = true → s.accepted.Nodup → (∀ r ∈ s.reqs, r ≠ []) →
    s.qsize = ((s.reqs.filter (fun r => !reqDone s.flights r)).map (reqSize s.cfg)).sum

/-- one request enqueued and handed to the consumer: the queue is empty, so `Read` reset the size to 0 — the request's `Done` has
not fired (it has not even been exported) -/
def demoPGaugeReset : List Label := [.offer [1], .read 0]

end OtelVerif.C19

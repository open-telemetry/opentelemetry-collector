import OtelVerif.Model.C11WLock
import OtelVerif.Lemmas.Basic
import OtelVerif.Lemmas.C11Crit
/-!
# C11 — `hostWrapper.lock` makes `Report` / `addSource` atomic

`wlock_atomic`: with the lock free, wrapper and deliveries are `applyCalls` of the calls in `Lock` order; always a prefix.
The lock argument is `Lemmas/C11Crit.lean`'s (`crit`, `sim`).
-/
namespace OtelVerif.C11.WLock

theorem applyCalls_snoc (cap : Nat) (p : HW × List Op) (cs : List WCall) (c : WCall) :
    applyCalls cap p (cs ++ [c]) = applyCall cap (applyCalls cap p cs) c := by
  simp [applyCalls, List.foldl_append]

/-- `p0` = the atomic model before the call `c` -/
def PhOk (cap : Nat) (p0 : HW × List Op) (c : WCall) (hw : HW) (out : List Op) : WPhase → Prop
  | .idle => False
  | .locked => hw = p0.1 ∧ out = p0.2
  | .fanout e rem =>
    c = .report e ∧ hw = (p0.1.report cap e).1 ∧
      ∃ done, p0.1.sources = done ++ rem ∧ out = p0.2 ++ done.map (fun i => (i, Report.status e))
  | .replay i rem =>
    c = .attach i ∧ hw = p0.1 ∧ ∃ done, p0.1.ring = done ++ rem ∧ out = p0.2 ++ done.map (fun e => (i, Report.status e))
  | .finished => (hw, out) = applyCall cap p0 c

abbrev Sh := HW × List Op

/-- the arms of `fire` between `Lock` and `Unlock` -/
def body (cap : Nat) : WCall → WPhase → Sh → Option (WPhase × Sh)
  | .report e, .locked, (hw, out) =>
    some (.fanout e hw.sources, { hw with ring := if hw.sources.isEmpty then hw.ring else pushRing cap hw.ring e }, out)
  | .attach i, .locked, (hw, out) => some (.replay i hw.ring, hw, out)
  | _, .fanout e (i :: is), (hw, out) => some (.fanout e is, hw, out ++ [(i, Report.status e)])
  | _, .fanout _ [], sh => some (.finished, sh)
  | _, .replay i (e :: es), (hw, out) => some (.replay i es, hw, out ++ [(i, Report.status e)])
  | _, .replay i [], (hw, out) => some (.finished, { hw with sources := hw.sources ++ [i] }, out)
  | _, _, _ => none

def crit (cap : Nat) : Crit WState WCall WPhase Sh where
  idle := .idle
  locked := .locked
  body := body cap
  useLock := (·.useLock)
  threads s := s.threads.map fun th => (th.todo, th.phase)
  holder := (·.holder)
  sh s := (s.hw, s.out)
  hist := (·.hist)

theorem sim {s s' : WState} {t : Nat} (h : fire s t = some s') : s'.cap = s.cap ∧ (crit s.cap).Step s t s' := by
  unfold fire at h
  cases hth : s.threads[t]? with
  | none => rw [hth] at h; cases h
  | some th =>
    obtain ⟨todo, ph⟩ := th
    rw [hth] at h
    cases todo with
    | nil => cases h
    | cons c rest =>
      have hth' : ((crit s.cap).threads s)[t]? = some (c :: rest, ph) := by simp [crit, hth]
      cases ph with
      | idle =>
        dsimp only at h
        split at h
        · cases h
        · next hb => cases h; exact ⟨rfl, rfl, _, _, _, hth', Or.inl ⟨rfl, (Bool.not_eq_true _).mp hb, List.map_set, rfl, rfl, rfl⟩⟩
      | locked => cases c <;> cases h <;> exact ⟨rfl, rfl, _, _, _, hth', Or.inr (Or.inl ⟨nofun, _, rfl, List.map_set, rfl, rfl⟩)⟩
      | fanout e l => cases c <;> cases l <;> cases h <;> exact ⟨rfl, rfl, _, _, _, hth', Or.inr (Or.inl ⟨nofun, _, rfl, List.map_set, rfl, rfl⟩)⟩
      | replay i l => cases c <;> cases l <;> cases h <;> exact ⟨rfl, rfl, _, _, _, hth', Or.inr (Or.inl ⟨nofun, _, rfl, List.map_set, rfl, rfl⟩)⟩
      | finished => cases c <;> cases h <;> exact ⟨rfl, rfl, _, _, _, hth', Or.inr (Or.inr ⟨nofun, rfl, List.map_set, rfl, rfl, rfl⟩)⟩

theorem applyCall_snd (cap : Nat) (p : HW × List Op) (c : WCall) : ∃ X, (applyCall cap p c).2 = p.2 ++ X := by
  cases c <;> exact ⟨_, rfl⟩

theorem prefix_of_append {α} (A Y Z : List α) : ∃ k, A ++ Y = ((A ++ (Y ++ Z))).take k := by
  refine ⟨(A ++ Y).length, ?_⟩
  rw [← List.append_assoc, List.take_left']
  rfl

def atomic (cap : Nat) (hw0 : HW) : (crit cap).Atomic where
  free cs sh := sh = applyCalls cap (hw0, []) cs
  ok cs c ph sh := PhOk cap (applyCalls cap (hw0, []) cs) c sh.1 sh.2 ph
  not_idle _ _ _ h := h
  enter _ _ _ h := ⟨congrArg Prod.fst h, congrArg Prod.snd h⟩
  step := by
    intro cs c ph ⟨hw, out⟩ ph' sh' hok hb
    dsimp only at hok ⊢
    generalize applyCalls cap (hw0, []) cs = p0 at hok ⊢
    cases ph with
    | idle => exact hok.elim
    | locked =>
      obtain ⟨hhw, hout⟩ := hok
      cases c <;> cases hb
      · exact ⟨rfl, by simp [HW.report, hhw], [], by simp [hhw], by simp [hout]⟩
      · exact ⟨rfl, hhw, [], by simp [hhw], by simp [hout]⟩
    | fanout e rem =>
      obtain ⟨rfl, hhw, done, hsrc, hout⟩ := hok
      cases rem with
      | nil =>
        cases hb
        rw [List.append_nil] at hsrc
        show (hw, out) = applyCall cap _ (.report e)
        simp [applyCall, hhw, hout, HW.report, hsrc]
      | cons i is => cases hb; exact ⟨rfl, hhw, done ++ [i], by simp [hsrc], by simp [hout]⟩
    | replay i rem =>
      obtain ⟨rfl, hhw, done, hring, hout⟩ := hok
      cases rem with
      | nil =>
        cases hb
        rw [List.append_nil] at hring
        show (_, out) = applyCall cap _ (.attach i)
        simp [applyCall, hhw, hout, HW.addSource, hring]
      | cons e es => cases hb; exact ⟨rfl, hhw, done ++ [e], by simp [hring], by simp [hout]⟩
    | finished => cases c <;> cases hb
  exit := by
    intro cs c ph ⟨hw, out⟩ hok hb
    cases ph with
    | idle => exact hok.elim
    | locked => cases c <;> cases hb
    | fanout e l => cases c <;> cases l <;> cases hb
    | replay i l => cases c <;> cases l <;> cases hb
    | finished => rw [applyCalls_snoc]; exact hok
  pre cs sh := ∃ k, sh.2 = (applyCalls cap (hw0, []) cs).2.take k
  pre_free cs sh h := ⟨sh.2.length, by rw [← h]; simp⟩
  pre_ok := by
    intro cs c ph ⟨hw, out⟩ hok
    dsimp only at hok ⊢
    rw [applyCalls_snoc]
    generalize applyCalls cap (hw0, []) cs = p0 at hok ⊢
    cases ph with
    | idle => exact hok.elim
    | locked =>
      obtain ⟨X, hX⟩ := applyCall_snd cap p0 c
      rw [hX, hok.2]
      exact ⟨p0.2.length, by simp⟩
    | fanout e rem =>
      obtain ⟨rfl, _, done, hsrc, rfl⟩ := hok
      simp only [applyCall, HW.report, hsrc, List.map_append]
      exact prefix_of_append _ _ _
    | replay i rem =>
      obtain ⟨rfl, _, done, hring, rfl⟩ := hok
      simp only [applyCall, HW.addSource, hring, List.map_append]
      exact prefix_of_append _ _ _
    | finished => exact ⟨out.length, by rw [← hok]; simp⟩

theorem wlock_atomic (cap : Nat) (hw0 : HW) (progs : List (List WCall)) (sched : List Nat) (s : WState)
    (h : runSched (init true cap hw0 progs) sched = some s) :
    (s.holder = Option.none → (s.hw, s.out) = applyCalls cap (hw0, []) s.calls) ∧
    (∃ k, s.out = (applyCalls cap (hw0, []) s.calls).2.take k) := by
  let I := fun s : WState => s.cap = cap ∧ (crit cap).Inv (atomic cap hw0) s
  have hstep : ∀ s t s', I s → fire s t = some s' → I s' := fun s t s' hp hf =>
    ⟨(sim hf).1.trans hp.1, hp.2.step (hp.1 ▸ (sim hf).2)⟩
  have hbase : I (init true cap hw0 progs) :=
    ⟨rfl, (crit cap).Inv_init (atomic cap hw0) _ progs rfl rfl (by simp [crit, init, Function.comp_def]) rfl rfl⟩
  obtain ⟨_, hI⟩ := run_induction (f := fire) (run := runSched) (fun _ => rfl) (fun _ _ _ => rfl) (I := I) (ok := fun _ => True)
    (fun s t s' hp _ hf => hstep s t s' hp hf) sched _ s hbase (fun _ _ => trivial) h
  exact ⟨hI.free, hI.pre⟩

end OtelVerif.C11.WLock

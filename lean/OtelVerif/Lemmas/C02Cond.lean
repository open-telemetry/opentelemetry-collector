import OtelVerif.Lemmas.C02
/-! signal conservation of cond.go alone (core Lean only) -/
namespace OtelVerif.C02

def cntF (g : W → Nat) (f : Nat → W) : List Nat → Nat
  | [] => 0
  | p :: ps => g (f p) + cntF g f ps

/-- 1 while inside `cond.Wait` -/
def insideW (x : W) : Nat := match x.ph with
  | .sel => 1
  | .wokenTok => 1
  | .wokenCtx => 1
  | _ => 0

/-- 1 while this waiter's channel is closed and it has not returned yet: an unconsumed signal -/
def creditW (x : W) : Nat := if x.sig then 1 else 0

/-- 1 while registered; `waiters` counts these (`InvA.wIff`), and `regW + creditW = insideW` thread by thread -/
def regW (x : W) : Nat := if (x.ph = .sel ∨ x.ph = .wokenCtx) ∧ x.sig = false then 1 else 0

theorem signal_ph (s : CSt) (i : Nat) : (s.signal.ws i).ph = (s.ws i).ph := by
  unfold CSt.signal
  cases s.waiters with
  | nil => rfl
  | cons w ws =>
    by_cases hi : i = w
    · subst hi; simp
    · simp [upd_other _ _ _ _ hi]

theorem cntF_add (g1 g2 g3 : W → Nat) (f : Nat → W) (L : List Nat) (h : ∀ i, g1 (f i) + g2 (f i) = g3 (f i)) :
    cntF g1 f L + cntF g2 f L = cntF g3 f L := by
  induction L with
  | nil => rfl
  | cons q qs ih => rw [cntF, cntF, cntF, Nat.add_add_add_comm, h q, ih]

theorem cntF_indicator (g : W → Nat) (f : Nat → W) (ws L : List Nat) (hg : ∀ i, g (f i) = if i ∈ ws then 1 else 0)
    (hL : L.Nodup) (hws : ws.Nodup) (hsub : ∀ i ∈ ws, i ∈ L) : cntF g f L = ws.length := by
  have count : ∀ L : List Nat, cntF g f L = (L.filter (· ∈ ws)).length := by
    intro L
    induction L with
    | nil => rfl
    | cons q qs ih =>
      rw [cntF, hg, ih, List.filter_cons]
      by_cases hq : q ∈ ws
      · rw [if_pos hq, if_pos (decide_eq_true hq), List.length_cons, Nat.add_comm]
      · rw [if_neg hq, if_neg (by rw [decide_eq_true_iff]; exact hq), Nat.zero_add]
  rw [count]
  refine ((List.perm_ext_iff_of_nodup (List.Nodup.sublist List.filter_sublist hL) hws).mpr (fun a => ?_)).length_eq
  rw [List.mem_filter, decide_eq_true_iff]
  exact ⟨fun h => h.2, fun h => ⟨hsub a h, h⟩⟩

theorem regW_add_creditW (x : W) (h1 : x.sig = true → x.ph.inCond) (h2 : x.ph = .wokenTok → x.sig = true) :
    regW x + creditW x = insideW x := by
  obtain ⟨ph, sig, canc⟩ := x
  cases sig with
  | true => rcases h1 rfl with e | e | e <;> (cases e; rfl)
  | false =>
    cases ph with
    | wokenTok => exact absurd (h2 rfl) Bool.false_ne_true
    | idle | sel | wokenCtx | done => rfl

/-- signal conservation follows from the cond invariant alone: `waiters` lists the registered threads once each, and a thread
inside `Wait` is either registered or holds an unconsumed signal -/
theorem InvA.conserved {s : CSt} (h : InvA s) (L : List Nat) (hn : L.Nodup) (hc : ∀ i, (s.ws i).ph ≠ .idle → i ∈ L) :
    s.waiters.length + cntF creditW s.ws L = cntF insideW s.ws L := by
  have inL : ∀ i ∈ s.waiters, i ∈ L := fun i hi =>
    hc i (by rcases ((h.wIff i).mp hi).1 with a | a <;> rw [a] <;> exact CPh.noConfusion)
  rw [← cntF_indicator regW s.ws s.waiters L (fun i => ite_congr (propext (h.wIff i).symm) (fun _ => rfl) (fun _ => rfl)) hn h.wNodup inL]
  exact cntF_add regW creditW insideW s.ws L (fun i => regW_add_creditW _ (h.sigPh i) (h.tokSig i))

end OtelVerif.C02

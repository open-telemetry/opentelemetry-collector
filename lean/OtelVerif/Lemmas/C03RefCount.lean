import OtelVerif.Model.C03RefCount
/-!
# C03 — `refCountDone`: the request's `Done` fires exactly once, after the last part, with the JOIN of all part errors
(non-nil iff some part failed; shutdown-classified iff some part ended with a shutdown error), whatever the finishing order.
-/
namespace OtelVerif.C03.RefCount

theorem joins : Shape.doneJoinsAll = true := by
  simp only [Shape.doneJoinsAll, Gen.C03Shape.refCountOnDone, Gen.C03Shape.multiOnDone, beq_self_eq_true, Bool.and_self]

theorem fold_state (parts : List PErr) (r : RCD) :
    (parts.foldl RCD.onDone r).err = r.err ++ joined parts ∧ (parts.foldl RCD.onDone r).refCount = r.refCount - parts.length := by
  induction parts generalizing r with
  | nil => simp [joined]
  | cons p ps ih =>
    obtain ⟨h1, h2⟩ := ih (r.onDone p)
    simp only [List.foldl_cons, h1, h2]
    constructor
    · cases p <;> simp [RCD.onDone, joins, mappend, joined]
    · simp only [RCD.onDone, List.length_cons]; omega

theorem fold_fired (parts : List PErr) (r : RCD) (hpos : (parts.length : Int) < r.refCount) :
    (parts.foldl RCD.onDone r).fired = r.fired := by
  induction parts generalizing r with
  | nil => rfl
  | cons p ps ih =>
    simp only [List.foldl_cons]
    have hne : r.refCount - 1 ≠ 0 := by simp only [List.length_cons] at hpos; omega
    have h1 : (r.onDone p).fired = r.fired := by simp [RCD.onDone, hne]
    have h2 : (r.onDone p).refCount = r.refCount - 1 := rfl
    rw [ih (r.onDone p) (by rw [h2]; simp only [List.length_cons] at hpos; omega), h1]

end OtelVerif.C03.RefCount

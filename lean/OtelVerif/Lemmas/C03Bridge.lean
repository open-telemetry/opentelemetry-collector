import OtelVerif.Model.C03Trace
import OtelVerif.Lemmas.C03
/-!
# C03 bridge: the trace of every run of the LTS that reaches "returned" is accepted by the trace monitors

`Rec.run` records the observable events of a schedule.  A joint invariant over the reachable records (`RInv`) ties the recorded
trace to the ghost fields of the state (`early`, the per-flight counters `attempts` / `failures`, the flights that are inside the
export function); together with the state theorems of `Props/C03.lean` it yields `checkMemory` / `checkPersistent` for the trace of
every run that ends with `phase = 5`.
-/
namespace OtelVerif.C03

def isCall : Ev → Bool
  | .es _ _ => true
  | .ee _ _ => true
  | _ => false

theorem startsOf_quiet (e : Ev) (h : isCall e = false) : startsOf [e] = [] := by
  cases e <;> simp_all [startsOf, isCall]

theorem endsOf_quiet (e : Ev) (h : isCall e = false) : endsOf [e] = [] := by
  cases e <;> simp_all [endsOf, isCall]

/-! ## what a step records -/

def Rec.evs (r : Rec) : Label → List Ev
  | .offer b => [.acc b]
  | .shutRetry => [.shutReq]
  | .shutWait => [.shutRet]
  | .expStart f => [.es r.calls ((r.s.flights[f]?.map (·.batch)).getD [])]
  | .expEnd f o _ =>
    match r.pending.lookup f with
    | some c => [.ee c (o != .ok)]
    | none => []
  | _ => []

def Rec.pendAfter (r : Rec) : Label → List (Nat × Nat)
  | .expStart f => (f, r.calls) :: r.pending
  | .expEnd f _ _ =>
    match r.pending.lookup f with
    | some _ => r.pending.filter (fun p => p.1 != f)
    | none => r.pending
  | _ => r.pending

theorem Rec.step_spec {r r' : Rec} {l : Label} (h : r.step l = some r') :
    fire r.s l = some r'.s ∧ r'.tr = r.tr ++ r.evs l ∧ r'.pending = r.pendAfter l := by
  unfold Rec.step at h
  cases hf : fire r.s l with
  | none => simp [hf] at h
  | some s' =>
    simp only [hf] at h
    cases l with
    | expEnd f o a =>
      simp only [Rec.evs, Rec.pendAfter]
      dsimp only at h
      split at h
      · next c hc => simp only [Option.some.injEq] at h; subst h; simp [hc]
      · next hc => simp only [Option.some.injEq] at h; subst h; simp [hc]
    | _ => simp only [Option.some.injEq] at h; subst h; simp [Rec.evs, Rec.pendAfter]

/-! ## calls: the trace against the flights and the open calls -/

/-- contribution of a flight to the number of export calls that contained `x` -/
def attW (x : Item) (fl : Flight) : Nat := if fl.batch.contains x then fl.attempts else 0

theorem attW_of_mem {x : Item} {fl : Flight} (h : x ∈ fl.batch) : attW x fl = fl.attempts := by simp [attW, h]

theorem attW_of_not_mem {x : Item} {fl : Flight} (h : x ∉ fl.batch) : attW x fl = 0 := by simp [attW, h]

theorem attW_congr (x : Item) {fl v : Flight} (hb : v.batch = fl.batch) (ha : v.attempts = fl.attempts) : attW x v = attW x fl := by
  simp only [attW, hb, ha]

theorem attemptsOf_append_nostart (tr : List Ev) (e : Ev) (x : Item) (h : startsOf [e] = []) :
    attemptsOf (tr ++ [e]) x = attemptsOf tr x := by
  simp [attemptsOf, startsOf_append, h]

theorem attemptsOf_append_es (tr : List Ev) (c : Nat) (b : List Item) (x : Item) :
    attemptsOf (tr ++ [.es c b]) x = attemptsOf tr x + (if b.contains x then 1 else 0) := by
  simp only [attemptsOf, startsOf_append, List.filter_append, List.length_append]
  simp only [startsOf, List.filterMap_cons, List.filterMap_nil, List.filter_cons, List.filter_nil]
  split <;> simp

/-- the recorded calls and the open calls `pd` against the flights -/
structure CInv (fs : List Flight) (tr : List Ev) (pd : List (Nat × Nat)) : Prop where
  /-- an open call belongs to a flight that is inside the export function, and its start is in the trace -/
  pend : ∀ f c, (f, c) ∈ pd → ∃ fl, fs[f]? = some fl ∧ fl.st = .calling ∧ Ev.es c fl.batch ∈ tr
  uniq : ∀ f c c', (f, c) ∈ pd → (f, c') ∈ pd → c = c'
  look : ∀ (f : Nat) (fl : Flight), fs[f]? = some fl → fl.st = .calling → ∃ c, (f, c) ∈ pd
  /-- every started call has ended or is open -/
  opn : ∀ c b, Ev.es c b ∈ tr → (∃ fd, Ev.ee c fd ∈ tr) ∨ ∃ f, (f, c) ∈ pd
  /-- a counted failure is in the trace, under the id of a call that carried the flight's batch -/
  fail : ∀ (f : Nat) (fl : Flight), fs[f]? = some fl → 1 ≤ fl.failures → ∃ c, Ev.es c fl.batch ∈ tr ∧ Ev.ee c true ∈ tr
  /-- the calls that contained `x` are the attempts of the flights whose batch contains `x` -/
  att : ∀ x, attemptsOf tr x = (fs.map (attW x)).sum

theorem cinv_init : CInv [] [] [] := by
  refine ⟨?_, ?_, ?_, ?_, ?_, ?_⟩ <;> simp [attemptsOf, startsOf]

theorem CInv.not_open {fs : List Flight} {tr : List Ev} {pd : List (Nat × Nat)} (h : CInv fs tr pd) {f : Nat} {fl : Flight}
    (hfl : fs[f]? = some fl) (hs : fl.st ≠ .calling) (c : Nat) : (f, c) ∉ pd := by
  intro hc
  obtain ⟨gl, h1, h2, _⟩ := h.pend f c hc
  rw [hfl] at h1; cases h1; exact hs h2

theorem cinv_quiet {fs : List Flight} {tr : List Ev} {pd : List (Nat × Nat)} (h : CInv fs tr pd) (e : Ev) (he : isCall e = false) :
    CInv fs (tr ++ [e]) pd := by
  refine ⟨?_, h.uniq, h.look, ?_, ?_, ?_⟩
  · intro f c hc
    obtain ⟨fl, h1, h2, h3⟩ := h.pend f c hc
    exact ⟨fl, h1, h2, List.mem_append_left _ h3⟩
  · intro c b hb
    have hb' : Ev.es c b ∈ tr := by
      simp only [List.mem_append, List.mem_singleton] at hb
      cases hb with
      | inl h1 => exact h1
      | inr h1 => subst h1; simp [isCall] at he
    cases h.opn c b hb' with
    | inl h1 => obtain ⟨fd, h1⟩ := h1; exact .inl ⟨fd, List.mem_append_left _ h1⟩
    | inr h1 => exact .inr h1
  · intro f fl hfl hf
    obtain ⟨c, h1, h2⟩ := h.fail f fl hfl hf
    exact ⟨c, List.mem_append_left _ h1, List.mem_append_left _ h2⟩
  · intro x; rw [attemptsOf_append_nostart _ _ _ (startsOf_quiet e he)]; exact h.att x

theorem cinv_new {fs : List Flight} {tr : List Ev} {pd : List (Nat × Nat)} (h : CInv fs tr pd) (b : Batch) (o : Option Nat) :
    CInv (fs ++ [Flight.new b o]) tr pd := by
  refine ⟨?_, h.uniq, ?_, h.opn, ?_, ?_⟩
  · intro f c hc
    obtain ⟨fl, h1, h2, h3⟩ := h.pend f c hc
    exact ⟨fl, get_append_some h1, h2, h3⟩
  · intro f fl hfl hst
    cases getElem?_append_singleton hfl with
    | inl h1 => exact h.look f fl h1 hst
    | inr h1 => rw [h1.2] at hst; simp [Flight.new] at hst
  · intro f fl hfl hfa
    cases getElem?_append_singleton hfl with
    | inl h1 => exact h.fail f fl h1 hfa
    | inr h1 => rw [h1.2] at hfa; simp [Flight.new] at hfa
  · intro x; rw [h.att x, List.map_append, List.sum_append]; simp [attW, Flight.new]

theorem cinv_start {fs : List Flight} {tr : List Ev} {pd : List (Nat × Nat)} (h : CInv fs tr pd) {f : Nat} {fl : Flight} (c : Nat)
    (hfl : fs[f]? = some fl) (hs : fl.st ≠ .calling) :
    CInv (fs.set f { fl with st := .calling, attempts := fl.attempts + 1 }) (tr ++ [.es c fl.batch]) ((f, c) :: pd) := by
  have hlt : f < fs.length := (List.getElem?_eq_some_iff.mp hfl).1
  have hno := h.not_open hfl hs
  refine ⟨?_, ?_, ?_, ?_, ?_, ?_⟩
  · intro g c' hc
    simp only [List.mem_cons, Prod.mk.injEq] at hc
    cases hc with
    | inl h1 =>
      obtain ⟨h1, h2⟩ := h1; subst h1; subst h2
      exact ⟨{ fl with st := .calling, attempts := fl.attempts + 1 }, by simp [hlt], rfl, by simp⟩
    | inr h1 =>
      have hne : g ≠ f := by intro e; subst e; exact hno c' h1
      obtain ⟨gl, h2, h3, h4⟩ := h.pend g c' h1
      exact ⟨gl, by rw [List.getElem?_set_ne (Ne.symm hne)]; exact h2, h3, List.mem_append_left _ h4⟩
  · intro g c1 c2 h1 h2
    simp only [List.mem_cons, Prod.mk.injEq] at h1 h2
    cases h1 with
    | inl h1 =>
      cases h2 with
      | inl h2 => rw [h1.2, h2.2]
      | inr h2 => exact absurd (h1.1 ▸ h2) (hno c2)
    | inr h1 =>
      cases h2 with
      | inl h2 => exact absurd (h2.1 ▸ h1) (hno c1)
      | inr h2 => exact h.uniq g c1 c2 h1 h2
  · intro g gl hgl hst
    cases getElem?_set_cases hgl with
    | inl h1 => exact ⟨c, by simp [h1.1]⟩
    | inr h1 => obtain ⟨c', hc'⟩ := h.look g gl h1.2 hst; exact ⟨c', List.mem_cons_of_mem _ hc'⟩
  · intro c' b hb
    simp only [List.mem_append, List.mem_singleton, Ev.es.injEq] at hb
    cases hb with
    | inl h1 =>
      cases h.opn c' b h1 with
      | inl h2 => obtain ⟨fd, h2⟩ := h2; exact .inl ⟨fd, List.mem_append_left _ h2⟩
      | inr h2 => obtain ⟨g, h2⟩ := h2; exact .inr ⟨g, List.mem_cons_of_mem _ h2⟩
    | inr h1 => exact .inr ⟨f, by simp [h1.1]⟩
  · intro g gl hgl hfa
    cases getElem?_set_cases hgl with
    | inl h1 =>
      rw [h1.2] at hfa ⊢
      obtain ⟨c', h2, h3⟩ := h.fail f fl hfl hfa
      exact ⟨c', List.mem_append_left _ h2, List.mem_append_left _ h3⟩
    | inr h1 =>
      obtain ⟨c', h2, h3⟩ := h.fail g gl h1.2 hfa
      exact ⟨c', List.mem_append_left _ h2, List.mem_append_left _ h3⟩
  · intro x
    have := sum_map_set (attW x) { fl with st := .calling, attempts := fl.attempts + 1 } hfl
    rw [attemptsOf_append_es, h.att x]
    -- the new call counts for `x` exactly when the flight's batch contains `x`
    by_cases hx : x ∈ fl.batch
    · rw [attW_of_mem (fl := fl) hx, attW_of_mem (by exact hx)] at this; dsimp only at this
      simp only [List.contains_iff_mem, hx, if_true]; omega
    · rw [attW_of_not_mem (fl := fl) hx, attW_of_not_mem (by exact hx)] at this; simp only [List.contains_iff_mem, hx, if_false]; omega

theorem cinv_stop {fs : List Flight} {tr : List Ev} {pd : List (Nat × Nat)} (h : CInv fs tr pd) {f : Nat} {fl v : Flight} {c : Nat}
    {fd : Bool} (hfl : fs[f]? = some fl) (hv : v.st ≠ .calling) (hb : v.batch = fl.batch) (ha : v.attempts = fl.attempts)
    (hf : v.failures = fl.failures ∨ (v.failures = fl.failures + 1 ∧ fd = true)) (hc : (f, c) ∈ pd) :
    CInv (fs.set f v) (tr ++ [.ee c fd]) (pd.filter (fun p => p.1 != f)) := by
  have hmem : ∀ g c', (g, c') ∈ pd.filter (fun p => p.1 != f) ↔ (g, c') ∈ pd ∧ g ≠ f := by
    intro g c'; simp [List.mem_filter]
  refine ⟨?_, ?_, ?_, ?_, ?_, ?_⟩
  · intro g c' hgc
    obtain ⟨h1, hne⟩ := (hmem g c').mp hgc
    obtain ⟨gl, h2, h3, h4⟩ := h.pend g c' h1
    exact ⟨gl, by rw [List.getElem?_set_ne (Ne.symm hne)]; exact h2, h3, List.mem_append_left _ h4⟩
  · intro g c1 c2 h1 h2
    exact h.uniq g c1 c2 ((hmem g c1).mp h1).1 ((hmem g c2).mp h2).1
  · intro g gl hgl hst
    cases getElem?_set_cases hgl with
    | inl h1 => rw [h1.2] at hst; exact absurd hst hv
    | inr h1 => obtain ⟨c', hc'⟩ := h.look g gl h1.2 hst; exact ⟨c', (hmem g c').mpr ⟨hc', h1.1⟩⟩
  · intro c' b hb'
    have hb'' : Ev.es c' b ∈ tr := by simpa using hb'
    cases h.opn c' b hb'' with
    | inl h2 => obtain ⟨fd', h2⟩ := h2; exact .inl ⟨fd', List.mem_append_left _ h2⟩
    | inr h2 =>
      obtain ⟨g, h2⟩ := h2
      by_cases hgf : g = f
      · subst hgf
        have := h.uniq g c' c h2 hc; subst this
        exact .inl ⟨fd, by simp⟩
      · exact .inr ⟨g, (hmem g c').mpr ⟨h2, hgf⟩⟩
  · intro g gl hgl hfa
    cases getElem?_set_cases hgl with
    | inl h1 =>
      rw [h1.2] at hfa ⊢
      rw [hb]
      cases hf with
      | inl h2 =>
        obtain ⟨c', h3, h4⟩ := h.fail f fl hfl (by omega)
        exact ⟨c', List.mem_append_left _ h3, List.mem_append_left _ h4⟩
      | inr h2 =>
        obtain ⟨gl', h3, _, h5⟩ := h.pend f c hc
        rw [hfl] at h3; cases h3
        exact ⟨c, List.mem_append_left _ h5, by simp [h2.2]⟩
    | inr h1 =>
      obtain ⟨c', h2, h3⟩ := h.fail g gl h1.2 hfa
      exact ⟨c', List.mem_append_left _ h2, List.mem_append_left _ h3⟩
  · intro x
    have := sum_map_set (attW x) v hfl
    have hw := attW_congr x hb ha
    rw [attemptsOf_append_nostart _ _ _ (by simp [startsOf]), h.att x]
    omega

theorem cinv_idle {fs : List Flight} {tr : List Ev} {pd : List (Nat × Nat)} (h : CInv fs tr pd) {f : Nat} {fl v : Flight}
    (hfl : fs[f]? = some fl) (hs : fl.st ≠ .calling) (hv : v.st ≠ .calling) (hb : v.batch = fl.batch) (ha : v.attempts = fl.attempts)
    (hf : v.failures = fl.failures) : CInv (fs.set f v) tr pd := by
  have hno := h.not_open hfl hs
  refine ⟨?_, h.uniq, ?_, h.opn, ?_, ?_⟩
  · intro g c' h1
    have hne : g ≠ f := by intro e; subst e; exact hno c' h1
    obtain ⟨gl, h2, h3, h4⟩ := h.pend g c' h1
    exact ⟨gl, by rw [List.getElem?_set_ne (Ne.symm hne)]; exact h2, h3, h4⟩
  · intro g gl hgl hst
    cases getElem?_set_cases hgl with
    | inl h1 => rw [h1.2] at hst; exact absurd hst hv
    | inr h1 => exact h.look g gl h1.2 hst
  · intro g gl hgl hfa
    cases getElem?_set_cases hgl with
    | inl h1 =>
      rw [h1.2] at hfa ⊢
      rw [hb]
      exact h.fail f fl hfl (by omega)
    | inr h1 => exact h.fail g gl h1.2 hfa
  · intro x
    have := sum_map_set (attW x) v hfl
    have hw := attW_congr x hb ha
    rw [h.att x]
    omega

theorem cinv_expEnd {s : State} {fs : List Flight} {tr : List Ev} {calls : Nat} {pd : List (Nat × Nat)} (h : CInv fs tr pd)
    {f : Nat} {fl v : Flight} {o : Outcome} {a : After} (hfl : fs[f]? = some fl) (hs : fl.st = .calling) (hv : v.st ≠ .calling)
    (hb : v.batch = fl.batch) (ha : v.attempts = fl.attempts)
    (hf : v.failures = fl.failures ∨ (v.failures = fl.failures + 1 ∧ (o != .ok) = true)) :
    CInv (fs.set f v) (tr ++ Rec.evs ⟨s, tr, calls, pd⟩ (.expEnd f o a)) (Rec.pendAfter ⟨s, tr, calls, pd⟩ (.expEnd f o a)) := by
  obtain ⟨c, hc⟩ := h.look f fl hfl hs
  cases hl : pd.lookup f with
  | none => exact absurd hc (by simpa using List.lookup_eq_none_iff.mp hl (f, c))
  | some c' =>
    simp only [Rec.evs, Rec.pendAfter, hl]
    exact cinv_stop h hfl hv hb ha hf (mem_of_lookup hl)

theorem cinv_step {s s' : State} {l : Label} {tr : List Ev} {calls : Nat} {pd : List (Nat × Nat)}
    (h : CInv s.flights tr pd) (hs : Step s l s') :
    CInv s'.flights (tr ++ Rec.evs ⟨s, tr, calls, pd⟩ l) (Rec.pendAfter ⟨s, tr, calls, pd⟩ l) := by
  cases hs with
  | offer b => exact cinv_quiet h _ rfl
  | sendSync i b hc hb => simp only [Rec.evs, Rec.pendAfter, List.append_nil]; exact cinv_new h b (some i)
  | spawn i b rest hc hw | timerSpawn b ht hw | shutSpawn b hh hp hw => simp only [Rec.evs, Rec.pendAfter, List.append_nil]; exact cinv_new h b none
  | expStart f fl hfl hs =>
    simp only [Rec.evs, Rec.pendAfter, hfl, Option.map_some, Option.getD_some]
    exact cinv_start h calls hfl (by cases hs with | inl h1 => simp [h1] | inr h1 => simp [h1])
  | expEndDrop f fl o hfl hs => exact cinv_expEnd h hfl hs (by simp) rfl rfl (by cases o <;> simp [failOf])
  | expEndAgain f fl hfl hs hr hp0 | expEndKeep f fl hfl hs hr hp => exact cinv_expEnd h hfl hs (by simp) rfl rfl (.inr ⟨rfl, rfl⟩)
  | giveUp f fl kept hfl hs hk =>
    simp only [Rec.evs, Rec.pendAfter, List.append_nil]
    exact cinv_idle h hfl (by simp [hs]) (by simp) rfl rfl rfl
  | shutRetry hp => exact cinv_quiet h _ rfl
  | shutWait hp hb => exact cinv_quiet h _ rfl
  | _ => simp only [Rec.evs, Rec.pendAfter, List.append_nil]; exact h

/-! ## shape of the trace against the phase -/

theorem earlyItems_append_single (tr : List Ev) (e : Ev) :
    earlyItems (tr ++ [e]) =
      if tr.any isShutReq then earlyItems tr
      else earlyItems tr ++ (match e with | .acc is => is | _ => []) := by
  simp only [earlyItems, evsBefore_append]
  cases h : tr.any isShutReq with
  | true => simp
  | false =>
    simp only [Bool.false_eq_true, if_false, List.flatMap_append, evsBefore_none _ _ h]
    cases e <;> simp [evsBefore, isShutReq]

/-- the trace against the phase: `shutReq` / `shutRet` are recorded exactly from phase 1 / 5 on, `ea` are the items accepted before
`shutReq`, and at phase 5 every call event lies before `shutRet` (what the monitor's `evsBefore` / `evsAfter` cut at) -/
structure PInv (ph : Nat) (ea : List Item) (tr : List Ev) : Prop where
  req0 : ph = 0 → tr.any isShutReq = false
  req1 : 1 ≤ ph → tr.any isShutReq = true
  ret4 : ph < 5 → tr.any isShutRet = false
  ret5 : ph = 5 → tr.any isShutRet = true ∧ startsOf (evsBefore isShutRet tr) = startsOf tr ∧
    endsOf (evsBefore isShutRet tr) = endsOf tr ∧ startsOf (evsAfter isShutRet tr) = []
  early : earlyItems tr = ea

theorem pinv_init : PInv 0 [] [] := by
  refine ⟨?_, ?_, ?_, ?_, ?_⟩ <;> simp [earlyItems, evsBefore]

/-- the phase moves between 1 and 4, nothing is recorded -/
theorem pinv_silent {ph ph' : Nat} {ea : List Item} {tr : List Ev} (h : PInv ph ea tr)
    (hp : 1 ≤ ph ∧ ph < 5 ∧ 1 ≤ ph' ∧ ph' < 5) : PInv ph' ea tr :=
  ⟨fun h0 => by omega, fun _ => h.req1 hp.1, fun _ => h.ret4 hp.2.1, fun h5 => by omega, h.early⟩

/-- an `es`/`ee` event before the return -/
theorem pinv_call {ph : Nat} {ea : List Item} {tr : List Ev} (h : PInv ph ea tr) (e : Ev) (he : isCall e = true) (hp : ph ≠ 5) :
    PInv ph ea (tr ++ [e]) := by
  have h1 : isShutReq e = false := by cases e <;> simp_all [isCall, isShutReq]
  have h2 : isShutRet e = false := by cases e <;> simp_all [isCall, isShutRet]
  refine ⟨?_, ?_, ?_, ?_, ?_⟩
  · intro h0; simp [h.req0 h0, h1]
  · intro h0; simp [h.req1 h0]
  · intro h0; simp [h.ret4 h0, h2]
  · intro h5; exact absurd h5 hp
  · rw [earlyItems_append_single, h.early]
    cases e <;> simp_all [isCall]

theorem pinv_offer {ph : Nat} {ea : List Item} {tr : List Ev} (h : PInv ph ea tr) (b : Batch) :
    PInv ph (if ph = 0 then ea ++ b else ea) (tr ++ [.acc b]) := by
  refine ⟨?_, ?_, ?_, ?_, ?_⟩
  · intro h0; simp [h.req0 h0, isShutReq]
  · intro h0; simp [h.req1 h0]
  · intro h0; simp [h.ret4 h0, isShutRet]
  · intro h5
    obtain ⟨h1, h2, h3, h4⟩ := h.ret5 h5
    refine ⟨by simp [h1], ?_, ?_, ?_⟩
    · rw [evsBefore_append, h1, if_pos rfl, startsOf_append, startsOf_quiet _ rfl, List.append_nil]; exact h2
    · rw [evsBefore_append, h1, if_pos rfl, endsOf_append, endsOf_quiet _ rfl, List.append_nil]; exact h3
    · rw [evsAfter_append, h1, if_pos rfl, startsOf_append, startsOf_quiet _ rfl, List.append_nil]; exact h4
  · rw [earlyItems_append_single, h.early]
    by_cases h0 : ph = 0
    · simp [h0, h.req0 h0]
    · simp [h0, h.req1 (by omega)]

theorem pinv_req {ea : List Item} {tr : List Ev} (h : PInv 0 ea tr) : PInv 1 ea (tr ++ [.shutReq]) := by
  refine ⟨?_, ?_, ?_, ?_, ?_⟩
  · intro h0; omega
  · intro _; simp [isShutReq]
  · intro _; simp [h.ret4 (by omega), isShutRet]
  · intro h5; omega
  · rw [earlyItems_append_single, h.early]; simp [h.req0 rfl]

theorem pinv_ret {ea : List Item} {tr : List Ev} (h : PInv 4 ea tr) : PInv 5 ea (tr ++ [.shutRet]) := by
  have h4 := h.ret4 (by omega)
  refine ⟨?_, ?_, ?_, ?_, ?_⟩
  · intro h0; omega
  · intro _; simp [h.req1 (by omega)]
  · intro h0; omega
  · intro _
    refine ⟨by simp [isShutRet], ?_, ?_, ?_⟩
    · simp [evsBefore_append, h4, evsBefore, isShutRet, startsOf]
    · simp [evsBefore_append, h4, evsBefore, isShutRet, endsOf]
    · simp [evsAfter_append, h4, evsAfter, isShutRet, startsOf]
  · rw [earlyItems_append_single, h.early]; simp [h.req1 (by omega)]

theorem not_returned_of_live {s : State} (hr : Reachable s) {f : Nat} {fl : Flight} (hfl : s.flights[f]? = some fl)
    (hs : fl.st ≠ .done) : s.phase ≠ 5 := by
  intro hp
  exact hs ((good_reachable hr).wf.flights_done hp fl (List.mem_of_getElem? hfl))

theorem pinv_expEnd {s : State} {tr : List Ev} {calls : Nat} {pd : List (Nat × Nat)} (h : PInv s.phase s.early tr)
    (hp : s.phase ≠ 5) (f : Nat) (o : Outcome) (a : After) :
    PInv s.phase s.early (tr ++ Rec.evs ⟨s, tr, calls, pd⟩ (.expEnd f o a)) := by
  simp only [Rec.evs]
  split
  · exact pinv_call h _ rfl hp
  · simp only [List.append_nil]; exact h

theorem pinv_step {s s' : State} {l : Label} {tr : List Ev} {calls : Nat} {pd : List (Nat × Nat)}
    (hr : Reachable s) (h : PInv s.phase s.early tr) (hs : Step s l s') :
    PInv s'.phase s'.early (tr ++ Rec.evs ⟨s, tr, calls, pd⟩ l) := by
  cases hs with
  | offer b => exact pinv_offer h b
  | expStart f fl hfl hs =>
    exact pinv_call h _ rfl (not_returned_of_live hr hfl (by cases hs with | inl h1 => simp [h1] | inr h1 => simp [h1]))
  | expEndDrop f fl o hfl hs => exact pinv_expEnd h (not_returned_of_live hr hfl (by simp [hs])) f o .drop
  | expEndAgain f fl hfl hs hr' hp0 => exact pinv_expEnd h (not_returned_of_live hr hfl (by simp [hs])) f .trans .again
  | expEndKeep f fl hfl hs hr' hp1 => exact pinv_expEnd h (not_returned_of_live hr hfl (by simp [hs])) f .trans .keep
  | shutRetry hp => rw [hp] at h; exact pinv_req h
  | shutQueue hp | join hp _ | shutBatcher hp _ =>
    simp only [Rec.evs, List.append_nil]
    exact pinv_silent h ⟨by omega, by omega, by omega, by omega⟩
  | shutWait hp hb => rw [hp] at h; exact pinv_ret h
  | _ => simp only [Rec.evs, List.append_nil]; exact h

/-! ## the joint invariant over the records of a run; the monitors' `pre`-trace -/

/-- a reachable state with its trace: `PInv` (trace against phase) and `CInv` (calls against flights) -/
structure RInv (cfg : Cfg) (n : Nat) (r : Rec) : Prop where
  reach : Reachable r.s
  cfg : r.s.cfg = cfg
  cons : r.s.cons.length = n
  shape : PInv r.s.phase r.s.early r.tr
  calls : CInv r.s.flights r.tr r.pending

theorem RInv.cons_ne_nil {cfg : Cfg} {n : Nat} {r : Rec} (h : RInv cfg n r) (hn : 0 < n) : r.s.cons ≠ [] :=
  List.ne_nil_of_length_pos (h.cons ▸ hn)

theorem rinv_start (cfg : Cfg) (n w : Nat) (t : Bool) : RInv cfg n (Rec.start cfg n w t) :=
  ⟨Reachable.init cfg n w t, rfl, by simp [Rec.start, init], pinv_init, cinv_init⟩

theorem rinv_step {cfg : Cfg} {n : Nat} {r r' : Rec} {l : Label} (h : RInv cfg n r) (hs : r.step l = some r') : RInv cfg n r' := by
  obtain ⟨hf, htr, hpd⟩ := Rec.step_spec hs
  have hst := fire_step hf
  refine ⟨Reachable.step l h.reach hf, (cfg_step hst).trans h.cfg, (cons_length_step hst).trans h.cons, ?_, ?_⟩
  · rw [htr]; exact pinv_step h.reach h.shape hst
  · rw [htr, hpd]; exact cinv_step h.calls hst

theorem Rec.run_step (r : Rec) (l : Label) (ls : List Label) : r.run (l :: ls) = (r.step l).bind (·.run ls) := by
  simp only [Rec.run]; cases r.step l <;> rfl

theorem rinv_run {cfg : Cfg} {n : Nat} (ls : List Label) {r r' : Rec} (h : RInv cfg n r) (hr : r.run ls = some r') : RInv cfg n r' :=
  run_induction (ok := fun _ => True) (fun _ => rfl) Rec.run_step (fun _ _ _ h _ hs => rinv_step h hs) ls r r' h (fun _ _ => trivial) hr

theorem rec_reachable (cfg : Cfg) (n w : Nat) (t : Bool) (ls : List Label) (r : Rec)
    (hr : (Rec.start cfg n w t).run ls = some r) : Reachable r.s :=
  (rinv_run ls (rinv_start cfg n w t) hr).reach

theorem attemptsOf_pre {tr : List Ev} (h : startsOf (evsBefore isShutRet tr) = startsOf tr) (x : Item) :
    attemptsOf (evsBefore isShutRet tr) x = attemptsOf tr x := by
  simp only [attemptsOf, h]

theorem failedFor_pre {tr : List Ev} (h1 : startsOf (evsBefore isShutRet tr) = startsOf tr)
    (h2 : endsOf (evsBefore isShutRet tr) = endsOf tr) (x : Item) :
    failedFor (evsBefore isShutRet tr) x = failedFor tr x := by
  simp only [failedFor, h1, h2]

theorem attempts_le_attemptsOf {cfg : Cfg} {n : Nat} {r : Rec} (h : RInv cfg n r) {fl : Flight} (hfl : fl ∈ r.s.flights) {x : Item}
    (hx : x ∈ fl.batch) : fl.attempts ≤ attemptsOf r.tr x := by
  rw [h.calls.att x]
  exact attW_of_mem hx ▸ le_sum_map (attW x) _ fl hfl

/-! ## exact counting: the `duplicated` clause -/

theorem sum_attW_unique (x : Item) :
    ∀ (fs : List Flight) (fl : Flight), fl ∈ fs → x ∈ fl.batch → (flightItems fs).count x = 1 → (fs.map (attW x)).sum = fl.attempts
  | [], fl, h, _, _ => by simp at h
  | a :: fs, fl, h, hx, hc => by
    simp only [flightItems, List.flatMap_cons, List.count_append] at hc
    simp only [List.map_cons, List.sum_cons]
    by_cases ha : x ∈ a.batch
    · have h1 : 0 < a.batch.count x := List.count_pos_iff.mpr ha
      have hnot : ∀ gl ∈ fs, x ∉ gl.batch := by
        intro gl hgl hxg
        have : 0 < (fs.flatMap (·.batch)).count x := List.count_pos_iff.mpr (List.mem_flatMap.mpr ⟨gl, hgl, hxg⟩)
        omega
      have hz : (fs.map (attW x)).sum = 0 := List.sum_eq_zero_iff_forall_eq_nat.mpr fun n hn => by
        obtain ⟨gl, hgl, rfl⟩ := List.mem_map.mp hn
        exact attW_of_not_mem (hnot gl hgl)
      have hfa : fl = a := by
        cases List.mem_cons.mp h with
        | inl h2 => exact h2
        | inr h2 => exact absurd hx (hnot fl h2)
      subst hfa
      simp [attW_of_mem ha, hz]
    · have h1 : a.batch.count x = 0 := List.count_eq_zero.mpr ha
      have hfl : fl ∈ fs := by
        cases List.mem_cons.mp h with
        | inl h2 => subst h2; exact absurd hx ha
        | inr h2 => exact h2
      have ih := sum_attW_unique x fs fl hfl hx (by simp only [flightItems]; omega)
      simp [attW_of_not_mem ha, ih]

theorem failedFor_of_mem {tr : List Ev} {c : Nat} {b : List Item} {x : Item} (h1 : Ev.es c b ∈ tr) (h2 : Ev.ee c true ∈ tr)
    (hx : x ∈ b) : failedFor tr x = true := by
  simp only [failedFor, List.any_eq_true]
  exact ⟨(c, b), mem_startsOf.mpr h1, by simp [hx, mem_endsOf.mpr h2]⟩

end OtelVerif.C03

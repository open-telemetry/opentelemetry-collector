import OtelVerif.Lemmas.C08Dec
import OtelVerif.Lemmas.C08Txt
/-! C08, JSON half: leaf readers; the readers of a field (`readElem`, `readArr`, `slotRead`) and the per-member step of `fromJ`; `JAt`; the equations
of `toJ`, `normV`, `jcov`; the round trip `jrt_all` by induction over the graph of `toJ` (`JRT`). Core Lean only. -/
namespace OtelVerif.C08
open OtelVerif.Proto

/-! ## the leaf readers on the marshaler's text -/

theorem parseInt_dec (T : Txt) (h : DecLaws T) (signed : Bool) (w n : Nat)
    (hn : n < (if signed then 2 ^ (w - 1) else 2 ^ w)) : parseInt T signed w (T.dec n) = some n := by
  rw [parseInt_lit T signed w _ n ⟨h.dec_nosign n, h.dec_noplus n⟩ (h.undec_dec n), if_pos hn]

theorem parseNum_dec (T : Txt) (h : DecLaws T) (signed : Bool) (w n : Nat) (hw : 0 < w)
    (hn : n < (if signed then 2 ^ (w - 1) else 2 ^ w)) : parseNum signed w (T.dec n) = some n := by
  have hp := two_pow_pred hw
  have hlt : n < 2 ^ w := by cases signed <;> simp at hn <;> omega
  unfold parseNum
  split
  · next ds heq => exact absurd heq (h.dec_nosign n ds)
  · rw [h.jnum_dec w n hlt]
    cases signed
    · simp
    · simp only [if_true] at hn
      have : ¬ (n ≥ 2 ^ (w - 1)) := by omega
      simp [this]

theorem parseNum_sdec (T : Txt) (h : DecLaws T) (w n : Nat) (hw : 0 < w) (hn : n < 2 ^ w) :
    parseNum true w (sdec T w n) = some n := by
  have hp := two_pow_pred hw
  unfold sdec
  split
  · next hlt => exact parseNum_dec T h true w n hw (by simpa using hlt)
  · next hge =>
    have h1 : 2 ^ w - n < 2 ^ w := by omega
    simp only [parseNum, Bool.not_true, Bool.false_eq_true, if_false, h.jnum_dec w _ h1]
    have h2 : ¬ (2 ^ w - n > 2 ^ (w - 1)) := by omega
    simp only [h2, if_false]
    congr 1
    have : 2 ^ w - (2 ^ w - n) = n := by omega
    rw [this]; exact Nat.mod_eq_of_lt hn

theorem parseInt_sdec (T : Txt) (h : DecLaws T) (w n : Nat) (hw : 0 < w) (hn : n < 2 ^ w) :
    parseInt T true w (sdec T w n) = some n := by
  have hp := two_pow_pred hw
  unfold sdec
  split
  · next hlt => exact parseInt_dec T h true w n (by simpa using hlt)
  · next hge =>
    rw [parseInt_neg_lit T true w _ _ (h.undec_dec _), if_pos ⟨rfl, by omega⟩]
    congr 1
    have : 2 ^ w - (2 ^ w - n) = n := by omega
    rw [this]; exact Nat.mod_eq_of_lt hn

/-- the payload of a `bytes` / id leaf consists of bytes: the leaf test of `jcov` and `apiVal` -/
def bytesLeaf : Ty → Val → Bool
  | .bytes, .bytes b | .id _, .bytes b => bytesOk b
  | _, _ => true

theorem readLeaf_leafJson (S : Schema) (T : Txt) (h : TxtLaws T) (ty : Ty) (v : Val)
    (hok : leafOk ty v = true)
    (hb : bytesLeaf ty v = true) :
    readLeaf S T ty (leafJson T ty v) = some (normLeaf ty v) := by
  have hd := h.toDecLaws
  cases v with
  | num n =>
    have hs : scalarOk ty n = true := by rw [← hok]; cases ty <;> rfl
    cases ty <;> simp [scalarOk] at hs <;> simp only [leafJson, readLeaf, normLeaf]
    case u64 | fixed64 => simp [parseInt_dec T hd false 64 n (by simpa using hs)]
    case i64 | sfixed64 => simp [parseInt_sdec T hd 64 n (by omega) hs]
    case u32 | fixed32 => simp [parseNum_dec T hd false 32 n (by omega) (by simpa using hs)]
    case i32 | s32 | enum => simp [parseNum_sdec T hd 32 n (by omega) hs]
    case bool =>
      have : n = 0 ∨ n = 1 := by omega
      rcases this with h0 | h1
      · subst h0; simp
      · subst h1; simp
    case double =>
      by_cases hnan : isNaN n = true
      · simp [hnan, h.fparse_nan, normNaN]
      · have hnan' : isNaN n = false := by simpa using hnan
        by_cases hp : n = posInf
        · subst hp; simp [hnan', h.fparse_pinf, normNaN]
        · by_cases hq : n = negInf
          · subst hq; simp [hnan', hp, h.fparse_ninf, normNaN]
          · simp [hnan', hp, hq, h.fparse_ffmt n hs hnan' hp hq, normNaN]
  | bytes b =>
    cases ty <;> simp [leafOk] at hok <;> simp only [leafJson, readLeaf, normLeaf]
    case bytes => simp [h.unb64_b64 b hb]
    case id k =>
      have hbo : bytesOk b = true := hb
      simp only [h.hex_noquote]
      rcases hok with h0 | ⟨h1, h2⟩
      · subst h0
        have : T.hex [] = [] := List.length_eq_zero_iff.mp (by rw [h.hex_length]; rfl)
        simp [this]
      · have hne : (T.hex b).isEmpty = false := by
          cases hh : T.hex b with
          | nil =>
            have := h.hex_length b; rw [hh] at this; simp at this
            have hb0 : b = [] := List.length_eq_zero_iff.mp (by omega)
            subst hb0; simp [allZero] at h2
          | cons _ _ => rfl
        simp [hne, h.hex_length, h1, h.unhex_hex b hbo, h2]
  | nil => cases ty <;> simp [leafOk] at hok
  | cons _ _ => cases ty <;> simp [leafOk] at hok

/-! ## the readers of one field: the split between a message (`fromJ`) and a leaf (`readLeaf`) is made here once, as `enc S (.elem f)` makes it
on the protobuf side. -/

def readElem (S : Schema) (T : Txt) (D : List Val) (f : Field) (j : Json) : Option Val :=
  match f.ty with
  | .msg sub => fromJ S T D sub (D.getD sub .nil) j
  | ty => readLeaf S T ty j

def readArr (S : Schema) (T : Txt) (D : List Val) (f : Field) (cur : Val) (j : Json) : Option Val :=
  match f.ty with
  | .msg sub => fromJ.fromJArr S T D sub cur j
  | ty => readLeafArr S T ty cur j

theorem readElem_msg {S : Schema} {T : Txt} {D : List Val} {f : Field} {sub : Nat} (hty : f.ty = .msg sub) (j : Json) :
    readElem S T D f j = fromJ S T D sub (D.getD sub .nil) j := by simp only [readElem, hty]

theorem readElem_leaf {S : Schema} {T : Txt} {D : List Val} {f : Field} (hty : ∀ sub, f.ty ≠ .msg sub) (j : Json) :
    readElem S T D f j = readLeaf S T f.ty j := by
  unfold readElem; split
  · next sub h => exact absurd h (hty sub)
  · rfl

theorem readArr_msg {S : Schema} {T : Txt} {D : List Val} {f : Field} {sub : Nat} (hty : f.ty = .msg sub) (cur : Val) (j : Json) :
    readArr S T D f cur j = fromJ.fromJArr S T D sub cur j := by simp only [readArr, hty]

theorem readArr_leaf {S : Schema} {T : Txt} {D : List Val} {f : Field} (hty : ∀ sub, f.ty ≠ .msg sub) (cur : Val) (j : Json) :
    readArr S T D f cur j = readLeafArr S T f.ty cur j := by
  unfold readArr; split
  · next sub h => exact absurd h (hty sub)
  · rfl

theorem readArr_acons (S : Schema) (T : Txt) (D : List Val) (f : Field) (cur : Val) (h t : Json) :
    readArr S T D f cur (.acons h t) = (readElem S T D f h).bind (fun x => readArr S T D f (Val.snoc cur x) t) := by
  unfold readArr readElem
  split
  · rw [fromJ.fromJArr]; cases fromJ S T D _ _ h <;> rfl
  · rw [readLeafArr]; cases readLeaf S T _ h <;> rfl

theorem readArr_anil (S : Schema) (T : Txt) (D : List Val) (f : Field) (cur : Val) : readArr S T D f cur .anil = some cur := by
  unfold readArr; split
  · rw [fromJ.fromJArr]
  · rw [readLeafArr]

theorem readArr_null (S : Schema) (T : Txt) (D : List Val) (f : Field) (cur : Val) : readArr S T D f cur .null = some cur := by
  unfold readArr; split
  · rw [fromJ.fromJArr]
  · rw [readLeafArr]

/-- what `fromJ` does with the value of a member that selects field `f`: an alternative is a fresh element; an embedded message is read
INTO the current value; a list is appended to -/
def slotRead (S : Schema) (T : Txt) (D : List Val) (f : Field) (alt : Bool) (cur : Val) (j : Json) : Option Val :=
  if alt then (readElem S T D f j).map (fun x => Val.cons (.num f.num) (.cons x .nil))
  else match f.ty with
    | .msg sub => if f.card = .req then fromJ S T D sub cur j else readArr S T D f cur j
    | _ => if f.card = .rep ∨ f.card = .packed then readArr S T D f cur j else readElem S T D f j

theorem slotRead_alt (S : Schema) (T : Txt) (D : List Val) (f : Field) (cur : Val) (j : Json) :
    slotRead S T D f true cur j = (readElem S T D f j).map (fun x => Val.cons (.num f.num) (.cons x .nil)) := rfl

theorem slotRead_msg (S : Schema) (T : Txt) (D : List Val) (f : Field) (alt : Bool) (cur : Val) (j : Json) (sub : Nat)
    (hty : f.ty = .msg sub) :
    slotRead S T D f alt cur j =
      if alt then (readElem S T D f j).map (fun x => Val.cons (.num f.num) (.cons x .nil))
      else if f.card = .req then fromJ S T D sub cur j else readArr S T D f cur j := by
  simp only [slotRead, hty]

theorem slotRead_leaf (S : Schema) (T : Txt) (D : List Val) (f : Field) (alt : Bool) (cur : Val) (j : Json)
    (hty : ∀ sub, f.ty ≠ .msg sub) :
    slotRead S T D f alt cur j =
      if alt then (readElem S T D f j).map (fun x => Val.cons (.num f.num) (.cons x .nil))
      else if f.card = .rep ∨ f.card = .packed then readArr S T D f cur j else readElem S T D f j := by
  unfold slotRead
  split
  · rfl
  · split
    · next sub h => exact absurd h (hty sub)
    · rfl

theorem slotRead_plain (S : Schema) (T : Txt) (D : List Val) (f : Field) (hf : fieldOk false f = true) (cur : Val) (j : Json) :
    slotRead S T D f false cur j =
      if f.card = .rep ∨ f.card = .packed then readArr S T D f cur j
      else match f.ty with
        | .msg sub => fromJ S T D sub cur j
        | _ => readElem S T D f j := by
  simp only [fieldOk, Bool.false_eq_true, if_false, Bool.and_eq_true] at hf
  rcases msg_or_leaf f.ty with ⟨sub, hty⟩ | hty
  · rw [slotRead_msg S T D f _ cur j sub hty]
    cases hc : f.card <;> simp [hc, hty, isScalar] at hf ⊢
  · rw [slotRead_leaf S T D f _ cur j hty]
    rw [if_neg Bool.false_ne_true]
    split
    · rfl
    · split
      · next sub h => exact absurd h (hty sub)
      · rfl

theorem slotRead_default (S : Schema) (T : Txt) (D : List Val) (f : Field) (hf : fieldOk false f = true) (j : Json) :
    slotRead S T D f false (slotDefault D (.one f)) j =
      if f.card = .rep ∨ f.card = .packed then readArr S T D f .nil j else readElem S T D f j := by
  rw [slotRead_plain S T D f hf]
  simp only [fieldOk, Bool.false_eq_true, if_false, Bool.and_eq_true] at hf
  by_cases hc : f.card = .rep ∨ f.card = .packed
  · have : slotDefault D (.one f) = .nil := by rcases hc with h | h <;> simp [slotDefault, h]
    simp only [hc, if_true, this]
  · simp only [hc, if_false]
    split
    · next sub hty =>
      have : f.card = .req := by cases h : f.card <;> simp [h, hty, isScalar] at hf hc ⊢
      rw [readElem_msg hty]; simp [slotDefault, this, hty]
    · rfl

theorem fromJ_onil (S : Schema) (T : Txt) (D : List Val) (m : Nat) (acc : Val) : fromJ S T D m acc .onil = some acc := by
  rw [fromJ]

theorem fromJ_step (S : Schema) (T : Txt) (D : List Val) (m : Nat) (acc : Val) (k : List Nat) (v tl : Json) (hit : Hit)
    (hkey : (jsonKeysOf S m).any (fun s => str s == k) = true)
    (hfind : findKey (S.slots m) 0 k = some hit) :
    fromJ S T D m acc (.ocons k v tl) =
      match slotRead S T D hit.f hit.alt (Val.get acc hit.idx) v with
      | some nv => fromJ S T D m (Val.set acc hit.idx nv) tl
      | none => none := by
  rw [fromJ]
  simp only [jsonKeysOf] at hkey
  simp only [hkey, Bool.not_true, Bool.false_eq_true, if_false, hfind]
  split
  · next sub hty =>
    rw [slotRead_msg S T D _ _ _ _ sub hty, readElem_msg hty, readArr_msg hty]
    split
    · cases fromJ S T D sub (D.getD sub Val.nil) v <;> rfl
    · split <;> rfl
  · next hty =>
    rw [slotRead_leaf S T D _ _ _ _ hty, readElem_leaf hty, readArr_leaf hty]
    cases hit.alt
    · by_cases hc : hit.f.card = .rep ∨ hit.f.card = .packed
      · simp only [Bool.not_false, true_and, Bool.false_eq_true, hc, if_true, if_false]
        cases readLeafArr S T hit.f.ty (Val.get acc hit.idx) v <;> rfl
      · simp only [Bool.not_false, true_and, Bool.false_eq_true, hc, if_false]
        cases readLeaf S T hit.f.ty v <;> rfl
    · simp only [Bool.not_true, Bool.false_eq_true, false_and, if_false, if_true]
      cases readLeaf S T hit.f.ty v <;> rfl

theorem fromJ_skip (S : Schema) (T : Txt) (D : List Val) (m : Nat) (acc : Val) (k : List Nat) (v tl : Json)
    (h : (jsonKeysOf S m).any (fun s => str s == k) = false ∨ findKey (S.slots m) 0 k = none) :
    fromJ S T D m acc (.ocons k v tl) = if skipOk T v then fromJ S T D m acc tl else none := by
  rw [fromJ]
  rcases h with h | h
  · simp only [jsonKeysOf] at h; simp only [h, Bool.not_false, if_true]
  · simp only [h, ite_self]

/-- the JSON twin of `SlotAt`: a covered field is found by its JSON name -/
def JAt (S : Schema) (m : Nat) (all : List Slot) (i : Nat) : Slot → Prop
  | .one f => covered S m f = true → findKey all 0 (str f.json) = some ⟨i, f, false⟩
  | .oneof _ alts => ∀ a, a ∈ alts → covered S m a = true → findKey all 0 (str a.json) = some ⟨i, a, true⟩

theorem jslotsOk_getAt (S : Schema) (m : Nat) (all rem : List Slot) (i j : Nat) (s : Slot)
    (h : jslotsOkFrom S m all rem i = true) (hj : rem[j]? = some s) : JAt S m all (i + j) s := by
  have := from_getAt (chk := jslotsOkFrom S m all) (t := fun s i => match s with
      | .one f => !covered S m f || findKey all 0 (str f.json) == some ⟨i, f, false⟩
      | .oneof _ alts => alts.all (fun a => !covered S m a || findKey all 0 (str a.json) == some ⟨i, a, true⟩))
    (fun s ss i => by cases s <;> rfl) rem i j s h hj
  cases s with
  | one f => intro hc; simpa [hc] using this
  | oneof g alts =>
    simp only [List.all_eq_true] at this
    exact fun a ha hc => by simpa [hc] using this a ha

theorem jwf_slots {S : Schema} (h : JWF S = true) (m : Nat) : jslotsOkFrom S m (S.slots m) (S.slots m) 0 = true := by
  simp only [JWF, List.all_eq_true, List.mem_range] at h
  by_cases hm : m < S.msgs.length
  · exact h m hm
  · rw [slots_eq_nil hm]; rfl

/-! ## the equations of `toJ`, `normV`, `jcov` -/

/-- what `toJ` writes for slot `s` holding `x` in front of the later members `tl`: one member, or nothing -/
def member (S : Schema) (T : Txt) (s : Slot) (x : Val) (tl : Json) : Json :=
  match s with
  | .one f => if jsonOmit f x then tl else .ocons (str f.json) (toJ S T (.slot s) x) tl
  | .oneof _ alts =>
    match oneofKey alts x with
    | some key => .ocons key (toJ S T (.slot s) x) tl
    | none => tl

theorem toJ_slots_cons (S : Schema) (T : Txt) (s : Slot) (ss : List Slot) (x xs : Val) :
    toJ S T (.slots (s :: ss)) (.cons x xs) = member S T s x (toJ S T (.slots ss) xs) := by
  cases s with
  | one f => (conv => lhs; rw [toJ]); rfl
  | oneof g alts => (conv => lhs; rw [toJ]); simp only [member]; cases oneofKey alts x <;> rfl

theorem toJ_slots_nil (S : Schema) (T : Txt) (v : Val) : toJ S T (.slots []) v = .onil := by
  rw [toJ]; intro s ss x xs _ h; cases h

theorem toJ_slot_one (S : Schema) (T : Txt) (f : Field) (v : Val) :
    toJ S T (.slot (.one f)) v =
      match f.card with
      | .rep | .packed => toJ S T (.reps f) v
      | _ => toJ S T (.elem f) v := by
  conv => lhs; rw [toJ]
  cases f with | mk num go json orig ty card => cases card <;> rfl

theorem toJ_slot_oneof (S : Schema) (T : Txt) (g : String) (alts : List Field) (k : Nat) (p : Val) (a : Field)
    (hfa : findAlt alts k = some a) : toJ S T (.slot (.oneof g alts)) (.cons (.num k) (.cons p .nil)) = toJ S T (.elem a) p := by
  (conv => lhs; rw [toJ]); simp [hfa]

theorem toJ_reps_cons (S : Schema) (T : Txt) (f : Field) (e rest : Val) :
    toJ S T (.reps f) (.cons e rest) = .acons (toJ S T (.elem f) e) (toJ S T (.reps f) rest) := by
  conv => lhs; rw [toJ]

theorem toJ_reps_nil (S : Schema) (T : Txt) (f : Field) : toJ S T (.reps f) .nil = .anil := by
  rw [toJ]; intro e r h; cases h

theorem toJ_elem_msg (S : Schema) (T : Txt) (f : Field) (v : Val) (sub : Nat) (hty : f.ty = .msg sub) :
    toJ S T (.elem f) v = toJ S T (.slots (S.slots sub)) v := by
  (conv => lhs; rw [toJ]); simp [hty]

theorem toJ_elem_leaf (S : Schema) (T : Txt) (f : Field) (v : Val) (hty : ∀ sub, f.ty ≠ .msg sub) :
    toJ S T (.elem f) v = leafJson T f.ty v := by
  (conv => lhs; rw [toJ]); split
  · next sub h => exact absurd h (hty sub)
  · rfl

theorem toJ_slots_isObj (S : Schema) (T : Txt) : ∀ (v : Val) (rem : List Slot),
    toJ S T (.slots rem) v = .onil ∨ ∃ k j tl, toJ S T (.slots rem) v = .ocons k j tl := by
  intro v
  induction v with
  | cons x xs _ ih =>
    intro rem
    cases rem with
    | nil => exact Or.inl (toJ_slots_nil S T _)
    | cons s ss =>
      rw [toJ_slots_cons]
      cases s <;> simp only [member] <;> split <;> first | exact ih ss | exact Or.inr ⟨_, _, _, rfl⟩
  | _ => intro rem; left; rw [toJ]; intro s ss x xs h; cases h

theorem normV_slots_cons (S : Schema) (s : Slot) (ss : List Slot) (x xs : Val) :
    normV S (.slots (s :: ss)) (.cons x xs) = .cons (normV S (.slot s) x) (normV S (.slots ss) xs) := by
  conv => lhs; rw [normV]

theorem normV_slot_one (S : Schema) (f : Field) (v : Val) :
    normV S (.slot (.one f)) v =
      match f.card with
      | .rep | .packed => normV S (.reps f) v
      | _ => normV S (.elem f) v := by
  conv => lhs; rw [normV]
  cases f with | mk num go json orig ty card => cases card <;> rfl

theorem normV_slot_oneof (S : Schema) (g : String) (alts : List Field) (k : Nat) (p : Val) (a : Field)
    (hfa : findAlt alts k = some a) :
    normV S (.slot (.oneof g alts)) (.cons (.num k) (.cons p .nil)) = .cons (.num k) (.cons (normV S (.elem a) p) .nil) := by
  (conv => lhs; rw [normV]); simp [hfa]

theorem normV_reps_cons (S : Schema) (f : Field) (e rest : Val) :
    normV S (.reps f) (.cons e rest) = .cons (normV S (.elem f) e) (normV S (.reps f) rest) := by
  conv => lhs; rw [normV]

theorem normV_elem_msg (S : Schema) (f : Field) (v : Val) (sub : Nat) (hty : f.ty = .msg sub) :
    normV S (.elem f) v = normV S (.slots (S.slots sub)) v := by
  (conv => lhs; rw [normV]); simp [hty]

theorem normV_elem_leaf (S : Schema) (f : Field) (v : Val) (hty : ∀ sub, f.ty ≠ .msg sub) :
    normV S (.elem f) v = normLeaf f.ty v := by
  (conv => lhs; rw [normV]); split
  · next sub h => exact absurd h (hty sub)
  · rfl

theorem normLeaf_nil (ty : Ty) : normLeaf ty .nil = .nil := by cases ty <;> rfl

theorem normV_nil (S : Schema) (md : Mode) : normV S md .nil = .nil := by
  have hs : ∀ ss, normV S (.slots ss) .nil = .nil := fun ss => by rw [normV]; intro s ss' x xs h; cases h
  have hr : ∀ f, normV S (.reps f) .nil = .nil := fun f => by rw [normV]; intro e r h; cases h
  have he : ∀ f, normV S (.elem f) .nil = .nil := fun f => by
    rw [normV]; split
    · exact hs _
    · exact normLeaf_nil _
  cases md with
  | slots ss => exact hs ss
  | elem f => exact he f
  | reps f => exact hr f
  | slot s =>
    cases s with
    | one f => rw [normV]; split <;> first | exact hr f | exact he f
    | oneof g alts => rw [normV]; intro k p h; cases h

theorem proper_normV_slots (S : Schema) : ∀ (v : Val) (rem : List Slot), proper v = true → proper (normV S (.slots rem) v) = true := by
  intro v
  induction v with
  | cons x xs _ ih =>
    intro rem h
    cases rem with
    | nil => rw [normV]; exact h; intro s ss x' xs' _ h'; cases h'
    | cons s ss => rw [normV_slots_cons]; simp only [proper] at h ⊢; exact ih ss h
  | nil => intro rem _; rw [normV_nil]; rfl
  | _ => intro rem h; simp [proper] at h

theorem normNaN_zero : normNaN 0 = 0 := by decide

theorem jcov_slots_cons (S : Schema) (m : Nat) (s : Slot) (ss : List Slot) (x xs : Val) :
    jcov S m (.slots (s :: ss)) (.cons x xs) = (jcov S m (.slot s) x && jcov S m (.slots ss) xs) := by
  conv => lhs; rw [jcov]

theorem jcov_slots_nil_any (S : Schema) (m : Nat) (v : Val) : jcov S m (.slots []) v = true := by
  rw [jcov]; intro s ss x xs _ h; cases h

theorem jcov_slot_one (S : Schema) (m : Nat) (f : Field) (v : Val) :
    jcov S m (.slot (.one f)) v = (jsonOmit f v || (covered S m f &&
      (match f.card with
       | .rep | .packed => jcov S m (.reps f) v
       | _ => jcov S m (.elem f) v))) := by
  conv => lhs; rw [jcov]
  cases f with | mk num go json orig ty card => cases card <;> rfl

theorem jcov_slot_oneof (S : Schema) (m : Nat) (g : String) (alts : List Field) (k : Nat) (p : Val) :
    jcov S m (.slot (.oneof g alts)) (.cons (.num k) (.cons p .nil)) =
      match findAlt alts k with
      | some a => covered S m a && jcov S m (.elem a) p
      | none => true := by
  conv => lhs; rw [jcov]
  cases findAlt alts k <;> rfl

theorem jcov_oneof_nil (S : Schema) (m : Nat) (g : String) (alts : List Field) : jcov S m (.slot (.oneof g alts)) .nil = true := by
  rw [jcov]; intro k p h; cases h

theorem jcov_reps_cons (S : Schema) (m : Nat) (f : Field) (e rest : Val) :
    jcov S m (.reps f) (.cons e rest) = (jcov S m (.elem f) e && jcov S m (.reps f) rest) := by
  conv => lhs; rw [jcov]

theorem jcov_reps_nil (S : Schema) (m : Nat) (f : Field) : jcov S m (.reps f) .nil = true := by
  rw [jcov]; intro e r h; cases h

theorem jcov_elem_msg (S : Schema) (m : Nat) (f : Field) (v : Val) (sub : Nat) (hty : f.ty = .msg sub) :
    jcov S m (.elem f) v = jcov S sub (.slots (S.slots sub)) v := by
  (conv => lhs; rw [jcov.eq_def]); simp [hty]

theorem jcov_elem_leaf (S : Schema) (m : Nat) (f : Field) (x : Val) (hty : ∀ sub, f.ty ≠ .msg sub) :
    jcov S m (.elem f) x = bytesLeaf f.ty x := by
  rw [jcov.eq_def]
  cases hft : f.ty <;> cases x <;> simp [hft, bytesLeaf] <;> (try exact absurd hft (hty _))

/-! ## the round trip -/

theorem omit_normV (S : Schema) (D : List Val) (f : Field) (x : Val) (hf : fieldOk false f = true)
    (hc : conf S false (.slot (.one f)) x = true) (ho : jsonOmit f x = true) : normV S (.slot (.one f)) x = x := by
  rw [omit_default S D f x hf hc ho, normV_slot_one]
  cases hcard : f.card <;> simp only [hcard, slotDefault]
  · have hty : ∀ sub, f.ty ≠ .msg sub := by intro sub h; simp [fieldOk, hcard, h] at hf
    rw [normV_elem_leaf S f _ hty]
    cases f.ty <;> simp [isScalar, normLeaf, normNaN_zero]
  · simp [jsonOmit, hcard] at ho
  · exact normV_nil S _
  · exact normV_nil S _

/-- The JSON round-trip statement, by mode.  `.slots rem` and `.slot s` are the clauses of `RT` for `fromJ`: `member` is what `toJ` wrote for the
slot after `l1`, `normV … v` what is in it afterwards.  `.elem`, `.reps`: what the field's reader returns on the JSON of `v` (`readElem`;
`readArr` onto a `proper` `cur`).

The cases of `fun_induction normV` (the graph of `toJ` without its omission tests): 1 slots cons · 2 slots end · 3 elem message · 4 elem leaf ·
5 reps cons · 6 reps end · 7 rep · 8 packed · 9 opt, req · 10–12 one-of: found / unknown number / other value. -/
def JRT (S : Schema) (T : Txt) (D : List Val) : Mode → Val → Prop
  | .slots rem, v => ∀ (m : Nat) (pre : List Slot) (done : List Val),
      S.slots m = pre ++ rem → done.length = pre.length →
      conf S false (.slots rem) v = true → jcov S m (.slots rem) v = true →
      fromJ S T D m (Val.ofList (done ++ rem.map (slotDefault D))) (toJ S T (.slots rem) v)
        = some (Val.ofList (done ++ Val.toList (normV S (.slots rem) v)))
  | .elem f, v => ∀ (m : Nat), conf S false (.elem f) v = true → jcov S m (.elem f) v = true →
      readElem S T D f (toJ S T (.elem f) v) = some (normV S (.elem f) v)
  | .reps f, v => ∀ (m : Nat) (cur : Val), conf S false (.reps f) v = true → jcov S m (.reps f) v = true →
      proper cur = true → readArr S T D f cur (toJ S T (.reps f) v) = some (app cur (normV S (.reps f) v))
  | .slot s, v => ∀ (m : Nat) (l1 l2 : List Val) (tl : Json),
      SlotAt (S.slots m) l1.length s → JAt S m (S.slots m) l1.length s →
      conf S false (.slot s) v = true → jcov S m (.slot s) v = true →
      fromJ S T D m (Val.ofList (l1 ++ slotDefault D s :: l2)) (member S T s v tl)
        = fromJ S T D m (Val.ofList (l1 ++ normV S (.slot s) v :: l2)) tl

theorem jrt_msg {S : Schema} {T : Txt} {D : List Val} (hD : ∀ sub, D.getD sub .nil = msgDefault D (S.slots sub)) (m : Nat) (v : Val)
    (h : JRT S T D (.slots (S.slots m)) v) (hc : conf S false (.slots (S.slots m)) v = true)
    (hcov : jcov S m (.slots (S.slots m)) v = true) :
    fromJ S T D m (D.getD m .nil) (toJ S T (.slots (S.slots m)) v) = some (normV S (.slots (S.slots m)) v) := by
  have := h m [] [] (by simp) rfl hc hcov
  simp only [List.nil_append] at this
  rw [hD m, msgDefault, this, ofList_toList _ (proper_normV_slots S v _ (conf_slots_proper S false v _ hc))]

/-- a plain slot left out holds its default, which `normV` keeps; one written is found by its name and read from the default -/
theorem jrt_one {S : Schema} {T : Txt} {D : List Val} {f : Field} {v : Val}
    (h : ∀ m, fieldOk false f = true → conf S false (.slot (.one f)) v = true → jsonOmit f v = false → jcov S m (.slot (.one f)) v = true →
      slotRead S T D f false (slotDefault D (.one f)) (toJ S T (.slot (.one f)) v) = some (normV S (.slot (.one f)) v)) :
    JRT S T D (.slot (.one f)) v := by
  intro m l1 l2 tl hat hjat hconf hcov
  simp only [member]
  cases ho : jsonOmit f v
  · have hc := hcov
    rw [jcov_slot_one, ho, Bool.false_or, Bool.and_eq_true] at hc
    rw [if_neg Bool.false_ne_true, fromJ_step S T D m _ _ _ tl ⟨l1.length, f, false⟩ hc.1 (hjat hc.1)]
    simp only [get_ofList_append, set_ofList_append, h m hat.1 hconf ho hcov]
  · rw [if_pos rfl, omit_normV S D f v hat.1 hconf ho, ← omit_default S D f v hat.1 hconf ho]

theorem jrt_all (S : Schema) (T : Txt) (D : List Val) (hT : TxtLaws T)
    (hwf : ∀ m, slotsOkFrom (S.slots m) (S.slots m) 0 = true)
    (hj : ∀ m, jslotsOkFrom S m (S.slots m) (S.slots m) 0 = true)
    (hD : ∀ sub, D.getD sub .nil = msgDefault D (S.slots sub)) :
    ∀ mode v, JRT S T D mode v := by
  intro mode v
  fun_induction normV S mode v
  case case1 s ss x xs ih2 ih1 =>  -- slots cons
    intro m pre done hsl hlen hconf hcov
    rw [conf_slots_cons, Bool.and_eq_true] at hconf
    rw [jcov_slots_cons, Bool.and_eq_true] at hcov
    rw [toJ_slots_cons, normV_slots_cons, List.map_cons,
      ih2 m done _ _ (by rw [hlen]; exact slotAt_of_split (hwf m) hsl)
        (by simpa [hlen] using jslotsOk_getAt S m _ _ 0 pre.length _ (hj m) (by rw [hsl]; simp)) hconf.1 hcov.1]
    have h2 := ih1 m (pre ++ [s]) (done ++ [normV S (.slot s) x]) (by simp [hsl]) (by simp [hlen]) hconf.2 hcov.2
    simp only [List.append_assoc, List.singleton_append] at h2
    rw [h2]; simp [Val.toList]
  case case2 ss v hne =>  -- slots end
    intro m pre done hsl hlen hconf hcov
    obtain ⟨rfl, rfl⟩ := confD_slots_end S ss v hne (confD_of_conf S _ _ hconf)
    rw [normV_nil, toJ_slots_nil, fromJ_onil]
    simp [Val.toList]
  case case3 f v sub hty ih =>  -- elem msg
    intro m hconf hcov
    have hconf' := (conf_elem_msg S false f v sub hty).symm.trans hconf
    have hcov' : jcov S sub (.slots (S.slots sub)) v = true := by rw [jcov_elem_msg S m f v sub hty] at hcov; exact hcov
    rw [readElem_msg hty, toJ_elem_msg S T f v sub hty, normV_elem_msg S f v sub hty]
    exact jrt_msg hD sub v ih hconf' hcov'
  case case4 f v hty =>  -- elem leaf
    intro m hconf hcov
    rw [conf_elem_leaf S false f v hty] at hconf
    rw [jcov_elem_leaf S m f v hty] at hcov
    rw [readElem_leaf hty, normV_elem_leaf S f v hty, toJ_elem_leaf S T f v hty]
    exact readLeaf_leafJson S T hT f.ty v hconf hcov
  case case5 f e rest ih2 ih1 =>  -- reps cons
    intro m cur hconf hcov hp
    rw [conf_reps_cons, Bool.and_eq_true] at hconf
    rw [jcov_reps_cons, Bool.and_eq_true] at hcov
    rw [toJ_reps_cons, normV_reps_cons, readArr_acons, ih2 m hconf.1 hcov.1, Option.bind_some,
      ih1 m _ hconf.2 hcov.2 (proper_snoc _ _), app_snoc]
  case case6 f v hne =>  -- reps end
    intro m cur hconf hcov hp
    have hv := confD_reps_end S f v hne (confD_of_conf S _ _ hconf)
    subst hv
    rw [toJ_reps_nil, normV_nil, app_nil _ hp, readArr_anil]
  case case7 f v hc ih =>  -- rep
    refine jrt_one fun m hf hconf ho hcov => ?_
    rw [conf_slot_one] at hconf; simp only [hc] at hconf
    rw [jcov_slot_one, ho, Bool.false_or, Bool.and_eq_true] at hcov
    simp only [hc] at hcov
    rw [toJ_slot_one, normV_slot_one, slotRead_default S T D f hf]
    simp [hc, ih m .nil hconf hcov.2 rfl, app]
  case case8 f v hc ih =>  -- packed
    refine jrt_one fun m hf hconf ho hcov => ?_
    rw [conf_slot_one] at hconf; simp only [hc] at hconf
    rw [jcov_slot_one, ho, Bool.false_or, Bool.and_eq_true] at hcov
    simp only [hc] at hcov
    have hs : isScalar f.ty = true := by
      simp only [fieldOk, hc, Bool.false_eq_true, if_false, Bool.and_eq_true] at hf; exact hf.2
    rw [toJ_slot_one, normV_slot_one, slotRead_default S T D f hf]
    simp [hc, ih m .nil (packedOk_conf_reps S f hs v hconf) hcov.2 rfl, app]
  case case9 f v hc1 hc2 ih =>  -- opt, req
    refine jrt_one fun m hf hconf ho hcov => ?_
    rw [jcov_slot_one, ho, Bool.false_or, Bool.and_eq_true] at hcov
    rw [conf_slot_one] at hconf
    rw [toJ_slot_one, normV_slot_one, slotRead_default S T D f hf]
    cases hc : f.card
    · simp only [hc, Bool.and_eq_true] at hconf hcov ⊢
      have hty' : ∀ sub, f.ty ≠ .msg sub := by intro sub h; simp [fieldOk, hc, h] at hf
      simpa using ih m (by rw [conf_elem_leaf S false f v hty']; exact hconf.1) hcov.2
    · simp only [hc] at hconf hcov ⊢
      simpa using ih m hconf hcov.2
    · exact (hc1 hc).elim
    · exact (hc2 hc).elim
  case case10 g alts k p a hfa ih =>  -- one-of found
    intro m l1 l2 tl hat hjat hconf hcov
    obtain ⟨hmem, hnum⟩ := mem_of_findAlt hfa
    rw [conf_slot_oneof] at hconf
    rw [jcov_slot_oneof] at hcov
    simp only [hfa, Bool.and_eq_true] at hconf hcov
    simp only [member, oneofKey, hfa, Option.map_some]
    rw [fromJ_step S T D m _ _ _ tl ⟨l1.length, a, true⟩ hcov.1 (hjat a hmem hcov.1)]
    simp only [get_ofList_append, set_ofList_append, slotRead_alt, toJ_slot_oneof S T g alts k p a hfa, normV_slot_oneof S g alts k p a hfa, ih m hconf hcov.2,
      Option.map_some, hnum]
  case case11 g alts k p hfa =>  -- one-of unknown
    intro m l1 l2 tl hat hjat hconf hcov
    rw [conf_slot_oneof] at hconf; simp [hfa] at hconf
  case case12 g alts v hne =>  -- one-of other
    intro m l1 l2 tl hat hjat hconf hcov
    have hvn : v = .nil := (confD_oneof_cases S g alts v (confD_of_conf S _ _ hconf)).resolve_right fun ⟨k, p, hv⟩ => hne k p hv
    subst hvn
    rw [normV_nil]; rfl

end OtelVerif.C08

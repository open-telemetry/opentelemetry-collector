import OtelVerif.Lemmas.C01Distinct
/-!
# C01 — the queue machine never inspects the identity of a request

`fire` looks only at `Req.size` (through the sizer): renaming the ids by ANY function commutes with `fire` (`fire_ren`), hence with
`run`.  So every script is the image, under a renaming, of a script whose offers are pairwise different (`exists_distinct_preimage`).
-/
namespace OtelVerif.C01

def Req.ren (f : Nat → Nat) (r : Req) : Req := ⟨f r.id, r.size⟩

def Store.ren (f : Nat → Nat) (s : Store) : Store := { s with items := fun j => (s.items j).map (Req.ren f) }

def renTodo (f : Nat → Nat) (todo : List (Nat × Option Req)) : List (Nat × Option Req) :=
  todo.map (fun p => (p.1, p.2.map (Req.ren f)))

def Mem.ren (f : Nat → Nat) (m : Mem) : Mem :=
  { m with outst := m.outst.map (fun p => (p.1, p.2.ren f)), waiting := m.waiting.map (Req.ren f) }

def Pc.ren (f : Nat → Nat) : Pc → Pc
  | .readRet i r => .readRet i (r.ren f)
  | .moving todo => .moving (renTodo f todo)
  | .movingBackup todo => .movingBackup (renTodo f todo)
  | pc => pc

def Phase.ren (f : Nat → Nat) : Phase → Phase
  | .dead => .dead
  | .live m pc => .live (m.ren f) (pc.ren f)

def Res.ren (f : Nat → Nat) : Res → Res
  | .readItem i r => .readItem i (r.ren f)
  | x => x

def Cfg.ren (f : Nat → Nat) (c : Cfg) : Cfg :=
  { k := c.k, st := c.st.ren f, ph := c.ph.ren f, accepted := c.accepted.map (Req.ren f),
    handed := c.handed.map (Req.ren f), finalised := c.finalised.map (Req.ren f), calls := c.calls, res := c.res.ren f }

def Label.ren (f : Nat → Nat) : Label → Label
  | .offer r => .offer (r.ren f)
  | l => l

variable (f : Nat → Nat)

@[simp] theorem sizeof_ren (k : Conf) (r : Req) : k.sizeof (r.ren f) = k.sizeof r := rfl

theorem upd_ren (items : Nat → Option Req) (i : Nat) (v : Option Req) :
    upd (fun j => (items j).map (Req.ren f)) i (v.map (Req.ren f)) = fun j => (upd items i v j).map (Req.ren f) := by
  funext j
  unfold upd
  split <;> rfl

theorem lookup_ren (i : Nat) : ∀ l : List (Nat × Req),
    (l.map (fun p => (p.1, p.2.ren f))).lookup i = (l.lookup i).map (Req.ren f)
  | [] => rfl
  | (a, b) :: t => by
    simp only [List.map_cons, List.lookup]
    cases i == a
    · exact lookup_ren i t
    · rfl

theorem filter_ren (i : Nat) (l : List (Nat × Req)) :
    (l.map (fun p => (p.1, p.2.ren f))).filter (fun p => p.1 != i) =
      (l.filter (fun p => p.1 != i)).map (fun p => (p.1, p.2.ren f)) :=
  List.filter_map

theorem renTodo_fst (todo : List (Nat × Option Req)) : (renTodo f todo).map Prod.fst = todo.map Prod.fst := by
  unfold renTodo; simp [List.map_map, Function.comp_def]

theorem afterMove_ren (todo : List (Nat × Option Req)) : afterMove (renTodo f todo) = (afterMove todo).ren f := by
  cases todo <;> rfl

theorem putB_ren (s : Store) (w : Nat) (r : Req) : (s.ren f).putB w (r.ren f) = (s.putB w r).ren f := by
  unfold Store.putB Store.ren
  simp only
  congr 1
  exact upd_ren f s.items w (some r)

theorem finB_ren (s : Store) (cdi : List Nat) (i : Nat) : (s.ren f).finB cdi i = (s.finB cdi i).ren f := by
  unfold Store.finB Store.ren
  simp only
  congr 1
  exact upd_ren f s.items i none

theorem delB_ren (s : Store) (i : Nat) : (s.ren f).delB i = (s.delB i).ren f := by
  unfold Store.delB Store.ren
  simp only
  congr 1
  exact upd_ren f s.items i none

theorem moveB_ren (s : Store) (w : Nat) (r : Req) (i : Nat) (rest : List Nat) :
    (s.ren f).moveB w (r.ren f) i rest = (s.moveB w r i rest).ren f := by
  unfold Store.moveB Store.ren
  simp only
  congr 1
  have h1 := upd_ren f s.items w (some r)
  simp only [Option.map_some] at h1
  rw [h1]
  exact upd_ren f (upd s.items w (some r)) i none

theorem ren_k (c : Cfg) : (c.ren f).k = c.k := rfl
theorem ren_st (c : Cfg) : (c.ren f).st = c.st.ren f := rfl
@[simp] theorem ren_R (s : Store) : (s.ren f).R = s.R := rfl
@[simp] theorem ren_W (s : Store) : (s.ren f).W = s.W := rfl

theorem pc_ite_ren (b : Bool) (p q : Pc) : (if b = true then p else q).ren f = if b = true then p.ren f else q.ren f := by
  cases b <;> rfl

theorem doPut_ren (c : Cfg) (m : Mem) (r : Req) : doPut (c.ren f) (m.ren f) (r.ren f) = (doPut c m r).ren f := by
  unfold doPut
  simp only [Cfg.ren, Phase.ren, Res.ren, List.map_cons, sizeof_ren, ← putB_ren, pc_ite_ren]
  rfl

theorem map_eraseIdx' {α β : Type} (g : α → β) : ∀ (l : List α) (j : Nat), (l.map g).eraseIdx j = (l.eraseIdx j).map g
  | [], _ => rfl
  | _ :: _, 0 => rfl
  | a :: t, j + 1 => by simp only [List.map_cons, List.eraseIdx_cons_succ, map_eraseIdx' g t j]

theorem ite_ren {p : Prop} [Decidable p] {a b a' b' : Cfg} (ha : a' = a.ren f) (hb : b' = b.ren f) :
    (if p then a' else b') = (if p then a else b).ren f := by
  split <;> assumption

theorem doOfferFull_ren (c : Cfg) (m : Mem) (r : Req) :
    doOfferFull (c.ren f) (m.ren f) (r.ren f) = (doOfferFull c m r).ren f := by
  refine ite_ren f rfl (ite_ren f rfl ?_)
  simp only [Cfg.ren, Phase.ren, Mem.ren, List.map_append, List.map_cons, List.map_nil]
  rfl

theorem doOffer_ren (c : Cfg) (m : Mem) (r : Req) : doOffer (c.ren f) (m.ren f) (r.ren f) = (doOffer c m r).ren f :=
  ite_ren f (doOfferFull_ren f c m r) (doPut_ren f c m r)

theorem doWake_ren (c : Cfg) (m : Mem) : doWake (c.ren f) (m.ren f) = (doWake c m).ren f := by
  unfold doWake
  have hw : (m.ren f).waiting = m.waiting.map (Req.ren f) := rfl
  rw [hw]
  cases m.waiting with
  | nil => rfl
  | cons r rest =>
    refine ite_ren f ?_ (doPut_ren f c { m with waiting := rest } r)
    simp only [Cfg.ren, Phase.ren, Mem.ren, List.map_append, List.map_cons, List.map_nil]
    rfl

theorem doPromote_ren (c : Cfg) (m : Mem) (j : Nat) : doPromote (c.ren f) (m.ren f) j = (doPromote c m j).ren f := by
  unfold doPromote
  have hw : (m.ren f).waiting = m.waiting.map (Req.ren f) := rfl
  rw [hw, List.getElem?_map]
  cases hm : m.waiting[j]? with
  | none => rfl
  | some r => simp only [Option.map_some, Cfg.ren, Phase.ren, Mem.ren, List.map_cons, map_eraseIdx']; rfl

theorem doCancel_ren (c : Cfg) (m : Mem) (j : Nat) : doCancel (c.ren f) (m.ren f) j = (doCancel c m j).ren f := by
  simp only [doCancel, Cfg.ren, Phase.ren, Mem.ren, map_eraseIdx']; rfl

theorem doRead_ren (c : Cfg) (m : Mem) : doRead (c.ren f) (m.ren f) = (doRead c m).ren f := by
  refine ite_ren f rfl (ite_ren f rfl ?_)
  have hi : (c.ren f).st.items (m.ren f).ri = (c.st.items m.ri).map (Req.ren f) := rfl
  rw [hi]
  cases c.st.items m.ri <;> rfl

theorem doDone_ren (c : Cfg) (m : Mem) (i : Nat) (oc : Outcome) :
    doDone (c.ren f) (m.ren f) i oc = (doDone c m i oc).ren f := by
  unfold doDone
  have ho : (m.ren f).outst = m.outst.map (fun p => (p.1, p.2.ren f)) := rfl
  rw [ho, lookup_ren]
  cases hl : m.outst.lookup i with
  | none => rfl
  | some r =>
    simp only [Option.map_some]
    cases oc with
    | shutdownErr => simp only [filter_ren]; rfl
    | final =>
      simp only [filter_ren, ren_k, ren_st, sizeof_ren, finB_ren]
      simp only [Cfg.ren, Phase.ren, Mem.ren, Res.ren, pc_ite_ren, List.map_cons]
      rfl

theorem doShutdown_ren (c : Cfg) (m : Mem) : doShutdown (c.ren f) (m.ren f) = (doShutdown c m).ren f := by
  unfold doShutdown
  rw [ren_k]
  cases c.k.reqSized <;> rfl

theorem doStart_ren (c : Cfg) : doStart (c.ren f) = (doStart c).ren f := by
  unfold doStart; rfl

theorem doGetDi_ren (c : Cfg) (m : Mem) : doGetDi (c.ren f) (m.ren f) = (doGetDi c m).ren f := by
  unfold doGetDi
  have hd : (c.ren f).st.di = c.st.di := rfl
  rw [hd]
  cases c.st.di <;> rfl

theorem doMove_ren (c : Cfg) (m : Mem) (todo : List (Nat × Option Req)) :
    doMove (c.ren f) (m.ren f) (renTodo f todo) = (doMove c m todo).ren f := by
  cases todo with
  | nil => rfl
  | cons p rest =>
    rcases p with ⟨i, o⟩
    cases o with
    | none =>
      simp only [renTodo, List.map_cons, Option.map_none, doMove]
      rw [show List.map (fun p : Nat × Option Req => (p.1, Option.map (Req.ren f) p.2)) rest = renTodo f rest from rfl]
      simp only [ren_st, renTodo_fst, finB_ren, afterMove_ren]
      rfl
    | some r =>
      simp only [renTodo, List.map_cons, Option.map_some, doMove]
      rw [show List.map (fun p : Nat × Option Req => (p.1, Option.map (Req.ren f) p.2)) rest = renTodo f rest from rfl]
      have hw : (m.ren f).wi = m.wi := rfl
      simp only [ren_k, ren_st, hw, sizeof_ren, renTodo_fst, moveB_ren, afterMove_ren]
      by_cases hb : writeBackupDue c.k (m.wi + 1) = true
      · simp only [hb, if_true]; rfl
      · simp only [hb]; rfl

theorem finCont_ren (k : Conf) (m : Mem) (fk : FinK) : finCont k (m.ren f) fk = (finCont k m fk).ren f := by
  cases fk
  · rfl
  · simp only [finCont]
    have : (m.ren f).ri = m.ri := rfl
    rw [this, pc_ite_ren]; rfl

theorem doTick_ren (c : Cfg) (m : Mem) (pc : Pc) : doTick (c.ren f) (m.ren f) (pc.ren f) = (doTick c m pc).ren f := by
  cases pc with
  | idle => rfl
  | backup => rfl
  | readRet i r => rfl
  | readFin i => simp only [Pc.ren, doTick, ren_st, finB_ren]; rfl
  | readLoop => exact doRead_ren f c m
  | init1 => exact ite_ren f rfl (doGetDi_ren f c m)
  | init2 => exact doGetDi_ren f c m
  | init3 ds =>
    simp only [Pc.ren, doTick]
    have : ds.map (fun i => (i, (c.ren f).st.items i)) = renTodo f (ds.map (fun i => (i, c.st.items i))) := by
      unfold renTodo; rw [List.map_map]; rfl
    rw [this]; rfl
  | moving todo => exact doMove_ren f c m todo
  | movingBackup todo => simp only [Pc.ren, doTick, afterMove_ren]; rfl
  | fin1 i fk =>
    simp only [Pc.ren, doTick, ren_k, ren_st, finCont_ren]
    have : (m.ren f).cdi = m.cdi := rfl
    rw [this, finB_ren]; rfl
  | fin2 i fk => simp only [Pc.ren, doTick, ren_st, delB_ren]; rfl
  | fin3 i fk => simp only [Pc.ren, doTick, ren_k, finCont_ren]; rfl

theorem whenIdle_ren (c : Cfg) {op op' : Mem → Cfg} (h : ∀ m, op' (m.ren f) = (op m).ren f) :
    whenIdle (c.ren f) op' = (whenIdle c op).ren f := by
  have hph : (c.ren f).ph = c.ph.ren f := rfl
  unfold whenIdle
  rw [hph]
  cases c.ph with
  | dead => rfl
  | live m pc => cases pc <;> first | exact h m | rfl

theorem fire_ren (c : Cfg) (l : Label) : fire (c.ren f) (l.ren f) = (fire c l).ren f := by
  have hph : (c.ren f).ph = c.ph.ren f := rfl
  cases l with
  | crash => rfl
  | start =>
    simp only [Label.ren, fire, hph]
    cases c.ph with
    | dead => exact doStart_ren f c
    | live m pc => rfl
  | tick =>
    simp only [Label.ren, fire, hph]
    cases c.ph with
    | dead => rfl
    | live m pc => exact doTick_ren f c m pc
  | offer r => rw [fire_offer]; exact whenIdle_ren f c fun m => doOffer_ren f c m r
  | read => rw [fire_read]; exact whenIdle_ren f c (doRead_ren f c)
  | done i oc => rw [fire_done]; exact whenIdle_ren f c fun m => doDone_ren f c m i oc
  | shutdown => rw [fire_shutdown]; exact whenIdle_ren f c (doShutdown_ren f c)
  | wake => rw [fire_wake]; exact whenIdle_ren f c (doWake_ren f c)
  | cancel j => rw [fire_cancel]; exact whenIdle_ren f c fun m => doCancel_ren f c m j
  | promote j => rw [fire_promote]; exact whenIdle_ren f c fun m => doPromote_ren f c m j

theorem foldl_ren (ls : List Label) : ∀ c : Cfg, (ls.map (Label.ren f)).foldl fire (c.ren f) = (ls.foldl fire c).ren f := by
  induction ls with
  | nil => intro c; rfl
  | cons l ls ih => intro c; simp only [List.map_cons, List.foldl_cons]; rw [fire_ren, ih]

theorem run_ren (k : Conf) (ls : List Label) : run k (ls.map (Label.ren f)) = (run k ls).ren f := by
  unfold run
  have : init k = (init k).ren f := rfl
  rw [this, foldl_ren]
  rfl

/-- give the offers the ids `n, n+1, …` in order of appearance -/
def tagOffers : Nat → List Label → List Label
  | _, [] => []
  | n, .offer r :: ls => .offer ⟨n, r.size⟩ :: tagOffers (n + 1) ls
  | n, l :: ls => l :: tagOffers n ls

/-- the renaming that undoes `tagOffers n`: tag `n + j` ↦ id of the j-th offer -/
def untag (n : Nat) (ls : List Label) (t : Nat) : Nat := (((offeredOf ls)[t - n]?).map Req.id).getD 0

theorem offeredOf_tag : ∀ (n : Nat) (ls : List Label),
    (offeredOf (tagOffers n ls)).map Req.id = List.range' n (offeredOf ls).length
  | _, [] => rfl
  | n, l :: ls => by
    cases l with
    | offer r =>
      simp only [tagOffers, offeredOf, List.map_cons, List.length_cons, List.range'_succ]
      rw [offeredOf_tag (n + 1) ls]
    | _ => simp only [tagOffers, offeredOf]; exact offeredOf_tag n ls

theorem tagOffers_nodup (n : Nat) (ls : List Label) : (offeredOf (tagOffers n ls)).Nodup := by
  have h := offeredOf_tag n ls
  have hn : ((offeredOf (tagOffers n ls)).map Req.id).Nodup := by rw [h]; exact List.nodup_range'
  exact List.Pairwise.of_map Req.id (fun a b h e => h (by rw [e])) hn

theorem ren_nonoffer (g : Nat → Nat) (l : Label) (h : ∀ r, l ≠ .offer r) : l.ren g = l := by
  cases l with
  | offer r => exact absurd rfl (h r)
  | _ => rfl

theorem tagOffers_nonoffer {l : Label} (h : ∀ r, l ≠ .offer r) (n : Nat) (ls : List Label) :
    tagOffers n (l :: ls) = l :: tagOffers n ls := by
  cases l with
  | offer r => exact absurd rfl (h r)
  | _ => rfl

theorem offeredOf_nonoffer {l : Label} (h : ∀ r, l ≠ .offer r) (ls : List Label) : offeredOf (l :: ls) = offeredOf ls := by
  cases l with
  | offer r => exact absurd rfl (h r)
  | _ => rfl

theorem untag_map : ∀ (ls : List Label) (n : Nat) (g : Nat → Nat),
    (∀ j, j < (offeredOf ls).length → g (n + j) = (((offeredOf ls)[j]?).map Req.id).getD 0) →
    (tagOffers n ls).map (Label.ren g) = ls
  | [], _, _, _ => rfl
  | l :: ls, n, g, h => by
    by_cases hl : ∃ r, l = .offer r
    · obtain ⟨r, rfl⟩ := hl
      simp only [tagOffers, List.map_cons, Label.ren, Req.ren]
      have h0 : g n = r.id := by
        have := h 0 (by simp [offeredOf])
        simpa [offeredOf] using this
      have ht := untag_map ls (n + 1) g (by
        intro j hj
        have := h (j + 1) (by simp [offeredOf]; omega)
        have e : n + 1 + j = n + (j + 1) := by omega
        rw [e, this]; simp [offeredOf])
      rw [h0, ht]
    · have hl : ∀ r, l ≠ .offer r := fun r e => hl ⟨r, e⟩
      rw [offeredOf_nonoffer hl] at h
      rw [tagOffers_nonoffer hl, List.map_cons, ren_nonoffer g l hl, untag_map ls n g h]

theorem exists_distinct_preimage (ls : List Label) :
    (offeredOf (tagOffers 0 ls)).Nodup ∧ (tagOffers 0 ls).map (Label.ren (untag 0 ls)) = ls :=
  ⟨tagOffers_nodup 0 ls, untag_map ls 0 (untag 0 ls) (by intro j _; simp [untag])⟩

end OtelVerif.C01

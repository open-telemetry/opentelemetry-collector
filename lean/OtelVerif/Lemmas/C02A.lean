import OtelVerif.Model.C02A
import OtelVerif.Lemmas.C02Cons
/-!
# C02: the consumer pool (`Model/C02A.lean`) — what every queue label does to the parked / notified consumers, a consumer's turn
through `Read`, the pool invariant, refinement of the queue LTS
-/
namespace OtelVerif.C02.A

/-- nothing happened on the consumer side -/
def Same (s s' : St) : Prop := s'.cwait = s.cwait ∧ s'.cwoken = s.cwoken ∧ s'.stopped = s.stopped ∧ s'.handed = s.handed

/-- a push notified the longest-parked consumer -/
def Push (s s' : St) : Prop :=
  s'.cwait = s.cwait.drop 1 ∧ s'.cwoken = s.cwoken ++ s.cwait.take 1 ∧ s'.stopped = s.stopped ∧ s'.handed = s.handed

/-- the three ways through `Read`, and where the consumer is afterwards -/
inductive Turn (s s' : St) (c : Nat) : CPh → Prop
  | took (x : Nat) : s'.cwait = s.cwait → s'.handed = s.handed ++ [x] → Turn s s' c (.busy x)
  | exited : s'.cwait = s.cwait → s'.handed = s.handed → s.stopped = true → Turn s s' c .exited
  | parked : s'.cwait = s.cwait ++ [c] → s'.handed = s.handed → Turn s s' c .parked

/-- the effect of one queue label on `hasMoreElements`' waiters, on `stopped` and on `handed` — the same for `fire` and `pfire` (`proto_eff`) -/
def Eff (s s' : St) : Label → Prop
  | .read c => c ∉ s.cwait ++ s.cwoken ∧ s'.cwoken = s.cwoken ∧ s'.stopped = s.stopped ∧ ∃ x, Turn s s' c x
  | .recheck c => c ∈ s.cwoken ∧ s'.cwoken = s.cwoken.erase c ∧ s'.stopped = s.stopped ∧ ∃ x, Turn s s' c x
  | .shutdown => s'.cwait = [] ∧ s'.cwoken = s.cwoken ++ s.cwait ∧ s'.stopped = true ∧ s'.handed = s.handed
  | _ => Same s s' ∨ Push s s'

theorem same_refl (s : St) : Same s s := ⟨rfl, rfl, rfl, rfl⟩

theorem condBroadcast_same (s : St) : Same s (condBroadcast s) := ⟨rfl, rfl, rfl, rfl⟩

theorem ctxCleanup_same (s : St) (p : Nat) : Same s (ctxCleanup s p) := by
  obtain ⟨w, f, e⟩ := ctxCleanup_frame s p
  rw [e]
  exact ⟨rfl, rfl, rfl, rfl⟩

theorem exit_eff {k : Cfg} {s t : St} {p : Nat} {el : Int} (he : Exit k s p el t) : Same s t ∨ Push s t := by
  cases he with
  | refuse r | register => exact .inl ⟨rfl, rfl, rfl, rfl⟩
  | accept k' => exact .inr ⟨rfl, rfl, rfl, rfl⟩

theorem proto_eff {k : Cfg} {s s' : St} {l : Label} (hp : Proto k s l s') : Eff s s' l := by
  induction hp with
  | offerOk p | cancel p | wakeTok p | wakeCtx p | resCtx p | getRes | complete => exact .inl ⟨rfl, rfl, rfl, rfl⟩
  | offer _ _ _ _ he | relockTok _ _ _ he => exact exit_eff he
  | relockCtx p => exact .inl (ctxCleanup_same s p)
  | readTook c t hc ht => have hp := took_popped ht; exact ⟨hc, hp.cwoken, hp.stopped, let ⟨x, hx⟩ := hp.handed; ⟨_, .took x hp.cwait hx⟩⟩
  | readStopped c hc hs => exact ⟨hc, rfl, rfl, _, .exited rfl rfl hs⟩
  | readPark c hc => exact ⟨hc, rfl, rfl, _, .parked rfl rfl⟩
  | recheckTook c t hc ht =>
    have hp := took_popped ht
    exact ⟨hc, congrArg (List.erase · c) hp.cwoken, hp.stopped, let ⟨x, hx⟩ := hp.handed; ⟨_, .took x hp.cwait hx⟩⟩
  | recheckStopped c hc hs => exact ⟨hc, rfl, rfl, _, .exited rfl rfl hs⟩
  | recheckPark c hc => exact ⟨hc, rfl, rfl, _, .parked rfl rfl⟩
  | shutdown | shutdownAll => exact ⟨rfl, rfl, rfl, rfl⟩

theorem fireQ_eff {k : Cfg} {pl : Pool} {s s' : St} {l : Label} (hf : fireQ k pl s l = some s') : Eff s s' l := by
  unfold fireQ at hf
  split at hf
  · exact proto_eff (pfire_proto hf)
  · exact proto_eff (fire_proto hf)

theorem Turn.after {s s' : St} {c : Nat} {x : CPh} (h : Turn s s' c x) (hc : c ∉ s.cwait) : after s s' c = x := by
  unfold A.after
  cases h with
  | took x e h => rw [if_pos (by rw [h]; simp), h]; simp
  | exited e h => rw [if_neg (by rw [h]; exact Nat.lt_irrefl _), e, if_neg hc]
  | parked e h => rw [if_neg (by rw [h]; exact Nat.lt_irrefl _), e, if_pos (by simp)]

/-! ## the pool invariant -/

/-- every consumer that sleeps in `Read` (parked or notified) is a consumer of the pool in phase `parked`, and vice versa;
nobody sleeps twice; a consumer has left only if the queue was shut down -/
structure AInv (pl : Pool) (a : ASt) : Prop where
  inW : ∀ c, c ∈ a.q.cwait ++ a.q.cwoken → a.cs c = .parked ∧ c < pl.n
  parked : ∀ c, a.cs c = .parked → c ∈ a.q.cwait ++ a.q.cwoken
  nodup : (a.q.cwait ++ a.q.cwoken).Nodup
  exited : ∀ c, a.cs c = .exited → a.q.stopped = true

theorem AInv.init (pl : Pool) : AInv pl {} := ⟨nofun, nofun, List.nodup_nil, nofun⟩

theorem take_drop_mem (l : List Nat) (c : Nat) : c ∈ l.drop 1 ++ l.take 1 ↔ c ∈ l := by
  cases l with
  | nil => simp
  | cons x t => simp [or_comm]

/-- consumer `c` goes to phase `x`: it is among the sleepers afterwards exactly when `x = parked`, the others stay -/
theorem AInv.move {pl : Pool} {a : ASt} {q' : St} {c : Nat} {x : CPh} (h : AInv pl a) (hc : c < pl.n)
    (hp : (q'.cwait ++ q'.cwoken).Perm ((if x = .parked then [c] else []) ++ (a.q.cwait ++ a.q.cwoken).erase c))
    (hst : a.q.stopped = true → q'.stopped = true) (hex : x = .exited → q'.stopped = true) :
    AInv pl { q := q', cs := upd a.cs c x } := by
  have hm : ∀ c', c' ∈ q'.cwait ++ q'.cwoken ↔ (c' = c ∧ x = .parked) ∨ (c' ≠ c ∧ c' ∈ a.q.cwait ++ a.q.cwoken) := by
    intro c'
    rw [hp.mem_iff, List.mem_append, h.nodup.mem_erase_iff]
    -- `[c]` or `[]` in front, by whether `c` parks
    split <;> simp [*]
  refine ⟨fun c' hc' => ?_, fun c' hc' => (hm c').mpr ?_, hp.nodup_iff.mpr ?_, fun c' hc' => ?_⟩
  · rcases (hm c').mp hc' with ⟨rfl, e⟩ | ⟨hne, hw⟩
    · exact ⟨(upd_same _ _ _).trans e, hc⟩
    · exact ⟨(upd_other _ _ _ _ hne).trans (h.inW c' hw).1, (h.inW c' hw).2⟩
  · by_cases hne : c' = c
    · subst hne; exact .inl ⟨rfl, (upd_same _ _ _).symm.trans hc'⟩
    · exact .inr ⟨hne, h.parked c' ((upd_other _ _ _ _ hne).symm.trans hc')⟩
  · have he := h.nodup.erase c
    split
    · exact List.nodup_cons.mpr ⟨h.nodup.not_mem_erase, he⟩
    · exact he
  · by_cases hne : c' = c
    · subst hne; exact hex ((upd_same _ _ _).symm.trans hc')
    · exact hst (h.exited c' ((upd_other _ _ _ _ hne).symm.trans hc'))

theorem AInv.turn {pl : Pool} {a : ASt} {q' : St} {c : Nat} {x : CPh} (h : AInv pl a) (hc : c < pl.n) (hcw : c ∉ a.q.cwait)
    (hwk : q'.cwoken = a.q.cwoken.erase c) (hst : q'.stopped = a.q.stopped) (ht : Turn a.q q' c x) :
    AInv pl { q := q', cs := upd a.cs c x } := by
  refine h.move hc ?_ (fun y => hst.trans y) (fun e => ?_)
  · rw [List.erase_append_right _ hcw, hwk]
    cases ht with
    | took x e _ | exited e _ _ => rw [e]; exact .refl _
    | parked e _ => rw [e, List.append_assoc]; exact List.perm_middle
  · cases e; cases ht with | exited _ _ hs => exact hst.trans hs

theorem eff_q {s s' : St} {l : Label} (he : Eff s s' l) (h1 : ∀ c, l ≠ .read c) (h2 : ∀ c, l ≠ .recheck c) :
    (s'.cwait ++ s'.cwoken).Perm (s.cwait ++ s.cwoken) ∧ (s.stopped = true → s'.stopped = true) ∧ s'.handed = s.handed := by
  have sp : Same s s' ∨ Push s s' → (s'.cwait ++ s'.cwoken).Perm (s.cwait ++ s.cwoken) ∧
      (s.stopped = true → s'.stopped = true) ∧ s'.handed = s.handed := by
    rintro (⟨e1, e2, e3, e4⟩ | ⟨e1, e2, e3, e4⟩)
    · rw [e1, e2, e3]; exact ⟨.refl _, id, e4⟩
    · rw [e1, e2, e3]
      refine ⟨?_, id, e4⟩
      have p1 : (s.cwait.drop 1 ++ (s.cwoken ++ s.cwait.take 1)).Perm ((s.cwoken ++ s.cwait.take 1) ++ s.cwait.drop 1) :=
        List.perm_append_comm
      rw [List.append_assoc, List.take_append_drop] at p1
      exact p1.trans List.perm_append_comm
  cases l with
  | read c => exact absurd rfl (h1 c)
  | recheck c => exact absurd rfl (h2 c)
  | shutdown =>
    obtain ⟨e1, e2, e3, e4⟩ := he
    rw [e1, e2, e3, List.nil_append]
    exact ⟨List.perm_append_comm, fun _ => rfl, e4⟩
  | _ => exact sp he

theorem afire_q {k : Cfg} {pl : Pool} {a a' : ASt} {l : Label} (hf : afire k pl a (.q l) = some a') :
    ∃ q', fireQ k pl a.q l = some q' ∧ a' = { a with q := q' } ∧ (∀ c, l ≠ .read c) ∧ (∀ c, l ≠ .recheck c) := by
  simp only [afire] at hf
  split at hf
  · cases hf
  · cases hf
  · rename_i n1 n2
    obtain ⟨q', hq, e⟩ := Option.map_eq_some_iff.mp hf
    exact ⟨q', hq, e.symm, n1, n2⟩

theorem afire_cret {k : Cfg} {pl : Pool} {a a' : ASt} {c : Nat} (hf : afire k pl a (.cret c) = some a') :
    (∃ id, a.cs c = .busy id) ∧ c < pl.n ∧ a' = { a with cs := upd a.cs c .loop } := by
  simp only [afire] at hf
  split at hf
  · rename_i id hb
    split at hf
    · rename_i hc; cases hf; exact ⟨⟨id, hb⟩, hc, rfl⟩
    · cases hf
  · cases hf

theorem AInv.qstep {pl : Pool} {a : ASt} {q' : St} {l : Label} (h : AInv pl a) (he : Eff a.q q' l)
    (h1 : ∀ c, l ≠ .read c) (h2 : ∀ c, l ≠ .recheck c) : AInv pl { a with q := q' } := by
  obtain ⟨hp, hs, _⟩ := eff_q he h1 h2
  exact ⟨fun c hc => h.inW c (hp.mem_iff.mp hc), fun c hc => hp.mem_iff.mpr (h.parked c hc), hp.nodup_iff.mpr h.nodup,
    fun c hc => hs (h.exited c hc)⟩

/-- a consumer's turn through `Read` (first call, or after a notification) -/
theorem afire_turn {k : Cfg} {pl : Pool} {a a' : ASt} {c : Nat} {l : ALabel} (hl : l = .cread c ∨ l = .crecheck c)
    (hA : AInv pl a) (hf : afire k pl a l = some a') :
    c < pl.n ∧ ∃ q' x, a' = { q := q', cs := upd a.cs c x } ∧ c ∉ a.q.cwait ∧ q'.cwoken = a.q.cwoken.erase c ∧
      q'.stopped = a.q.stopped ∧ Turn a.q q' c x := by
  rcases hl with rfl | rfl <;> simp only [afire] at hf <;> split at hf <;> try cases hf
  all_goals
    rename_i hg
    obtain ⟨q', hq, rfl⟩ := Option.map_eq_some_iff.mp hf
    obtain ⟨e0, e1, e2, x, ht⟩ := fireQ_eff hq
  · -- `cread`: `c` is not asleep at all
    have hcw : c ∉ a.q.cwait := fun y => e0 (List.mem_append_left _ y)
    exact ⟨hg.1, q', x, by rw [ht.after hcw], hcw, e1.trans (List.erase_of_not_mem (fun y => e0 (List.mem_append_right _ y))).symm, e2, ht⟩
  · -- `crecheck`: `c` is notified, hence not parked (nobody sleeps twice)
    have hcw : c ∉ a.q.cwait := fun y => (List.nodup_append.mp hA.nodup).2.2 c y c e0 rfl
    exact ⟨hg.1, q', x, by rw [ht.after hcw], hcw, e1, e2, ht⟩

theorem AInv.step {k : Cfg} {pl : Pool} {a a' : ASt} {l : ALabel} (h : AInv pl a) (hf : afire k pl a l = some a') : AInv pl a' := by
  cases l with
  | q l =>
    obtain ⟨q', hq, rfl, n1, n2⟩ := afire_q hf
    exact h.qstep (fireQ_eff hq) n1 n2
  | cread c => obtain ⟨hc, q', x, rfl, hcw, e1, e2, ht⟩ := afire_turn (.inl rfl) h hf; exact h.turn hc hcw e1 e2 ht
  | crecheck c => obtain ⟨hc, q', x, rfl, hcw, e1, e2, ht⟩ := afire_turn (.inr rfl) h hf; exact h.turn hc hcw e1 e2 ht
  | cret c =>
    obtain ⟨⟨i, hb⟩, hc, rfl⟩ := afire_cret hf
    have hn : c ∉ a.q.cwait ++ a.q.cwoken := fun y => by have := (h.inW c y).1; rw [hb] at this; cases this
    exact h.move hc (by rw [List.erase_of_not_mem hn]; exact .refl _) id nofun

/-! ## exactly-once at the level of `consumeFunc` -/

/-- whoever is inside `consumeFunc` holds a request that was handed over, and no two consumers hold the same one -/
structure BInv (a : ASt) : Prop where
  sub : ∀ c id, a.cs c = .busy id → id ∈ a.q.handed
  inj : ∀ c c' id, a.cs c = .busy id → a.cs c' = .busy id → c = c'

theorem BInv.move {a : ASt} {q' : St} {c : Nat} {x : CPh} (h : BInv a) (hsub : ∀ id, id ∈ a.q.handed → id ∈ q'.handed)
    (hx : ∀ id, x = .busy id → id ∈ q'.handed ∧ id ∉ a.q.handed) : BInv { q := q', cs := upd a.cs c x } := by
  have other : ∀ {c1 id}, c1 ≠ c → upd a.cs c x c1 = .busy id → a.cs c1 = .busy id :=
    fun hne hb => (upd_other _ _ _ _ hne).symm.trans hb
  have self : ∀ {id}, upd a.cs c x c = .busy id → x = .busy id := fun hb => (upd_same _ _ _).symm.trans hb
  refine ⟨fun c1 id hb => ?_, fun c1 c2 id hb1 hb2 => ?_⟩
  · by_cases h1 : c1 = c
    · subst h1; exact (hx id (self hb)).1
    · exact hsub id (h.sub c1 id (other h1 hb))
  · by_cases h1 : c1 = c <;> by_cases h2 : c2 = c
    · rw [h1, h2]
    · subst h1; exact absurd (h.sub c2 id (other h2 hb2)) (hx id (self hb1)).2
    · subst h2; exact absurd (h.sub c1 id (other h1 hb1)) (hx id (self hb2)).2
    · exact h.inj c1 c2 id (other h1 hb1) (other h2 hb2)

theorem BInv.turn {a : ASt} {q' : St} {c : Nat} {x : CPh} (h : BInv a) (hnd : q'.handed.Nodup) (ht : Turn a.q q' c x) :
    BInv { q := q', cs := upd a.cs c x } := by
  cases ht with
  | took x _ hx =>
    rw [hx] at hnd
    refine h.move (fun id y => hx ▸ List.mem_append_left _ y) (fun id e => ?_)
    cases e
    exact ⟨hx ▸ List.mem_append_right _ (List.mem_singleton.mpr rfl),
      fun hm => (List.nodup_append.mp hnd).2.2 x hm x (List.mem_singleton.mpr rfl) rfl⟩
  | exited _ hx | parked _ hx => exact h.move (fun id y => hx ▸ y) nofun

theorem BInv.step {k : Cfg} {pl : Pool} {a a' : ASt} {l : ALabel} (h : BInv a) (hA : AInv pl a) (hnd : a'.q.handed.Nodup)
    (hf : afire k pl a l = some a') : BInv a' := by
  cases l with
  | q l =>
    obtain ⟨q', hq, rfl, n1, n2⟩ := afire_q hf
    have hh := (eff_q (fireQ_eff hq) n1 n2).2.2
    exact ⟨fun c id hc => hh ▸ h.sub c id hc, h.inj⟩
  | cread c => obtain ⟨_, q', x, rfl, _, _, _, ht⟩ := afire_turn (.inl rfl) hA hf; exact h.turn hnd ht
  | crecheck c => obtain ⟨_, q', x, rfl, _, _, _, ht⟩ := afire_turn (.inr rfl) hA hf; exact h.turn hnd ht
  | cret c =>
    obtain ⟨_, _, rfl⟩ := afire_cret hf
    exact h.move (fun _ y => y) nofun

/-- every pool step is a step of the queue LTS (or invisible to it) -/
theorem afire_proj {k : Cfg} {pl : Pool} {a a' : ASt} {l : ALabel} (hf : afire k pl a l = some a') :
    match l.proj with
    | some ql => fireQ k pl a.q ql = some a'.q
    | none => a'.q = a.q := by
  cases l with
  | q l => obtain ⟨q', hq, rfl, _⟩ := afire_q hf; exact hq
  | cread c | crecheck c =>
    simp only [afire] at hf
    split at hf
    · obtain ⟨q', hq, rfl⟩ := Option.map_eq_some_iff.mp hf; exact hq
    · cases hf
  | cret c => obtain ⟨_, _, rfl⟩ := afire_cret hf; rfl

theorem arun_cons (k : Cfg) (pl : Pool) (a : ASt) (l : ALabel) (ls : List ALabel) :
    arun k pl a (l :: ls) = (afire k pl a l).bind (fun a' => arun k pl a' ls) := by
  simp only [arun]; cases afire k pl a l <;> rfl

theorem areachable_induction (k : Cfg) (pl : Pool) (I : ASt → Prop) (h0 : I {})
    (hstep : ∀ a l a', I a → afire k pl a l = some a' → I a') : ∀ a, AReachable k pl a → I a :=
  fun a ⟨ls, hr⟩ => run_induction (ok := fun _ => True) (fun _ => rfl) (arun_cons k pl) (fun a l a' h _ hf => hstep a l a' h hf)
    ls {} a h0 (fun _ _ => trivial) hr

theorem AInv.reachable {k : Cfg} {pl : Pool} {a : ASt} (hr : AReachable k pl a) : AInv pl a :=
  areachable_induction k pl (AInv pl) (AInv.init pl) (fun _ _ _ h hf => h.step hf) a hr

theorem areach_queue {k : Cfg} {pl : Pool} {a : ASt} (hr : AReachable k pl a) :
    (pl.persistent = false → Reachable k a.q) ∧ (pl.persistent = true → PReachable k a.q) := by
  refine areachable_induction k pl (fun a => (pl.persistent = false → Reachable k a.q) ∧ (pl.persistent = true → PReachable k a.q))
    ⟨fun _ => ⟨[], rfl⟩, fun _ => ⟨[], rfl⟩⟩ (fun a l a' ⟨h1, h2⟩ hf => ?_) a hr
  have hp := afire_proj hf
  split at hp
  · exact ⟨fun hn => (mem k).reach_step (h1 hn) (by simpa [fireQ, hn] using hp : fire k a.q _ = _),
      fun hn => (pers k).reach_step (h2 hn) (by simpa [fireQ, hn] using hp : pfire k a.q _ = _)⟩
  · rw [hp]; exact ⟨h1, h2⟩

theorem read_enabled (k : Cfg) (pl : Pool) (s : St) (c : Nat) (h : c ∉ s.cwait ++ s.cwoken) : (fireQ k pl s (.read c)).isSome = true := by
  unfold fireQ
  split
  · simp only [pfire, h, if_false]
    split
    · rfl
    · cases ppop s <;> rfl
  · simp only [fire, h, if_false]
    cases pop s with
    | some s1 => rfl
    | none => cases s.stopped <;> rfl

theorem recheck_enabled (k : Cfg) (pl : Pool) (s : St) (c : Nat) (h : c ∈ s.cwoken) : (fireQ k pl s (.recheck c)).isSome = true := by
  unfold fireQ
  split
  · exact (recheck_isSome k s h).2
  · exact (recheck_isSome k s h).1

theorem cread_enabled {k : Cfg} {pl : Pool} {a : ASt} {c : Nat} (hc : c < pl.n) (hl : a.cs c = .loop)
    (hn : c ∉ a.q.cwait ++ a.q.cwoken) : afire k pl a (.cread c) ≠ none := by
  rw [afire, if_pos ⟨hc, hl⟩]
  intro h
  have hr := read_enabled k pl a.q c hn
  rw [Option.map_eq_none_iff.mp h] at hr
  cases hr

theorem crecheck_enabled {k : Cfg} {pl : Pool} {a : ASt} {c : Nat} (hc : c < pl.n) (hl : a.cs c = .parked)
    (hn : c ∈ a.q.cwoken) : afire k pl a (.crecheck c) ≠ none := by
  rw [afire, if_pos ⟨hc, hl⟩]
  intro h
  have hr := recheck_enabled k pl a.q c hn
  rw [Option.map_eq_none_iff.mp h] at hr
  cases hr

theorem work_conserving {k : Cfg} {pl : Pool} {a : ASt} (hr : AReachable k pl a) (hq : AQuiescent k pl a)
    (hs : a.q.stopped = false) (hi : a.q.items ≠ []) : ∀ c, c < pl.n → ∃ id, a.cs c = .busy id := by
  have hI := AInv.reachable hr
  have hK : InvK a.q := by
    cases hp : pl.persistent with
    | false => exact (mem k).invK ((areach_queue hr).1 hp)
    | true => exact (pers k).invK ((areach_queue hr).2 hp)
  have hwk : a.q.cwoken = [] := List.eq_nil_iff_forall_not_mem.mpr (fun c hc =>
    let ⟨h1, h2⟩ := hI.inW c (List.mem_append_right _ hc)
    crecheck_enabled h2 h1 hc (hq (.crecheck c) rfl))
  have hcw := hK.at_rest hwk
  intro c hc
  cases hcs : a.cs c with
  | busy id => exact ⟨id, rfl⟩
  | loop =>
    exact absurd (hq (.cread c) rfl) (cread_enabled hc hcs (fun hw => by have := (hI.inW c hw).1; rw [hcs] at this; cases this))
  | parked =>
    have hw := hI.parked c hcs
    rw [hwk, List.append_nil, hcw.resolve_right hi] at hw
    cases hw
  | exited => exact absurd ((hI.exited c hcs).symm.trans hs) Bool.noConfusion

theorem handed_nodup_of {k : Cfg} {pl : Pool} {a : ASt} (hk : 0 ≤ k.cap) (hr : AReachable k pl a) : a.q.handed.Nodup := by
  cases hp : pl.persistent with
  | false => exact (Inv.reachable hk ((areach_queue hr).1 hp)).H.handed_nodup
  | true => exact (Invp.reachable hk ((areach_queue hr).2 hp)).H.handed_nodup

theorem areachable_step {k : Cfg} {pl : Pool} {a a' : ASt} {l : ALabel} (hr : AReachable k pl a) (hf : afire k pl a l = some a') :
    AReachable k pl a' := by
  obtain ⟨ls, h⟩ := hr
  refine ⟨ls ++ [l], ?_⟩
  rw [run_append (fun _ => rfl) (arun_cons k pl), h]
  simp [arun, hf]

theorem BInv.init : BInv {} := ⟨nofun, nofun⟩

theorem BInv.reachable {k : Cfg} {pl : Pool} {a : ASt} (hk : 0 ≤ k.cap) (hr : AReachable k pl a) : BInv a := by
  have : AReachable k pl a ∧ BInv a := by
    refine areachable_induction k pl (fun a => AReachable k pl a ∧ BInv a) ⟨⟨[], rfl⟩, BInv.init⟩ ?_ a hr
    intro a l a' ⟨hra, hb⟩ hf
    have hra' := areachable_step hra hf
    exact ⟨hra', hb.step (AInv.reachable hra) (handed_nodup_of hk hra') hf⟩
  exact this.2

end OtelVerif.C02.A

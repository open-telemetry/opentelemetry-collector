import OtelVerif.Lemmas.C01Drain
/-!
# C01 — size bookkeeping of a request-sized queue (`queueSize` across start-up, recovery and running)

`SizeInv`: while start-up/recovery runs `queueSize = writeIndex - readIndex` exactly (recomputed on start, one more per recovered
item); afterwards `queueSize ≤ (writeIndex - readIndex) + len(currentlyDispatchedItems)`: capacity is never leaked (the
re-synchronisation to 0 and the clamp at 0 only lower it).
-/
namespace OtelVerif.C01

structure SizeLive (m : Mem) (pc : Pc) : Prop where
  notDead : deadPc pc = false
  startup : startupPc pc = true → m.size = m.wi - m.ri ∧ m.cdi = []
  running : m.size ≤ m.wi - m.ri + m.cdi.length

def SizeInv (c : Cfg) : Prop := ∀ m pc, c.ph = .live m pc → SizeLive m pc

theorem SizeInv.mkLive {c : Cfg} {m : Mem} {pc : Pc} (hph : c.ph = .live m pc) (h : SizeLive m pc) : SizeInv c := by
  intro m2 pc2 heq; rw [hph] at heq; cases heq; exact h

theorem SizeLive.run {m : Mem} {pc : Pc} (hd : deadPc pc = false) (hs : startupPc pc = false)
    (h : m.size ≤ m.wi - m.ri + m.cdi.length) : SizeLive m pc :=
  ⟨hd, fun h' => (by rw [hs] at h'; cases h'), h⟩

theorem SizeLive.of_exact {m : Mem} {pc : Pc} (hpc : startupPc pc = true ∨ pc = .idle)
    (he : m.size = m.wi - m.ri ∧ m.cdi = []) : SizeLive m pc := by
  have hrun : m.size ≤ m.wi - m.ri + m.cdi.length := by rw [he.1, he.2]; exact Nat.le_add_right _ _
  rcases hpc with h | rfl
  · exact ⟨(by cases pc <;> first | rfl | cases h), fun _ => he, hrun⟩
  · exact .run rfl rfl hrun

theorem startup_tick_exact {c : Cfg} {m : Mem} {pc : Pc} (hk : c.k.reqSized = true) (hle : m.ri ≤ m.wi)
    (hsu : startupPc pc = true) (he : m.size = m.wi - m.ri ∧ m.cdi = []) :
    ∃ m' pc', (doTick c m pc).ph = .live m' pc' ∧ (startupPc pc' = true ∨ pc' = .idle) ∧
      m'.size = m'.wi - m'.ri ∧ m'.cdi = [] := by
  obtain ⟨m', pc', b⟩ := startup_tick (c := c) (m := m) hsu
  exact ⟨m', pc', b.ph, b.next.symm.imp And.left id, b.size hk hle he.1, by rw [b.cdi]; exact he.2⟩

theorem size_doRead {c : Cfg} {m : Mem} (hi : Inv c) (hph : c.ph = .live m .idle)
    (hs : SizeLive m .idle) : SizeInv (doRead c m) := by
  have hle := hi.ri_le_wi hph
  have hrun := hs.running
  fun_cases doRead c m
  · exact SizeInv.mkLive rfl (.run rfl rfl hrun)
  · exact SizeInv.mkLive rfl (.run rfl rfl hrun)
  · next _ he cdi' m' =>
      obtain ⟨r, hitem⟩ := hi.head hph he
      rw [hitem]
      refine SizeInv.mkLive rfl (.run rfl rfl ?_)
      dsimp only [cdi', m']
      rw [List.length_append, List.length_singleton]
      split <;> omega

theorem size_doTick {c : Cfg} {m : Mem} {pc : Pc} (hk : c.k.reqSized = true) (hi : Inv c) (hph : c.ph = .live m pc)
    (hs : SizeLive m pc) : SizeInv (doTick c m pc) := by
  have hle := hi.ri_le_wi hph
  by_cases hsu : startupPc pc = true
  · obtain ⟨m', pc', hph', hpc', he'⟩ := startup_tick_exact (c := c) hk hle hsu (hs.startup hsu)
    exact SizeInv.mkLive hph' (.of_exact hpc' he')
  · cases pc with
    | idle => exact SizeInv.mkLive hph hs
    | backup => exact SizeInv.mkLive rfl (.run rfl rfl hs.running)
    | readRet i r => exact SizeInv.mkLive rfl (.run rfl rfl hs.running)
    | init1 | init2 | init3 _ | moving _ | movingBackup _ => exact absurd rfl hsu
    | _ => exact absurd hs.notDead (by simp [deadPc])

theorem size_doPut {c : Cfg} {m : Mem} (hk : c.k.reqSized = true) (hle : m.ri ≤ m.wi)
    (hrun : m.size ≤ m.wi - m.ri + m.cdi.length) (r : Req) : SizeInv (doPut c m r) := by
  have hb : m.size + c.k.sizeof r ≤ m.wi + 1 - m.ri + m.cdi.length := by rw [sizeof_reqSized hk]; omega
  unfold doPut
  dsimp only
  split
  · exact SizeInv.mkLive rfl (.run rfl rfl hb)
  · exact SizeInv.mkLive rfl (.run rfl rfl hb)

theorem size_fire {c : Cfg} (hk : c.k.reqSized = true) (hi : Inv c) (hs : SizeInv c) (l : Label) : SizeInv (fire c l) := by
  have hle : ∀ {m pc}, c.ph = .live m pc → m.ri ≤ m.wi := hi.ri_le_wi
  refine fire_cases (P := fun _ c' => SizeInv c') c l (skip := hs) (crash := fun m pc heq => by cases heq)
    (start := fun _ => SizeInv.mkLive rfl (.of_exact (Or.inl rfl) ⟨rfl, rfl⟩))
    (tick := fun m pc heq => size_doTick hk hi heq (hs m pc heq)) (read := fun m heq => size_doRead hi heq (hs m _ heq))
    (shutdown := fun m heq => SizeInv.mkLive rfl (.run rfl rfl (hs m _ heq).running))
    (cancel := fun m j heq => SizeInv.mkLive rfl (.run rfl rfl (hs m _ heq).running))
    (offer := ?_) (done := ?_) (wake := ?_) (promote := ?_)
  · intro m r heq
    fun_cases doOffer c m r
    · fun_cases doOfferFull c m r
      · exact hs
      · exact hs
      · exact SizeInv.mkLive rfl (.run rfl rfl (hs m _ heq).running)
    · exact size_doPut hk (hle heq) (hs m _ heq).running r
  · intro m i oc heq
    have hrun := (hs m _ heq).running
    unfold doDone
    split
    · exact hs
    · next r hlook =>
      cases oc with
      | shutdownErr => exact SizeInv.mkLive rfl (.run rfl rfl (Nat.le_trans (Nat.sub_le _ _) hrun))
      | final =>
        have hsw := swapRemove_length m.cdi i
        have hb : m.size - c.k.sizeof r ≤ m.wi - m.ri + (swapRemove m.cdi i).length := by
          rw [sizeof_reqSized hk]; omega
        dsimp only
        split
        · exact SizeInv.mkLive rfl (.run rfl rfl hb)
        · exact SizeInv.mkLive rfl (.run rfl rfl hb)
  · intro m heq
    fun_cases doWake c m
    · exact hs
    · exact SizeInv.mkLive rfl (.run rfl rfl (hs m _ heq).running)
    · next r rest _ _ =>
      exact size_doPut (m := { m with waiting := rest }) hk (hle (m := m) heq) (hs m _ heq).running r
  · intro m j heq
    fun_cases doPromote c m j
    · exact hs
    · exact SizeInv.mkLive rfl (.run rfl rfl (hs m _ heq).running)

theorem sizeInv_run (k : Conf) (hk : k.reqSized = true) (ls : List Label) : SizeInv (run k ls) :=
  (List.foldlRecOn (motive := fun c => c.k.reqSized = true ∧ Inv c ∧ SizeInv c) ls fire
    ⟨hk, inv_init k, fun _ _ heq => nomatch heq⟩
    fun c ⟨hk, hi, hs⟩ l _ => ⟨by rw [fire_k]; exact hk, inv_fire hi l, size_fire hk hi hs l⟩).2.2

theorem size_exact_on_completion {c : Cfg} {m : Mem} {pc : Pc} (hk : c.k.reqSized = true) (hi : Inv c)
    (hph : c.ph = .live m pc) (hs : SizeLive m pc) (hsu : startupPc pc = true) {m' : Mem}
    (hidle : (fire c .tick).ph = .live m' .idle) : m'.size = m'.wi - m'.ri ∧ m'.cdi = [] := by
  have hle := hi.ri_le_wi hph
  obtain ⟨m'', pc'', hph', -, he'⟩ := startup_tick_exact (c := c) hk hle hsu (hs.startup hsu)
  rw [fire_tick hph, hph'] at hidle
  cases hidle
  exact he'

end OtelVerif.C01

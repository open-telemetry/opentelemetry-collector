import OtelVerif.Lemmas.C07
/-! C07 part A: separation invariant `Inv` of the pointer-slice heap model, the hypothesis `WfOp` of its theorems, the specification of each operation
and of programs (`run_spec`), the frame of the specification (`pstep_frame`), `ro_mono` -/
namespace OtelVerif.C07

theorem map_upd_of_not_mem (f : Nat → Nat) (x v : Nat) (l : List Nat) (h : x ∉ l) : l.map (upd f x v) = l.map f :=
  List.map_congr_left (fun y hy => upd_other f x y v (fun e => h (e ▸ hy)))

theorem map_upd_nodup (f : Nat → Nat) (o v : Nat) (l : List Nat) (i : Nat) (hn : l.Nodup) (hi : l[i]? = some o) :
    l.map (upd f o v) = (l.map f).set i v := by
  induction l generalizing i with
  | nil => simp at hi
  | cons x xs ih =>
    have hx := List.nodup_cons.mp hn
    cases i with
    | zero =>
      simp only [List.getElem?_cons_zero, Option.some.injEq] at hi; subst hi
      simp only [List.map_cons, List.set_cons_zero, upd_same, map_upd_of_not_mem f x v xs hx.1]
    | succ j =>
      simp only [List.getElem?_cons_succ] at hi
      have : x ≠ o := fun e => hx.1 (e ▸ List.mem_of_getElem? hi)
      simp only [List.map_cons, List.set_cons_succ, upd_other f o x v this, ih j hx.2 hi]

theorem assign_frame (objs : Nat → Nat) (ds xs : List Nat) (x : Nat) (h : x ∉ ds) : assign objs ds xs x = objs x := by
  induction ds generalizing objs xs with
  | nil => simp [assign]
  | cons d ds ih =>
    cases xs with
    | nil => simp [assign]
    | cons y ys =>
      simp only [assign]
      rw [ih _ _ (fun hm => h (List.mem_cons_of_mem _ hm))]
      exact upd_other _ _ _ _ (fun e => h (e ▸ List.mem_cons_self))

/-- element-wise copy into pairwise distinct destinations that are not sources = parallel assignment -/
theorem assign_map (objs : Nat → Nat) (ds xs : List Nat) (hn : ds.Nodup) (hd : ∀ d ∈ ds, d ∉ xs)
    (hl : ds.length = xs.length) : ds.map (assign objs ds xs) = xs.map objs := by
  induction ds generalizing objs xs with
  | nil => cases xs with
    | nil => rfl
    | cons _ _ => simp at hl
  | cons d ds ih =>
    cases xs with
    | nil => simp at hl
    | cons y ys =>
      have hnd := List.nodup_cons.mp hn
      have hdy : d ∉ y :: ys := hd d List.mem_cons_self
      simp only [assign, List.map_cons]
      rw [assign_frame _ _ _ _ hnd.1, upd_same]
      rw [ih (upd objs d (objs y)) ys hnd.2
        (fun e he hm => hd e (List.mem_cons_of_mem _ he) (List.mem_cons_of_mem _ hm)) (by simpa using hl)]
      rw [map_upd_of_not_mem _ _ _ _ (fun hm => hdy (List.mem_cons_of_mem _ hm))]

/-- distinct live handles reach disjoint objects; nothing is assumed about the slots beyond `len` -/
structure Inv (s : St) : Prop where
  lt : ∀ a, ∀ o ∈ (s.hd a).live, o < s.next
  nodup : ∀ a, (s.hd a).live.Nodup
  disj : ∀ a b, a ≠ b → ∀ o ∈ (s.hd a).live, o ∉ (s.hd b).live

/-- copy and move are between distinct values -/
def WfOp : Op → Prop
  | .copyTo a b => a ≠ b
  | .moveAndAppendTo a b _ => a ≠ b
  | _ => True

instance (op : Op) : Decidable (WfOp op) := by cases op <;> simp only [WfOp] <;> infer_instance

theorem inv_init : Inv St.init := ⟨by simp [St.init], by simp [St.init], by simp [St.init]⟩

theorem Inv.sep {s : St} (hi : Inv s) : Sep s.next (fun a => (s.hd a).live) := ⟨hi.lt, hi.nodup, hi.disj⟩

theorem Inv.of_sep {s : St} {f : Nat → List Nat} (hf : (fun a => (s.hd a).live) = f) (h : Sep s.next f) : Inv s := by
  subst hf; exact ⟨h.lt, h.nodup, h.disj⟩

theorem inv_update {s : St} (hi : Inv s) (a : Nat) (l : List Nat) (t : List (Option Nat)) (objs' : Nat → Nat)
    (next' : Nat) (ro' : Nat → Bool) (hnext : s.next ≤ next') (ft : Foot s.next (s.hd a).live next' l) :
    Inv { objs := objs', next := next', hd := upd s.hd a ⟨l, t⟩, ro := ro' } :=
  Inv.of_sep (upd_comp Hdr.live s.hd a ⟨l, t⟩) (hi.sep.update a hnext ft (hi.sep.own a))

theorem Inv.foot {s : St} (hi : Inv s) (a : Nat) {l : List Nat} (hn : l.Nodup) (hs : ∀ o ∈ l, o ∈ (s.hd a).live) :
    Foot s.next (s.hd a).live s.next l :=
  Foot.sub hn hs (hi.lt a)

theorem abs_update (s : St) (a : Nat) (h' : Hdr) (objs' : Nat → Nat) (next' : Nat) (v : List Nat)
    (ha : h'.live.map objs' = v)
    (hframe : ∀ c, c ≠ a → ∀ o ∈ (s.hd c).live, objs' o = s.objs o) :
    abs { objs := objs', next := next', hd := upd s.hd a h', ro := s.ro } = { abs s with val := upd (abs s).val a v } :=
  congrArg (PSt.mk · s.ro) (eq_upd ((congrArg (fun h : Hdr => h.live.map objs') (upd_same _ _ _)).trans ha)
    (fun c hc => (congrArg (fun h : Hdr => h.live.map objs') (upd_other _ _ _ _ hc)).trans (List.map_congr_left (hframe c hc))))

theorem append_spec {s : St} (hi : Inv s) (a c : Nat) :
    Inv (appendEmpty s a c) ∧ abs (appendEmpty s a c) = { abs s with val := upd (abs s).val a ((abs s).val a ++ [0]) } := by
  have hfresh : ∀ d, s.next ∉ (s.hd d).live := fun d hm => Nat.lt_irrefl _ (hi.lt d _ hm)
  constructor
  · exact inv_update hi a _ _ _ _ _ (Nat.le_succ _)
      (((hi.foot a (hi.nodup a) (fun _ h => h)).append (Foot.range s.next 1 []) (Nat.le_refl _) (Nat.le_succ _)
        (fun _ _ h => nomatch h) (fun _ h => nomatch h)).mono (fun o ho => by simpa using ho))
  · apply abs_update
    · simp only [List.map_append, List.map_cons, List.map_nil, upd_same, abs]
      rw [map_upd_of_not_mem _ _ _ _ (hfresh a)]
    · exact fun d _ o ho => upd_other _ _ _ _ (fun e => hfresh d (e ▸ ho))

theorem removeIf_spec {s : St} (hi : Inv s) (a : Nat) (m : List Bool) :
    Inv (removeIf s a m) ∧ abs (removeIf s a m) = { abs s with val := upd (abs s).val a (keep ((abs s).val a) m) } := by
  have hsub := keep_sublist (s.hd a).live m
  exact ⟨inv_update hi a _ _ _ _ _ (Nat.le_refl _) (hi.foot a ((hi.nodup a).sublist hsub) (fun o ho => hsub.subset ho)),
    abs_update s a _ _ _ _ (map_keep _ _ _) (fun _ _ _ _ => rfl)⟩

theorem ensureCap_spec {s : St} (hi : Inv s) (a n : Nat) : Inv (ensureCap s a n) ∧ abs (ensureCap s a n) = abs s := by
  simp only [ensureCap]
  split
  · exact ⟨hi, rfl⟩
  · refine ⟨inv_update hi a _ _ _ _ _ (Nat.le_refl _) (hi.foot a (hi.nodup a) (fun _ h => h)), ?_⟩
    rw [abs_update s a _ _ _ _ rfl (fun _ _ _ _ => rfl)]
    exact congrArg (PSt.mk · s.ro) (upd_self (abs s).val a)

theorem sort_spec {s : St} (hi : Inv s) (a : Nat) :
    Inv (sortH s a) ∧
    abs (sortH s a) = { abs s with val := upd (abs s).val a (((abs s).val a).mergeSort (fun x y => decide (x ≤ y))) } := by
  have hp := List.mergeSort_perm (s.hd a).live (fun x y => decide (s.objs x ≤ s.objs y))
  exact ⟨inv_update hi a _ _ _ _ _ (Nat.le_refl _) (hi.foot a (hp.nodup_iff.mpr (hi.nodup a)) (fun o ho => hp.mem_iff.mp ho)),
    abs_update s a _ _ _ _ (List.map_mergeSort (fun _ _ _ _ => rfl)) (fun _ _ _ _ => rfl)⟩

theorem set_spec {s : St} (hi : Inv s) (a i v o : Nat) (ho : (s.hd a).live[i]? = some o) :
    abs { s with objs := upd s.objs o v } = { abs s with val := upd (abs s).val a (((abs s).val a).set i v) } := by
  have hmem : o ∈ (s.hd a).live := List.mem_of_getElem? ho
  rw [← upd_self s.hd a]
  refine (abs_update s a (s.hd a) _ s.next _ (map_upd_nodup _ _ _ _ _ (hi.nodup a) ho) ?_)
  exact fun c hc x hx => upd_other _ _ _ _ (fun e => hi.disj a c (fun e' => hc e'.symm) o hmem (e ▸ hx))

/-- the common core of both branches of the repaired `CopyTo`: the destination becomes some of its
own old elements followed by fresh ones, then the element-wise copy -/
theorem copy_core {s : St} (hi : Inv s) (a b : Nat) (hab : a ≠ b) (reused : List Nat) (k : Nat) (t : List (Option Nat))
    (hsub : reused.Sublist (s.hd b).live) (hlen : reused.length + k = (s.hd a).live.length) :
    let nl := reused ++ List.range' s.next k
    let s' : St := { objs := assign s.objs nl (s.hd a).live, next := s.next + k, hd := upd s.hd b ⟨nl, t⟩, ro := s.ro }
    Inv s' ∧ abs s' = { abs s with val := upd (abs s).val b ((abs s).val a) } := by
  intro nl s'
  have ft : Foot s.next (s.hd b).live (s.next + k) nl :=
    ((hi.foot b ((hi.nodup b).sublist hsub) (fun o ho => hsub.subset ho)).append (Foot.range s.next k []) (Nat.le_refl _)
      (Nat.le_add_right _ _) (fun _ _ h => nomatch h) (fun _ h => nomatch h)).mono (fun o ho => by simpa using ho)
  have hforeign : ∀ o ∈ nl, ∀ c, c ≠ b → o ∉ (s.hd c).live := hi.sep.foreign ft (hi.sep.own b)
  refine ⟨inv_update hi b nl t _ _ _ (Nat.le_add_right _ _) ft, abs_update s b _ _ _ _ ?_ ?_⟩
  · exact assign_map _ _ _ ft.nodup (fun d hd => hforeign d hd a hab) (by simp [nl, hlen])
  · exact fun c hc o ho => assign_frame _ _ _ _ (fun hm => hforeign o hm c hc ho)

theorem copyTo_spec {s : St} (hi : Inv s) (a b : Nat) (hab : a ≠ b) :
    Inv (copyTo s a b) ∧ abs (copyTo s a b) = { abs s with val := upd (abs s).val b ((abs s).val a) } := by
  simp only [copyTo]
  split
  · next h => exact copy_core hi a b hab _ _ _ (List.take_sublist _ _) (by simp only [List.length_take, Hdr.cap] at h ⊢; omega)
  · exact copy_core hi a b hab [] (s.hd a).live.length [] (List.nil_sublist _) (Nat.zero_add _)

theorem moveAndAppendTo_hd (s : St) (a b c : Nat) :
    ∃ t, (moveAndAppendTo s a b c).hd = upd (upd s.hd b ⟨(s.hd b).live ++ (s.hd a).live, t⟩) a {} := by
  simp only [moveAndAppendTo]
  by_cases hn : (s.hd b).isNil = true
  · have hl : (s.hd b).live = [] := by
      simp only [Hdr.isNil, Bool.and_eq_true, List.isEmpty_iff] at hn; exact hn.1
    exact ⟨(s.hd a).tail, by rw [if_pos hn, hl]; rfl⟩
  · rw [if_neg hn]; split <;> exact ⟨_, rfl⟩

theorem moveAndAppendTo_spec {s : St} (hi : Inv s) (a b c : Nat) (hab : a ≠ b) :
    Inv (moveAndAppendTo s a b c) ∧
    abs (moveAndAppendTo s a b c) = { abs s with val := upd (upd (abs s).val b ((abs s).val b ++ (abs s).val a)) a [] } := by
  obtain ⟨t, ht⟩ := moveAndAppendTo_hd s a b c
  have hba : b ≠ a := fun e => hab e.symm
  constructor
  · refine Inv.of_sep (f := upd (upd (fun d => (s.hd d).live) b ((s.hd b).live ++ (s.hd a).live)) a []) ?_ ?_
    · rw [ht]
      exact (upd_comp Hdr.live _ a {}).trans (congrArg (upd · a []) (upd_comp Hdr.live s.hd b _))
    · exact hi.sep.move hab _
        (List.nodup_append.mpr ⟨hi.nodup b, hi.nodup a, fun x hx y hy e => hi.disj b a hba x hx (e ▸ hy)⟩)
        (fun o ho => (List.mem_append.mp ho).symm)
  · show PSt.mk (fun d => ((moveAndAppendTo s a b c).hd d).live.map s.objs) s.ro = _
    rw [ht]
    refine congrArg (PSt.mk · s.ro) ?_
    refine (upd_comp (fun h : Hdr => h.live.map s.objs) _ a {}).trans (congrArg (upd · a []) ?_)
    exact (upd_comp (fun h : Hdr => h.live.map s.objs) s.hd b _).trans (congrArg (upd _ b) List.map_append)

theorem step_spec {s : St} (hi : Inv s) (op : Op) (hw : WfOp op) :
    Inv (step s op).1 ∧ abs (step s op).1 = (pstep (abs s) op).1 ∧ (step s op).2 = (pstep (abs s) op).2 := by
  cases op with
  | append a c => exact guarded (s.ro a) _ _ hi (fun _ => append_spec hi a c)
  | removeIf a m => exact guarded (s.ro a) _ _ hi (fun _ => removeIf_spec hi a m)
  | ensureCap a n => exact guarded (s.ro a) _ _ hi (fun _ => ensureCap_spec hi a n)
  | sort a => exact guarded (s.ro a) _ _ hi (fun _ => sort_spec hi a)
  | copyTo a b => exact guarded (s.ro b) _ _ hi (fun _ => copyTo_spec hi a b hw)
  | moveAndAppendTo a b c => exact guarded (s.ro a || s.ro b) _ _ hi (fun _ => moveAndAppendTo_spec hi a b c hw)
  -- `Inv` looks only at `hd` and `next`: it survives a change of `objs` or `ro` as it stands
  | markRO a => exact ⟨Inv.of_sep rfl hi.sep, rfl, rfl⟩
  | set a i v =>
    have hlen : ((abs s).val a).length = (s.hd a).live.length := List.length_map _
    cases ho : (s.hd a).live[i]? with
    | none =>
      have : ¬ i < ((abs s).val a).length := by rw [hlen]; exact Nat.not_lt.mpr (List.getElem?_eq_none_iff.mp ho)
      simp only [step, pstep, ho, this, if_false, ite_self]
      exact ⟨hi, trivial, trivial⟩
    | some o =>
      have : i < ((abs s).val a).length := by rw [hlen]; exact (List.getElem?_eq_some_iff.mp ho).1
      simp only [step, pstep, ho, this, if_true]
      exact guarded (s.ro a) _ _ hi (fun _ => ⟨Inv.of_sep rfl hi.sep, set_spec hi a i v o ho⟩)

theorem run_spec (prog : List Op) : ∀ (s : St), Inv s → (∀ op ∈ prog, WfOp op) →
    Inv (run s prog) ∧ abs (run s prog) = prun (abs s) prog := by
  induction prog with
  | nil => exact fun s hi _ => ⟨hi, rfl⟩
  | cons op ops ih =>
    intro s hi hw
    obtain ⟨h1, h2, _⟩ := step_spec hi op (hw op List.mem_cons_self)
    obtain ⟨i1, i2⟩ := ih _ h1 (fun o ho => hw o (List.mem_cons_of_mem _ ho))
    exact ⟨i1, i2.trans (congrArg (prun · ops) h2)⟩

theorem pstep_frame (p : PSt) (op : Op) (c : Nat) (hc : c ∉ targets op) : (pstep p op).1.val c = p.val c := by
  cases op with
  | ensureCap a n => exact guarded_same (fun t : PSt => t.val c) _ _ rfl
  | moveAndAppendTo a b n =>
    exact guarded_same (fun t : PSt => t.val c) _ _ ((upd_other _ _ _ _ (not_mem_pair hc).1).trans (upd_other _ _ _ _ (not_mem_pair hc).2))
  | markRO a => rfl
  | set a i v =>
    simp only [pstep]; split
    · rfl
    · split
      · exact upd_other _ _ _ _ (List.ne_of_not_mem_cons hc)
      · rfl
  | _ => exact guarded_same (fun t : PSt => t.val c) _ _ (upd_other _ _ _ _ (List.ne_of_not_mem_cons hc))

theorem ro_mono (s : St) (op : Op) (a : Nat) (hro : s.ro a = true) : (step s op).1.ro a = true := by
  have g : ∀ (g : Bool) (s' : St), s'.ro a = true → (if g = true then (s, true) else (s', false)).1.ro a = true :=
    fun g s' h => guarded_fst (P := fun t => t.ro a = true) g s' hro (fun _ => h)
  cases op with
  | ensureCap b n => exact g _ _ (by simp only [ensureCap]; split <;> exact hro)
  | copyTo b c => exact g _ _ (by simp only [copyTo]; split <;> exact hro)
  | markRO b =>
    show upd s.ro b true a = true
    unfold upd; split
    · rfl
    · exact hro
  | set b i v =>
    simp only [step]; split
    · exact hro
    · split <;> exact hro
  | _ => exact g _ _ hro

end OtelVerif.C07

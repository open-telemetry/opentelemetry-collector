import OtelVerif.Model.C08Txt
/-! C08: laws of the concrete text codecs of `Model/C08Txt.lean` (decimal, hex, base64, ids); JSON integer literals as the two integer
readers (`parseInt`: strconv, `parseNum`: jsoniter) read them. Core Lean only. -/
namespace OtelVerif.C08
open OtelVerif.Proto

theorem two_pow_pred {w : Nat} (hw : 0 < w) : 2 ^ w = 2 * 2 ^ (w - 1) := by
  cases w with
  | zero => omega
  | succ k => simp [Nat.pow_succ]; omega

/-! ## decimal -/

theorem decDigits_digits (n : Nat) : ∀ c, c ∈ decDigits n → isDigit c = true := by
  induction n using Nat.strongRecOn with
  | _ n ih =>
    intro c hc
    rw [decDigits] at hc
    split at hc
    · simp at hc; subst hc; simp [isDigit]; omega
    · simp only [List.mem_append, List.mem_singleton] at hc
      rcases hc with h | h
      · exact ih (n / 10) (by omega) c h
      · subst h; simp [isDigit]; omega

theorem decDigits_ne_nil (n : Nat) : decDigits n ≠ [] := by
  rw [decDigits]; split <;> simp

theorem decDigits_fold (n : Nat) : (decDigits n).foldl (fun a c => a * 10 + (c - 48)) 0 = n := by
  induction n using Nat.strongRecOn with
  | _ n ih =>
    rw [decDigits]
    split
    · simp
    · rw [List.foldl_append, ih (n / 10) (by omega)]; simp; omega

theorem undec_dec (n : Nat) : undecDigits (decDigits n) = some n := by
  unfold undecDigits
  have h1 : (decDigits n).isEmpty = false := by
    cases h : decDigits n with
    | nil => exact absurd h (decDigits_ne_nil n)
    | cons _ _ => rfl
  have h2 : (decDigits n).all isDigit = true := List.all_eq_true.mpr (decDigits_digits n)
  simp [h1, h2, decDigits_fold]

/-! ## JSON natural-number literals as jsoniter's digit loop (`jiterUint`) reads them; the marshaler's decimal text is one -/

theorem natLit_cases (ds : List Nat) (h : natLit ds = true) :
    ds = [48] ∨ ∃ c cs, ds = c :: cs ∧ 49 ≤ c ∧ c ≤ 57 ∧ cs.all isDigit = true := by
  match ds, h with
  | [48], _ => exact Or.inl rfl
  | c :: cs, h =>
    by_cases h48 : c = 48 ∧ cs = []
    · obtain ⟨h1, h2⟩ := h48; subst h1; subst h2; exact Or.inl rfl
    · right
      have : natLit (c :: cs) = ((decide (49 ≤ c) && decide (c ≤ 57)) && cs.all isDigit) := by
        rw [natLit.eq_def]
        split
        · next heq => cases heq; exact absurd ⟨rfl, rfl⟩ h48
        · next heq => cases heq; rfl
        · next heq => cases heq
      rw [this] at h
      simp only [Bool.and_eq_true, decide_eq_true_eq] at h
      exact ⟨c, cs, rfl, h.1.1, h.1.2, h.2⟩
  | [], h => simp [natLit] at h

theorem jiterUint_cons (w c : Nat) (cs : List Nat) (h1 : 49 ≤ c) (h2 : c ≤ 57) :
    jiterUint w (c :: cs) = jiterDigits w (c - 48) cs := by
  rw [jiterUint.eq_def]
  split
  · next heq => cases heq
  · next heq => cases heq; omega
  · next heq => cases heq; omega
  · next c' cs' _ _ heq => cases heq; simp [h1, h2]

theorem foldDigits_ge : ∀ (cs : List Nat) (v : Nat), v ≤ cs.foldl (fun a c => a * 10 + (c - 48)) v := by
  intro cs
  induction cs with
  | nil => intro v; exact Nat.le_refl _
  | cons c cs ih => intro v; simp only [List.foldl_cons]; exact Nat.le_trans (by omega) (ih _)

theorem jiterDigits_fold (w : Nat) : ∀ (cs : List Nat) (v : Nat), cs.all isDigit = true →
    cs.foldl (fun a c => a * 10 + (c - 48)) v < 2 ^ w →
    jiterDigits w v cs = some (cs.foldl (fun a c => a * 10 + (c - 48)) v) := by
  intro cs
  induction cs with
  | nil => intro v _ _; rfl
  | cons c cs ih =>
    intro v hd hlt
    simp only [List.all_cons, Bool.and_eq_true] at hd
    have hc : 48 ≤ c ∧ c ≤ 57 := by simpa [isDigit] using hd.1
    simp only [List.foldl_cons] at hlt ⊢
    have hge := foldDigits_ge cs (v * 10 + (c - 48))
    simp only [jiterDigits, hc, and_self, if_true]
    split
    · have hm : (v * 10 + (c - 48)) % 2 ^ w = v * 10 + (c - 48) := Nat.mod_eq_of_lt (by omega)
      simp only [hm]
      have : ¬ (v * 10 + (c - 48) < v) := by omega
      simp only [this, if_false]
      exact ih _ hd.2 hlt
    · exact ih _ hd.2 hlt

theorem jiterUint_of_undec (w : Nat) (ds : List Nat) (n : Nat) (hl : natLit ds = true) (hu : undecDigits ds = some n)
    (hlt : n < 2 ^ w) : jiterUint w ds = some n := by
  rcases natLit_cases ds hl with h | ⟨c, cs, h, h1, h2, h3⟩
  · subst h
    have : undecDigits [48] = some 0 := by decide
    rw [this] at hu; cases hu; simp [jiterUint]
  · subst h
    have hall : (c :: cs).all isDigit = true := by
      simp only [List.all_cons, Bool.and_eq_true]; exact ⟨by simp [isDigit]; omega, h3⟩
    simp only [undecDigits, List.isEmpty_cons, hall, Bool.not_true, Bool.or_self, Bool.false_eq_true, if_false,
      Option.some.injEq, List.foldl_cons, Nat.zero_mul, Nat.zero_add] at hu
    subst hu
    rw [jiterUint_cons w c cs h1 h2]
    exact jiterDigits_fold w cs _ h3 hlt

theorem natLit_noSign (ds : List Nat) (h : natLit ds = true) : (∀ r, ds ≠ 45 :: r) ∧ (∀ r, ds ≠ 43 :: r) := by
  rcases natLit_cases ds h with h | ⟨c, cs, h, h1, h2, _⟩ <;> subst h
  · exact ⟨(by intro r hr; cases hr), (by intro r hr; cases hr)⟩
  · exact ⟨(by intro r hr; cases hr; omega), (by intro r hr; cases hr; omega)⟩

theorem natLit_undec (ds : List Nat) (h : natLit ds = true) : ∃ n, undecDigits ds = some n := by
  rcases natLit_cases ds h with rfl | ⟨c, cs, rfl, h1, h2, h3⟩
  · exact ⟨0, by decide⟩
  · have : isDigit c = true := by simp [isDigit]; omega
    simp [undecDigits, this, h3]

theorem natLit_cons (c : Nat) (cs : List Nat) (h1 : 49 ≤ c) (h2 : c ≤ 57) (h3 : cs.all isDigit = true) : natLit (c :: cs) = true := by
  rw [natLit.eq_def]
  split
  · rfl
  · next heq => cases heq; simp [h1, h2, h3]
  · next heq => cases heq

theorem natLit_decDigits (n : Nat) : natLit (decDigits n) = true := by
  induction n using Nat.strongRecOn with
  | _ n ih =>
    rw [decDigits]
    split
    · next h10 =>
      by_cases h0 : n = 0
      · subst h0; rfl
      · exact natLit_cons _ _ (by omega) (by omega) rfl
    · next h10 =>
      rcases natLit_cases _ (ih (n / 10) (by omega)) with h | ⟨c, cs, h, h1, h2, h3⟩
      · have := decDigits_fold (n / 10); rw [h] at this; simp at this; omega
      · rw [h]
        exact natLit_cons c _ h1 h2 (by simp [h3, isDigit]; omega)

/-- `DecLaws.jnum_dec` of the concrete codec -/
theorem jiter_dec (w n : Nat) (hlt : n < 2 ^ w) : jiterUint w (decDigits n) = some n :=
  jiterUint_of_undec w _ n (natLit_decDigits n) (undec_dec n) hlt

theorem dec_nosign (n : Nat) (ds : List Nat) : decDigits n ≠ 45 :: ds := (natLit_noSign _ (natLit_decDigits n)).1 ds

theorem dec_noplus (n : Nat) (ds : List Nat) : decDigits n ≠ 43 :: ds := (natLit_noSign _ (natLit_decDigits n)).2 ds

/-! ## What the two integer readers make of a JSON integer literal `t` / `-t` of value `n`: the string branch (`strconv`) returns ±n exactly
when it is in range; the number branch (jsoniter) returns ±n when it is in range (out of range its overflow test may miss). -/

theorem parseInt_lit (T : Txt) (signed : Bool) (w : Nat) (t : List Nat) (n : Nat)
    (hns : (∀ r, t ≠ 45 :: r) ∧ (∀ r, t ≠ 43 :: r)) (hv : T.undec t = some n) :
    parseInt T signed w t = if n < (if signed then 2 ^ (w - 1) else 2 ^ w) then some n else none := by
  unfold parseInt
  split
  · exact absurd rfl (hns.1 _)
  · exact absurd rfl (hns.2 _)
  · simp only [hv]

theorem parseInt_neg_lit (T : Txt) (signed : Bool) (w : Nat) (t : List Nat) (n : Nat) (hv : T.undec t = some n) :
    parseInt T signed w (45 :: t) = if signed = true ∧ n ≤ 2 ^ (w - 1) then some ((2 ^ w - n) % 2 ^ w) else none := by
  cases signed <;> simp [parseInt, hv]

theorem parseNum_lit (signed : Bool) (w : Nat) (t : List Nat) (n : Nat) (hw : 0 < w) (hl : natLit t = true)
    (hv : undecDigits t = some n) (hn : n < (if signed then 2 ^ (w - 1) else 2 ^ w)) : parseNum signed w t = some n := by
  have hp := two_pow_pred hw
  have hlt : n < 2 ^ w := by cases signed <;> simp at hn <;> omega
  have hns := natLit_noSign t hl
  unfold parseNum
  split
  · exact absurd rfl (hns.1 _)
  · rw [jiterUint_of_undec w _ n hl hv hlt]
    cases signed
    · simp
    · have : ¬ (n ≥ 2 ^ (w - 1)) := by simpa using hn
      simp [this]

theorem parseNum_neg_lit (w : Nat) (t : List Nat) (n : Nat) (hw : 0 < w) (hl : natLit t = true)
    (hv : undecDigits t = some n) (hn : n ≤ 2 ^ (w - 1)) : parseNum true w (45 :: t) = some ((2 ^ w - n) % 2 ^ w) := by
  have hp := two_pow_pred hw
  have hpos : 0 < 2 ^ (w - 1) := Nat.pow_pos (by decide)
  have : ¬ (n > 2 ^ (w - 1)) := by omega
  simp [parseNum, jiterUint_of_undec w t n hl hv (by omega), this]

theorem parseNum_of_parseInt (ffmt : Nat → List Nat) (fparse : List Nat → Option Nat) (signed : Bool) (w : Nat) (t : List Nat) (n : Nat)
    (hw : 0 < w) (hlit : jsonIntLit t = true) (h : parseInt (mkTxtF ffmt fparse) signed w t = some n) : parseNum signed w t = some n := by
  by_cases hneg : ∃ ds, t = 45 :: ds
  · obtain ⟨ds, rfl⟩ := hneg
    have hl : natLit ds = true := by simpa [jsonIntLit] using hlit
    obtain ⟨m, hu⟩ := natLit_undec ds hl
    rw [parseInt_neg_lit (mkTxtF ffmt fparse) signed w ds m hu] at h
    split at h
    · next hc => cases h; obtain ⟨rfl, hm⟩ := hc; exact parseNum_neg_lit w ds m hw hl hu hm
    · cases h
  · have hl : natLit t = true := by
      unfold jsonIntLit at hlit
      split at hlit
      · next ds => exact absurd ⟨ds, rfl⟩ hneg
      · exact hlit
    obtain ⟨m, hu⟩ := natLit_undec t hl
    rw [parseInt_lit (mkTxtF ffmt fparse) signed w t m (natLit_noSign t hl) hu] at h
    by_cases hc : m < (if signed = true then 2 ^ (w - 1) else 2 ^ w)
    · rw [if_pos hc] at h; cases h; exact parseNum_lit signed w t _ hw hl hu hc
    · rw [if_neg hc] at h; cases h

/-! ## hex -/

theorem hexVal_hexChar (n : Nat) (h : n < 16) : hexVal (hexChar n) = some n := by
  unfold hexChar hexVal
  by_cases h10 : n < 10
  · simp [h10]; omega
  · simp [h10]
    have : ¬ (87 + n ≤ 57) := by omega
    simp [this]; omega

theorem hexDec_hexEnc : ∀ (b : List Nat), bytesOk b = true → hexDec (hexEnc b) = some b := by
  intro b
  induction b with
  | nil => intro _; rfl
  | cons x rest ih =>
    intro h
    simp only [bytesOk, List.all_cons, Bool.and_eq_true, decide_eq_true_eq] at h
    simp only [hexEnc, hexDec, hexVal_hexChar _ (Nat.mod_lt _ (by decide)), ih (by simpa [bytesOk] using h.2)]
    congr 2
    omega

theorem hexEnc_length (b : List Nat) : (hexEnc b).length = 2 * b.length := by
  induction b with
  | nil => rfl
  | cons x rest ih => simp [hexEnc, ih]; omega

theorem hexEnc_nil_iff (p : List Nat) : hexEnc p = [] ↔ p = [] := by
  cases p <;> simp [hexEnc]

theorem hexChar_ne_quote (n : Nat) : hexChar n ≠ 34 := by unfold hexChar; split <;> omega

theorem hexVal_hexUp (c : Nat) : hexVal (hexUp c) = hexVal c := by
  unfold hexUp
  split
  · -- `a`..`f` becomes `A`..`F`: third branch of `hexVal` instead of the second, same value
    next h =>
    rw [hexVal, if_neg (by omega), if_neg (by omega), if_pos (by omega), hexVal, if_neg (by omega), if_pos h]
    congr 1
  · rfl

theorem hexChar_up_ne_quote (n : Nat) : hexUp (hexChar n) ≠ 34 := by
  unfold hexUp hexChar; split <;> split <;> omega

theorem hexDec_map_hexUp : ∀ (t : List Nat), hexDec (t.map hexUp) = hexDec t
  | [] => rfl
  | [_] => rfl
  | a :: b :: rest => by simp only [List.map_cons, hexDec, hexVal_hexUp, hexDec_map_hexUp rest]

theorem hexVal_lt (c x : Nat) (h : hexVal c = some x) : x < 16 := by
  unfold hexVal at h
  split at h
  · cases h; omega
  · split at h
    · cases h; omega
    · split at h
      · cases h; omega
      · cases h

theorem hexDec_spec : ∀ (t b : List Nat), hexDec t = some b →
    bytesOk b = true ∧ 2 * b.length = t.length ∧ ∀ c ∈ t, (hexVal c).isSome = true := by
  intro t
  induction t using hexDec.induct <;> intro b h
  all_goals (simp_all [hexDec, bytesOk])
  -- left: two hex digits `a c` of values `x y` (`hexVal_lt`: below 16, so the byte is below 256) and the rest
  rename_i a c rest x y tl htl hy hx ih
  subst h
  have := hexVal_lt _ _ hx
  have := hexVal_lt _ _ hy
  refine ⟨?_, by simp; omega⟩
  intro z hz
  simp only [List.mem_cons] at hz
  rcases hz with rfl | hz
  · omega
  · exact ih.1 z hz

theorem hexDec_out (t b : List Nat) (h : hexDec t = some b) : bytesOk b = true ∧ 2 * b.length = t.length :=
  ⟨(hexDec_spec t b h).1, (hexDec_spec t b h).2.1⟩

theorem hexDec_odd (t : List Nat) (h : t.length % 2 = 1) : hexDec t = none := by
  cases hd : hexDec t with
  | none => rfl
  | some b => have := (hexDec_spec t b hd).2.1; omega

/-! ## base64 -/

theorem b64val_b64char : ∀ n, n < 64 → b64val (b64char n) = some n := by decide

theorem b64char_ne_pad (n : Nat) : b64char n ≠ 61 := by
  unfold b64char; split <;> (try split) <;> (try split) <;> (try split) <;> omega

theorem b64dec_b64enc : ∀ (b : List Nat), bytesOk b = true → b64dec (b64enc b) = some b := by
  intro b
  induction b using b64enc.induct with
  | case1 a b c rest ih =>
    intro h
    simp only [bytesOk, List.all_cons, Bool.and_eq_true, decide_eq_true_eq] at h
    obtain ⟨ha, hb, hc, hr⟩ := h
    simp only [b64enc]
    rw [b64dec]
    · simp only [b64val_b64char _ (Nat.mod_lt _ (by decide)), ih (by simpa [bytesOk] using hr)]
      simp only [Option.some.injEq, List.cons.injEq, and_true]
      refine ⟨by omega, by omega, by omega⟩
    · intro h1 h2 _; exact b64char_ne_pad _ h2
    · intro h1 _; exact b64char_ne_pad _ h1
  | case2 a b =>
    intro h
    simp only [bytesOk, List.all_cons, Bool.and_eq_true, decide_eq_true_eq] at h
    obtain ⟨ha, hb, _⟩ := h
    simp only [b64enc]
    rw [b64dec]
    · simp only [b64val_b64char _ (Nat.mod_lt _ (by decide))]
      simp only [Option.some.injEq, List.cons.injEq, and_true]
      refine ⟨by omega, by omega⟩
    · intro h1; exact b64char_ne_pad _ h1
  | case3 a =>
    intro h
    simp only [bytesOk, List.all_cons, Bool.and_eq_true, decide_eq_true_eq] at h
    simp only [b64enc, b64dec, b64val_b64char _ (Nat.mod_lt _ (by decide))]
    simp only [Option.some.injEq, List.cons.injEq, and_true]
    omega
  | case4 => intro _; rfl

theorem b64dec_spec : ∀ (t b : List Nat), b64dec t = some b →
    bytesOk b = true ∧ t.length % 4 = 0 ∧ ∀ c ∈ t, c = 61 ∨ (b64val c).isSome = true := by
  intro t
  induction t using b64dec.induct <;> intro b h
  all_goals (simp_all [b64dec, bytesOk])  -- closes the rejecting branches; the bytes are `… % 256`
  case case2 => subst h; intro x hx; simp only [List.mem_cons, List.mem_nil_iff, or_false] at hx; omega  -- `xx==`
  case case4 => subst h; intro x hx; simp only [List.mem_cons, List.mem_nil_iff, or_false] at hx; omega  -- `xxx=`
  case case6 =>  -- four characters and the rest
    rename_i ih1
    subst h
    refine ⟨?_, by omega⟩
    intro x hx; simp only [List.mem_cons] at hx
    rcases hx with h1 | h1 | h1 | h1
    · omega
    · omega
    · omega
    · exact ih1.1 _ h1

/-- the alphabet has no CR / LF: what `b64dec` accepts passes the reader's filter unchanged -/
theorem b64Read_b64enc (b : List Nat) (h : bytesOk b = true) : b64Read (b64enc b) = some b := by
  have hd := b64dec_b64enc b h
  unfold b64Read
  rw [List.filter_eq_self.mpr, hd]
  intro c hc
  rcases (b64dec_spec _ b hd).2.2 c hc with rfl | hv
  · rfl
  · have : c ≠ 10 ∧ c ≠ 13 := by constructor <;> (rintro rfl; simp [b64val] at hv)
    simp [this]

theorem b64Read_out (t b : List Nat) (h : b64Read t = some b) : bytesOk b = true := (b64dec_spec _ b h).1

theorem b64Read_chars (t b : List Nat) (h : b64Read t = some b) : ∀ c ∈ t, c = 10 ∨ c = 13 ∨ c = 61 ∨ (b64val c).isSome = true := by
  intro c hc
  by_cases h1 : c = 10
  · exact Or.inl h1
  · by_cases h2 : c = 13
    · exact Or.inr (Or.inl h2)
    · have : c ∈ t.filter (fun c => c != 10 && c != 13) := by simp [List.mem_filter, hc, h1, h2]
      exact Or.inr (Or.inr ((b64dec_spec _ b h).2.2 c this))

/-! ## ids: quotes, the zero id, `UnmarshalJSON ∘ MarshalJSON` -/

theorem stripQuotes_noquote (b : List Nat) (h : b.head? ≠ some 34) : stripQuotes b = b := by
  unfold stripQuotes
  have : ¬ (b.length ≥ 2 ∧ b.head? = some 34 ∧ b.getLast? = some 34) := fun hh => h hh.2.1
  simp [this]

theorem stripQuotes_quoted (x : List Nat) : stripQuotes (34 :: x ++ [34]) = x := by
  unfold stripQuotes
  have h1 : (34 :: x ++ [34]).length ≥ 2 := by simp
  have h2 : (34 :: x ++ [34]).getLast? = some 34 := by
    rw [show 34 :: x ++ [34] = (34 :: x) ++ [34] from rfl, List.getLast?_append]; simp
  simp only [h1, h2]
  simp

theorem hexEnc_noquote (b : List Nat) : stripQuotes (hexEnc b) = hexEnc b := by
  apply stripQuotes_noquote
  cases b with
  | nil => simp [hexEnc]
  | cons x xs => simp [hexEnc, hexChar_ne_quote]

theorem allZero_replicate : ∀ (p : List Nat), allZero p = true → p = List.replicate p.length 0 := by
  intro p
  induction p with
  | nil => intro _; rfl
  | cons x xs ih =>
    intro h
    simp only [allZero, List.all_cons, Bool.and_eq_true, beq_iff_eq] at h
    rw [List.length_cons, List.replicate_succ, h.1]
    congr 1
    exact ih (by simpa [allZero] using h.2)

theorem allZero_replicate_true (n : Nat) : allZero (List.replicate n 0) = true := by
  induction n with
  | zero => rfl
  | succ k ih => simp [allZero, List.replicate_succ]

/-- the model's id reader IS `UnmarshalJSON` followed by the canonical form (zero id ≡ empty) -/
theorem readLeaf_id_eq (S : Schema) (ffmt : Nat → List Nat) (fparse : List Nat → Option Nat) (n : Nat) (t : List Nat) :
    readLeaf S (mkTxtF ffmt fparse) (.id n) (.str t)
      = (idUnmarshalJSON n t).map (fun q => .bytes (if allZero q then [] else q)) := by
  simp only [readLeaf, idUnmarshalJSON, mkTxtF]
  by_cases he : (stripQuotes t).isEmpty = true
  · simp [he, allZero_replicate_true]
  · simp only [he, Bool.false_eq_true, if_false]
    by_cases hl : (stripQuotes t).length = 2 * n
    · have : ¬ (n ≠ (stripQuotes t).length / 2) := by omega
      simp [hl]
    · by_cases hh : n = (stripQuotes t).length / 2
      · have hodd : (stripQuotes t).length % 2 = 1 := by omega
        simp [hh, hexDec_odd _ hodd]
      · simp [hl, hh]

theorem idJSON_roundtrip (n : Nat) (p : List Nat) (hl : p.length = n) (hb : bytesOk p = true) :
    idUnmarshalJSON n (idMarshalJSON p) = some p := by
  unfold idMarshalJSON idUnmarshalJSON
  by_cases hz : allZero p = true
  · simp only [hz, if_true]
    have : stripQuotes ([] : List Nat) = [] := rfl
    simp only [this, List.isEmpty_nil, if_true]
    rw [← hl]; exact congrArg some (allZero_replicate p hz).symm
  · simp only [hz, Bool.false_eq_true, if_false, hexEnc_noquote]
    have hne : p ≠ [] := by intro h; subst h; exact hz rfl
    have h1 : (hexEnc p).isEmpty = false := by
      cases p with
      | nil => exact absurd rfl hne
      | cons x xs => simp [hexEnc]
    simp only [h1, Bool.false_eq_true, if_false, hexEnc_length]
    have : ¬ (n ≠ 2 * p.length / 2) := by omega
    simp only [this, if_false]
    exact hexDec_hexEnc p hb

end OtelVerif.C08

import OtelVerif.Lemmas.C07Nest
/-! nested model, programs of whole-value operations on the named roots (`WfRootOp`): refinement to a pure specification (`pstep`, defined
here) on what the readers show of each root -/
namespace OtelVerif.C07.N

/-- programs whose operations address whole root values (their contents are arbitrarily nested) -/
def WfRootOp (s : St) : Op → Prop
  | .setRoot _ _ => True
  | .copyVal rs (.root a) rd (.root b) => rs = a ∧ rd = b ∧ a ≠ b
  | .moveRoot a b => a ≠ b
  | .bytesAppend r b _ => s.root r = .bytes b
  | .markRO _ => True
  | _ => False

structure PSt where
  val : Nat → List Tok
  ro : Nat → Bool

/-- specification of the root-level operations (`WfRootOp`) only: the catch-all clauses are never reached under it -/
def pstep (p : PSt) : Op → PSt × Bool
  | .setRoot r x => if p.ro r then (p, true) else ({ p with val := upd p.val r (absNew x) }, false)
  | .copyVal _ (.root a) rd (.root b) => if p.ro rd then (p, true) else ({ p with val := upd p.val b (p.val a) }, false)
  | .moveRoot a b => if p.ro a || p.ro b then (p, true) else ({ p with val := upd (upd p.val b (p.val a)) a [.nil] }, false)
  | .bytesAppend r _ x =>
    if p.ro r then (p, true) else
    match p.val r with
    | [.bytes bs] => ({ p with val := upd p.val r [.bytes (bs ++ [x])] }, false)
    | _ => (p, false)
  | .markRO r => ({ p with ro := upd p.ro r true }, false)
  | _ => (p, false)

def prun (p : PSt) : List Op → PSt
  | [] => p
  | op :: ops => prun (pstep p op).1 ops

def abs (s : St) : PSt := { val := absRoot s, ro := s.ro }

theorem abs_of_roots {s s' : St} (b : Nat) (v : List Tok) (hro : s'.ro = s.ro) (hb : absRoot s' b = v)
    (hc : ∀ c, c ≠ b → absRoot s' c = absRoot s c) : abs s' = { abs s with val := upd (abs s).val b v } := by
  unfold abs
  rw [hro]
  exact congrArg (PSt.mk · s.ro) (eq_upd hb hc)

theorem setRoot_spec {s : St} (hi : Inv s) (r : Nat) (x : NewV) :
    Inv { s with h := (mkNew s.h x).1, root := upd s.root r (mkNew s.h x).2, dep := bump s.dep } ∧
    abs { s with h := (mkNew s.h x).1, root := upd s.root r (mkNew s.h x).2, dep := bump s.dep } =
      { abs s with val := upd (abs s).val r (absNew x) } := by
  obtain ⟨d, hd⟩ := hi.dep_succ
  have m3 := (mkNew_spec s.h x d).2
  have rp := mkNew_repl s.h x d (s.root r)
  rw [← hd] at m3 rp
  obtain ⟨u1, u2, u3⟩ := root_update hi r s.ro (Nat.le_refl _) (le_bump _) rp
  exact ⟨u1, abs_of_roots r _ rfl (u2.trans m3) u3⟩

theorem copyRoot_spec {s : St} (hi : Inv s) (a b : Nat) (hab : a ≠ b) :
    Inv { writeLoc s (copyVal s.dep s.h (s.root a) (s.root b)).1 (.root b) (copyVal s.dep s.h (s.root a) (s.root b)).2 with dep := bump s.dep } ∧
    abs { writeLoc s (copyVal s.dep s.h (s.root a) (s.root b)).1 (.root b) (copyVal s.dep s.h (s.root a) (s.root b)).2 with dep := bump s.dep } =
      { abs s with val := upd (abs s).val b ((abs s).val a) } := by
  have post := copyVal_spec s.dep s.h _ _ ⟨hi.fit a, hi.lt a, hi.lt b, hi.nodup b, hi.disj a b hab⟩
  obtain ⟨u1, u2, u3⟩ := root_update hi b s.ro (Nat.le_refl _) (le_bump _) post.repl
  exact ⟨u1, abs_of_roots b _ rfl (u2.trans post.abs_eq) u3⟩

theorem moveRoot_spec {s : St} (hi : Inv s) (a b : Nat) (hab : a ≠ b) :
    Inv { s with root := upd (upd s.root b (s.root a)) a .nil, dep := bump s.dep } ∧
    abs { s with root := upd (upd s.root b (s.root a)) a .nil, dep := bump s.dep } =
      { abs s with val := upd (upd (abs s).val b ((abs s).val a)) a [.nil] } := by
  have f := hi.forest.move hab
  refine ⟨f.inv _ (le_bump _) (Nat.succ_pos _) s.ro, ?_⟩
  show PSt.mk (fun c => absV (bump s.dep) s.h (upd (upd s.root b (s.root a)) a .nil c)) s.ro = _
  refine congrArg (PSt.mk · s.ro) ?_
  show _ = upd (upd (fun k => absV s.dep s.h (s.root k)) b (absV s.dep s.h (s.root a))) a [.nil]
  rw [← absV_nil s.dep s.h, ← upd_comp₂ (absV s.dep s.h) s.root b a (s.root a) .nil]
  exact funext (fun c => abs_fits_mono (le_bump _) s.h _ (f.fit c))

theorem bytesRoot_spec {s : St} (hi : Inv s) (r b x : Nat) (hrb : s.root r = .bytes b) :
    Inv { s with h := { s.h with wb := upd s.h.wb b (s.h.wb b ++ [x]) }, dep := bump s.dep } ∧
    abs { s with h := { s.h with wb := upd s.h.wb b (s.h.wb b ++ [x]) }, dep := bump s.dep } =
      { abs s with val := upd (abs s).val r [.bytes (s.h.wb b ++ [x])] } := by
  obtain ⟨u1, u2, u3⟩ := root_update hi r s.ro (Nat.le_refl _) (le_bump _)
    (Repl.bytes_edit (s.h.wb b ++ [x]) (by rw [hrb, reachV_bytes]; exact List.mem_singleton_self b) (hi.fit r) (hi.nodup r) (hi.lt r))
  rw [upd_self] at u1 u2 u3
  refine ⟨u1, abs_of_roots r _ rfl (u2.trans ?_) u3⟩
  rw [hrb, absV_bytes]
  exact congrArg (fun l => [Tok.bytes l]) (upd_same _ _ _)

theorem step_root_spec {s : St} (hi : Inv s) (op : Op) (hw : WfRootOp s op) :
    Inv (step s op).1 ∧ abs (step s op).1 = (pstep (abs s) op).1 ∧ (step s op).2 = (pstep (abs s) op).2 := by
  cases op with
  | setRoot r x => exact guarded (s.ro r) _ _ hi (fun _ => setRoot_spec hi r x)
  | moveRoot a b => exact guarded (s.ro a || s.ro b) _ _ hi (fun _ => moveRoot_spec hi a b hw)
  | markRO r => exact ⟨hi.forest.inv s.dep (Nat.le_refl _) hi.pos _, rfl, rfl⟩
  | copyVal rs src rd dst =>
    cases src with
    | slot o i => exact hw.elim
    | root a =>
      cases dst with
      | slot o i => exact hw.elim
      | root b =>
        obtain ⟨rfl, rfl, hab⟩ := hw
        exact guarded (s.ro rd) _ _ hi (fun _ => copyRoot_spec hi rs rd hab)
  | bytesAppend r b x =>
    have hrb : s.root r = .bytes b := hw
    have hval : (abs s).val r = [.bytes (s.h.wb b)] := by
      show absV s.dep s.h (s.root r) = _; rw [hrb, absV_bytes]
    simp only [step, pstep, hval]
    exact guarded (s.ro r) _ _ hi (fun _ => bytesRoot_spec hi r b x hrb)
  | _ => exact hw.elim

end OtelVerif.C07.N

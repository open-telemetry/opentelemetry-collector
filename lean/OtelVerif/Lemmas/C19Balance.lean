import OtelVerif.Lemmas.C19Exp
/-! # C19, exporter clause: what `Props/C19Balance.lean` needs beside the C19 theorems: a bound on filtered sums (`sum_filter_le`), `step_cfg`,
and for its examples the schedule `demoNoRetry` and the runner `xrunFrom` of the exporter with its `obsQueue` front -/
namespace OtelVerif.C19
open OtelVerif.C03

theorem sum_filter_le {α : Type} (g : α → Nat) (p q : α → Bool) :
    ∀ (l : List α), (∀ a ∈ l, p a = true → q a = true) → ((l.filter p).map g).sum ≤ ((l.filter q).map g).sum
  | [], _ => by simp
  | a :: l, h => by
    have ih := sum_filter_le g p q l (fun b hb => h b (List.mem_cons_of_mem _ hb))
    have ha := h a List.mem_cons_self
    cases hp : p a
    · cases hq : q a <;> simp only [List.filter_cons, hp, hq, if_true, if_false, Bool.false_eq_true, List.map_cons, List.sum_cons] <;> omega
    · have hq := ha hp
      simp only [List.filter_cons, hp, hq, if_true, List.map_cons, List.sum_cons]; omega

theorem step_cfg {s s' : State} {l : Label} (hs : Step s l s') : s'.cfg = s.cfg := cfg_step hs

/-- persistent queue, retry disabled, disabled batcher: `[1]` fails permanently, `[2,3]` is never dispatched and stays stored -/
def demoNoRetry : List Label :=
  [.offer [1], .offer [2, 3], .read 0, .sendSync 0, .expStart 0, .expEnd 0 .perm .drop, .shutRetry, .shutQueue, .exit 0, .join,
   .shutBatcher, .shutWait]

def xrunFrom (x : XState) : List XLabel → Option XState
  | [] => some x
  | l :: ls => match xfire x l with
    | some x' => xrunFrom x' ls
    | none => none

theorem xreachable_of_xrunFrom {x x' : XState} (ls : List XLabel) (h : XReachable x) (hr : xrunFrom x ls = some x') : XReachable x' :=
  run_induction (ok := fun _ => True) (fun _ => rfl) (fun x l ls => by simp only [xrunFrom]; cases xfire x l <;> rfl)
    (fun _ l _ h _ hf => .step l h hf) ls x x' h (fun _ _ => trivial) hr

end OtelVerif.C19

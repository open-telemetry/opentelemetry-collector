import OtelVerif.Lemmas.C12Merge
import OtelVerif.Model.C12Append
/-!
# C12 helper lemmas: `mergeAppend` as a `KeyWise` instance; the `mergeSlice` vocabulary; `Resolve` as a function of the gate

`resolveGate_lookup` and `resolveGate_error_from_merged_leaf` hold for both values of the gate; `Props/C12.lean` reads them at
`false` (`resolve`) and `true` (`resolveAppend`) through `resolveGate_false/_true`.  `resolve_eq` of `Lemmas/C12Merge.lean`
is `resolveGate_eq` at `false`.
-/
namespace OtelVerif.C12

/-! ## `mergeAppend` key by key -/

/-- key-wise meaning of the gate-on merge: `a` is the later source, `b` the accumulated map -/
def appendAt (av bv : Option Val) : Option Val :=
  match av, bv with
  | none, r => r
  | some (.list s), some (.list d) => some (.list (Vals.ofList (mergeSlice s.toList d.toList)))
  | some (.map am), some (.map bm) => some (.map (mergeAppendKVs am bm))
  | some v, _ => some v

theorem keyWise_mergeAppend : KeyWise mergeAppendKVs appendAt where
  none_left _ := rfl
  nil b := by rw [mergeAppendKVs]
  cons k v r b := by
    rw [mergeAppendKVs]
    -- as for `keyWise_merge`; list over list stores a list: the second alternative
    cases b.lookup k with
    | none => cases v <;> exact ⟨_, rfl, rfl, .inl rfl⟩
    | some bv =>
      cases v <;> first | exact ⟨_, rfl, rfl, .inl rfl⟩ |
        (cases bv <;> first | exact ⟨_, rfl, rfl, .inl rfl⟩ | exact ⟨_, rfl, rfl, .inr (.inr ⟨_, _, rfl, rfl, rfl⟩)⟩ |
          exact ⟨_, rfl, rfl, .inr (.inl (by intro _ e; cases e))⟩)

theorem appendAt_of_not_map_not_list {v : Val} (hm : ∀ m, v ≠ .map m) (hl : ∀ l, v ≠ .list l) (r : Option Val) :
    appendAt (some v) r = some v := by
  cases v <;> first | rfl | exact absurd rfl (hm _) | exact absurd rfl (hl _)

/-! ## `mergeSlice` -/

/-- the appended elements are new: none is present in what precedes it (the old elements and the ones appended before) -/
def distinctFrom : List Val → List Val → Prop
  | _, [] => True
  | acc, x :: t => isPresent acc x = false ∧ distinctFrom (acc ++ [x]) t

theorem distinctFrom_nil (acc : List Val) : distinctFrom acc [] := trivial

theorem distinctFrom_cons {acc t : List Val} {x : Val} :
    distinctFrom acc (x :: t) ↔ isPresent acc x = false ∧ distinctFrom (acc ++ [x]) t := Iff.rfl

theorem isPresent_append_left (acc t : List Val) (v : Val) (h : isPresent acc v = true) : isPresent (acc ++ t) v = true := by
  unfold isPresent at *
  rw [List.any_append, h]; rfl

/-! ## `Resolve` as a function of the gate -/

theorem mergeSourcesGate_false (ms : List KVs) : mergeSourcesGate false ms = mergeSources ms := rfl
theorem mergeSourcesGate_true (ms : List KVs) : mergeSourcesGate true ms = mergeSourcesAppend ms := rfl
theorem resolveGate_false (env : Env) (srcs : List Val) : resolveGate false env srcs = resolve env srcs := rfl
theorem resolveGate_true (env : Env) (srcs : List Val) : resolveGate true env srcs = resolveAppend env srcs := rfl

theorem mergeSourcesGate_eq (gate : Bool) (ms : List KVs) : mergeSourcesGate gate ms =
    ms.foldl (fun acc s => if gate then mergeAppendKVs s acc else mergeKVs s acc) .nil := by
  cases gate <;> rfl

theorem mergeSourcesGate_snoc (gate : Bool) (srcs : List KVs) (s : KVs) : mergeSourcesGate gate (srcs ++ [s]) =
    if gate then mergeAppendKVs s (mergeSourcesGate gate srcs) else mergeKVs s (mergeSourcesGate gate srcs) := by
  rw [mergeSourcesGate_eq, mergeSourcesGate_eq, List.foldl_append]; rfl

theorem resolveGate_eq (gate : Bool) (env : Env) (srcs : List Val) : resolveGate gate env srcs =
    match srcs.mapM asConf with
    | none => .error [.notMap]
    | some ms => resolveMerged env (mergeSourcesGate gate ms) := by
  cases gate <;> rfl

theorem HNK_mergeSourcesGate (gate : Bool) (ms : List KVs) (h : ∀ s ∈ ms, HNK s) : HNK (mergeSourcesGate gate ms) := by
  rw [mergeSourcesGate_eq]
  exact List.foldlRecOn ms _ (motive := HNK) trivial (fun b hb a ha => by
    cases gate
    · exact keyWise_merge.hnk a b (h a ha) hb
    · exact keyWise_mergeAppend.hnk a b (h a ha) hb)

theorem resolveGate_lookup (gate : Bool) (env : Env) (srcs : List Val) (ms : List KVs) (m : KVs)
    (h : resolveGate gate env srcs = .ok m) (hm : srcs.mapM asConf = some ms) (hs : ∀ s ∈ ms, HNK s) :
    ∀ a ∈ flatten [] (mergeSourcesGate gate ms), ∃ v', resolveValue env a.2 = .ok v' ∧ lookupPath a.1 m = some v' := by
  rw [resolveGate_eq, hm] at h
  exact resolveMerged_lookup (HNK_mergeSourcesGate gate ms hs) h

theorem resolveGate_error_from_merged_leaf (gate : Bool) (env : Env) (srcs : List Val) (e : Errs)
    (h : resolveGate gate env srcs = .error e) :
    srcs.mapM asConf = none ∨
    ∃ ms, srcs.mapM asConf = some ms ∧ ∃ l ∈ flatten [] (mergeSourcesGate gate ms), resolveValue env l.2 = .error e := by
  cases hm : srcs.mapM asConf with
  | none => exact .inl rfl
  | some ms =>
    rw [resolveGate_eq, hm] at h
    exact .inr ⟨ms, rfl, resolveMerged_error h⟩

end OtelVerif.C12

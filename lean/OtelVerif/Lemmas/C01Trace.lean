import OtelVerif.Model.C01Trace
/-! C01 — soundness of the executable trace checker w.r.t. the declarative trace-level statement -/
namespace OtelVerif.C01

/-- clause 2 on a trace: whenever the store is dumped, every request accepted so far was finalised or is still
    stored-and-reachable -/
def StoredOK (t : List Ev) : Prop :=
  ∀ pre ids post, t = pre ++ Ev.dump ids :: post → ∀ id, Ev.accept id ∈ pre → Ev.final id ∈ pre ∨ id ∈ ids

/-- clause 1 on a (drained) trace: every accepted request was handed over -/
def HandedOK (t : List Ev) : Prop := ∀ id, Ev.accept id ∈ t → Ev.hand id ∈ t

theorem step_lost_mono (s : TState) (e : Ev) (h : s.lost ≠ none) : (s.step e).lost ≠ none := by
  cases e with
  | accept id => exact h
  | hand id => exact h
  | final id => exact h
  | dump ids =>
    simp only [TState.step]
    split
    · next hl _ => exact absurd hl h
    · exact h

theorem foldl_lost_mono (t : List Ev) : ∀ s : TState, s.lost ≠ none → (t.foldl TState.step s).lost ≠ none := by
  induction t with
  | nil => exact fun _ h => h
  | cons e t ih => exact fun s h => ih _ (step_lost_mono s e h)

theorem mem_foldl_of_step {π : TState → List Nat} {ev : Nat → Ev}
    (hstep : ∀ (s : TState) (e : Ev) (id : Nat), id ∈ π (s.step e) ↔ id ∈ π s ∨ ev id = e) :
    ∀ (t : List Ev) (s : TState) (id : Nat), id ∈ π (t.foldl TState.step s) ↔ id ∈ π s ∨ ev id ∈ t := by
  intro t
  induction t with
  | nil => intro s id; simp
  | cons e t ih => intro s id; rw [List.foldl_cons, ih, hstep, List.mem_cons, or_assoc]

theorem step_dump (s : TState) (ids : List Nat) :
    (s.step (.dump ids)).accepted = s.accepted ∧ (s.step (.dump ids)).finalised = s.finalised ∧
    (s.step (.dump ids)).handed = s.handed := by
  simp only [TState.step]
  split <;> exact ⟨rfl, rfl, rfl⟩

theorem mem_accepted_foldl : ∀ (t : List Ev) (s : TState) (id : Nat),
    id ∈ (t.foldl TState.step s).accepted ↔ id ∈ s.accepted ∨ Ev.accept id ∈ t :=
  mem_foldl_of_step (π := TState.accepted) fun s e id => by
    cases e with
    | accept j => simp only [TState.step, List.mem_cons, Ev.accept.injEq, or_comm]
    | dump ids => rw [(step_dump s ids).1]; simp
    | _ => simp [TState.step]

theorem mem_finalised_foldl : ∀ (t : List Ev) (s : TState) (id : Nat),
    id ∈ (t.foldl TState.step s).finalised ↔ id ∈ s.finalised ∨ Ev.final id ∈ t :=
  mem_foldl_of_step (π := TState.finalised) fun s e id => by
    cases e with
    | final j => simp only [TState.step, List.mem_cons, Ev.final.injEq, or_comm]
    | dump ids => rw [(step_dump s ids).2.1]; simp
    | _ => simp [TState.step]

theorem mem_handed_foldl : ∀ (t : List Ev) (s : TState) (id : Nat),
    id ∈ (t.foldl TState.step s).handed ↔ id ∈ s.handed ∨ Ev.hand id ∈ t :=
  mem_foldl_of_step (π := TState.handed) fun s e id => by
    cases e with
    | hand j => simp only [TState.step, List.mem_cons, Ev.hand.injEq, or_comm]
    | dump ids => rw [(step_dump s ids).2.2]; simp
    | _ => simp [TState.step]

theorem checkStored_sound (t : List Ev) (h : checkStored t = true) : StoredOK t := by
  intro pre ids post ht id hacc
  unfold checkStored traceState at h
  rw [ht, List.foldl_append, List.foldl_cons] at h
  generalize hs1 : pre.foldl TState.step {} = s1 at h
  -- the dump step must have kept `lost = none`
  have hd : (s1.step (.dump ids)).lost = none := by
    cases hl : (s1.step (.dump ids)).lost with
    | none => rfl
    | some v =>
      exfalso
      have := foldl_lost_mono post (s1.step (.dump ids)) (by rw [hl]; simp)
      rw [Option.isNone_iff_eq_none] at h
      exact this h
  have hacc1 : id ∈ s1.accepted := by
    rw [← hs1, mem_accepted_foldl]; right; exact hacc
  simp only [TState.step] at hd
  split at hd
  · cases hd
  · next hnot =>
    cases hl : s1.lost with
    | some v =>
      rw [hl] at hd; cases hd
    | none =>
      cases hf : s1.accepted.find? (fun id => !(s1.finalised.contains id) && !(ids.contains id)) with
      | some v => exact absurd hf (hnot v hl)
      | none =>
        have := List.find?_eq_none.mp hf id hacc1
        simp only [Bool.and_eq_true, Bool.not_eq_true', not_and, Bool.not_eq_false] at this
        by_cases hfin : s1.finalised.contains id = true
        · left
          have : id ∈ s1.finalised := by simpa using hfin
          rw [← hs1, mem_finalised_foldl] at this
          rcases this with h0 | h0
          · simp at h0
          · exact h0
        · right
          have := this (by simpa using hfin)
          simpa using this

theorem checkHanded_sound (t : List Ev) (h : checkHanded t = true) : HandedOK t := by
  intro id hacc
  unfold checkHanded traceState at h
  simp only [List.all_eq_true] at h
  have h1 : id ∈ (t.foldl TState.step {}).accepted := by
    rw [mem_accepted_foldl]; right; exact hacc
  have h2 := h id h1
  have h3 : id ∈ (t.foldl TState.step {}).handed := by simpa using h2
  rw [mem_handed_foldl] at h3
  rcases h3 with h0 | h0
  · simp at h0
  · exact h0

end OtelVerif.C01

import OtelVerif.Model.C01Glue
import OtelVerif.Lemmas.C01
/-!
# C01 — lemmas for the glue machine (`Model/C01Glue.lean`)

1. the indexes of the pending hand-offs of the QUEUE machine are pairwise different (`OutInv`), by the kind of firing (`Step`);
2. the glue invariant `GInv`: what the consumer goroutines hold is exactly backed by `outst` (`HeldOK` and its `set_*`), and how it
   survives the building blocks of `fireG` (`settle`, `own`, `ret`, `qfire_env`).
-/
namespace OtelVerif.C01

/-! `Read` hands out index `readIndex` and increments it: a pending hand-off has an index below `readIndex`, and the index about
to be returned (`pc = readRet i r`) is above every pending one. -/

def OutOK (m : Mem) (pc : Pc) : Prop :=
  (m.outst.map Prod.fst).Nodup ∧ (∀ p ∈ m.outst, p.1 < m.ri) ∧
  (match pc with
   | .readRet i _ => i < m.ri ∧ ∀ p ∈ m.outst, p.1 < i
   | _ => True)

def OutInv (c : Cfg) : Prop :=
  match c.ph with
  | .dead => True
  | .live m pc => OutOK m pc

theorem OutOK.nodup {m : Mem} {pc : Pc} (h : OutOK m pc) : (m.outst.map Prod.fst).Nodup := h.1
theorem OutOK.below {m : Mem} {pc : Pc} (h : OutOK m pc) : ∀ p ∈ m.outst, p.1 < m.ri := h.2.1
theorem OutOK.next {m : Mem} {i : Nat} {r : Req} (h : OutOK m (.readRet i r)) : i < m.ri ∧ ∀ p ∈ m.outst, p.1 < i := h.2.2

theorem OutInv.mk {c : Cfg} {m : Mem} {pc : Pc} (hph : c.ph = .live m pc) (h : OutOK m pc) : OutInv c := by
  unfold OutInv; rw [hph]; exact h

theorem OutInv.ok {c : Cfg} {m : Mem} {pc : Pc} (h : OutInv c) (hph : c.ph = .live m pc) : OutOK m pc := by
  unfold OutInv at h; rw [hph] at h; exact h

theorem Keeps.outInv {l : Label} {m : Mem} {pc : Pc} {c c' : Cfg} (k : Keeps l m c c') (h : OutOK m pc) : OutInv c' := by
  obtain ⟨m', pc', hph, ho, hr, hpc⟩ := k.ph
  refine OutInv.mk hph ⟨by rw [ho]; exact h.nodup, ?_, ?_⟩
  · intro p hp; rw [ho] at hp; exact Nat.lt_of_lt_of_le (h.below p hp) hr
  · cases pc' with
    | readRet i r =>
      obtain ⟨h1, h2⟩ := hpc i r rfl
      exact ⟨h2, fun p hp => by rw [ho] at hp; exact Nat.lt_of_lt_of_le (h.below p hp) h1⟩
    | _ => trivial

theorem OutOK.ret {m : Mem} {i : Nat} {r : Req} (h : OutOK m (.readRet i r)) :
    OutOK { m with outst := (i, r) :: m.outst } .idle := by
  have hn := h.nodup; have hb := h.below; obtain ⟨hi, hlt⟩ := h.next
  refine ⟨List.nodup_cons.mpr ⟨?_, hn⟩, ?_, trivial⟩
  · intro hmem
    obtain ⟨p, hp, hpe⟩ := List.mem_map.mp hmem
    exact absurd (hpe ▸ hlt p hp) (Nat.lt_irrefl _)
  · intro p hp
    rcases List.mem_cons.mp hp with rfl | hp
    · exact hi
    · exact hb p hp

theorem outInv_doDone {c : Cfg} {m : Mem} (h : OutOK m .idle) (i : Nat) (oc : Outcome) (hph : c.ph = .live m .idle) :
    OutInv (doDone c m i oc) := by
  have hsub : ∀ p ∈ m.outst.filter (fun p => p.1 != i), p ∈ m.outst := fun p hp => (List.mem_filter.mp hp).1
  have hnd : ((m.outst.filter (fun p => p.1 != i)).map Prod.fst).Nodup :=
    List.Sublist.nodup (List.Sublist.map _ List.filter_sublist) h.nodup
  unfold doDone
  split
  · exact OutInv.mk hph h
  · cases oc
    · refine OutInv.mk rfl ⟨hnd, fun p hp => h.below p (hsub p hp), ?_⟩
      cases readBackupDue c.k m.ri <;> exact trivial
    · exact OutInv.mk rfl ⟨hnd, fun p hp => h.below p (hsub p hp), trivial⟩

theorem outInv_fire {c : Cfg} (h : OutInv c) (l : Label) : OutInv (fire c l) := by
  have s := fire_step c l
  generalize fire c l = c' at s
  cases s with
  | skip => exact h
  | keeps hph k => exact k.outInv (h.ok hph)
  | ret hph => exact OutInv.mk rfl (h.ok hph).ret
  | done i oc hph => exact outInv_doDone (h.ok hph) i oc hph
  | crash => trivial
  | start => exact OutInv.mk rfl ⟨List.nodup_nil, nofun, trivial⟩

theorem outInv_run (k : Conf) (ls : List Label) : OutInv (run k ls) :=
  List.foldlRecOn (motive := OutInv) ls fire trivial fun _ h l _ => outInv_fire h l

theorem done_pending {c : Cfg} {m : Mem} {i : Nat} {r : Req} (oc : Outcome) (h : c.ph = .live m .idle)
    (hl : m.outst.lookup i = some r) :
    (fire c (.done i oc)).res = .doneOk ∧
    (fire c (.done i oc)).finalised = (match oc with | .final => r :: c.finalised | .shutdownErr => c.finalised) ∧
    outstOf (fire c (.done i oc)) = m.outst.filter (fun p => p.1 != i) := by
  rw [fire_done_idle h]
  unfold doDone
  rw [hl]
  cases oc <;> exact ⟨rfl, rfl, rfl⟩

/-- what the consumer goroutines hold is backed by the pending hand-offs of the queue, and no two goroutines hold the
    same index -/
structure HeldOK (cs : List CPc) (out : List (Nat × Req)) : Prop where
  mem : ∀ (j : Nat) (p : CPc) (h : Nat × Req), cs[j]? = some p → p.held = some h → h ∈ out
  inj : ∀ (j1 j2 : Nat) (p1 p2 : CPc) (h1 h2 : Nat × Req), cs[j1]? = some p1 → cs[j2]? = some p2 →
    p1.held = some h1 → p2.held = some h2 → h1.1 = h2.1 → j1 = j2

theorem lookup_of_mem_nodup {α β : Type} [BEq α] [LawfulBEq α] {l : List (α × β)} {k : α} {v : β}
    (hn : (l.map Prod.fst).Nodup) (h : (k, v) ∈ l) : l.lookup k = some v := by
  cases hl : l.lookup k with
  | none => simpa using List.lookup_eq_none_iff.mp hl (k, v) h
  | some w => exact congrArg some (congrArg Prod.snd (eq_of_nodup_map hn (mem_of_lookup hl) h rfl))

theorem of_replicate_idle {Q : CPc → Prop} (hQ : Q .idle) {n j : Nat} {p : CPc}
    (h : (List.replicate n CPc.idle)[j]? = some p) : Q p := by
  rw [List.getElem?_replicate] at h
  split at h
  · exact Option.some.inj h ▸ hQ
  · cases h

theorem HeldOK.replicate (n : Nat) (out : List (Nat × Req)) : HeldOK (List.replicate n CPc.idle) out :=
  ⟨fun _ _ _ hj => of_replicate_idle (Q := fun p => p.held = some _ → _) nofun hj,
   fun _ _ _ _ _ _ hj _ => of_replicate_idle (Q := fun p => p.held = some _ → _) nofun hj⟩

theorem HeldOK.nil (out : List (Nat × Req)) : HeldOK [] out := HeldOK.replicate 0 out

theorem HeldOK.set {cs : List CPc} {out out' : List (Nat × Req)} (h : HeldOK cs out) (j : Nat) {p' : CPc}
    (hout : ∀ j' p x, j' ≠ j → cs[j']? = some p → p.held = some x → x ∈ out')
    (hnew : ∀ y, p'.held = some y →
      y ∈ out' ∧ ∀ j' p x, j' ≠ j → cs[j']? = some p → p.held = some x → x.1 ≠ y.1) :
    HeldOK (cs.set j p') out' := by
  constructor
  · intro j' p x hj hx
    rcases getElem?_set_cases hj with ⟨_, rfl⟩ | ⟨n, hj⟩
    · exact (hnew x hx).1
    · exact hout j' p x n hj hx
  · intro j1 j2 p1 p2 h1 h2 hj1 hj2 hh1 hh2 he
    rcases getElem?_set_cases hj1 with ⟨e1, rfl⟩ | ⟨n1, hk1⟩
    · rcases getElem?_set_cases hj2 with ⟨e2, rfl⟩ | ⟨n2, hk2⟩
      · rw [e1, e2]
      · exact absurd he.symm ((hnew h1 hh1).2 j2 p2 h2 n2 hk2 hh2)
    · rcases getElem?_set_cases hj2 with ⟨e2, rfl⟩ | ⟨n2, hk2⟩
      · exact absurd he ((hnew h2 hh2).2 j1 p1 h1 n1 hk1 hh1)
      · exact h.inj j1 j2 p1 p2 h1 h2 hk1 hk2 hh1 hh2 he

theorem HeldOK.set_none {cs : List CPc} {out : List (Nat × Req)} (h : HeldOK cs out) (j : Nat) {p' : CPc}
    (hp : p'.held = none) : HeldOK (cs.set j p') out :=
  h.set j (fun j' p x _ hj hx => h.mem j' p x hj hx) (fun y hy => by rw [hp] at hy; cases hy)

theorem HeldOK.set_same {cs : List CPc} {out : List (Nat × Req)} (h : HeldOK cs out) {j : Nat} {p0 p' : CPc}
    (hj0 : cs[j]? = some p0) (hp : p'.held = p0.held) : HeldOK (cs.set j p') out :=
  h.set j (fun j' p x _ hj hx => h.mem j' p x hj hx) fun y hy =>
    ⟨h.mem j p0 y hj0 (hp ▸ hy), fun j' p x n hj hx e => n (h.inj j' j p p0 x y hj hj0 hx (hp ▸ hy) e)⟩

theorem HeldOK.mono {cs : List CPc} {out out' : List (Nat × Req)} (h : HeldOK cs out) (hs : ∀ x ∈ out, x ∈ out') :
    HeldOK cs out' :=
  ⟨fun j p hh hj hheld => hs _ (h.mem j p hh hj hheld), h.inj⟩

theorem HeldOK.set_new {cs : List CPc} {out : List (Nat × Req)} (h : HeldOK cs out) (j : Nat) {p' : CPc} {i : Nat} {r : Req}
    (hnew : ∀ x ∈ out, x.1 ≠ i) (hp : p'.held = some (i, r)) : HeldOK (cs.set j p') ((i, r) :: out) :=
  h.set j (fun j' p x _ hj hx => List.mem_cons_of_mem _ (h.mem j' p x hj hx)) fun y hy => by
    rw [hp] at hy; cases hy
    exact ⟨List.mem_cons_self, fun j' p x _ hj hx => hnew x (h.mem j' p x hj hx)⟩

theorem HeldOK.set_done {cs : List CPc} {out : List (Nat × Req)} (h : HeldOK cs out) {j : Nat} {p0 p' : CPc} {i : Nat} {r : Req}
    (hj0 : cs[j]? = some p0) (hp0 : p0.held = some (i, r)) (hp : p'.held = none) :
    HeldOK (cs.set j p') (out.filter (fun p => p.1 != i)) :=
  h.set j (fun j' p x n hj hx => List.mem_filter.mpr
      ⟨h.mem j' p x hj hx, bne_iff_ne.mpr fun e => n (h.inj j' j p p0 x (i, r) hj hj0 hx hp0 e)⟩)
    (fun y hy => by rw [hp] at hy; cases hy)

/-- which histories back the goroutine states: a request being exported was `invoked`; one whose export came back
    (waiting in the back-off, or about to be reported to `OnDone`) is in `returned` -/
def CPc.backed (inv ret : List Req) : CPc → Prop
  | .sending _ r => r ∈ inv
  | .backoff _ r _ => r ∈ ret
  | .ret _ r _ => r ∈ ret
  | _ => True

/-- `Done` only hits a pending hand-off (`held`, `unk`), and finalised ⊆ returned ⊆ invoked (`fin`, `sub`, through `backed`) -/
structure GInv (g : GCfg) : Prop where
  out : OutInv g.q
  held : HeldOK g.cons (outstOf g.q)
  backed : ∀ (j : Nat) (p : CPc), g.cons[j]? = some p → p.backed g.invoked g.returned
  sub : ∀ r ∈ g.returned, r ∈ g.invoked
  fin : ∀ r ∈ g.q.finalised, r ∈ g.returned
  unk : g.q.res ≠ .doneUnknown

theorem settle_cases {P : GCfg → Prop} (g : GCfg) (same : P g)
    (out : ∀ j p, p = .idle ∨ p = .exited → P { g with inOp := none, cons := g.cons.set j p }) : P (settle g) := by
  unfold settle
  split
  · exact same
  · split
    · refine out _ _ ?_
      split
      · exact .inr rfl
      · exact .inl rfl
    · exact same

theorem settle_none {g : GCfg} (h : g.inOp = none) : settle g = g := by
  unfold settle; rw [h]

theorem settle_busy {g : GCfg} (h : g.q.idle = false) : settle g = g := by
  unfold settle; split
  · rfl
  · rw [h]; rfl

theorem settle_idle {g : GCfg} {j : Nat} {k : OpK} (ho : g.inOp = some (j, k)) (hi : g.q.idle = true) :
    settle g = { g with inOp := none, cons := g.cons.set j (match (generalizing := false) k, g.q.res with
                                                            | .read, .readStopped => .exited
                                                            | _, _ => .idle) } := by
  unfold settle
  split
  · next h => rw [ho] at h; cases h
  · next h => rw [ho] at h; cases h; rw [if_pos hi]; rfl

theorem settle_q (g : GCfg) : (settle g).q = g.q ∧ (settle g).emitted = g.emitted ∧ (settle g).invoked = g.invoked ∧
    (settle g).returned = g.returned ∧ (settle g).stopCh = g.stopCh ∧ (settle g).gk = g.gk :=
  settle_cases (P := fun g' => g'.q = g.q ∧ g'.emitted = g.emitted ∧ g'.invoked = g.invoked ∧
    g'.returned = g.returned ∧ g'.stopCh = g.stopCh ∧ g'.gk = g.gk) g ⟨rfl, rfl, rfl, rfl, rfl, rfl⟩
    fun _ _ _ => ⟨rfl, rfl, rfl, rfl, rfl, rfl⟩

theorem all_set {Q : CPc → Prop} {cs : List CPc} (h : ∀ (j : Nat) (p : CPc), cs[j]? = some p → Q p) (j : Nat) {p' : CPc}
    (hp : Q p') : ∀ (j' : Nat) (p : CPc), (cs.set j p')[j']? = some p → Q p := by
  intro j' p hj
  rcases getElem?_set_cases hj with ⟨_, rfl⟩ | ⟨_, hj⟩
  · exact hp
  · exact h j' p hj

theorem CPc.backed_mono {inv ret inv' ret' : List Req} (hi : ∀ r ∈ inv, r ∈ inv') (hr : ∀ r ∈ ret, r ∈ ret') {p : CPc}
    (h : p.backed inv ret) : p.backed inv' ret' := by
  cases p with
  | sending _ _ => exact hi _ h
  | backoff _ _ _ => exact hr _ h
  | ret _ _ _ => exact hr _ h
  | _ => trivial

theorem GInv.settle {g : GCfg} (h : GInv g) : GInv (settle g) :=
  settle_cases g h fun j p hp =>
    ⟨h.out, h.held.set_none j (by rcases hp with rfl | rfl <;> rfl),
     all_set h.backed j (by rcases hp with rfl | rfl <;> trivial), h.sub, h.fin, h.unk⟩

theorem GInv.own {g : GCfg} (h : GInv g) {j : Nat} {p0 p' : CPc} {inv' ret' : List Req} (hj : g.cons[j]? = some p0)
    (hp : p'.held = p0.held) (hi : ∀ x ∈ g.invoked, x ∈ inv') (hr : ∀ x ∈ g.returned, x ∈ ret')
    (hs : ∀ x ∈ ret', x ∈ inv') (hb : p'.backed inv' ret') :
    GInv { g with cons := g.cons.set j p', invoked := inv', returned := ret' } :=
  ⟨h.out, h.held.set_same hj hp, all_set (fun j' p hp => CPc.backed_mono hi hr (h.backed j' p hp)) j hb, hs,
   fun x hx => hr x (h.fin x hx), h.unk⟩

theorem GInv.ret {g : GCfg} {m : Mem} {i : Nat} {r : Req} (h : GInv g) (hph : g.q.ph = .live m (.readRet i r)) (j : Nat) :
    GInv { qfire g .tick with inOp := none, cons := g.cons.set j (.got i r) } := by
  have e : fire g.q .tick = doTick g.q m (.readRet i r) := fire_tick hph
  have hok := h.out.ok hph
  have hheld := h.held
  rw [outstOf_live hph] at hheld
  unfold qfire; rw [e]
  exact ⟨OutInv.mk rfl hok.ret, hheld.set_new j (fun x hx e => Nat.lt_irrefl _ (e ▸ hok.next.2 x hx)) rfl,
    all_set h.backed j trivial, h.sub, h.fin, nofun⟩

/-- the return of `Read` with nobody to take the item only adds a pending hand-off -/
theorem GInv.qfire_env {g : GCfg} (h : GInv g) (l : Label) (hl : ∀ i oc, l ≠ .done i oc) (hc : l ≠ .crash)
    (hs : l ≠ .start) : GInv (qfire g l) := by
  suffices hk : (∀ x ∈ outstOf g.q, x ∈ outstOf (fire g.q l)) ∧ (fire g.q l).finalised = g.q.finalised ∧
      ((fire g.q l).res = .doneUnknown → g.q.res = .doneUnknown) from
    ⟨outInv_fire h.out l, h.held.mono hk.1, h.backed, h.sub,
     by show ∀ r ∈ (fire g.q l).finalised, r ∈ g.returned; rw [hk.2.1]; exact h.fin, fun e => h.unk (hk.2.2 e)⟩
  have s := fire_step g.q l
  generalize fire g.q l = c' at s ⊢
  cases s with
  | skip => exact ⟨fun _ hx => hx, rfl, id⟩
  | keeps hph k => exact ⟨by rw [k.outst, outstOf_live hph]; exact fun _ hx => hx, k.fin, k.unk⟩
  | ret hph => exact ⟨by rw [outstOf_live hph]; exact fun _ hx => List.mem_cons_of_mem _ hx, rfl, nofun⟩
  | done i oc => exact absurd rfl (hl i oc)
  | crash => exact absurd rfl hc
  | start => exact absurd rfl hs

end OtelVerif.C01

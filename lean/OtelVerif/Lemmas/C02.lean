import OtelVerif.Lemmas.C02Rule
/-! Invariants of the queue LTSs (core Lean only).  Kept by every `Proto` step, hence by both queues: H (`InvH`: histories, FIFO,
phases), C (`InvC`: the cond inside the queue), `HandedPerm`, F (`InvF`: whoever is registered does not fit).  Kept by every `Rule` of
the memory queue `fire`: Z (`InvZ`: size accounting), `InvFs`, R (`InvR`/`InvQ`: wait_for_result routing).  `Inv` = H ∧ C ∧ Z ∧ W, where
W (`InvW`) follows from F; `Inv.all_reachable` is the one induction.  Before them: field lemmas of the cond transformers, schedules (`Machine`).
Last: `InvA`, cond.go alone (`cfire`; "A" here is not the consumer pool of `Model/C02A.lean`).
In file order: H · C · `HandedPerm` · Z · F · W, `Inv` · R · `InvA`. -/
namespace OtelVerif.C02

/-! ### what the cond transformers leave alone: only `waiters` and the `sig` bits change -/

theorem condSignal_closes (s : St) (q : Nat) : (condSignal s).ps q = s.ps q ∨ (condSignal s).ps q = { s.ps q with sig := true } := by
  unfold condSignal
  cases s.waiters with
  | nil => exact .inl rfl
  | cons w ws =>
    by_cases hq : q = w
    · subst hq; exact .inr (upd_same ..)
    · exact .inl (upd_other _ _ _ _ hq)

theorem condSignal_ph (s : St) (q : Nat) : ((condSignal s).ps q).ph = (s.ps q).ph := by
  rcases condSignal_closes s q with e | e <;> rw [e]

theorem condSignal_el (s : St) (q : Nat) : ((condSignal s).ps q).el = (s.ps q).el := by
  rcases condSignal_closes s q with e | e <;> rw [e]

theorem condSignal_canc (s : St) (q : Nat) : ((condSignal s).ps q).canc = (s.ps q).canc := by
  rcases condSignal_closes s q with e | e <;> rw [e]

theorem condSignal_frame (s : St) : ∃ w f, condSignal s = { s with waiters := w, ps := f } := by
  unfold condSignal
  cases s.waiters with
  | nil => exact ⟨_, _, rfl⟩
  | cons w ws => exact ⟨_, _, rfl⟩

theorem condSignal_waiters_sub (s : St) : ∀ p ∈ (condSignal s).waiters, p ∈ s.waiters := by
  unfold condSignal
  cases hw : s.waiters with
  | nil => exact fun p hp => hw ▸ hp
  | cons w ws => exact fun p hp => List.mem_cons_of_mem _ hp

theorem condBroadcast_ph (s : St) (q : Nat) : ((condBroadcast s).ps q).ph = (s.ps q).ph := by
  unfold condBroadcast; simp only []; split <;> rfl

theorem condBroadcast_el (s : St) (q : Nat) : ((condBroadcast s).ps q).el = (s.ps q).el := by
  unfold condBroadcast; simp only []; split <;> rfl

theorem condBroadcast_canc (s : St) (q : Nat) : ((condBroadcast s).ps q).canc = (s.ps q).canc := by
  unfold condBroadcast; simp only []; split <;> rfl

theorem condBroadcast_frame (s : St) : ∃ f, condBroadcast s = { s with waiters := [], ps := f } := ⟨_, rfl⟩

theorem condSignal_cons (s : St) : (condSignal s).items = s.items ∧ (condSignal s).cwait = s.cwait ∧
    (condSignal s).cwoken = s.cwoken ∧ (condSignal s).stopped = s.stopped := by
  obtain ⟨w, f, e⟩ := condSignal_frame s
  rw [e]
  exact ⟨rfl, rfl, rfl, rfl⟩

theorem condBroadcast_closes (s : St) (q : Nat) :
    (condBroadcast s).ps q = s.ps q ∨ (condBroadcast s).ps q = { s.ps q with sig := true } := by
  by_cases hq : q ∈ s.waiters
  · exact .inr (if_pos hq)
  · exact .inl (if_neg hq)

theorem ctxCleanup_frame (s : St) (p : Nat) : ∃ w f, ctxCleanup s p = { s with waiters := w, ps := f } := by
  unfold ctxCleanup
  split
  · exact ⟨_, s.ps, rfl⟩
  · exact condSignal_frame s

theorem ctxCleanup_fields (s : St) (p : Nat) :
    (ctxCleanup s p).items = s.items ∧ (ctxCleanup s p).inflight = s.inflight ∧ (ctxCleanup s p).size = s.size ∧
    (ctxCleanup s p).handed = s.handed ∧ (ctxCleanup s p).finished = s.finished ∧ (ctxCleanup s p).results = s.results ∧
    (ctxCleanup s p).outcomes = s.outcomes := by
  obtain ⟨w, f, e⟩ := ctxCleanup_frame s p
  rw [e]; exact ⟨rfl, rfl, rfl, rfl, rfl, rfl, rfl⟩

theorem ctxCleanup_accepted (s : St) (p : Nat) : (ctxCleanup s p).accepted = s.accepted := by
  obtain ⟨w, f, e⟩ := ctxCleanup_frame s p
  rw [e]

theorem ctxCleanup_cons (s : St) (p : Nat) : (ctxCleanup s p).items = s.items ∧ (ctxCleanup s p).cwait = s.cwait ∧
    (ctxCleanup s p).cwoken = s.cwoken ∧ (ctxCleanup s p).stopped = s.stopped := by
  obtain ⟨w, f, e⟩ := ctxCleanup_frame s p
  rw [e]
  exact ⟨rfl, rfl, rfl, rfl⟩

theorem ctxCleanup_closes (s : St) (p q : Nat) : (ctxCleanup s p).ps q = s.ps q ∨ (ctxCleanup s p).ps q = { s.ps q with sig := true } := by
  unfold ctxCleanup
  split
  · exact .inl rfl
  · exact condSignal_closes s q

theorem ctxCleanup_ph (s : St) (p q : Nat) : ((ctxCleanup s p).ps q).ph = (s.ps q).ph := by
  unfold ctxCleanup
  split
  · rfl
  · exact condSignal_ph s q

theorem ctxCleanup_el (s : St) (p q : Nat) : ((ctxCleanup s p).ps q).el = (s.ps q).el := by
  unfold ctxCleanup
  split
  · rfl
  · exact condSignal_el s q

theorem ctxCleanup_canc (s : St) (p q : Nat) : ((ctxCleanup s p).ps q).canc = (s.ps q).canc := by
  unfold ctxCleanup
  split
  · rfl
  · exact condSignal_canc s q

theorem ctxCleanup_waiters_sub (s : St) (p : Nat) : ∀ q ∈ (ctxCleanup s p).waiters, q ∈ s.waiters := by
  unfold ctxCleanup
  split
  · exact fun _ a => List.mem_of_mem_erase a
  · exact condSignal_waiters_sub s

/-! ### schedules: what does not depend on which queue runs is stated about a `Machine`; `Reachable k s` / `PReachable k s` unfold to
`(mem k).Reach s` / `(pers k).Reach s`, `Quiescent k s` / `PQuiescent k s` to `….Quiet s` -/

structure Machine (k : Cfg) where
  f : St → Label → Option St
  run : St → List Label → Option St
  run_nil : ∀ s, run s [] = some s
  run_cons : ∀ s l ls, run s (l :: ls) = (f s l).bind (fun s' => run s' ls)
  proto : ∀ {s l s'}, f s l = some s' → Proto k s l s'

def mem (k : Cfg) : Machine k := ⟨fire k, runSched k, fun _ => rfl, runSched_cons k, fire_proto⟩

def pers (k : Cfg) : Machine k := ⟨pfire k, prunSched k, fun _ => rfl, prunSched_cons k, pfire_proto⟩

namespace Machine
variable {k : Cfg} (M : Machine k)

def Reach (s : St) : Prop := ∃ ls, M.run {} ls = some s

def Quiet (s : St) : Prop := ∀ l, l.internal = true → M.f s l = none

theorem reach_induction (I : St → Prop) (h0 : I {}) (hstep : ∀ s l s', I s → M.f s l = some s' → I s') : ∀ s, M.Reach s → I s :=
  fun s ⟨ls, hr⟩ => run_induction (ok := fun _ => True) M.run_nil M.run_cons (fun s l s' h _ hf => hstep s l s' h hf) ls {} s h0
    (fun _ _ => trivial) hr

theorem reach_step {s s' : St} {l : Label} (hr : M.Reach s) (hf : M.f s l = some s') : M.Reach s' := by
  obtain ⟨ls, h⟩ := hr
  refine ⟨ls ++ [l], ?_⟩
  rw [run_append M.run_nil M.run_cons, h, Option.bind_some, M.run_cons, hf, Option.bind_some, M.run_nil]

theorem reach_run {s s' : St} (ls : List Label) (hr : M.Reach s) (h : M.run s ls = some s') : M.Reach s' :=
  run_induction (I := M.Reach) (ok := fun _ => True) M.run_nil M.run_cons (fun _ _ _ h _ hf => M.reach_step h hf) ls s s' hr
    (fun _ _ => trivial) h

end Machine

/-! ### H: histories -/

structure InvH (s : St) : Prop where
  fifo : s.handed ++ s.items.map Prod.fst = s.accepted
  accPh : ∀ p ∈ s.accepted, (s.ps p).ph = .waitRes ∨ ∃ r, (s.ps p).ph = .done r
  refPh : ∀ p ∈ s.refused, ∃ r, (s.ps p).ph = .done r
  accNodup : s.accepted.Nodup
  refAcc : ∀ p ∈ s.refused, p ∉ s.accepted

/-- not yet through `add`: neither enqueued nor returned -/
def Ph.open (x : Ph) : Prop := x ≠ .waitRes ∧ ∀ r, x ≠ .done r

theorem InvH.of_ps {s s' : St} (h : InvH s) (h1 : s'.handed = s.handed) (h2 : s'.items = s.items)
    (h3 : s'.accepted = s.accepted) (h4 : s'.refused = s.refused)
    (hp : ∀ p, (s'.ps p).ph = (s.ps p).ph ∨ (s.ps p).ph.open ∨ ∃ r, (s'.ps p).ph = .done r) : InvH s' := by
  refine ⟨by rw [h1, h2, h3]; exact h.fifo, ?_, ?_, by rw [h3]; exact h.accNodup, by rw [h3, h4]; exact h.refAcc⟩
  · intro p hpa
    rw [h3] at hpa
    rcases hp p with e | o | d
    · rw [e]; exact h.accPh p hpa
    · rcases h.accPh p hpa with a | ⟨r, a⟩
      · exact absurd a o.1
      · exact absurd a (o.2 r)
    · exact Or.inr d
  · intro p hpr
    rw [h4] at hpr
    rcases hp p with e | o | d
    · rw [e]; exact h.refPh p hpr
    · obtain ⟨r, a⟩ := h.refPh p hpr
      exact absurd a (o.2 r)
    · exact d

theorem InvH.open_not_acc {s : St} (h : InvH s) {p : Nat} (ho : (s.ps p).ph.open) : p ∉ s.accepted ∧ p ∉ s.refused := by
  constructor
  · intro ha
    rcases h.accPh p ha with a | ⟨r, a⟩
    · exact ho.1 a
    · exact ho.2 r a
  · intro hr
    obtain ⟨r, a⟩ := h.refPh p hr
    exact ho.2 r a

theorem InvH.accept {k : Cfg} {s : St} {p : Nat} {el : Int} (h : InvH s) (ho : (s.ps p).ph.open) : InvH (accept k s p el) := by
  obtain ⟨hna, hnr⟩ := h.open_not_acc ho
  refine ⟨?_, ?_, ?_, ?_, ?_⟩
  · simp only [OtelVerif.C02.accept, List.map_append, List.map_cons, List.map_nil, ← List.append_assoc, h.fifo]
  · intro q hq
    simp only [OtelVerif.C02.accept, List.mem_append, List.mem_singleton] at hq ⊢
    by_cases hqp : q = p
    · subst hqp
      simp only [upd_same]
      cases k.wfr <;> simp
    · rw [upd_other _ _ _ _ hqp]
      rcases hq with hq | hq
      · exact h.accPh q hq
      · exact absurd hq hqp
  · intro q hq
    simp only [OtelVerif.C02.accept] at hq ⊢
    have hqp : q ≠ p := fun e => hnr (e ▸ hq)
    rw [upd_other _ _ _ _ hqp]
    exact h.refPh q hq
  · simp only [OtelVerif.C02.accept]
    exact List.nodup_append.mpr ⟨h.accNodup, by simp, by
      intro a ha b hb
      simp at hb
      subst hb
      exact fun e => hna (e ▸ ha)⟩
  · intro q hq
    simp only [OtelVerif.C02.accept, List.mem_append, List.mem_singleton, not_or] at hq ⊢
    exact ⟨h.refAcc q hq, fun e => hnr (e ▸ hq)⟩

theorem InvH.refuse {s : St} {p : Nat} {r : Res} (h : InvH s) (ho : (s.ps p).ph.open) : InvH (refuse s p r) := by
  obtain ⟨hna, _⟩ := h.open_not_acc ho
  refine ⟨h.fifo, ?_, ?_, h.accNodup, ?_⟩
  · intro q hq
    simp only [OtelVerif.C02.refuse] at hq ⊢
    have hqp : q ≠ p := fun e => hna (e ▸ hq)
    rw [upd_other _ _ _ _ hqp]
    exact h.accPh q hq
  · intro q hq
    simp only [OtelVerif.C02.refuse, List.mem_append, List.mem_singleton] at hq ⊢
    by_cases hqp : q = p
    · subst hqp; simp
    · rw [upd_other _ _ _ _ hqp]
      rcases hq with hq | hq
      · exact h.refPh q hq
      · exact absurd hq hqp
  · intro q hq
    simp only [OtelVerif.C02.refuse, List.mem_append, List.mem_singleton] at hq ⊢
    rcases hq with hq | hq
    · exact h.refAcc q hq
    · exact hq ▸ hna

theorem InvH.register {s : St} {p : Nat} {el : Int} (h : InvH s) (ho : (s.ps p).ph.open) : InvH (register s p el) := by
  refine h.of_ps rfl rfl rfl rfl ?_
  intro q
  by_cases hqp : q = p
  · subst hqp; exact Or.inr (Or.inl ho)
  · left; simp only [OtelVerif.C02.register]; rw [upd_other _ _ _ _ hqp]

theorem InvH.condSignal {s : St} (h : InvH s) : InvH (condSignal s) := by
  have hph := condSignal_ph s
  obtain ⟨w, f, e⟩ := condSignal_frame s
  rw [e] at hph ⊢
  exact h.of_ps rfl rfl rfl rfl (fun q => Or.inl (hph q))

theorem InvH.condBroadcast {s : St} (h : InvH s) : InvH (condBroadcast s) :=
  h.of_ps rfl rfl rfl rfl (fun q => Or.inl (condBroadcast_ph s q))

theorem InvH.setPh {s : St} {p : Nat} {x : P} (h : InvH s)
    (hx : x.ph = (s.ps p).ph ∨ (s.ps p).ph.open ∨ ∃ r, x.ph = .done r) : InvH (setP s p x) := by
  refine h.of_ps rfl rfl rfl rfl ?_
  intro q
  by_cases hqp : q = p
  · subst hqp; simpa using hx
  · left; simp [upd_other _ _ _ _ hqp]

theorem InvH.pop {s s' : St} (h : InvH s) (hp : pop s = some s') : InvH s' := by
  obtain ⟨id, el, t, hi, rfl⟩ := pop_some hp
  refine ⟨?_, h.accPh, h.refPh, h.accNodup, h.refAcc⟩
  have := h.fifo
  rw [hi] at this
  simpa using this

theorem Ph.open_idle : Ph.open .idle := ⟨by simp, by simp⟩
theorem Ph.open_sel : Ph.open .sel := ⟨by simp, by simp⟩
theorem Ph.open_wokenTok : Ph.open .wokenTok := ⟨by simp, by simp⟩
theorem Ph.open_wokenCtx : Ph.open .wokenCtx := ⟨by simp, by simp⟩

theorem InvH.finish {k : Cfg} {s : St} {id : Nat} {el : Int} {e : Nat} (h : InvH s) : InvH (finish k s id el e) := by
  rw [finish_eq]
  exact h.of_ps rfl rfl rfl rfl (fun q => Or.inl (condBroadcast_ph _ q))

theorem InvH.ctxCleanup {s : St} (h : InvH s) (p : Nat) : InvH (ctxCleanup s p) := by
  unfold OtelVerif.C02.ctxCleanup
  split
  · exact h.of_ps rfl rfl rfl rfl (fun q => Or.inl rfl)
  · exact h.condSignal

theorem InvH.exit {k : Cfg} {s t : St} {p : Nat} {el : Int} (h : InvH s) (ho : (s.ps p).ph.open) (he : Exit k s p el t) : InvH t := by
  cases he with
  | refuse r => exact h.refuse ho
  | register => exact h.register ho
  | accept k' => exact h.accept ho

theorem InvH.took {s t : St} (h : InvH s) (ht : Took s t) : InvH t := by
  cases ht with
  | pop s1 hp => exact h.pop hp
  | reset s1 hp => exact InvH.condBroadcast (s := { s1 with size := 0 }) ((h.pop hp).of_ps rfl rfl rfl rfl (fun _ => Or.inl rfl))

theorem InvH.proto {k : Cfg} {s s' : St} {l : Label} (h : InvH s) (hp : Proto k s l s') : InvH s' := by
  have same : ∀ {t : St}, t.handed = s.handed → t.items = s.items → t.accepted = s.accepted → t.refused = s.refused →
      t.ps = s.ps → InvH t := fun h1 h2 h3 h4 h5 => h.of_ps h1 h2 h3 h4 (fun q => Or.inl (by rw [h5]))
  induction hp with
  | offerOk p el hi => exact h.setPh (Or.inr (Or.inr ⟨_, rfl⟩))
  | offer p el t hi he => exact h.exit (hi ▸ Ph.open_idle) he
  | cancel p => exact h.setPh (Or.inl rfl)
  | wakeTok p hp | wakeCtx p hp => exact h.setPh (Or.inr (Or.inl (hp ▸ Ph.open_sel)))
  | relockTok p t hp he => exact h.exit (hp ▸ Ph.open_wokenTok) he
  | relockCtx p hp => exact (h.ctxCleanup p).refuse (by rw [ctxCleanup_ph, hp]; exact Ph.open_wokenCtx)
  | getRes p e =>
    refine h.of_ps rfl rfl rfl rfl (fun q => ?_)
    by_cases hqp : q = p
    · subst hqp; exact Or.inr (Or.inr ⟨.result e, by simp only [upd_same]⟩)
    · exact Or.inl (by simp only [upd_other _ _ _ _ hqp])
  | resCtx p => exact h.setPh (Or.inr (Or.inr ⟨_, rfl⟩))
  | readTook c t _ ht => exact h.took ht
  | readStopped => exact h
  | readPark | recheckStopped | recheckPark | shutdown => exact same rfl rfl rfl rfl rfl
  | recheckTook c t _ ht => exact (h.took ht).of_ps rfl rfl rfl rfl (fun q => Or.inl rfl)
  | complete => exact h.of_ps rfl rfl rfl rfl (fun q => Or.inl (condBroadcast_ph _ q))
  | shutdownAll => exact (same (t := halted s) rfl rfl rfl rfl rfl).condBroadcast

theorem InvH.init : InvH {} := ⟨rfl, by simp, by simp, by simp, by simp⟩

/-! ### C: the condition variable -/

/-- inside `cond.Wait` -/
def Ph.inCond (x : Ph) : Prop := x = .sel ∨ x = .wokenTok ∨ x = .wokenCtx

/-- registered ⇔ inside `Wait` (in the select, or out of it through ctx) and not signalled; a closed channel belongs to somebody inside
`Wait`; who left through its channel was signalled; who waits has a positive size that fits the capacity of a blocking queue -/
structure InvC (k : Cfg) (s : St) : Prop where
  wIff : ∀ p, p ∈ s.waiters ↔ (((s.ps p).ph = .sel ∨ (s.ps p).ph = .wokenCtx) ∧ (s.ps p).sig = false)
  wNodup : s.waiters.Nodup
  sigPh : ∀ p, (s.ps p).sig = true → (s.ps p).ph.inCond
  tokSig : ∀ p, (s.ps p).ph = .wokenTok → (s.ps p).sig = true
  elOk : ∀ p, (s.ps p).ph.inCond → 0 < (s.ps p).el ∧ (s.ps p).el ≤ k.cap ∧ k.block = true

theorem InvC.congr {k : Cfg} {s s' : St} (h : InvC k s) (h1 : s'.ps = s.ps) (h2 : s'.waiters = s.waiters) : InvC k s' :=
  ⟨by rw [h1, h2]; exact h.wIff, by rw [h2]; exact h.wNodup, by rw [h1]; exact h.sigPh, by rw [h1]; exact h.tokSig,
   by rw [h1]; exact h.elOk⟩

theorem InvC.change1 {k : Cfg} {s s' : St} {p : Nat} {x : P} (h : InvC k s) (hnd : s'.waiters.Nodup)
    (h2 : ∀ q, q ≠ p → (q ∈ s'.waiters ↔ q ∈ s.waiters)) (h1 : s'.ps = upd s.ps p x)
    (ha : p ∈ s'.waiters ↔ ((x.ph = .sel ∨ x.ph = .wokenCtx) ∧ x.sig = false))
    (hb : x.sig = true → x.ph.inCond) (hc : x.ph = .wokenTok → x.sig = true)
    (hd : x.ph.inCond → 0 < x.el ∧ x.el ≤ k.cap ∧ k.block = true) : InvC k s' := by
  -- field by field (`wIff`, `sigPh`, `tokSig`, `elOk`), each for `q = p` and for the others
  refine ⟨?_, hnd, ?_, ?_, ?_⟩ <;> intro q <;> rw [h1] <;> by_cases hq : q = p
  · subst hq; rw [upd_same]; exact ha
  · rw [upd_other _ _ _ _ hq, h2 q hq]; exact h.wIff q
  · subst hq; rw [upd_same]; exact hb
  · rw [upd_other _ _ _ _ hq]; exact h.sigPh q
  · subst hq; rw [upd_same]; exact hc
  · rw [upd_other _ _ _ _ hq]; exact h.tokSig q
  · subst hq; rw [upd_same]; exact hd
  · rw [upd_other _ _ _ _ hq]; exact h.elOk q

theorem InvC.upd1 {k : Cfg} {s s' : St} {p : Nat} {x : P} (h : InvC k s) (h2 : s'.waiters = s.waiters)
    (h1 : s'.ps = upd s.ps p x)
    (ha : p ∈ s.waiters ↔ ((x.ph = .sel ∨ x.ph = .wokenCtx) ∧ x.sig = false))
    (hb : x.sig = true → x.ph.inCond) (hc : x.ph = .wokenTok → x.sig = true)
    (hd : x.ph.inCond → 0 < x.el ∧ x.el ≤ k.cap ∧ k.block = true) : InvC k s' :=
  h.change1 (h2 ▸ h.wNodup) (fun _ _ => by rw [h2]) h1 (by rw [h2]; exact ha) hb hc hd

theorem InvC.not_waiter {k : Cfg} {s : St} {p : Nat} (h : InvC k s)
    (hp : ¬ ((s.ps p).ph = .sel ∨ (s.ps p).ph = .wokenCtx) ∨ (s.ps p).sig = true) : p ∉ s.waiters := by
  intro hw
  have := (h.wIff p).mp hw
  rcases hp with hp | hp
  · exact hp this.1
  · rw [this.2] at hp; cases hp

theorem InvC.retire {k : Cfg} {s s' : St} {p : Nat} {x : P} (h : InvC k s) (h2 : s'.waiters = s.waiters)
    (h1 : s'.ps = upd s.ps p x) (hw : p ∉ s.waiters) (hx : ¬ x.ph.inCond) (hs : x.sig = false) : InvC k s' := by
  refine h.upd1 h2 h1 ?_ ?_ ?_ ?_
  · constructor
    · intro a; exact absurd a hw
    · intro ⟨a, _⟩
      rcases a with a | a
      · exact absurd (Or.inl a) hx
      · exact absurd (Or.inr (Or.inr a)) hx
  · intro a; rw [hs] at a; cases a
  · intro a; exact absurd (Or.inr (Or.inl a)) hx
  · intro a; exact absurd a hx

theorem InvC.register {k : Cfg} {s : St} {p : Nat} {el : Int} (h : InvC k s) (hw : p ∉ s.waiters)
    (hel : 0 < el ∧ el ≤ k.cap ∧ k.block = true) : InvC k (register s p el) := by
  refine h.change1 (x := { s.ps p with ph := .sel, el := el, sig := false }) ?_ (fun q hq => ?_) rfl ?_ (fun a => by cases a)
    (fun a => by cases a) (fun _ => hel)
  · exact List.nodup_append.mpr ⟨h.wNodup, by simp, fun a ha b hb => by
      rw [List.mem_singleton.mp hb]; exact fun e => hw (e ▸ ha)⟩
  · simp only [OtelVerif.C02.register, List.mem_append, List.mem_singleton, hq, or_false]
  · simp only [OtelVerif.C02.register, List.mem_append, List.mem_singleton, or_true, true_or, and_self]

theorem InvC.condSignal {k : Cfg} {s : St} (h : InvC k s) : InvC k (condSignal s) := by
  unfold OtelVerif.C02.condSignal
  cases hw : s.waiters with
  | nil => exact h
  | cons w ws =>
    have hnd := h.wNodup
    rw [hw] at hnd
    have hww := (h.wIff w).mp (by rw [hw]; exact List.mem_cons_self ..)
    refine h.change1 (x := { s.ps w with sig := true }) (List.nodup_cons.mp hnd).2 (fun q hq => ?_) rfl ?_
      (fun _ => hww.1.elim Or.inl (fun a => Or.inr (Or.inr a))) (fun _ => rfl) (h.elOk w)
    · rw [hw, List.mem_cons]; exact ⟨Or.inr, fun a => a.resolve_left hq⟩
    · exact iff_of_false (List.nodup_cons.mp hnd).1 (fun a => by cases a.2)

theorem InvC.condBroadcast {k : Cfg} {s : St} (h : InvC k s) : InvC k (condBroadcast s) := by
  have e1 : ∀ q, q ∈ s.waiters → (C02.condBroadcast s).ps q = { s.ps q with sig := true } := fun q hq => if_pos hq
  have e2 : ∀ q, q ∉ s.waiters → (C02.condBroadcast s).ps q = s.ps q := fun q hq => if_neg hq
  refine ⟨fun q => iff_of_false List.not_mem_nil ?_, List.nodup_nil, fun q => ?_, fun q => ?_, fun q => ?_⟩ <;>
    by_cases hq : q ∈ s.waiters
  · rw [e1 q hq]; exact fun a => nomatch a.2
  · rw [e2 q hq]; exact fun a => hq ((h.wIff q).mpr a)
  · rw [e1 q hq]; exact fun _ => ((h.wIff q).mp hq).1.elim Or.inl (fun b => Or.inr (Or.inr b))
  · rw [e2 q hq]; exact h.sigPh q
  · rw [e1 q hq]; exact fun _ => rfl
  · rw [e2 q hq]; exact h.tokSig q
  · rw [e1 q hq]; exact h.elOk q
  · rw [e2 q hq]; exact h.elOk q

/-- ctx branch of `cond.Wait` after re-locking, followed by the error return -/
theorem InvC.relockCtx {k : Cfg} {s : St} {p : Nat} {r : Res} (h : InvC k s) :
    InvC k (refuse (ctxCleanup s p) p r) := by
  unfold OtelVerif.C02.ctxCleanup
  split
  · -- still registered: remove
    exact h.change1 (x := { s.ps p with ph := .done r, sig := false }) (h.wNodup.erase p) (fun q hq => List.mem_erase_of_ne hq) rfl
      (iff_of_false (List.Nodup.not_mem_erase h.wNodup) (fun a => by simp at a)) (fun a => by cases a) (fun a => by cases a)
      (fun a => absurd a (by simp [Ph.inCond]))
  · -- already signalled: forward the signal
    rename_i hw
    have hw1 : p ∉ (OtelVerif.C02.condSignal s).waiters :=
      fun a => hw (condSignal_waiters_sub s p a)
    exact h.condSignal.retire (x := { (OtelVerif.C02.condSignal s).ps p with ph := .done r, sig := false }) rfl rfl hw1
      (by simp [Ph.inCond]) rfl

theorem InvC.init (k : Cfg) : InvC k {} := ⟨by simp, by simp, by simp, by simp, by simp [Ph.inCond]⟩

theorem Ph.not_inCond_done (r : Res) : ¬ (Ph.done r).inCond := by simp [Ph.inCond]

theorem InvC.refuse {k : Cfg} {s : St} {p : Nat} {r : Res} (h : InvC k s) (hw : p ∉ s.waiters) : InvC k (refuse s p r) :=
  h.retire (x := { s.ps p with ph := .done r, sig := false }) rfl rfl hw (Ph.not_inCond_done r) rfl

theorem InvC.accept {k k' : Cfg} {s : St} {p : Nat} {el : Int} (h : InvC k s) (hw : p ∉ s.waiters) : InvC k (accept k' s p el) :=
  h.retire (x := { s.ps p with ph := if k'.wfr then .waitRes else .done .ok, el := el, sig := false }) rfl rfl hw
    (by cases k'.wfr <;> simp [Ph.inCond]) rfl

theorem InvC.finish {k : Cfg} {s : St} {id : Nat} {el : Int} {e : Nat} (h : InvC k s) : InvC k (finish k s id el e) := by
  rw [finish_eq]
  exact h.condBroadcast.congr (settle_ps ..) rfl

theorem InvC.wakeTok {k : Cfg} {s : St} {p : Nat} (h : InvC k s) (hp : (s.ps p).ph = .sel) (hs : (s.ps p).sig = true) :
    InvC k (setP s p { s.ps p with ph := .wokenTok }) :=
  h.upd1 rfl rfl (iff_of_false (h.not_waiter (Or.inr hs)) (fun a => by rcases a.1 with b | b <;> cases b))
    (fun _ => Or.inr (Or.inl rfl)) (fun _ => hs) (fun _ => h.elOk p (Or.inl hp))

theorem InvC.wakeCtx {k : Cfg} {s : St} {p : Nat} (h : InvC k s) (hp : (s.ps p).ph = .sel) :
    InvC k (setP s p { s.ps p with ph := .wokenCtx }) :=
  h.upd1 rfl rfl ((h.wIff p).trans ⟨fun a => ⟨Or.inr rfl, a.2⟩, fun a => ⟨Or.inl hp, a.2⟩⟩)
    (fun _ => Or.inr (Or.inr rfl)) (fun a => nomatch a) (fun _ => h.elOk p (Or.inl hp))

theorem InvC.exit {k : Cfg} {s t : St} {p : Nat} {el : Int} (h : InvC k s) (hw : p ∉ s.waiters) (hsz : s.size ≤ k.cap)
    (hb : (s.ps p).ph = .idle ∨ el ≤ k.cap) (he : Exit k s p el t) : InvC k t := by
  cases he with
  | refuse r => exact h.refuse hw
  | register hgt hbl hle => exact h.register hw ⟨by omega, hb.elim hle id, hbl⟩
  | accept k' => exact h.accept hw

theorem InvC.took {k : Cfg} {s t : St} (h : InvC k s) (ht : Took s t) : InvC k t := by
  cases ht with
  | pop s1 hp => obtain ⟨id, el, t, _, rfl⟩ := pop_some hp; exact h.congr rfl rfl
  | reset s1 hp =>
    obtain ⟨id, el, t, _, rfl⟩ := pop_some hp
    exact InvC.condBroadcast (s := { ({ s with items := t, inflight := s.inflight ++ [(id, el)], handed := s.handed ++ [id] } : St) with size := 0 })
      (h.congr rfl rfl)

/-- `hsz`: a fresh request that registers is positive because it does not fit into a size that is within the capacity -/
theorem InvC.proto {k : Cfg} {s s' : St} {l : Label} (h : InvC k s) (hsz : s.size ≤ k.cap) (hp : Proto k s l s') : InvC k s' := by
  have out : ∀ {p : Nat}, (s.ps p).ph = .idle ∨ (s.ps p).ph = .waitRes → p ∉ s.waiters ∧ (s.ps p).sig = false := fun {p} hp =>
    have hn : ¬ (s.ps p).ph.inCond := by rcases hp with a | a <;> rw [a] <;> simp [Ph.inCond]
    ⟨h.not_waiter (Or.inl (fun a => hn (a.elim Or.inl (fun b => Or.inr (Or.inr b))))), Bool.eq_false_iff.mpr (fun a => hn (h.sigPh p a))⟩
  induction hp with
  | offerOk p el hi => exact h.retire rfl rfl (out (Or.inl hi)).1 (Ph.not_inCond_done _) (out (Or.inl hi)).2
  | offer p el t hi he => exact h.exit (out (Or.inl hi)).1 hsz (Or.inl hi) he
  | cancel p => exact h.upd1 rfl rfl (h.wIff p) (h.sigPh p) (h.tokSig p) (h.elOk p)
  | wakeTok p hp hs => exact h.wakeTok hp hs
  | wakeCtx p hp => exact h.wakeCtx hp
  | relockTok p t hp he =>
    exact h.exit (h.not_waiter (Or.inr (h.tokSig p hp))) hsz (Or.inr (h.elOk p (Or.inr (Or.inl hp))).2.1) he
  | relockCtx p => exact h.relockCtx
  | getRes p _ hp | resCtx p hp => exact h.retire rfl rfl (out (Or.inr hp)).1 (Ph.not_inCond_done _) (out (Or.inr hp)).2
  | readTook c t _ ht => exact h.took ht
  | readStopped => exact h
  | readPark | recheckStopped | recheckPark | shutdown => exact h.congr rfl rfl
  | recheckTook c t _ ht => exact (h.took ht).congr rfl rfl
  | complete id el e v r => exact h.condBroadcast.congr (settle_ps s id e v r) rfl
  | shutdownAll => exact h.condBroadcast.congr rfl rfl

/-! ### lists of (id, size): their sum, removing a key -/

def sumSz : List (Nat × Int) → Int
  | [] => 0
  | x :: xs => x.2 + sumSz xs

theorem sumSz_append (a b : List (Nat × Int)) : sumSz (a ++ b) = sumSz a + sumSz b := by
  induction a with
  | nil => simp [sumSz]
  | cons x xs ih => simp only [List.cons_append, sumSz, ih]; omega

theorem sumSz_nonneg0 (l : List (Nat × Int)) (h : ∀ x ∈ l, 0 ≤ x.2) : 0 ≤ sumSz l := by
  induction l with
  | nil => simp [sumSz]
  | cons x xs ih =>
    have h1 := h x (by simp)
    have h2 := ih (fun y hy => h y (by simp [hy]))
    simp only [sumSz]; omega

theorem remove_key (l : List (Nat × Int)) (id : Nat) (el : Int) (hn : (l.map Prod.fst).Nodup) (hl : l.lookup id = some el) :
    sumSz (l.filter (fun x => x.1 != id)) = sumSz l - el ∧
    (l.map Prod.fst).Perm (id :: (l.filter (fun x => x.1 != id)).map Prod.fst) ∧ (id, el) ∈ l := by
  induction l with
  | nil => simp [List.lookup] at hl
  | cons x xs ih =>
    obtain ⟨a, b⟩ := x
    simp only [List.map_cons, List.nodup_cons] at hn
    by_cases hia : id = a
    · subst hia
      simp only [List.lookup, beq_self_eq_true] at hl
      have hf : ((id, b) :: xs).filter (fun x => x.1 != id) = xs := by
        simp only [List.filter, bne_self_eq_false]
        exact List.filter_eq_self.mpr (fun x hx => bne_iff_ne.mpr (fun (e : x.1 = id) => hn.1 (e ▸ List.mem_map_of_mem (f := Prod.fst) hx)))
      rw [hf]
      cases hl
      exact ⟨by simp only [sumSz]; omega, by simp, by simp⟩
    · have hne : (id == a) = false := by simpa using hia
      simp only [List.lookup, hne] at hl
      have hk : ((a, b).1 != id) = true := by simpa using fun e => hia e.symm
      obtain ⟨i1, i2, i3⟩ := ih hn.2 hl
      simp only [List.filter, hk, sumSz, List.map_cons]
      exact ⟨by omega, (List.Perm.cons a i2).trans (List.Perm.swap id a _), List.mem_cons_of_mem _ i3⟩

/-! ### what was handed over is finished or in flight: kept by every `Proto` step, given the histories; the size invariants of both
queues carry it as their field `hperm` -/

def HandedPerm (s : St) : Prop := s.handed.Perm (s.finished ++ s.inflight.map Prod.fst)

theorem InvH.handed_nodup {s : St} (h : InvH s) : s.handed.Nodup := by
  have := h.accNodup
  rw [← h.fifo] at this
  exact (List.nodup_append.mp this).1

theorem InvH.inflight_keys_nodup {s : St} (hH : InvH s) (hp : HandedPerm s) :
    (s.inflight.map Prod.fst).Nodup :=
  (List.nodup_append.mp ((hp.nodup_iff).mp hH.handed_nodup)).2.1

theorem HandedPerm.congr {s s' : St} (h : HandedPerm s) (e2 : s'.inflight = s.inflight) (e4 : s'.handed = s.handed)
    (e5 : s'.finished = s.finished) : HandedPerm s' := by unfold HandedPerm; rw [e2, e4, e5]; exact h

theorem HandedPerm.pop {s t : St} (h : HandedPerm s) (hp : pop s = some t) : HandedPerm t := by
  obtain ⟨id, el, t', _, rfl⟩ := pop_some hp
  show (s.handed ++ [id]).Perm (s.finished ++ (s.inflight ++ [(id, el)]).map Prod.fst)
  simp only [List.map_append, List.map_cons, List.map_nil, ← List.append_assoc]
  exact h.append_right [id]

theorem HandedPerm.took {s t : St} (h : HandedPerm s) (ht : Took s t) : HandedPerm t := by
  cases ht with
  | pop s1 hp => exact h.pop hp
  | reset s1 hp => exact HandedPerm.congr (s := s1) (h.pop hp) rfl rfl rfl

theorem HandedPerm.settle {s : St} {id : Nat} {el : Int} (h : HandedPerm s) (hH : InvH s) (hl : s.inflight.lookup id = some el)
    (e : Nat) (v : Int) (r : List (Nat × Nat)) : HandedPerm (settle s id e v r) := by
  obtain ⟨_, r2, _⟩ := remove_key s.inflight id el (hH.inflight_keys_nodup h) hl
  show s.handed.Perm ((s.finished ++ [id]) ++ (s.inflight.filter (fun x => x.1 != id)).map Prod.fst)
  simp only [List.append_assoc, List.singleton_append]
  exact h.trans (List.Perm.append_left _ r2)

theorem HandedPerm.proto {k : Cfg} {s s' : St} {l : Label} (h : HandedPerm s) (hH : InvH s) (hp : Proto k s l s') : HandedPerm s' := by
  induction hp with
  | offerOk | cancel | wakeTok | wakeCtx | resCtx | getRes | readPark | recheckStopped | recheckPark | shutdown | shutdownAll =>
    exact h.congr rfl rfl rfl
  | offer _ _ _ _ he | relockTok _ _ _ he => cases he <;> exact h.congr rfl rfl rfl
  | relockCtx p => obtain ⟨_, c2, _, c4, c5, _⟩ := ctxCleanup_fields s p; exact h.congr c2 c4 c5
  | readTook c t _ ht => exact h.took ht
  | readStopped => exact h
  | recheckTook c t _ ht => exact (h.took ht).congr rfl rfl rfl
  | complete id el e v r hl => exact h.settle hH hl e v r

theorem not_finished_of_open {s : St} (hH : InvH s) (hP : HandedPerm s) {p : Nat} (ho : (s.ps p).ph.open) : p ∉ s.finished := fun hf =>
  (hH.open_not_acc ho).1 (hH.fifo ▸ List.mem_append_left _ ((hP.mem_iff).mpr (List.mem_append_left _ hf)))

theorem InvH.exactly_once {s : St} (h : InvH s) :
    s.handed.Nodup ∧ s.accepted.Nodup ∧
    (∀ id, id ∈ s.accepted ↔ (id ∈ s.handed ∨ id ∈ s.items.map Prod.fst)) ∧
    (∀ id ∈ s.handed, id ∉ s.items.map Prod.fst) ∧
    (∀ id ∈ s.refused, id ∉ s.handed ∧ id ∉ s.items.map Prod.fst) := by
  have hnd := h.accNodup
  rw [← h.fifo] at hnd
  refine ⟨h.handed_nodup, h.accNodup, fun id => ?_, fun id hid hq => (List.nodup_append.mp hnd).2.2 id hid id hq rfl,
    fun id hid => ?_⟩
  · rw [← h.fifo, List.mem_append]
  · have := h.refAcc id hid
    rwa [← h.fifo, List.mem_append, not_or] at this

theorem InvH.unfinished {s : St} (hH : InvH s) (hp : s.handed.Perm (s.finished ++ s.inflight.map Prod.fst)) :
    ((s.items ++ s.inflight).map Prod.fst).Nodup ∧
    (∀ id, id ∈ (s.items ++ s.inflight).map Prod.fst ↔ (id ∈ s.accepted ∧ id ∉ s.finished)) := by
  have hnd := hH.accNodup
  rw [← hH.fifo] at hnd
  have hfn := (hp.nodup_iff).mp hH.handed_nodup
  have hmem : ∀ id, id ∈ s.handed ↔ (id ∈ s.finished ∨ id ∈ s.inflight.map Prod.fst) := by
    intro id; rw [hp.mem_iff, List.mem_append]
  constructor
  · rw [List.map_append]
    refine List.nodup_append.mpr ⟨(List.nodup_append.mp hnd).2.1, (List.nodup_append.mp hfn).2.1, ?_⟩
    intro a ha b hb e
    subst e
    exact (List.nodup_append.mp hnd).2.2 a ((hmem a).mpr (Or.inr hb)) a ha rfl
  · intro id
    rw [List.map_append, List.mem_append, ← hH.fifo, List.mem_append]
    constructor
    · rintro (a | a)
      · exact ⟨Or.inr a, fun hf => (List.nodup_append.mp hnd).2.2 id ((hmem id).mpr (Or.inl hf)) id a rfl⟩
      · exact ⟨Or.inl ((hmem id).mpr (Or.inr a)), fun hf => (List.nodup_append.mp hfn).2.2 id hf id a rfl⟩
    · rintro ⟨a | a, hnf⟩
      · exact ((hmem id).mp a).elim (fun b => absurd b hnf) Or.inr
      · exact Or.inl a

theorem InvH.all_finished {s : St} (hH : InvH s) (hp : s.handed.Perm (s.finished ++ s.inflight.map Prod.fst))
    (hall : ∀ id ∈ s.accepted, id ∈ s.finished) : s.items ++ s.inflight = [] := by
  cases hl : s.items ++ s.inflight with
  | nil => rfl
  | cons x xs =>
    have := ((hH.unfinished hp).2 x.1).mp (by rw [hl]; exact List.mem_map_of_mem (List.mem_cons_self ..))
    exact absurd (hall _ this.1) this.2

/-! ### Z: size accounting -/

structure InvZ (k : Cfg) (s : St) : Prop where
  sizeEq : s.size = sumSz s.items + sumSz s.inflight
  posI : ∀ x ∈ s.items, 0 < x.2
  posF : ∀ x ∈ s.inflight, 0 < x.2
  le : s.size ≤ k.cap
  hperm : s.handed.Perm (s.finished ++ s.inflight.map Prod.fst)

theorem InvZ.congr {k : Cfg} {s s' : St} (h : InvZ k s) (e1 : s'.items = s.items) (e2 : s'.inflight = s.inflight)
    (e3 : s'.size = s.size) (e4 : s'.handed = s.handed) (e5 : s'.finished = s.finished) : InvZ k s' :=
  ⟨by rw [e1, e2, e3]; exact h.sizeEq, by rw [e1]; exact h.posI, by rw [e2]; exact h.posF, by rw [e3]; exact h.le,
   by rw [e2, e4, e5]; exact h.hperm⟩

theorem InvZ.size_nonneg {k : Cfg} {s : St} (h : InvZ k s) : 0 ≤ s.size := by
  have := sumSz_nonneg0 _ (fun x hx => Int.le_of_lt (h.posI x hx))
  have := sumSz_nonneg0 _ (fun x hx => Int.le_of_lt (h.posF x hx))
  have := h.sizeEq
  omega

theorem InvZ.tryAdd {k : Cfg} {s : St} {p : Nat} {el : Int} (h : InvZ k s) (h0 : 0 < el) : InvZ k (tryAdd k s p el) := by
  refine tryAdd_cases k s p el (fun _ _ => h.congr rfl rfl rfl rfl rfl) (fun _ _ => h.congr rfl rfl rfl rfl rfl)
    (fun _ _ _ => h.congr rfl rfl rfl rfl rfl) (fun hle _ => ⟨?_, ?_, h.posF, ?_, h.hperm⟩)
  · simp only [OtelVerif.C02.accept, sumSz_append, sumSz]
    have := h.sizeEq
    omega
  · intro x hx
    simp only [OtelVerif.C02.accept, List.mem_append, List.mem_singleton] at hx
    rcases hx with hx | hx
    · exact h.posI x hx
    · subst hx; exact h0
  · simp only [OtelVerif.C02.accept]; omega

theorem pop_books {s s' : St} (hp : pop s = some s') :
    (∀ x ∈ s'.items, x ∈ s.items) ∧ (∀ x ∈ s'.inflight, x ∈ s.inflight ∨ x ∈ s.items) ∧
    sumSz s'.items + sumSz s'.inflight = sumSz s.items + sumSz s.inflight ∧ s'.size = s.size := by
  obtain ⟨id, el, t, hi, rfl⟩ := pop_some hp
  refine ⟨fun x hx => hi ▸ List.mem_cons_of_mem _ hx, fun x hx => ?_, ?_, rfl⟩
  · exact (List.mem_append.mp hx).imp_right (fun a => by rw [hi, List.mem_singleton.mp a]; exact List.mem_cons_self)
  · show sumSz t + sumSz (s.inflight ++ [(id, el)]) = _
    simp only [hi, sumSz_append, sumSz]; omega

theorem InvZ.pop {k : Cfg} {s s' : St} (h : InvZ k s) (hp : pop s = some s') : InvZ k s' := by
  obtain ⟨a, b, c, d⟩ := pop_books hp
  exact ⟨by rw [d, c]; exact h.sizeEq, fun x hx => h.posI x (a x hx), fun x hx => (b x hx).elim (h.posF x) (h.posI x),
    by rw [d]; exact h.le, HandedPerm.pop h.hperm hp⟩

theorem InvZ.finish {k : Cfg} {s : St} {id : Nat} {el : Int} {e : Nat} (h : InvZ k s) (hH : InvH s)
    (hl : s.inflight.lookup id = some el) : InvZ k (finish k s id el e) := by
  obtain ⟨r1, _, r3⟩ := remove_key s.inflight id el (hH.inflight_keys_nodup h.hperm) hl
  have hel : 0 < el := h.posF _ r3
  have h0 : InvZ k { s with size := s.size - el, inflight := s.inflight.filter (fun x => x.1 != id),
                            finished := s.finished ++ [id], outcomes := s.outcomes ++ [(id, e)] } := by
    refine ⟨?_, h.posI, ?_, ?_, HandedPerm.settle h.hperm hH hl e (s.size - el) s.results⟩
    · simp only [r1]
      have := h.sizeEq
      omega
    · intro x hx
      exact h.posF x (List.mem_filter.mp hx).1
    · have := h.le
      simp only []
      omega
  rw [finish_eq]
  exact h0.congr rfl rfl rfl rfl rfl

theorem InvZ.step {k : Cfg} {s s' : St} {l : Label} (h : InvZ k s) (hH : InvH s) (hC : InvC k s)
    (hf : fire k s l = some s') : InvZ k s' := by
  induction fire_rule hf with
  | offerZero | offerInvalid | offerTooLarge | cancel | wakeTok | wakeCtx | getRes | resCtx | readPark | recheckStopped
  | recheckPark | shutdown => exact h.congr rfl rfl rfl rfl rfl
  | offer p el _ h0 => exact h.tryAdd h0
  | relockTok p hp => exact h.tryAdd (hC.elOk p (Or.inr (Or.inl hp))).1
  | relockCtx p =>
    obtain ⟨w, f, e⟩ := ctxCleanup_frame s p
    rw [e]; exact h.congr rfl rfl rfl rfl rfl
  | readPop c s1 _ hp => exact h.pop hp
  | readStopped => exact h
  | recheckPop c s1 _ hp => exact (h.pop hp).congr rfl rfl rfl rfl rfl
  | complete id el e hl => exact h.finish hH hl

theorem InvZ.init (k : Cfg) (hk : 0 ≤ k.cap) : InvZ k {} := ⟨by simp [sumSz], by simp, by simp, hk, by simp⟩

/-! ### group F: whoever is registered on `hasMoreSpace` does not fit (space is freed with `Broadcast`) -/

def InvF (k : Cfg) (s : St) : Prop := ∀ p ∈ s.waiters, s.size + (s.ps p).el > k.cap

/-- memory queue: nobody is registered on a stopped queue (`Shutdown` broadcasts, a stopped queue refuses before `Wait`) -/
def InvFs (s : St) : Prop := s.stopped = true → s.waiters = []

theorem InvF.of {k : Cfg} {s s' : St} (h : InvF k s) (e1 : ∀ p ∈ s'.waiters, p ∈ s.waiters) (e2 : s.size ≤ s'.size)
    (e4 : ∀ p ∈ s'.waiters, (s'.ps p).el = (s.ps p).el) : InvF k s' := by
  intro p hp
  rw [e4 p hp]
  exact Int.lt_of_lt_of_le (h p (e1 p hp)) (Int.add_le_add_right e2 _)

theorem InvF.congr {k : Cfg} {s s' : St} (h : InvF k s) (e1 : s'.waiters = s.waiters) (e2 : s'.size = s.size)
    (e3 : s'.ps = s.ps) : InvF k s' :=
  h.of (fun _ a => e1 ▸ a) (Int.le_of_eq e2.symm) (fun _ _ => by rw [e3])

theorem InvF.of_nowaiters {k : Cfg} {s : St} (hw : s.waiters = []) : InvF k s := fun p hp => by rw [hw] at hp; cases hp

theorem InvFs.of {s s' : St} (h : InvFs s) (e1 : ∀ p ∈ s'.waiters, p ∈ s.waiters) (e2 : s'.stopped = s.stopped) : InvFs s' :=
  fun hs => List.eq_nil_iff_forall_not_mem.mpr (fun p hp => by have := e1 p hp; rw [h (e2 ▸ hs)] at this; cases this)

theorem InvFs.of_nowaiters {s : St} (hw : s.waiters = []) : InvFs s := fun _ => hw

theorem InvFs.of_running {s : St} (hs : s.stopped = false) : InvFs s := fun a => by rw [hs] at a; cases a

theorem InvF.upd {k : Cfg} {s s' : St} {p : Nat} {x : P} (h : InvF k s) (e1 : s'.waiters = s.waiters) (e2 : s'.size = s.size)
    (e3 : s'.ps = OtelVerif.C02.upd s.ps p x) (hx : x.el = (s.ps p).el) : InvF k s' := by
  refine h.of (fun _ a => e1 ▸ a) (Int.le_of_eq e2.symm) ?_
  intro q _
  rw [e3]
  by_cases hqp : q = p
  · subst hqp; rw [upd_same]; exact hx
  · rw [upd_other _ _ _ _ hqp]

theorem InvF.refuse {k : Cfg} {s : St} {p : Nat} {r : Res} (h : InvF k s) : InvF k (refuse s p r) := h.upd rfl rfl rfl rfl

theorem InvF.ctxCleanup {k : Cfg} {s : St} (h : InvF k s) (p : Nat) : InvF k (ctxCleanup s p) :=
  h.of (ctxCleanup_waiters_sub s p) (Int.le_of_eq (ctxCleanup_fields s p).2.2.1.symm) (fun q _ => ctxCleanup_el s p q)

theorem InvFs.refuse {s : St} {p : Nat} {r : Res} (h : InvFs s) : InvFs (refuse s p r) := h.of (fun _ a => a) rfl

theorem InvFs.ctxCleanup {s : St} (h : InvFs s) (p : Nat) : InvFs (ctxCleanup s p) :=
  h.of (ctxCleanup_waiters_sub s p) (ctxCleanup_cons s p).2.2.2

theorem InvF.accept {k k' : Cfg} {s : St} {p : Nat} {el : Int} (h : InvF k s) (hw : p ∉ s.waiters) (h0 : 0 ≤ el) :
    InvF k (accept k' s p el) := by
  refine h.of (fun _ a => a) (Int.le_add_of_nonneg_right h0) ?_
  intro q hq
  exact congrArg P.el (upd_other _ _ _ _ (fun e => hw (e ▸ hq)))

theorem InvF.register {k : Cfg} {s : St} {p : Nat} {el : Int} (h : InvF k s) (hgt : s.size + el > k.cap) :
    InvF k (register s p el) := by
  intro q hq
  show s.size + (OtelVerif.C02.upd s.ps p { s.ps p with ph := .sel, el := el, sig := false } q).el > k.cap
  by_cases hqp : q = p
  · subst hqp; rw [upd_same]; exact hgt
  · rw [upd_other _ _ _ _ hqp]
    rcases List.mem_append.mp hq with a | a
    · exact h q a
    · exact absurd (List.mem_singleton.mp a) hqp

theorem InvFs.tryAdd {k : Cfg} {s : St} {p : Nat} {el : Int} (h : InvFs s) : InvFs (tryAdd k s p el) :=
  tryAdd_cases k s p el (fun _ _ => h.refuse) (fun _ _ => h.refuse) (fun _ _ hs => .of_running hs)
    (fun _ _ => h.of (fun _ a => a) rfl)

theorem InvF.pop {k : Cfg} {s s1 : St} (h : InvF k s) (hp : pop s = some s1) : InvF k s1 := by
  obtain ⟨id, el, t, _, rfl⟩ := pop_some hp
  exact h.congr rfl rfl rfl

theorem InvFs.pop {s s1 : St} (h : InvFs s) (hp : pop s = some s1) : InvFs s1 := by
  obtain ⟨id, el, t, _, rfl⟩ := pop_some hp
  exact h.of (fun _ a => a) rfl

theorem finish_waiters (k : Cfg) (s : St) (id : Nat) (el : Int) (e : Nat) : (finish k s id el e).waiters = [] := by
  rw [finish_eq]; rfl

theorem InvF.exit {k : Cfg} {s t : St} {p : Nat} {el : Int} (h : InvF k s) (hw : p ∉ s.waiters)
    (hel : (s.ps p).ph = .idle ∨ 0 ≤ el) (he : Exit k s p el t) : InvF k t := by
  cases he with
  | refuse r => exact h.refuse
  | register hgt => exact h.register hgt
  | accept k' hb => exact h.accept hw (hel.elim hb id)

theorem InvF.took {k : Cfg} {s t : St} (h : InvF k s) (ht : Took s t) : InvF k t := by
  cases ht with
  | pop s1 hp => exact h.pop hp
  | reset s1 hp => exact .of_nowaiters rfl

theorem InvF.proto {k : Cfg} {s s' : St} {l : Label} (h : InvF k s) (hC : InvC k s) (hp : Proto k s l s') : InvF k s' := by
  induction hp with
  | offer p el t hi he => exact h.exit (hC.not_waiter (Or.inl (by rw [hi]; exact nofun))) (Or.inl hi) he
  | relockTok p t hp he =>
    exact h.exit (hC.not_waiter (Or.inr (hC.tokSig p hp))) (Or.inr (Int.le_of_lt (hC.elOk p (Or.inr (Or.inl hp))).1)) he
  | relockCtx p => exact (h.ctxCleanup p).refuse
  | offerOk | cancel | wakeTok | wakeCtx | resCtx | getRes => exact h.upd rfl rfl rfl rfl
  | readTook c t _ ht => exact h.took ht
  | readStopped => exact h
  | readPark | recheckStopped | recheckPark | shutdown => exact h.congr rfl rfl rfl
  | recheckTook c t _ ht => exact (h.took ht).congr rfl rfl rfl
  | complete | shutdownAll => exact .of_nowaiters rfl

theorem InvFs.step {k : Cfg} {s s' : St} {l : Label} (h : InvFs s) (hf : fire k s l = some s') : InvFs s' := by
  induction fire_rule hf with
  | offerInvalid | offerTooLarge => exact h.refuse
  | offer | relockTok => exact h.tryAdd
  | relockCtx p => exact (h.ctxCleanup p).refuse
  | offerZero | cancel | wakeTok | wakeCtx | resCtx | getRes | readPark | recheckStopped | recheckPark => exact h.of (fun _ a => a) rfl
  | readPop c s1 _ hp => exact h.pop hp
  | readStopped => exact h
  | recheckPop c s1 _ hp => exact (h.pop hp).of (fun _ a => a) rfl
  | complete => exact .of_nowaiters (finish_waiters _ _ _ _ _)
  | shutdown => exact .of_nowaiters rfl

/-! ### group W: a registered waiter is never left behind an empty queue -/

/-- if somebody is still registered on the cond, either the queue is not empty (a future `onDone` will
signal) or a signal is already on its way (some waiter's channel is closed and it has not re-evaluated yet) -/
def InvW (s : St) : Prop := s.waiters ≠ [] → 0 < s.size ∨ (∃ p, (s.ps p).sig = true) ∨ s.stopped = true

/-- a registered waiter fits the capacity (`elOk`) but not the free space (`InvF`) -/
theorem InvF.size_pos {k : Cfg} {s : St} (hF : InvF k s) (hC : InvC k s) (hw : s.waiters ≠ []) : 0 < s.size := by
  obtain ⟨p, hp⟩ := List.exists_mem_of_ne_nil _ hw
  have h1 := hF p hp
  have h2 := (hC.elOk p (((hC.wIff p).mp hp).1.elim Or.inl (fun a => Or.inr (Or.inr a)))).2.1
  omega

theorem InvW.of_fits {k : Cfg} {s : St} (hC : InvC k s) (hF : InvF k s) : InvW s := fun hw => Or.inl (hF.size_pos hC hw)

structure Inv (k : Cfg) (s : St) : Prop where
  H : InvH s
  C : InvC k s
  Z : InvZ k s
  W : InvW s

theorem Inv.step {k : Cfg} {s s' : St} {l : Label} (h : Inv k s) (hF : InvF k s) (hf : fire k s l = some s') :
    Inv k s' ∧ InvF k s' :=
  have hC := h.C.proto h.Z.le (fire_proto hf)
  have hF' := hF.proto h.C (fire_proto hf)
  ⟨⟨h.H.proto (fire_proto hf), hC, h.Z.step h.H h.C hf, .of_fits hC hF'⟩, hF'⟩

theorem Inv.all_reachable {k : Cfg} (hk : 0 ≤ k.cap) {s : St} (hr : Reachable k s) : Inv k s ∧ InvF k s ∧ InvFs s :=
  (mem k).reach_induction (fun s => Inv k s ∧ InvF k s ∧ InvFs s)
    ⟨⟨InvH.init, InvC.init k, InvZ.init k hk, .of_fits (InvC.init k) (.of_nowaiters rfl)⟩, .of_nowaiters rfl, .of_nowaiters rfl⟩
    (fun _ _ _ ⟨hI, hF, hS⟩ hf => ⟨(hI.step hF hf).1, (hI.step hF hf).2, hS.step hf⟩) s hr

theorem Inv.reachable {k : Cfg} (hk : 0 ≤ k.cap) {s : St} (hr : Reachable k s) : Inv k s := (Inv.all_reachable hk hr).1

theorem InvF.reachable {k : Cfg} (hk : 0 ≤ k.cap) {s : St} (hr : Reachable k s) : InvF k s ∧ InvFs s := (Inv.all_reachable hk hr).2

/-! ### group R: wait_for_result routing, both directions -/

structure InvR (s : St) : Prop where
  resOut : ∀ x ∈ s.results, x ∈ s.outcomes
  outFin : s.outcomes.map Prod.fst = s.finished
  routed : ∀ p e, (s.ps p).ph = .done (.result e) → (p, e) ∈ s.outcomes

/-- `InvR`, and conversely: the outcome of a finished request waits in the channel until its producer takes it -/
structure InvQ (k : Cfg) (s : St) : Prop extends InvR s where
  waiting : k.wfr = true → ∀ p, (s.ps p).ph = .waitRes → p ∈ s.finished → (s.results.lookup p).isSome = true

theorem lookup_snoc_isSome (l : List (Nat × Nat)) (p q e : Nat) (h : (l.lookup p).isSome = true ∨ p = q) :
    ((l ++ [(q, e)]).lookup p).isSome = true := by
  rw [List.lookup_append, Option.isSome_or]
  rcases h with h | rfl
  · rw [h]; rfl
  · rw [List.lookup_cons_self]; exact Bool.or_true _

theorem InvQ.of_ps {k : Cfg} {s s' : St} (h : InvQ k s) (h1 : s'.results = s.results) (h2 : s'.outcomes = s.outcomes)
    (h3 : s'.finished = s.finished)
    (hp : ∀ q, (∀ e, (s'.ps q).ph = .done (.result e) → (s.ps q).ph = .done (.result e)) ∧
      ((s'.ps q).ph = .waitRes → q ∈ s.finished → (s.ps q).ph = .waitRes)) : InvQ k s' :=
  ⟨⟨by rw [h1, h2]; exact h.resOut, by rw [h2, h3]; exact h.outFin, fun p e a => by rw [h2]; exact h.routed p e ((hp p).1 e a)⟩,
   fun hw p a hf => by rw [h1]; rw [h3] at hf; exact h.waiting hw p ((hp p).2 a hf) hf⟩

theorem InvQ.of_ph {k : Cfg} {s s' : St} (h : InvQ k s) (h1 : s'.results = s.results) (h2 : s'.outcomes = s.outcomes)
    (h3 : s'.finished = s.finished) (hp : ∀ q, (s'.ps q).ph = (s.ps q).ph) : InvQ k s' :=
  h.of_ps h1 h2 h3 (fun q => by rw [hp q]; exact ⟨fun _ a => a, fun a _ => a⟩)

theorem InvQ.upd {k : Cfg} {s s' : St} {p : Nat} {x : P} (h : InvQ k s) (h1 : s'.results = s.results) (h2 : s'.outcomes = s.outcomes)
    (h3 : s'.finished = s.finished) (h4 : s'.ps = upd s.ps p x)
    (hx : x.ph = (s.ps p).ph ∨ ((∀ e, x.ph ≠ .done (.result e)) ∧ (x.ph = .waitRes → p ∉ s.finished))) : InvQ k s' := by
  refine h.of_ps h1 h2 h3 (fun q => ?_)
  rw [h4]
  by_cases hqp : q = p
  · subst hqp; rw [upd_same]
    rcases hx with e | ⟨a, b⟩
    · rw [e]; exact ⟨fun _ a => a, fun a _ => a⟩
    · exact ⟨fun e c => absurd c (a e), fun c d => absurd d (b c)⟩
  · rw [upd_other _ _ _ _ hqp]; exact ⟨fun _ a => a, fun a _ => a⟩

theorem InvQ.ctxCleanup {k : Cfg} {s : St} (h : InvQ k s) (p : Nat) : InvQ k (ctxCleanup s p) := by
  obtain ⟨_, _, _, _, c5, c6, c7⟩ := ctxCleanup_fields s p
  exact h.of_ph c6 c7 c5 (ctxCleanup_ph s p)

theorem InvQ.tryAdd {k : Cfg} {s : St} {p : Nat} {el : Int} (h : InvQ k s) (hf : p ∉ s.finished) : InvQ k (tryAdd k s p el) :=
  tryAdd_cases k s p el (fun _ _ => h.upd rfl rfl rfl rfl (.inr ⟨nofun, nofun⟩)) (fun _ _ => h.upd rfl rfl rfl rfl (.inr ⟨nofun, nofun⟩))
    (fun _ _ _ => h.upd rfl rfl rfl rfl (.inr ⟨nofun, nofun⟩))
    (fun _ _ => h.upd rfl rfl rfl rfl (.inr ⟨by cases k.wfr <;> exact nofun, fun _ => hf⟩))

theorem InvQ.step {k : Cfg} {s s' : St} {l : Label} (h : InvQ k s) (hH : InvH s) (hP : HandedPerm s) (hf : fire k s l = some s') : InvQ k s' := by
  induction fire_rule hf with
  | offerZero | offerInvalid | offerTooLarge | wakeTok | wakeCtx | resCtx => exact h.upd rfl rfl rfl rfl (.inr ⟨nofun, nofun⟩)
  | offer p el hi => exact h.tryAdd (not_finished_of_open hH hP (hi ▸ Ph.open_idle))
  | relockTok p hp => exact h.tryAdd (not_finished_of_open hH hP (hp ▸ Ph.open_wokenTok))
  | cancel => exact h.upd rfl rfl rfl rfl (.inl rfl)
  | relockCtx p => exact (h.ctxCleanup p).upd rfl rfl rfl rfl (.inr ⟨nofun, nofun⟩)
  | getRes p e _ hl =>
    -- four goals: `routed`, then `waiting`, each for `q = p` and `q ≠ p`
    refine ⟨⟨fun x hx => h.resOut x (List.mem_filter.mp hx).1, h.outFin, fun q e' a => ?_⟩, fun hw q a hfin => ?_⟩ <;>
      replace a : (OtelVerif.C02.upd s.ps p { s.ps p with ph := .done (.result e) } q).ph = _ := a <;> by_cases hqp : q = p
    · subst hqp; rw [upd_same] at a; cases a; exact h.resOut _ (mem_of_lookup hl)
    · rw [upd_other _ _ _ _ hqp] at a; exact h.routed q e' a
    · subst hqp; rw [upd_same] at a; cases a
    · rw [upd_other _ _ _ _ hqp] at a; exact (lookup_filter_ne s.results hqp).symm ▸ h.waiting hw q a hfin
  | readPop c s1 _ hp | recheckPop c s1 _ hp => obtain ⟨id, el, t, _, rfl⟩ := pop_some hp; exact h.of_ph rfl rfl rfl (fun _ => rfl)
  | readStopped => exact h
  | readPark | recheckStopped | recheckPark => exact h.of_ph rfl rfl rfl (fun _ => rfl)
  | complete id el e =>
    rw [finish_eq]
    refine ⟨⟨fun x hx => ?_, (by simp [h.outFin] : (s.outcomes ++ [(id, e)]).map Prod.fst = s.finished ++ [id]),
      fun p e' a => List.mem_append_left _ (h.routed p e' ((condBroadcast_ph _ p).symm.trans a))⟩, fun hw q a hfin => ?_⟩
    · show x ∈ s.outcomes ++ [(id, e)]
      cases hw : k.wfr
      · rw [hw] at hx; exact List.mem_append_left _ (h.resOut x hx)
      · rw [hw] at hx; exact (List.mem_append.mp hx).elim (fun a => List.mem_append_left _ (h.resOut x a)) (List.mem_append_right _)
    · show ((if k.wfr then s.results ++ [(id, e)] else s.results).lookup q).isSome = true
      rw [if_pos hw]
      refine lookup_snoc_isSome s.results q id e ((List.mem_append.mp hfin).imp (fun b => ?_) List.mem_singleton.mp)
      exact h.waiting hw q ((condBroadcast_ph _ q).symm.trans a) b
  | shutdown => exact h.of_ph rfl rfl rfl (fun q => condBroadcast_ph _ q)

theorem InvQ.reachable {k : Cfg} {s : St} (hr : Reachable k s) : InvQ k s :=
  ((mem k).reach_induction (fun s => InvH s ∧ HandedPerm s ∧ InvQ k s)
    ⟨InvH.init, List.Perm.refl _, ⟨by simp, by simp, by simp⟩, fun _ _ hq => nomatch hq⟩
    (fun _ _ _ ⟨hH, hP, hA⟩ hf => ⟨hH.proto (fire_proto hf), hP.proto hH (fire_proto hf), hA.step hH hP hf⟩) s hr).2.2

theorem InvR.reachable {k : Cfg} {s : St} (hr : Reachable k s) : InvR s := (InvQ.reachable (k := k) hr).toInvR

/-! ### cond.go alone -/

def CPh.inCond (x : CPh) : Prop := x = .sel ∨ x = .wokenTok ∨ x = .wokenCtx

structure InvA (s : CSt) : Prop where
  wIff : ∀ i, i ∈ s.waiters ↔ (((s.ws i).ph = .sel ∨ (s.ws i).ph = .wokenCtx) ∧ (s.ws i).sig = false)
  wNodup : s.waiters.Nodup
  sigPh : ∀ i, (s.ws i).sig = true → (s.ws i).ph.inCond
  tokSig : ∀ i, (s.ws i).ph = .wokenTok → (s.ws i).sig = true

theorem InvA.change1 {s s' : CSt} {p : Nat} {x : W} (h : InvA s) (h1 : s'.ws = upd s.ws p x) (hn : s'.waiters.Nodup)
    (hm : ∀ q, q ≠ p → (q ∈ s'.waiters ↔ q ∈ s.waiters))
    (ha : p ∈ s'.waiters ↔ ((x.ph = .sel ∨ x.ph = .wokenCtx) ∧ x.sig = false))
    (hb : x.sig = true → x.ph.inCond) (hc : x.ph = .wokenTok → x.sig = true) : InvA s' := by
  refine ⟨fun q => ?_, hn, fun q => ?_, fun q => ?_⟩ <;> rw [h1] <;> by_cases hq : q = p
  · subst hq; rw [upd_same]; exact ha
  · rw [upd_other _ _ _ _ hq, hm q hq]; exact h.wIff q
  · subst hq; rw [upd_same]; exact hb
  · rw [upd_other _ _ _ _ hq]; exact h.sigPh q
  · subst hq; rw [upd_same]; exact hc
  · rw [upd_other _ _ _ _ hq]; exact h.tokSig q

theorem InvA.not_waiter {s : CSt} {i : Nat} (h : InvA s)
    (hp : ¬ ((s.ws i).ph = .sel ∨ (s.ws i).ph = .wokenCtx) ∨ (s.ws i).sig = true) : i ∉ s.waiters := fun hw => by
  have := (h.wIff i).mp hw
  rcases hp with hp | hp
  · exact hp this.1
  · rw [this.2] at hp; cases hp

theorem CPh.not_inCond_done (r : CRes) : ¬ (CPh.done r).inCond := fun a => by rcases a with a | a | a <;> cases a

theorem InvA.retire {s s' : CSt} {p : Nat} {x : W} (h : InvA s) (h1 : s'.ws = upd s.ws p x) (hn : s'.waiters.Nodup)
    (hm : ∀ q, q ≠ p → (q ∈ s'.waiters ↔ q ∈ s.waiters)) (hw : p ∉ s'.waiters) (hx : ¬ x.ph.inCond) (hs : x.sig = false) :
    InvA s' :=
  h.change1 h1 hn hm (iff_of_false hw (fun a => hx (a.1.elim Or.inl (fun b => Or.inr (Or.inr b)))))
    (fun a => by rw [hs] at a; cases a) (fun a => absurd (Or.inr (Or.inl a)) hx)

theorem InvA.signal {s : CSt} (h : InvA s) : InvA s.signal := by
  unfold CSt.signal
  cases hw : s.waiters with
  | nil => exact h
  | cons w ws =>
    have hnd : (w :: ws).Nodup := by rw [← hw]; exact h.wNodup
    have hww := (h.wIff w).mp (by rw [hw]; exact List.mem_cons_self)
    exact h.change1 rfl (List.nodup_cons.mp hnd).2
      (fun q hq => by rw [hw]; exact ⟨List.mem_cons_of_mem _, fun a => (List.mem_cons.mp a).resolve_left hq⟩)
      (iff_of_false (List.nodup_cons.mp hnd).1 (fun a => nomatch a.2))
      (fun _ => hww.1.elim Or.inl (fun b => Or.inr (Or.inr b))) (fun _ => rfl)

theorem CSt.signal_waiters {s : CSt} {q : Nat} (hq : q ∈ s.signal.waiters) : q ∈ s.waiters := by
  unfold CSt.signal at hq
  split at hq
  · exact hq
  · rename_i w ws hw; rw [hw]; exact List.mem_cons_of_mem _ hq

theorem InvA.broadcast {s : CSt} (h : InvA s) : InvA s.broadcast := by
  have e1 : ∀ q, q ∈ s.waiters → s.broadcast.ws q = { s.ws q with sig := true } := fun q hq => if_pos hq
  have e2 : ∀ q, q ∉ s.waiters → s.broadcast.ws q = s.ws q := fun q hq => if_neg hq
  refine ⟨fun q => iff_of_false List.not_mem_nil ?_, List.nodup_nil, fun q => ?_, fun q => ?_⟩ <;> by_cases hq : q ∈ s.waiters
  · rw [e1 q hq]; exact fun a => nomatch a.2
  · rw [e2 q hq]; exact fun a => hq ((h.wIff q).mpr a)
  · rw [e1 q hq]; exact fun _ => ((h.wIff q).mp hq).1.elim Or.inl (fun b => Or.inr (Or.inr b))
  · rw [e2 q hq]; exact h.sigPh q
  · rw [e1 q hq]; exact fun _ => rfl
  · rw [e2 q hq]; exact h.tokSig q

theorem InvA.wait {s : CSt} {i : Nat} (h : InvA s) (hi : (s.ws i).ph = .idle) :
    InvA { s with waiters := s.waiters ++ [i], ws := upd s.ws i { s.ws i with ph := .sel, sig := false } } := by
  have hw : i ∉ s.waiters := h.not_waiter (Or.inl (by rw [hi]; exact fun a => by rcases a with a | a <;> cases a))
  refine h.change1 rfl ?_ (fun q hq => ?_) (iff_of_true (List.mem_append_right _ (List.mem_singleton_self i)) ⟨Or.inl rfl, rfl⟩)
    (fun a => nomatch a) (fun a => nomatch a)
  · refine List.nodup_append.mpr ⟨h.wNodup, List.nodup_cons.mpr ⟨List.not_mem_nil, List.nodup_nil⟩, fun a ha b hb e => ?_⟩
    rw [List.mem_singleton.mp hb] at e; exact hw (e ▸ ha)
  · exact ⟨fun a => (List.mem_append.mp a).elim id (fun b => absurd (List.mem_singleton.mp b) hq), List.mem_append_left _⟩

theorem InvA.step {s s' : CSt} {l : CLabel} (h : InvA s) (hf : cfire s l = some s') : InvA s' := by
  cases l with
  | wait i =>
    simp only [cfire] at hf
    split at hf
    · rename_i hi; cases hf; exact h.wait hi
    · cases hf
  | cancel i =>
    simp only [cfire] at hf; cases hf
    exact h.change1 rfl h.wNodup (fun _ _ => Iff.rfl) (h.wIff i) (h.sigPh i) (h.tokSig i)
  | wakeTok i =>
    simp only [cfire] at hf
    split at hf
    · rename_i hc; cases hf
      exact h.change1 rfl h.wNodup (fun _ _ => Iff.rfl)
        (iff_of_false (h.not_waiter (Or.inr hc.2)) (fun a => by rcases a.1 with b | b <;> cases b))
        (fun _ => Or.inr (Or.inl rfl)) (fun _ => hc.2)
    · cases hf
  | wakeCtx i =>
    simp only [cfire] at hf
    split at hf
    · rename_i hc; cases hf
      exact h.change1 rfl h.wNodup (fun _ _ => Iff.rfl)
        ((h.wIff i).trans ⟨fun a => ⟨Or.inr rfl, a.2⟩, fun a => ⟨Or.inl hc.1, a.2⟩⟩)
        (fun _ => Or.inr (Or.inr rfl)) (fun a => nomatch a)
    · cases hf
  | relockTok i =>
    simp only [cfire] at hf
    split at hf
    · rename_i hc; cases hf
      exact h.retire rfl h.wNodup (fun _ _ => Iff.rfl) (h.not_waiter (Or.inr (h.tokSig i hc))) (CPh.not_inCond_done _) rfl
    · cases hf
  | relockCtx i =>
    simp only [cfire] at hf
    split at hf
    · cases hf
      split
      · exact h.retire rfl (h.wNodup.erase i) (fun q hq => List.mem_erase_of_ne hq) (List.Nodup.not_mem_erase h.wNodup)
          (CPh.not_inCond_done _) rfl
      · rename_i hw
        exact h.signal.retire rfl h.signal.wNodup (fun _ _ => Iff.rfl) (fun a => hw (CSt.signal_waiters a))
          (CPh.not_inCond_done _) rfl
    · cases hf
  | signal => simp only [cfire] at hf; cases hf; exact h.signal
  | broadcast => simp only [cfire] at hf; cases hf; exact h.broadcast

theorem InvA.init : InvA {} := ⟨by simp, by simp, by simp, by simp⟩

theorem InvA.run {s s' : CSt} (ls : List CLabel) (h : InvA s) (hr : crun s ls = some s') : InvA s' :=
  run_induction (ok := fun _ => True) (fun _ => rfl) (fun s l ls => by simp only [crun]; cases cfire s l <;> rfl)
    (fun _ _ _ h _ hf => InvA.step h hf) ls s s' h (fun _ _ => trivial) hr

end OtelVerif.C02

import OtelVerif.Model.C13
/-!
# C13 — lemmas about the reference and pipeline-shape checks: per phase, when it reports nothing (`…_none`); per phase
and per check, that what it reports names an offending entry (`…_offending`; `Offending` is defined here)
-/
namespace OtelVerif.C13

theorem find?_not_none {α : Type} {ok : α → Bool} {l : List α} :
    l.find? (fun r => !ok r) = none ↔ ∀ r ∈ l, ok r = true := by
  simp only [List.find?_eq_none, Bool.not_eq_true', Bool.not_eq_false]

theorem find?_not_some {α : Type} {ok : α → Bool} {l : List α} {r : α} (h : l.find? (fun r => !ok r) = some r) :
    r ∈ l ∧ ok r = false :=
  ⟨List.mem_of_find?_eq_some h, by simpa only [Bool.not_eq_true'] using List.find?_some h⟩

theorem contains_or {l m : List Id} {r : Id} : (l.contains r || m.contains r) = true ↔ r ∈ l ∨ r ∈ m := by
  simp only [Bool.or_eq_true, List.contains_iff_mem]

theorem contains_or_false {l m : List Id} {r : Id} : (l.contains r || m.contains r) = false ↔ r ∉ l ∧ r ∉ m := by
  rw [← Bool.not_eq_true, contains_or, not_or]

/-- the entry that an error names is really offending in `c` -/
def Offending (c : Top) : RErr → Prop
  | .emptyConfig => c.receivers = [] ∧ c.exporters = [] ∧ c.processors = [] ∧ c.connectors = [] ∧ c.extensions = []
  | .noReceivers => c.receivers = []
  | .noExporters => c.exporters = []
  | .ambiguousExporter r => r ∈ c.connectors ∧ r ∈ c.exporters
  | .ambiguousReceiver r => r ∈ c.connectors ∧ r ∈ c.receivers
  | .danglingExtension r => r ∈ c.svcExtensions ∧ configured c.extensions r = false
  | .danglingReceiver pid r => ∃ p, (pid, p) ∈ c.pipelines ∧ r ∈ p.recv ∧ r ∉ c.receivers ∧ r ∉ c.connectors
  | .danglingProcessor pid r => ∃ p, (pid, p) ∈ c.pipelines ∧ r ∈ p.procs ∧ configured c.processors r = false
  | .danglingExporter pid r => ∃ p, (pid, p) ∈ c.pipelines ∧ r ∈ p.exps ∧ r ∉ c.exporters ∧ r ∉ c.connectors
  | .pipeNoReceivers pid => ∃ p, (pid, p) ∈ c.pipelines ∧ p.recv = []
  | .pipeNoExporters pid => ∃ p, (pid, p) ∈ c.pipelines ∧ p.exps = []
  | .dupProcessor pid r => ∃ p, (pid, p) ∈ c.pipelines ∧ r ∈ p.procs ∧ ¬ p.procs.Nodup
  | .noPipelines => c.pipelines = []

/-! ## `Config.Validate` -/

theorem connErr_none {c : Top} {conn : Id} : connErr c conn = none ↔ conn ∉ c.exporters ∧ conn ∉ c.receivers := by
  unfold connErr
  by_cases a : conn ∈ c.exporters <;> by_cases b : conn ∈ c.receivers <;> simp [a, b]

theorem connErr_offending {c : Top} {conn : Id} {e : RErr} (hm : conn ∈ c.connectors) (h : connErr c conn = some e) :
    Offending c e := by
  unfold connErr at h
  split at h
  · rename_i hx; cases h; exact ⟨hm, List.contains_iff_mem.mp hx⟩
  · split at h
    · rename_i hx; cases h; exact ⟨hm, List.contains_iff_mem.mp hx⟩
    · cases h

theorem pipeRefErr_none {c : Top} {pid : Nat} {p : Pipe} : pipeRefErr c pid p = none ↔
    (∀ r ∈ p.recv, r ∈ c.receivers ∨ r ∈ c.connectors) ∧ (∀ r ∈ p.procs, configured c.processors r = true) ∧
    (∀ r ∈ p.exps, r ∈ c.exporters ∨ r ∈ c.connectors) := by
  -- each conjunct, read backwards, is "the `find?` of that loop finds nothing"
  simp only [← contains_or, ← find?_not_none (ok := fun r => c.receivers.contains r || c.connectors.contains r),
    ← find?_not_none (ok := fun r => c.exporters.contains r || c.connectors.contains r),
    ← find?_not_none (ok := configured c.processors)]
  unfold pipeRefErr
  split
  · rename_i h; simp only [h, reduceCtorEq, false_and]
  · rename_i h1
    split
    · rename_i h; simp only [h, reduceCtorEq, false_and, and_false]
    · rename_i h2
      split
      · rename_i h; simp only [h, reduceCtorEq, and_false]
      · rename_i h3; simp only [h1, h2, h3, and_self]

theorem pipeRefErr_offending {c : Top} {pid : Nat} {p : Pipe} {e : RErr} (hm : (pid, p) ∈ c.pipelines)
    (h : pipeRefErr c pid p = some e) : Offending c e := by
  unfold pipeRefErr at h
  split at h
  · rename_i r hf
    obtain ⟨hr, hn⟩ := find?_not_some hf
    cases h
    exact ⟨p, hm, hr, contains_or_false.mp hn⟩
  · split at h
    · rename_i r hf
      cases h
      exact ⟨p, hm, find?_not_some hf⟩
    · split at h
      · rename_i r hf
        obtain ⟨hr, hn⟩ := find?_not_some hf
        cases h
        exact ⟨p, hm, hr, contains_or_false.mp hn⟩
      · cases h

theorem rootErrs_offending {c : Top} {e : RErr} (h : e ∈ rootErrs c) : Offending c e := by
  unfold rootErrs at h
  split at h
  · rename_i hc
    cases List.mem_singleton.mp h
    simp only [Bool.and_eq_true, List.isEmpty_iff, and_assoc] at hc
    exact hc
  · split at h
    · rename_i hc; cases List.mem_singleton.mp h; exact List.isEmpty_iff.mp hc
    · split at h
      · rename_i hc; cases List.mem_singleton.mp h; exact List.isEmpty_iff.mp hc
      · split at h
        · rename_i e' es hce
          rw [← hce] at h
          obtain ⟨conn, hm, hc⟩ := List.mem_filterMap.mp h
          exact connErr_offending hm hc
        · split at h
          · rename_i r hf; cases List.mem_singleton.mp h; exact find?_not_some hf
          · obtain ⟨⟨pid, p⟩, hm, hp⟩ := List.mem_filterMap.mp h
            exact pipeRefErr_offending hm hp

/-! ## `PipelineConfig.Validate` -/

theorem firstDup_none (seen xs : List Id) : firstDup seen xs = none ↔ xs.Nodup ∧ ∀ x ∈ xs, x ∉ seen := by
  induction xs generalizing seen with
  | nil => simp [firstDup]
  | cons x xs ih =>
    simp only [firstDup]
    by_cases h : seen.contains x = true
    · simp only [h, if_true, reduceCtorEq, false_iff]
      intro ⟨_, h2⟩
      exact h2 x (List.mem_cons_self ..) (by simpa using h)
    · simp only [h, Bool.false_eq_true, if_false, ih, List.nodup_cons, List.mem_cons]
      have hx : x ∉ seen := by simpa using h
      constructor
      · rintro ⟨hn, hs⟩
        refine ⟨⟨fun hm => (hs x hm) (.inl rfl), hn⟩, ?_⟩
        rintro y (rfl | hy)
        · exact hx
        · intro hys; exact hs y hy (.inr hys)
      · rintro ⟨⟨hnx, hn⟩, hs⟩
        refine ⟨hn, fun y hy => ?_⟩
        rintro (rfl | hys)
        · exact hnx hy
        · exact hs y (.inr hy) hys

theorem firstDup_some {seen xs : List Id} {r : Id} (h : firstDup seen xs = some r) : r ∈ xs := by
  induction xs generalizing seen with
  | nil => simp [firstDup] at h
  | cons x xs ih =>
    simp only [firstDup] at h
    split at h
    · cases h; exact List.mem_cons_self ..
    · exact List.mem_cons_of_mem _ (ih h)

theorem pipeErr_none {pid : Nat} {p : Pipe} : pipeErr pid p = none ↔ p.recv ≠ [] ∧ p.exps ≠ [] ∧ p.procs.Nodup := by
  unfold pipeErr
  split
  · rename_i h; simp only [List.isEmpty_iff.mp h, reduceCtorEq, ne_eq, not_true_eq_false, false_and]
  · rename_i h1
    split
    · rename_i h; simp only [List.isEmpty_iff.mp h, reduceCtorEq, ne_eq, not_true_eq_false, false_and, and_false]
    · rename_i h2
      simp only [Option.map_eq_none_iff, firstDup_none, List.not_mem_nil, not_false_eq_true, implies_true, and_true, ne_eq,
        ← List.isEmpty_iff, h1, h2, Bool.false_eq_true, true_and]

theorem pipeErr_offending {c : Top} {pid : Nat} {p : Pipe} {e : RErr} (hm : (pid, p) ∈ c.pipelines)
    (h : pipeErr pid p = some e) : Offending c e := by
  unfold pipeErr at h
  split at h
  · rename_i hc; cases h; exact ⟨p, hm, List.isEmpty_iff.mp hc⟩
  · split at h
    · rename_i hc; cases h; exact ⟨p, hm, List.isEmpty_iff.mp hc⟩
    · obtain ⟨r, hd, rfl⟩ := Option.map_eq_some_iff.mp h
      refine ⟨p, hm, firstDup_some hd, fun hn => ?_⟩
      rw [(firstDup_none [] p.procs).mpr ⟨hn, fun _ _ => List.not_mem_nil⟩] at hd
      cases hd

theorem shapeErrs_offending {c : Top} {e : RErr} (h : e ∈ shapeErrs c) : Offending c e := by
  unfold shapeErrs at h
  rcases List.mem_append.mp h with h | h
  · split at h
    · rename_i hc; cases List.mem_singleton.mp h; exact List.isEmpty_iff.mp hc
    · cases h
  · obtain ⟨⟨pid, p⟩, hm, hp⟩ := List.mem_filterMap.mp h
    exact pipeErr_offending hm hp

end OtelVerif.C13

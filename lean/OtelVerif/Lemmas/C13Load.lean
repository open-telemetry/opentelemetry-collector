import OtelVerif.Model.C13Load
/-!
# C13 — lemmas about loading a section: the fold of `loadStep` (`fold_load`), the two branches of `setKey`, and the
regenerated statements of `Configs.Unmarshal` run to `loadStep`
-/
namespace OtelVerif.C13
open OtelVerif.Gen

/-- every stored address is below the allocation pointer, so a fresh cell shadows none -/
def AddrInv (s : LoadSt) : Prop := ∀ id a, s.out.lookup id = some a → a < s.next

theorem AddrInv.of_out_nil {s : LoadSt} (h : s.out = []) : AddrInv s := by
  intro id a hl
  rw [h] at hl
  cases hl

theorem loadStep_result_new (d : String → Obj) (s : LoadSt) (e : CId × List (String × String)) :
    (loadStep d s e).result e.1 = some (overlay (d e.1.1) e.2) := by
  simp [loadStep, LoadSt.result, List.lookup_cons]

theorem loadStep_result_old (d : String → Obj) (s : LoadSt) (e : CId × List (String × String)) (id : CId)
    (hne : id ≠ e.1) (hinv : AddrInv s) : (loadStep d s e).result id = s.result id := by
  have h1 : (id == e.1) = false := by simpa using hne
  simp only [loadStep, LoadSt.result, List.lookup_cons, h1]
  cases h : s.out.lookup id with
  | none => rfl
  | some a =>
    have := hinv id a h
    have h2 : (a == s.next) = false := by simp; omega
    simp [h2]

theorem loadStep_inv (d : String → Obj) (s : LoadSt) (e : CId × List (String × String)) (hinv : AddrInv s) :
    AddrInv (loadStep d s e) := by
  intro id a h
  simp only [loadStep, List.lookup_cons] at h ⊢
  by_cases hq : (id == e.1) = true
  · simp [hq] at h; omega
  · simp [hq] at h; have := hinv id a h; omega

theorem fold_load (d : String → Obj) : ∀ (entries : List (CId × List (String × String))) (s : LoadSt), AddrInv s →
    ((entries.map (·.1)).Nodup → ∀ e ∈ entries, (entries.foldl (loadStep d) s).result e.1 = some (overlay (d e.1.1) e.2)) ∧
    (∀ id, id ∉ entries.map (·.1) → (entries.foldl (loadStep d) s).result id = s.result id)
  | [], s, _ => ⟨fun _ e h => (by cases h), fun _ _ => rfl⟩
  | e :: es, s, hinv => by
    obtain ⟨ih1, ih2⟩ := fold_load d es (loadStep d s e) (loadStep_inv d s e hinv)
    simp only [List.foldl_cons]
    refine ⟨fun hnd e' he' => ?_, fun id hid => ?_⟩
    · simp only [List.map_cons, List.nodup_cons] at hnd
      cases he' with
      | head => rw [ih2 e.1 hnd.1]; exact loadStep_result_new d s e
      | tail _ h => exact ih1 hnd.2 e' h
    · simp only [List.map_cons, List.mem_cons, not_or] at hid
      rw [ih2 id hid.2]; exact loadStep_result_old d s e id hid.1 hinv

theorem lookup_map_set (k v : String) : ∀ d : Obj, d.any (fun p => p.1 == k) = true →
    (d.map (fun p => if p.1 == k then (k, v) else p)).lookup k = some v
  | [], h => by cases h
  | (a, b) :: ps, h => by
    cases hk : a == k with
    | true => simp only [List.map_cons, hk, if_true, List.lookup_cons, beq_self_eq_true]
    | false =>
      have hf : (k == a) = false := by rw [beq_eq_false_iff_ne] at hk ⊢; exact Ne.symm hk
      simp only [List.map_cons, hk, Bool.false_eq_true, if_false, List.lookup_cons, hf]
      exact lookup_map_set k v ps (by simpa only [List.any_cons, hk, Bool.false_or] using h)

theorem lookup_append_new (k v : String) : ∀ d : Obj, d.any (fun p => p.1 == k) = false →
    (d ++ [(k, v)]).lookup k = some v
  | [], _ => by simp only [List.nil_append, List.lookup_cons, beq_self_eq_true]
  | (a, b) :: ps, h => by
    simp only [List.any_cons, Bool.or_eq_false_iff] at h
    have hf : (k == a) = false := by rw [beq_eq_false_iff_ne]; exact Ne.symm (beq_eq_false_iff_ne.mp h.1)
    simp only [List.cons_append, List.lookup_cons, hf]
    exact lookup_append_new k v ps h.2

/-- after `freshDefault` the new object heads the heap at `s.next`, where `overlay` finds and `heapSet` rewrites it -/
theorem runBody_fun (d : String → Obj) : runBody ConfigsLoad.body d {} = loadStep d :=
  funext fun s => funext fun e => by simp [runBody, ConfigsLoad.body, List.foldl, lstep, loadStep, heapSet]

theorem runBefore_eq (d : String → Obj) (s0 : LoadSt) :
    ConfigsLoad.before.foldl (lstep d (("", ""), [])) (s0, {}) = ({ s0 with out := [] }, {}) := by
  simp [ConfigsLoad.before, List.foldl, lstep]
end OtelVerif.C13

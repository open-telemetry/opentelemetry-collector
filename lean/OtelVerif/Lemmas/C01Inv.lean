import OtelVerif.Lemmas.C01Loose
/-!
# C01 — the crash invariant: the loose invariant with nothing given up, and nothing lagging

Without failing calls nothing is given up (`InvR c []`) and memory never runs ahead of the store (`NoLag`, kept by the store steps
under the hypotheses about `KL` that the steps of `InvR` take anyway: the compositions of Lemmas/C01Loose.lean once more).  `HandInv`
(what is pending or finalised was handed out) goes by the kind of firing.  `StInv`, `LiveInv` are views (`StInv.ofE`, `liveInv_of`).
-/
namespace OtelVerif.C01

/-- the pcs that only a failed storage call leads to (nothing to do with `Phase.dead`) -/
def deadPc : Pc → Bool
  | .readFin _ | .readLoop | .fin1 _ _ | .fin2 _ _ | .fin3 _ _ => true
  | _ => false

def MovInv (s : Store) (m : Mem) (todo : List (Nat × Option Req)) : Prop :=
  todo.map Prod.fst = s.di ∧ (∀ p ∈ todo, s.items p.1 = p.2) ∧ m.cdi = [] ∧ m.outst = []

def PcInv (s : Store) (m : Mem) : Pc → Prop
  | .idle => m.cdi = s.di
  | .backup => m.cdi = s.di
  | .readLoop => m.cdi = s.di
  | .readRet i r => m.cdi = s.di ∧ s.items i = some r ∧ i < s.R
  | .readFin i => m.cdi = s.di ∧ s.items i = none ∧ i < s.R
  | .init1 => m.cdi = [] ∧ m.outst = []
  | .init2 => m.cdi = [] ∧ m.outst = []
  | .init3 ds => ds = s.di ∧ m.cdi = [] ∧ m.outst = []
  | .moving todo => MovInv s m todo
  | .movingBackup todo => MovInv s m todo
  | .fin1 _ _ => False     -- unreachable without storage errors, as are `readLoop` and `readFin` (`deadPc`)
  | .fin2 _ _ => False
  | .fin3 _ _ => False

theorem MovInv.fst {s : Store} {m : Mem} {todo : List (Nat × Option Req)} (h : MovInv s m todo) : todo.map Prod.fst = s.di := h.1
theorem MovInv.items {s : Store} {m : Mem} {todo : List (Nat × Option Req)} (h : MovInv s m todo) :
    ∀ p ∈ todo, s.items p.1 = p.2 := h.2.1

structure LiveInv (c : Cfg) (m : Mem) (pc : Pc) : Prop where
  ri : m.ri = c.st.R
  wi : m.wi = c.st.W
  outst : ∀ p ∈ m.outst, c.st.items p.1 = some p.2 ∧ p.1 < c.st.R ∧ p.2 ∈ c.handed
  pc : PcInv c.st m pc

theorem LiveInv.waiting {c : Cfg} {m : Mem} {pc : Pc} (hl : LiveInv c m pc) (w : List Req) :
    LiveInv c { m with waiting := w } pc :=
  ⟨hl.ri, hl.wi, hl.outst, by
    have := hl.pc
    cases pc <;> exact this⟩

structure NoLagLive (s : Store) (m : Mem) (pc : Pc) : Prop where
  ri : m.ri = s.R
  kl : KL s m pc = s.di
  alive : deadPc pc = false

/-- no storage call has failed: no holes in `[R, W)`, memory is not ahead of the store, and none of the pcs that only a failed
    call leads to — the dequeue batch always finds its item (`NoLag.head`) -/
structure NoLag (c : Cfg) : Prop where
  full : ∀ j, c.st.R ≤ j → j < c.st.W → (c.st.items j).isSome = true
  live : ∀ m pc, c.ph = .live m pc → NoLagLive c.st m pc

structure HandInv (c : Cfg) : Prop where
  out : ∀ p ∈ outstOf c, p.2 ∈ c.handed
  fin : ∀ r ∈ c.finalised, r ∈ c.handed

theorem StInv.ofE {s : Store} (h : StInvE s) (full : ∀ j, s.R ≤ j → j < s.W → (s.items j).isSome = true) : StInv s :=
  ⟨h.opt, h.le, h.dlt, h.nodup, full⟩

theorem liveInv_of {c : Cfg} {m : Mem} {pc : Pc} (hl : LiveInvE c.st c.finalised [] m pc) (hn : NoLagLive c.st m pc)
    (hh : ∀ p ∈ m.outst, p.2 ∈ c.handed) : LiveInv c m pc := by
  have hlt : ∀ i ∈ m.cdi, i < c.st.R := hl.cdiLt
  refine ⟨hn.ri, hl.wi, fun p hp => ⟨(hl.outst p hp).1, hlt _ (hl.outst p hp).2, hh p hp⟩, ?_⟩
  have hk := hn.kl
  have ha := hn.alive
  have hp := hl.pc
  cases pc with
  | idle => exact hk
  | backup => exact hk
  | readLoop => exact hk
  | readRet i r => exact ⟨hk, hp.1, hlt i hp.2⟩
  | init1 => exact hp
  | init2 => exact hp
  | init3 ds => exact hp
  | moving todo => exact ⟨hk, fun p hp' => (hp.1 p hp').2, hp.2.2⟩
  | movingBackup todo => exact ⟨hk, fun p hp' => (hp.1 p hp').2, hp.2.2⟩
  | readFin i => cases ha
  | fin1 i k => cases ha
  | fin2 i k => cases ha
  | fin3 i k => cases ha

theorem NoLag.putB {c : Cfg} {m : Mem} {pc pc' : Pc} (h : NoLag c) (hs : StInvE c.st) (hn : NoLagLive c.st m pc)
    (hw : m.wi = c.st.W) (r : Req) {sz : Nat} {acc : List Req}
    (hk : KL (c.st.putB m.wi r) { m with wi := m.wi + 1, size := sz } pc' = KL c.st m pc) (ha : deadPc pc' = false) :
    NoLag { c with st := c.st.putB m.wi r, accepted := acc, ph := .live { m with wi := m.wi + 1, size := sz } pc' } := by
  refine ⟨?_, fun m2 pc2 heq => by cases heq; exact ⟨by rw [hw, putB_R hs.opt]; exact hn.ri, by rw [hk]; exact hn.kl, ha⟩⟩
  intro j h1 h2
  dsimp only at h1 h2 ⊢
  rw [hw] at h1 h2 ⊢
  rw [putB_R hs.opt] at h1; rw [putB_W] at h2
  by_cases hj : j = c.st.W
  · subst hj; simp
  · rw [putB_items, upd_ne _ _ hj]; exact h.full j h1 (by omega)

theorem NoLag.getB {c : Cfg} {m : Mem} {pc pc' : Pc} (h : NoLag c) (hn : NoLagLive c.st m pc) (hlt : c.st.R < c.st.W)
    {sz : Nat}
    (hk' : KL (c.st.getB (m.ri + 1) (m.cdi ++ [m.ri])) { m with ri := m.ri + 1, cdi := m.cdi ++ [m.ri], size := sz } pc'
      = m.cdi ++ [m.ri]) (ha : deadPc pc' = false) {calls : Nat} {res : Res} :
    NoLag { c with calls := calls, st := c.st.getB (m.ri + 1) (m.cdi ++ [m.ri]),
                   ph := .live { m with ri := m.ri + 1, cdi := m.cdi ++ [m.ri], size := sz } pc', res := res } := by
  refine ⟨?_, fun m2 pc2 heq => by cases heq; exact ⟨(getB_R hlt _ _).symm, hk', ha⟩⟩
  intro j h1 h2
  dsimp only at h1 h2 ⊢
  rw [getB_R hlt] at h1
  exact h.full j (by rw [← hn.ri]; omega) h2

theorem NoLag.finB {c : Cfg} {m m' : Mem} {pc pc' : Pc} (h : NoLag c) (hn : NoLagLive c.st m pc) {i : Nat} {l : List Nat}
    (hi : i < c.st.R) (hri : m'.ri = m.ri) (hk' : KL (c.st.finB l i) m' pc' = l) (ha : deadPc pc' = false) :
    NoLag { c with st := c.st.finB l i, ph := .live m' pc' } := by
  refine ⟨?_, fun m2 pc2 heq => by cases heq; exact ⟨hri.trans hn.ri, hk', ha⟩⟩
  intro j h1 h2
  have hne : j ≠ i := by have : c.st.R ≤ j := h1; omega
  show (upd c.st.items i none j).isSome = true
  rw [upd_ne _ _ hne]; exact h.full j h1 h2

theorem NoLag.of_eq {c c' : Cfg} (h : NoLag c) (hst : c'.st = c.st) (hph : c'.ph = c.ph) : NoLag c' :=
  ⟨by rw [hst]; exact h.full, by intro m pc heq; rw [hph] at heq; rw [hst]; exact h.live m pc heq⟩

theorem NoLag.relive {c c' : Cfg} {m' : Mem} {pc' : Pc} (h : NoLag c) (hst : c'.st = c.st) (hph : c'.ph = .live m' pc')
    (hn : NoLagLive c.st m' pc') : NoLag c' :=
  ⟨by rw [hst]; exact h.full, by intro m pc heq; rw [hph] at heq; cases heq; rw [hst]; exact hn⟩

theorem NoLag.setSi {c c' : Cfg} {m' : Mem} {pc' : Pc} (h : NoLag c) (v : Nat) (hst : c'.st = c.st.setSi v)
    (hph : c'.ph = .live m' pc') (hn : NoLagLive c.st m' pc') : NoLag c' :=
  ⟨by rw [hst]; exact h.full, by
    intro m pc heq; rw [hph] at heq; cases heq; rw [hst]
    exact ⟨hn.ri, (KL_congr rfl rfl pc').trans hn.kl, hn.alive⟩⟩

theorem NoLag.head {c : Cfg} {m : Mem} {pc : Pc} (h : NoLag c) (hn : NoLagLive c.st m pc)
    (hl : LiveInvE c.st c.finalised [] m pc) (hne : m.ri ≠ m.wi) : ∃ r, c.st.items m.ri = some r := by
  have := hl.riWi; have := hl.wi; have hri := hn.ri
  rw [hri]
  exact Option.isSome_iff_exists.mp (h.full c.st.R (Nat.le_refl _) (by omega))

theorem NoLagLive.waiting {s : Store} {m : Mem} {pc : Pc} (hn : NoLagLive s m pc) (w : List Req) :
    NoLagLive s { m with waiting := w } pc :=
  ⟨hn.ri, (KL_congr rfl rfl pc).trans hn.kl, hn.alive⟩

theorem noLag_doPut {c : Cfg} {m : Mem} {pc0 : Pc} (hr : InvR c []) (h : NoLag c) (hn : NoLagLive c.st m pc0)
    (hl : LiveInvE c.st c.finalised [] m pc0) (hk : KL c.st m pc0 = m.cdi) (r : Req) : NoLag (doPut c m r) :=
  (h.putB hr.st hn hl.wi r (acc := r :: c.accepted) (sz := m.size + c.k.sizeof r)
    (pc' := if writeBackupDue c.k (m.wi + 1) then .backup else .idle) (by rw [hk]; split <;> rfl) (by split <;> rfl)).of_eq rfl rfl

theorem noLag_doRead {c : Cfg} {m : Mem} {pc0 : Pc} (h : NoLag c) (hn : NoLagLive c.st m pc0)
    (hl : LiveInvE c.st c.finalised [] m pc0) (hk : KL c.st m pc0 = m.cdi) : NoLag (doRead c m) := by
  have hidle : NoLagLive c.st m .idle := ⟨hn.ri, hk.symm.trans hn.kl, rfl⟩
  fun_cases doRead c m
  · exact h.relive rfl rfl hidle
  · exact h.relive rfl rfl hidle
  · next _ he cdi' m' =>
      have hlt : c.st.R < c.st.W := by have := hl.riWi; have := hl.wi; have := hn.ri; omega
      obtain ⟨r, hitem⟩ := h.head hn hl he
      rw [hitem]
      exact h.getB hn hlt rfl rfl

theorem noLag_doDone {c : Cfg} {m : Mem} (h : NoLag c) (hn : NoLagLive c.st m .idle)
    (hl : LiveInvE c.st c.finalised [] m .idle) (i : Nat) (oc : Outcome) : NoLag (doDone c m i oc) := by
  fun_cases doDone c m i oc
  · exact h.of_eq rfl rfl
  · exact h.relive rfl rfl ⟨hn.ri, hn.kl, rfl⟩
  · next r hlook m1 cdi' =>
      have hi : i < c.st.R := hl.cdiLt i (hl.outst (i, r) (mem_of_lookup hlook)).2
      exact (h.finB (m' := { m1 with cdi := cdi' }) (pc' := if readBackupDue c.k m.ri then .backup else .idle) hn hi rfl
        (by split <;> rfl) (by split <;> rfl)).of_eq rfl rfl

theorem KL_afterMove (s : Store) {m : Mem} (hc : m.cdi = []) (rest : List (Nat × Option Req)) :
    KL s m (afterMove rest) = rest.map Prod.fst ∧ deadPc (afterMove rest) = false := by
  cases rest with
  | nil => exact ⟨hc, rfl⟩
  | cons p t => exact ⟨rfl, rfl⟩

theorem noLag_doMove {c : Cfg} {m : Mem} {todo : List (Nat × Option Req)} (hr : InvR c []) (h : NoLag c)
    (hn : NoLagLive c.st m (.moving todo)) (hl : LiveInvE c.st c.finalised [] m (.moving todo)) :
    NoLag (doMove c m todo) := by
  have hval := hl.mov.listed
  have hc := hl.mov.cdi
  fun_cases doMove c m todo
  · exact h.relive rfl rfl ⟨hn.ri, hc.trans hn.kl, rfl⟩
  · next i rest =>
    have hi : i < c.st.R := hr.st.dlt i (hval (i, none) List.mem_cons_self).1
    exact (h.finB (m' := m) hn hi rfl (KL_afterMove _ hc rest).1 (KL_afterMove c.st hc rest).2).of_eq rfl rfl
  · next i r rest m' =>
    have hi : i < c.st.R := hr.st.dlt i (hval (i, some r) List.mem_cons_self).1
    have h1 := h.putB (pc' := .moving ((i, some r) :: rest)) hr.st hn hl.wi r (acc := c.accepted)
      (sz := m.size + c.k.sizeof r) rfl rfl
    have hn1 := h1.live _ _ rfl
    split
    · exact (h1.finB (m' := m') (pc' := .movingBackup rest) hn1 (by rw [putB_R hr.st.opt]; exact hi) rfl rfl rfl).of_eq rfl rfl
    · exact (h1.finB (m' := m') hn1 (by rw [putB_R hr.st.opt]; exact hi) rfl (KL_afterMove _ hc rest).1
        (KL_afterMove c.st (m := m') hc rest).2).of_eq rfl rfl

theorem noLag_doGetDi {c : Cfg} {m : Mem} {pc0 : Pc} (h : NoLag c) (hn : NoLagLive c.st m pc0) (hc : m.cdi = []) :
    NoLag (doGetDi c m) := by
  fun_cases doGetDi c m
  · next hd => exact h.relive rfl rfl ⟨hn.ri, by rw [hd]; exact hc, rfl⟩
  · exact h.relive rfl rfl ⟨hn.ri, rfl, rfl⟩

theorem noLag_doTick {c : Cfg} {m : Mem} {pc : Pc} (hr : InvR c []) (h : NoLag c) (hph : c.ph = .live m pc) :
    NoLag (doTick c m pc) := by
  have hn := h.live m pc hph
  have hl := hr.live m pc hph
  cases pc with
  | idle => exact h
  | backup => exact h.setSi _ rfl rfl ⟨hn.ri, hn.kl, rfl⟩
  | readRet i r => exact h.relive rfl rfl ⟨hn.ri, hn.kl, rfl⟩
  | init1 =>
    simp only [doTick]
    split
    · exact h.relive rfl rfl ⟨hn.ri, rfl, rfl⟩
    · exact noLag_doGetDi h hn hl.pc.1
  | init2 => exact noLag_doGetDi h hn hl.pc.1
  | init3 ds =>
    refine h.relive rfl rfl ⟨hn.ri, ?_, rfl⟩
    show (ds.map fun i => (i, c.st.items i)).map Prod.fst = c.st.di
    rw [List.map_map, ← hl.pc.1]
    exact List.map_id' ds
  | moving todo => exact noLag_doMove hr h hn hl
  | movingBackup todo =>
    have hc := MovInvE.cdi (todo := todo) hl.pc
    exact h.setSi _ rfl rfl ⟨hn.ri, ((KL_afterMove _ hc todo).1).trans hn.kl, (KL_afterMove c.st hc todo).2⟩
  | readFin i => exact absurd hn.alive (by simp [deadPc])
  | readLoop => exact absurd hn.alive (by simp [deadPc])
  | fin1 i k => exact absurd hn.alive (by simp [deadPc])
  | fin2 i k => exact absurd hn.alive (by simp [deadPc])
  | fin3 i k => exact absurd hn.alive (by simp [deadPc])

theorem noLag_doOffer {c : Cfg} {m : Mem} (hr : InvR c []) (h : NoLag c) (hph : c.ph = .live m .idle) (r : Req) :
    NoLag (doOffer c m r) := by
  have hn := h.live m _ hph
  fun_cases doOffer c m r
  · fun_cases doOfferFull c m r
    · exact h.of_eq rfl rfl
    · exact h.of_eq rfl rfl
    · exact h.relive rfl rfl (hn.waiting _)
  · exact noLag_doPut hr h hn (hr.live m _ hph) rfl r

theorem noLag_doWake {c : Cfg} {m : Mem} (hr : InvR c []) (h : NoLag c) (hph : c.ph = .live m .idle) : NoLag (doWake c m) := by
  have hn := h.live m _ hph
  fun_cases doWake c m
  · exact h
  · exact h.relive rfl rfl (hn.waiting _)
  · exact noLag_doPut hr h (hn.waiting _) ((hr.live m _ hph).waiting _) rfl _

theorem noLag_fire {c : Cfg} (hr : InvR c []) (h : NoLag c) (l : Label) : NoLag (fire c l) := by
  refine fire_cases (P := fun _ c' => NoLag c') c l (skip := h) (crash := ⟨h.full, nofun⟩)
    (start := fun _ => h.relive rfl rfl ⟨rfl, rfl, rfl⟩) (tick := fun m pc heq => noLag_doTick hr h heq)
    (offer := fun m r heq => noLag_doOffer hr h heq r) (read := fun m heq => noLag_doRead h (h.live m _ heq) (hr.live m _ heq) rfl)
    (done := fun m i oc heq => noLag_doDone h (h.live m _ heq) (hr.live m _ heq) i oc) (wake := fun m heq => noLag_doWake hr h heq)
    (cancel := fun m j heq => h.relive rfl rfl ((h.live m _ heq).waiting _)) (shutdown := ?_) (promote := ?_)
  · intro m heq
    have hn := h.live m _ heq
    unfold doShutdown
    split
    · exact h.relive rfl rfl ⟨hn.ri, hn.kl, rfl⟩
    · exact h.setSi m.size rfl rfl ⟨hn.ri, hn.kl, rfl⟩
  · intro m j heq
    fun_cases doPromote c m j
    · exact h
    · exact h.relive rfl rfl ((h.live m _ heq).waiting _)

theorem handInv_fire {c : Cfg} (h : HandInv c) (l : Label) : HandInv (fire c l) := by
  have s := fire_step c l
  generalize fire c l = c' at s
  cases s with
  | skip => exact h
  | keeps hph k =>
    obtain ⟨m', pc', hph', ho, -⟩ := k.ph
    refine ⟨?_, by rw [k.fin, k.handed]; exact h.fin⟩
    rw [outstOf_live hph', ho, k.handed, ← outstOf_live hph]; exact h.out
  | ret hph =>
    refine ⟨?_, fun r hr => List.mem_cons_of_mem _ (h.fin r hr)⟩
    intro p hp
    rcases List.mem_cons.mp hp with rfl | hp
    · exact List.mem_cons_self
    · exact List.mem_cons_of_mem _ (h.out p (by rw [outstOf_live hph]; exact hp))
  | done i oc hph =>
    rename_i m
    have ho : ∀ p ∈ m.outst, p.2 ∈ c.handed := fun p hp => h.out p (by rw [outstOf_live hph]; exact hp)
    fun_cases doDone c m i oc
    · exact ⟨h.out, h.fin⟩
    · exact ⟨fun p hp => ho p (List.mem_filter.mp hp).1, h.fin⟩
    · next r hlook _ _ =>
      refine ⟨fun p hp => ho p (List.mem_filter.mp hp).1, fun q hq => ?_⟩
      rcases List.mem_cons.mp hq with rfl | hq
      · exact ho (i, q) (mem_of_lookup hlook)
      · exact h.fin q hq
  | crash => exact ⟨nofun, h.fin⟩
  | start => exact ⟨nofun, h.fin⟩

structure Inv (c : Cfg) : Prop where
  loose : InvR c []
  tight : NoLag c
  hand : HandInv c

theorem Inv.st {c : Cfg} (h : Inv c) : StInv c.st := .ofE h.loose.st h.tight.full
theorem Inv.main {c : Cfg} (h : Inv c) : ∀ r ∈ c.accepted, r ∈ c.finalised ∨ Recoverable c.st r :=
  fun r hr => (h.loose.main r hr).imp_left fun h' => h'.resolve_right (nomatch ·)
theorem Inv.fin {c : Cfg} (h : Inv c) : ∀ r ∈ c.finalised, r ∈ c.handed := h.hand.fin
theorem Inv.live {c : Cfg} (h : Inv c) (m : Mem) (pc : Pc) (hph : c.ph = .live m pc) : LiveInv c m pc :=
  liveInv_of (h.loose.live m pc hph) (h.tight.live m pc hph) fun p hp => h.hand.out p (by rw [outstOf_live hph]; exact hp)

theorem Inv.head {c : Cfg} {m : Mem} {pc : Pc} (h : Inv c) (hph : c.ph = .live m pc) (hne : m.ri ≠ m.wi) :
    ∃ r, c.st.items m.ri = some r :=
  h.tight.head (h.tight.live m pc hph) (h.loose.live m pc hph) hne

theorem Inv.ri_le_wi {c : Cfg} {m : Mem} {pc : Pc} (h : Inv c) (hph : c.ph = .live m pc) : m.ri ≤ m.wi :=
  (h.loose.live m pc hph).riWi

theorem inv_fresh (k : Conf) {s : Store} (hs : StInv s) : Inv { k := k, st := s } :=
  ⟨InvR.mkDead rfl hs.toE nofun, ⟨hs.full, nofun⟩, nofun, nofun⟩

theorem inv_init (k : Conf) : Inv (init k) := inv_fresh k stInv_empty

theorem inv_fire {c : Cfg} (h : Inv c) (l : Label) : Inv (fire c l) :=
  ⟨invR_fire h.loose l, noLag_fire h.loose h.tight l, handInv_fire h.hand l⟩

theorem inv_run (k : Conf) (ls : List Label) : Inv (run k ls) :=
  List.foldlRecOn (motive := Inv) ls fire (inv_init k) fun _ h l _ => inv_fire h l

end OtelVerif.C01

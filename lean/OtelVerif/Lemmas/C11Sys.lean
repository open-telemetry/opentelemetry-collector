import OtelVerif.Lemmas.C11SC
/-!
# C11 — the service's glue loops and whole service runs of `Model/C11Sys.lean`

First what `C11_glue_as_documented` needs (`docStart`, `docStop`, `loopAll_docStart/Stop`).  Then a run of `Sys.opsDoc`, split at the
start of shutdown (`Sys.upOpsDoc`, `downOpsDoc`, state `Sys.gUp`, `Sys.up_cases`), is seen from ONE instance: what a step for another
instance leaves alone (`Aloof`, `Foreign`), the own node (`startAll_own`, `*_with_target`), hence `sys_plain_up`, `sys_ext_up`; for an
instance of a shared component, `Keeps` gives `startAll_attaches`, and `KInv` with `Aloof` gives `sys_shared_up_reports`.
-/
namespace OtelVerif.C11
open OtelVerif.Gen

/-! ## the interpreted, regenerated loops are the documented ones -/

/-- the documented loop shapes (docs/component-status.md, "Automation"): Starting before `Start`, PermanentError and abort when it
fails, else OK-if-still-starting; Stopping before `Shutdown`, PermanentError (and carry on) when it fails, else Stopped -/
def docStart (hostWrapped : Bool) : LoopSkel := ⟨[.rep .starting], [.rep .permanent], .ret, [.okIf], hostWrapped⟩
def docStop : LoopSkel := ⟨[.rep .stopping], [.rep .permanent], .cont, [.rep .stopped], false⟩

theorem loopAll_docStart (cap : Nat) (hw hr : Bool) (g : GState) (nodes : List Node) :
    loopAll cap (docStart hw) true hr g nodes = startAll cap hr g nodes := by
  induction nodes generalizing g with
  | nil => rfl
  | cons n rest ih =>
    rw [loopAll, ih]
    rfl

theorem loopAll_docStop (cap : Nat) (hr : Bool) (g : GState) (nodes : List Node) :
    (loopAll cap docStop false hr g nodes).1 = (stopAll cap hr g nodes).1 ∧
    (loopAll cap docStop false hr g nodes).2.1 = (stopAll cap hr g nodes).2 := by
  induction nodes generalizing g with
  | nil => exact ⟨rfl, rfl⟩
  | cons n rest ih =>
    have := ih (g.stopNode cap n hr).1
    simp only [docStop] at this
    simp only [loopAll, stopAll, docStop, List.map_cons, List.map_nil, GAct.op, Bool.false_eq_true, if_false]
    cases hf : (g.stopNode cap n hr).2.2 with
    | true => simp [this.1, this.2]
    | false => simp [this.1, this.2]

/-! ## a step for another instance: `Quiet` / `Foreign`, `fan` / `Aloof` -/

/-- `t` is attached nowhere -/
def Quiet (t : Inst) (g : GState) : Prop := ∀ c ∈ g.scs, t ∉ c.sources

theorem GState.sc_of_getElem? {g : GState} {k : Nat} {c : SC} (h : g.scs[k]? = some c) : g.sc k = c := by
  simp [GState.sc, List.getD_eq_getElem?_getD, h]

theorem GState.getElem?_of_lt {g : GState} {k : Nat} (h : k < g.scs.length) : g.scs[k]? = some (g.sc k) := by
  simp [GState.sc, List.getD_eq_getElem?_getD, List.getElem?_eq_getElem h]

theorem GState.sc_setSc (g : GState) (k' k : Nat) (c : SC) :
    (g.setSc k' c).sc k = if k' = k ∧ k' < g.scs.length then c else g.sc k := by
  simp only [GState.sc, GState.setSc, List.getD_eq_getElem?_getD, List.getElem?_set]
  by_cases h : k' = k
  · subst h
    by_cases hl : k' < g.scs.length
    · simp [hl]
    · simp [hl]
  · simp [h]

theorem GState.sc_setSc_self (g : GState) (k : Nat) (c : SC) (hk : k < g.scs.length) : (g.setSc k c).sc k = c := by
  rw [GState.sc_setSc]; simp [hk]

theorem GState.sc_setSc_ne (g : GState) (k' k : Nat) (c : SC) (h : k' ≠ k) : (g.setSc k' c).sc k = g.sc k := by
  rw [GState.sc_setSc]; simp [h]

theorem GState.setSc_length (g : GState) (k : Nat) (c : SC) : (g.setSc k c).scs.length = g.scs.length := by
  simp [GState.setSc]

theorem Quiet.sc {t : Inst} {g : GState} (h : Quiet t g) (k : Nat) : t ∉ (g.sc k).sources := by
  cases hk : g.scs[k]? with
  | none => simp [GState.sc, List.getD_eq_getElem?_getD, hk, SC.sources]
  | some c => exact GState.sc_of_getElem? hk ▸ h c (List.mem_of_getElem? hk)

theorem Quiet.setSc {t : Inst} {g : GState} (h : Quiet t g) (k : Nat) (c : SC) (hc : t ∉ c.sources) : Quiet t (g.setSc k c) := by
  intro c' hc'
  rcases List.mem_or_eq_of_mem_set hc' with h1 | h1
  · exact h c' h1
  · rw [h1]; exact hc

/-- `Aloof` for a `t` attached nowhere — the only case a foreign `Shutdown` preserves -/
def Foreign (t : Inst) (g g' : GState) (ops : List Op) : Prop :=
  Quiet t g' ∧ pr t ops = [] ∧ g'.hosted.contains t = g.hosted.contains t

theorem Foreign.quiet {t : Inst} {g g' : GState} {ops : List Op} (h : Foreign t g g' ops) : Quiet t g' := h.1
theorem Foreign.silent {t : Inst} {g g' : GState} {ops : List Op} (h : Foreign t g g' ops) : pr t ops = [] := h.2.1
theorem Foreign.hosted {t : Inst} {g g' : GState} {ops : List Op} (h : Foreign t g g' ops) :
    g'.hosted.contains t = g.hosted.contains t := h.2.2

theorem Foreign.refl {t : Inst} {g : GState} (hq : Quiet t g) : Foreign t g g [] := ⟨hq, rfl, rfl⟩

theorem Foreign.trans {t : Inst} {g g1 g2 : GState} {o1 o2 : List Op} (h1 : Foreign t g g1 o1) (h2 : Foreign t g1 g2 o2) :
    Foreign t g g2 (o1 ++ o2) :=
  ⟨h2.quiet, by rw [pr_append, h1.silent, h2.silent]; rfl, by rw [h2.hosted, h1.hosted]⟩

theorem pr_bracket_ne (t i : Inst) (r r' : Report) (ops : List Op) (hi : i ≠ t) : pr t ((i, r) :: ops ++ [(i, r')]) = pr t ops := by
  rw [List.cons_append, pr_cons_ne _ _ _ _ hi, pr_append, pr_single_ne _ _ _ hi, List.append_nil]

theorem Foreign.bracket {t i : Inst} {g g' : GState} {ops : List Op} (h : Foreign t g g' ops) (hi : i ≠ t) (r r' : Report) :
    Foreign t g g' ((i, r) :: ops ++ [(i, r')]) :=
  ⟨h.quiet, (pr_bracket_ne t i r r' ops hi).trans h.silent, h.hosted⟩

/-- how often shared component `k` fans out to `x` -/
def GState.fan (g : GState) (x : Inst) (k : Nat) : Nat := (g.sc k).sources.count x

theorem GState.fan_setSc (g : GState) (x : Inst) (k' k : Nat) (c : SC) (hc : c.sources.count x = g.fan x k') :
    (g.setSc k' c).fan x k = g.fan x k := by
  simp only [GState.fan, GState.sc_setSc]
  split
  · next h => rw [hc, h.1]; rfl
  · rfl

/-- `x` is handed nothing; how often each shared component fans out to `x` and whether it holds a host stay: every foreign `Start` -/
structure Aloof (x : Inst) (g g' : GState) (ops : List Op) : Prop where
  silent : pr x ops = []
  fan : ∀ k, g'.fan x k = g.fan x k
  hosted : g'.hosted.contains x = g.hosted.contains x

theorem Aloof.refl (x : Inst) (g : GState) : Aloof x g g [] := ⟨rfl, fun _ => rfl, rfl⟩

theorem Aloof.trans {x : Inst} {g g1 g2 : GState} {o1 o2 : List Op} (h1 : Aloof x g g1 o1) (h2 : Aloof x g1 g2 o2) :
    Aloof x g g2 (o1 ++ o2) :=
  ⟨by rw [pr_append, h1.silent, h2.silent]; rfl, fun k => (h2.fan k).trans (h1.fan k), h2.hosted.trans h1.hosted⟩

theorem Aloof.bracket {x i : Inst} {g g' : GState} {ops : List Op} (h : Aloof x g g' ops) (hi : i ≠ x) (r r' : Report) :
    Aloof x g g' ((i, r) :: ops ++ [(i, r')]) :=
  ⟨(pr_bracket_ne x i r r' ops hi).trans h.silent, h.fan, h.hosted⟩

theorem Aloof.foreign {x : Inst} {g g' : GState} {o : List Op} (h : Aloof x g g' o) (hq : Quiet x g) : Foreign x g g' o := by
  refine ⟨fun c hc => ?_, h.silent, h.hosted⟩
  obtain ⟨j, hj⟩ := List.getElem?_of_mem hc
  have := h.fan j
  rw [GState.fan, GState.sc_of_getElem? hj, GState.fan, List.count_eq_zero.mpr (hq.sc j)] at this
  exact List.count_eq_zero.mp this

theorem startNode_aloof (cap : Nat) (x : Inst) (hr : Bool) (g : GState) (n : Node) (hn : n.inst ≠ x) :
    Aloof x g (g.startNode cap n hr).1 (g.startNode cap n hr).2.1 := by
  obtain ⟨ni, kind⟩ := n
  cases kind with
  | plain sc =>
    have : (x == ni) = false := by simpa using Ne.symm hn
    exact ⟨pr_own_ne x _ hr _ hn, fun _ => rfl, by simp only [GState.startNode, List.contains_cons, this, Bool.false_or]⟩
  | shared k =>
    obtain ⟨h1, h2⟩ := SC.start_other cap x ni hr (g.sc k) hn
    exact ⟨h1, fun _ => GState.fan_setSc _ _ _ _ _ h2, rfl⟩

theorem stopNode_foreign (cap : Nat) (t : Inst) (hr : Bool) (g : GState) (n : Node) (hn : n.inst ≠ t) (hq : Quiet t g) :
    Foreign t g (g.stopNode cap n hr).1 (g.stopNode cap n hr).2.1 := by
  obtain ⟨ni, kind⟩ := n
  cases kind with
  | plain sc =>
    refine ⟨hq, ?_, rfl⟩
    simp only [GState.stopNode]
    split
    · exact pr_own_ne t _ hr _ hn
    · rfl
  | shared k =>
    refine ⟨hq.setSc k _ (by rw [SC.shutdown_sources]; exact hq.sc k), ?_, rfl⟩
    show pr t ((g.sc k).shutdown cap).2.1 = []
    rw [SC.shutdown_pr, List.count_eq_zero.mpr (hq.sc k)]; exact fanned_zero _

/-! ## the two loops -/

theorem startAll_cons (cap : Nat) (hr : Bool) (g : GState) (n : Node) (rest : List Node) :
    startAll cap hr g (n :: rest) =
      if (g.startNode cap n hr).2.2 then
        ((g.startNode cap n hr).1,
          [(n.inst, Report.status .starting)] ++ (g.startNode cap n hr).2.1 ++ [(n.inst, Report.status .permanent)], false)
      else
        ((startAll cap hr (g.startNode cap n hr).1 rest).1,
          [(n.inst, Report.status .starting)] ++ (g.startNode cap n hr).2.1 ++ [(n.inst, Report.okIfStarting)] ++
            (startAll cap hr (g.startNode cap n hr).1 rest).2.1,
          (startAll cap hr (g.startNode cap n hr).1 rest).2.2) := rfl

theorem stopAll_cons (cap : Nat) (hr : Bool) (g : GState) (n : Node) (rest : List Node) :
    stopAll cap hr g (n :: rest) =
      ((stopAll cap hr (g.stopNode cap n hr).1 rest).1,
        [(n.inst, Report.status .stopping)] ++ (g.stopNode cap n hr).2.1 ++
          [(n.inst, Report.status (if (g.stopNode cap n hr).2.2 then .permanent else .stopped))] ++
          (stopAll cap hr (g.stopNode cap n hr).1 rest).2) := rfl

/-- `R g o`: the loop has come to state `g` having reported `o`.  The step is asked for EVERY closing report `r`, so that one
hypothesis covers `PermanentError` and OK-if-starting -/
theorem startAll_induct (cap : Nat) (hr : Bool) (R : GState → List Op → Prop) (l : List Node)
    (hstep : ∀ g o, ∀ n ∈ l, ∀ r : Report, R g o →
      R (g.startNode cap n hr).1 (o ++ ((n.inst, Report.status .starting) :: (g.startNode cap n hr).2.1 ++ [(n.inst, r)])))
    (g : GState) (o : List Op) (h : R g o) : R (startAll cap hr g l).1 (o ++ (startAll cap hr g l).2.1) := by
  induction l generalizing g o with
  | nil => rw [show (startAll cap hr g []).2.1 = [] from rfl, List.append_nil]; exact h
  | cons n rest ih =>
    rw [startAll_cons]
    split
    · exact hstep g o n (List.mem_cons_self ..) _ h
    · have := ih (fun g o m hm => hstep g o m (List.mem_cons_of_mem _ hm)) _ _ (hstep g o n (List.mem_cons_self ..) .okIfStarting h)
      simpa only [List.append_assoc, List.singleton_append, List.cons_append, List.nil_append] using this

theorem stopAll_induct (cap : Nat) (hr : Bool) (R : GState → List Op → Prop) (l : List Node)
    (hstep : ∀ g o, ∀ n ∈ l, ∀ r : Report, R g o →
      R (g.stopNode cap n hr).1 (o ++ ((n.inst, Report.status .stopping) :: (g.stopNode cap n hr).2.1 ++ [(n.inst, r)])))
    (g : GState) (o : List Op) (h : R g o) : R (stopAll cap hr g l).1 (o ++ (stopAll cap hr g l).2) := by
  induction l generalizing g o with
  | nil => rw [show (stopAll cap hr g []).2 = [] from rfl, List.append_nil]; exact h
  | cons n rest ih =>
    have := ih (fun g o m hm => hstep g o m (List.mem_cons_of_mem _ hm)) _ _
      (hstep g o n (List.mem_cons_self ..) (Report.status (if (g.stopNode cap n hr).2.2 then .permanent else .stopped)) h)
    simpa only [stopAll_cons, List.append_assoc, List.singleton_append, List.cons_append, List.nil_append] using this

theorem startAll_aloof (cap : Nat) (x : Inst) (hr : Bool) (l : List Node) (hl : ∀ n ∈ l, n.inst ≠ x) (g : GState) :
    Aloof x g (startAll cap hr g l).1 (startAll cap hr g l).2.1 :=
  startAll_induct cap hr (Aloof x g) l
    (fun g' _ n hn r h => h.trans ((startNode_aloof cap x hr g' n (hl n hn)).bracket (hl n hn) _ r)) g [] (Aloof.refl x g)

theorem startAll_foreign (cap : Nat) (t : Inst) (hr : Bool) (l : List Node) (hl : ∀ n ∈ l, n.inst ≠ t) (g : GState)
    (hq : Quiet t g) : Foreign t g (startAll cap hr g l).1 (startAll cap hr g l).2.1 :=
  (startAll_aloof cap t hr l hl g).foreign hq

theorem stopAll_foreign (cap : Nat) (t : Inst) (hr : Bool) (l : List Node) (hl : ∀ n ∈ l, n.inst ≠ t) (g : GState)
    (hq : Quiet t g) : Foreign t g (stopAll cap hr g l).1 (stopAll cap hr g l).2 :=
  stopAll_induct cap hr (Foreign t g) l
    (fun g' _ n hn r h => h.trans ((stopNode_foreign cap t hr g' n (hl n hn) h.quiet).bracket (hl n hn) _ r)) g [] (Foreign.refl hq)

theorem runPlain_shared_target (x : Inst) (hr : Bool) (l : List Node)
    (hl : ∀ n ∈ l, n.inst = x → ∃ k, n.kind = .shared k) : pr x (runPlain hr l) = [] := by
  induction l with
  | nil => rfl
  | cons n rest ih =>
    have hrest : ∀ m ∈ rest, m.inst = x → ∃ k, m.kind = .shared k := fun m hm => hl m (List.mem_cons_of_mem _ hm)
    simp only [runPlain, pr_append, ih hrest]
    obtain ⟨ni, kind⟩ := n
    cases kind with
    | plain sc =>
      have hn : ni ≠ x := by
        intro e
        obtain ⟨k, hk⟩ := hl ⟨ni, .plain sc⟩ (List.mem_cons_self ..) e
        cases hk
      simp [pr_own_ne x _ hr _ hn]
    | shared k => simp

theorem runPlain_foreign (t : Inst) (hr : Bool) (l : List Node) (hl : ∀ n ∈ l, n.inst ≠ t) : pr t (runPlain hr l) = [] :=
  runPlain_shared_target t hr l (fun n hn e => absurd e (hl n hn))

theorem runShared_pr (cap : Nat) (x : Inst) (scs : List SC) :
    pr x (runShared cap scs).2 = scs.flatMap fun c => fanned (c.sources.count x) c.script.running := by
  induction scs with
  | nil => rfl
  | cons c cs ih => simp only [runShared, pr_append, SC.run_pr, ih, List.flatMap_cons]

theorem runShared_foreign (cap : Nat) (t : Inst) (scs : List SC) (h : ∀ c ∈ scs, t ∉ c.sources) :
    (∀ c ∈ (runShared cap scs).1, t ∉ c.sources) ∧ pr t (runShared cap scs).2 = [] := by
  refine ⟨?_, by
    rw [runShared_pr, List.flatMap_eq_nil_iff]
    exact fun c hc => by rw [List.count_eq_zero.mpr (h c hc)]; exact fanned_zero _⟩
  induction scs with
  | nil => simp [runShared]
  | cons c cs ih =>
    intro c' hc'
    rcases List.mem_cons.mp hc' with rfl | hc'
    · rw [SC.run_sources]; exact h c (List.mem_cons_self ..)
    · exact ih (fun c hc => h c (List.mem_cons_of_mem _ hc)) c' hc'

theorem startAll_append (cap : Nat) (hr : Bool) (g : GState) (a l : List Node) :
    startAll cap hr g (a ++ l) =
      if (startAll cap hr g a).2.2 then
        ((startAll cap hr (startAll cap hr g a).1 l).1, (startAll cap hr g a).2.1 ++ (startAll cap hr (startAll cap hr g a).1 l).2.1,
          (startAll cap hr (startAll cap hr g a).1 l).2.2)
      else startAll cap hr g a := by
  induction a generalizing g with
  | nil => simp [startAll]
  | cons n rest ih =>
    simp only [List.cons_append, startAll]
    by_cases hf : (g.startNode cap n hr).2.2 = true
    · simp [hf]
    · simp only [hf, ih]
      by_cases h2 : (startAll cap hr (g.startNode cap n hr).1 rest).2.2 = true
      · simp [h2]
      · simp [h2]

theorem stopAll_append (cap : Nat) (hr : Bool) (g : GState) (a l : List Node) :
    stopAll cap hr g (a ++ l) =
      ((stopAll cap hr (stopAll cap hr g a).1 l).1, (stopAll cap hr g a).2 ++ (stopAll cap hr (stopAll cap hr g a).1 l).2) := by
  induction a generalizing g with
  | nil => rfl
  | cons n rest ih => simp only [List.cons_append, stopAll_cons, ih, List.append_assoc]

theorem runPlain_append (hr : Bool) (a b : List Node) : runPlain hr (a ++ b) = runPlain hr a ++ runPlain hr b := by
  induction a with
  | nil => rfl
  | cons n rest ih => simp only [List.cons_append, runPlain, ih, List.append_assoc]

theorem startAll_ok_prefix (cap : Nat) (hr : Bool) (g : GState) (a l : List Node)
    (h : (startAll cap hr g (a ++ l)).2.2 = true) : (startAll cap hr g a).2.2 = true := by
  rw [startAll_append] at h
  cases hA : (startAll cap hr g a).2.2 with
  | true => rfl
  | false => rw [hA] at h; exact hA ▸ h

theorem startAll_ok_node (cap : Nat) (hr : Bool) (g : GState) (a : List Node) (n : Node) (b : List Node)
    (hok : (startAll cap hr g (a ++ n :: b)).2.2 = true) :
    (startAll cap hr g a).2.2 = true ∧ ((startAll cap hr g a).1.startNode cap n hr).2.2 = false ∧
      (startAll cap hr g (a ++ n :: b)).1 = (startAll cap hr ((startAll cap hr g a).1.startNode cap n hr).1 b).1 := by
  have hA := startAll_ok_prefix cap hr g a _ hok
  rw [startAll_append, hA, if_pos rfl, startAll_cons] at hok ⊢
  cases hX : ((startAll cap hr g a).1.startNode cap n hr).2.2 with
  | true => rw [hX, if_pos rfl] at hok; cases hok
  | false => exact ⟨rfl, rfl, rfl⟩

/-! ## the instance's own node -/

/-- the node of `x`, of whatever kind, in a start loop whose other nodes belong to other instances — also when the loop aborts -/
theorem startAll_own (cap : Nat) (x : Inst) (hr : Bool) (n : Node) (hx : n.inst = x) (a b : List Node) (g : GState)
    (ha : ∀ m ∈ a, m.inst ≠ x) (hb : ∀ m ∈ b, m.inst ≠ x) :
    pr x (startAll cap hr g (a ++ n :: b)).2.1 =
      (if (startAll cap hr g a).2.2 then
        Report.status .starting :: (pr x ((startAll cap hr g a).1.startNode cap n hr).2.1 ++
          [if ((startAll cap hr g a).1.startNode cap n hr).2.2 then Report.status .permanent else Report.okIfStarting])
      else []) ∧
    Aloof x (if (startAll cap hr g a).2.2 then ((startAll cap hr g a).1.startNode cap n hr).1 else (startAll cap hr g a).1)
      (startAll cap hr g (a ++ n :: b)).1 [] := by
  subst hx
  obtain ⟨a1, _⟩ := startAll_aloof cap n.inst hr a ha g
  rw [startAll_append]
  cases hA : (startAll cap hr g a).2.2 with
  | false => exact ⟨a1, Aloof.refl _ _⟩
  | true =>
    obtain ⟨b1, b2, b3⟩ := startAll_aloof cap n.inst hr b hb ((startAll cap hr g a).1.startNode cap n hr).1
    simp only [if_true, startAll_cons]
    cases hf : ((startAll cap hr g a).1.startNode cap n hr).2.2
    · simp only [Bool.false_eq_true, if_false, pr_append, a1, b1, List.nil_append, List.append_nil, pr_cons_self,
        List.cons_append, pr_nil]
      exact ⟨trivial, rfl, b2, b3⟩
    · simp only [if_true, pr_append, a1, List.nil_append, pr_cons_self, List.cons_append, pr_nil]
      exact ⟨trivial, Aloof.refl _ _⟩

theorem start_with_target (cap : Nat) (t : Inst) (hr : Bool) (sc : Script) (a b : List Node) (g : GState)
    (ha : ∀ n ∈ a, n.inst ≠ t) (hb : ∀ n ∈ b, n.inst ≠ t) (hq : Quiet t g) (hh : g.hosted.contains t = false) :
    Quiet t (startAll cap hr g (a ++ ⟨t, .plain sc⟩ :: b)).1 ∧
    (startAll cap hr g (a ++ ⟨t, .plain sc⟩ :: b)).1.hosted.contains t = (startAll cap hr g a).2.2 ∧
    pr t (startAll cap hr g (a ++ ⟨t, .plain sc⟩ :: b)).2.1 =
      if (startAll cap hr g a).2.2 then
        [Report.status .starting] ++ (if hr then sc.duringStart else []).map Report.status ++
          (if sc.failStart then [Report.status .permanent] else [Report.okIfStarting])
      else [] := by
  obtain ⟨h1, h2⟩ := startAll_own cap t hr ⟨t, .plain sc⟩ rfl a b g ha hb
  obtain ⟨a1, _, a3⟩ := startAll_foreign cap t hr a ha g hq
  -- a plain node's `Start` leaves the shared components alone
  have hmid : Quiet t (if (startAll cap hr g a).2.2 then ((startAll cap hr g a).1.startNode cap ⟨t, .plain sc⟩ hr).1
      else (startAll cap hr g a).1) := by split <;> exact a1
  refine ⟨(h2.foreign hmid).quiet, h2.hosted.trans ?_, h1.trans ?_⟩ <;> cases (startAll cap hr g a).2.2
  · exact a3.trans hh
  · simp [GState.startNode]
  · rfl
  · cases hf : sc.failStart <;> simp [GState.startNode, pr_own_self, hf]

theorem stop_with_target (cap : Nat) (t : Inst) (hr : Bool) (sc : Script) (c d : List Node) (g : GState)
    (hc : ∀ n ∈ c, n.inst ≠ t) (hd : ∀ n ∈ d, n.inst ≠ t) (hq : Quiet t g) :
    Quiet t (stopAll cap hr g (c ++ ⟨t, .plain sc⟩ :: d)).1 ∧
    pr t (stopAll cap hr g (c ++ ⟨t, .plain sc⟩ :: d)).2 =
      [Report.status .stopping] ++ (if g.hosted.contains t then (if hr then sc.duringStop else []).map Report.status else []) ++
        [if sc.failStop then Report.status .permanent else Report.status .stopped] := by
  obtain ⟨c1, c2, c3⟩ := stopAll_foreign cap t hr c hc g hq
  obtain ⟨d1, d2, _⟩ := stopAll_foreign cap t hr d hd (stopAll cap hr g c).1 c1
  rw [stopAll_append]
  refine ⟨d1, ?_⟩
  simp only [stopAll_cons, GState.stopNode, c3, pr_append, c2, d2, pr_single_self, List.nil_append, List.append_nil]
  cases g.hosted.contains t <;> cases sc.failStop <;> simp only [pr_own_self, pr_nil, Bool.false_eq_true, if_false, if_true]

theorem run_with_target (t : Inst) (hr : Bool) (sc : Script) (a b : List Node)
    (ha : ∀ n ∈ a, n.inst ≠ t) (hb : ∀ n ∈ b, n.inst ≠ t) :
    pr t (runPlain hr (a ++ ⟨t, .plain sc⟩ :: b)) = (if hr then sc.running else []).map Report.status := by
  rw [runPlain_append]
  simp only [runPlain, pr_append, runPlain_foreign t hr a ha, runPlain_foreign t hr b hb, pr_own_self, List.nil_append, List.append_nil]

/-! ## a whole service run, up to shutdown -/

/-- did start-up get past the extensions and the pipeline instances `a`? -/
def Sys.reaches (cap : Nat) (s : Sys) (a : List Node) : Bool :=
  (startAll cap false s.g0 s.exts).2.2 && (startAll cap true (startAll cap false s.g0 s.exts).1 a).2.2

/-- `reaches` for the whole start order -/
def Sys.startedUp (cap : Nat) (s : Sys) : Bool :=
  (startAll cap false s.g0 s.exts).2.2 && (startAll cap true (startAll cap false s.g0 s.exts).1 s.startOrder).2.2

theorem Sys.startedUp_eq_reaches (cap : Nat) (s : Sys) : s.startedUp cap = s.reaches cap s.startOrder := rfl

theorem Sys.reaches_iff (cap : Nat) (s : Sys) (a : List Node) :
    s.reaches cap a = true ↔
      (startAll cap false s.g0 s.exts).2.2 = true ∧ (startAll cap true (startAll cap false s.g0 s.exts).1 a).2.2 = true := by
  rw [Sys.reaches, Bool.and_eq_true]

theorem Sys.reaches_exts_fail (cap : Nat) (s : Sys) (a : List Node) (hE : (startAll cap false s.g0 s.exts).2.2 = false) :
    s.reaches cap a = false := by
  rw [Sys.reaches, hE]; rfl

theorem Sys.reaches_exts_ok (cap : Nat) (s : Sys) (a : List Node) (hE : (startAll cap false s.g0 s.exts).2.2 = true) :
    s.reaches cap a = (startAll cap true (startAll cap false s.g0 s.exts).1 a).2.2 := by
  rw [Sys.reaches, hE]; rfl

theorem Quiet_g0 (t : Inst) (s : Sys) : Quiet t s.g0 := by
  intro c hc
  simp only [Sys.g0, List.mem_map] at hc
  obtain ⟨sc, _, rfl⟩ := hc
  simp [SC.sources]

/-- `service.Start` and the running phase / `service.Shutdown` of `Sys.opsDoc` -/
def Sys.upOpsDoc (cap : Nat) (s : Sys) : List Op :=
  let e := startAll cap false s.g0 s.exts
  let p := if e.2.2 then startAll cap true e.1 s.startOrder else (e.1, [], false)
  let ok := e.2.2 && p.2.2
  let rs := if ok then runShared cap p.1.scs else (p.1.scs, [])
  e.2.1 ++ p.2.1 ++ (if ok then runPlain true s.startOrder ++ rs.2 else [])

def Sys.downOpsDoc (cap : Nat) (s : Sys) : List Op :=
  let e := startAll cap false s.g0 s.exts
  let p := if e.2.2 then startAll cap true e.1 s.startOrder else (e.1, [], false)
  let ok := e.2.2 && p.2.2
  let rs := if ok then runShared cap p.1.scs else (p.1.scs, [])
  let g2 : GState := { p.1 with scs := rs.1 }
  let sp := stopAll cap true g2 s.stopOrder
  let se := stopAll cap false sp.1 s.exts.reverse
  sp.2 ++ se.2

theorem Sys.opsDoc_split (cap : Nat) (s : Sys) : s.opsDoc cap = s.upOpsDoc cap ++ s.downOpsDoc cap := by
  simp only [Sys.opsDoc, Sys.upOpsDoc, Sys.downOpsDoc, List.append_assoc]

/-- the state of the glue when `service.Shutdown` begins -/
def Sys.gUp (cap : Nat) (s : Sys) : GState :=
  let e := startAll cap false s.g0 s.exts
  let p := if e.2.2 then startAll cap true e.1 s.startOrder else (e.1, [], false)
  { p.1 with scs := (if e.2.2 && p.2.2 then runShared cap p.1.scs else (p.1.scs, [])).1 }

theorem Sys.downOpsDoc_eq (cap : Nat) (s : Sys) :
    s.downOpsDoc cap = (stopAll cap true (Sys.gUp cap s) s.stopOrder).2 ++
      (stopAll cap false (stopAll cap true (Sys.gUp cap s) s.stopOrder).1 s.exts.reverse).2 := rfl

/-- the three outcomes of start-up; `E`, `P`, `R` only name the loops' results in the case hypotheses -/
theorem Sys.up_cases (cap : Nat) (s : Sys) (Φ : GState → List Op → Prop) (E P R)
    (hEq : E = startAll cap false s.g0 s.exts) (hPq : P = startAll cap true E.1 s.startOrder) (hRq : R = runShared cap P.1.scs)
    (hE : E.2.2 = false → Φ E.1 E.2.1)
    (hP : E.2.2 = true → P.2.2 = false → Φ P.1 (E.2.1 ++ P.2.1))
    (hR : E.2.2 = true → P.2.2 = true → Φ { P.1 with scs := R.1 } (E.2.1 ++ P.2.1 ++ (runPlain true s.startOrder ++ R.2))) :
    Φ (Sys.gUp cap s) (s.upOpsDoc cap) := by
  subst hEq hPq hRq
  simp only [Sys.gUp, Sys.upOpsDoc]
  cases h1 : (startAll cap false s.g0 s.exts).2.2
  · simpa using hE h1
  cases h2 : (startAll cap true (startAll cap false s.g0 s.exts).1 s.startOrder).2.2
  · simpa [h2] using hP h1 h2
  · simpa [h2] using hR h1 h2

theorem Sys.up_ok (cap : Nat) (s : Sys) (hup : s.startedUp cap = true) :
    s.upOpsDoc cap = (startAll cap false s.g0 s.exts).2.1 ++ (startAll cap true (startAll cap false s.g0 s.exts).1 s.startOrder).2.1 ++
      (runPlain true s.startOrder ++ (runShared cap (startAll cap true (startAll cap false s.g0 s.exts).1 s.startOrder).1.scs).2) := by
  rw [Sys.startedUp_eq_reaches, Sys.reaches_iff] at hup
  refine Sys.up_cases cap s (fun _ o => o = _) _ _ _ rfl rfl rfl ?_ ?_ (fun _ _ => rfl)
  · intro h; rw [hup.1] at h; cases h
  · intro _ h; rw [hup.2] at h; cases h

theorem sys_plain_up (cap : Nat) (s : Sys) (t : Inst) (sc : Script) (a b : List Node)
    (hS : s.startOrder = a ++ ⟨t, .plain sc⟩ :: b) (ha : ∀ n ∈ a, n.inst ≠ t) (hb : ∀ n ∈ b, n.inst ≠ t)
    (he : ∀ n ∈ s.exts, n.inst ≠ t) :
    Quiet t (Sys.gUp cap s) ∧ (Sys.gUp cap s).hosted.contains t = s.reaches cap a ∧
    pr t (s.upOpsDoc cap) =
      if s.reaches cap a then
        [Report.status .starting] ++ sc.duringStart.map Report.status ++
          (if sc.failStart then [Report.status .permanent] else [Report.okIfStarting]) ++
          (if s.startedUp cap then sc.running.map Report.status else [])
      else [] := by
  obtain ⟨e1, e2, e3⟩ := startAll_foreign cap t false s.exts he s.g0 (Quiet_g0 t s)
  obtain ⟨p1, p2, p3⟩ := start_with_target cap t true sc a b _ ha hb e1 (e3.trans rfl)
  rw [← hS] at p1 p2 p3
  refine Sys.up_cases cap s (fun g o => Quiet t g ∧ g.hosted.contains t = s.reaches cap a ∧ pr t o = _) _ _ _ rfl rfl rfl ?_ ?_ ?_
  · intro hE
    simp only [Sys.reaches_exts_fail cap s a hE, Bool.false_eq_true, if_false]
    exact ⟨e1, e3.trans rfl, e2⟩
  · intro hE hP
    simp only [Sys.startedUp_eq_reaches, Sys.reaches_exts_ok cap s _ hE, hP, Bool.false_eq_true, if_false, List.append_nil,
      pr_append, e2, List.nil_append]
    exact ⟨p1, p2, p3⟩
  · intro hE hP
    have hA := startAll_ok_prefix cap true _ a _ (hS ▸ hP)
    obtain ⟨r1, r2⟩ := runShared_foreign cap t _ p1
    have hrun := run_with_target t true sc a b ha hb
    rw [← hS] at hrun
    simp only [Sys.startedUp_eq_reaches, Sys.reaches_exts_ok cap s _ hE, hP, hA, if_true, pr_append, e2, p3, r2, hrun,
      List.nil_append, List.append_nil]
    exact ⟨r1, p2.trans hA, trivial⟩

theorem sys_ext_up (cap : Nat) (s : Sys) (t : Inst) (sc : Script) (ea eb : List Node)
    (hX : s.exts = ea ++ ⟨t, .plain sc⟩ :: eb) (ha : ∀ n ∈ ea, n.inst ≠ t) (hb : ∀ n ∈ eb, n.inst ≠ t)
    (hS : ∀ n ∈ s.startOrder, n.inst ≠ t) :
    Quiet t (Sys.gUp cap s) ∧
    pr t (s.upOpsDoc cap) =
      if (startAll cap false s.g0 ea).2.2 then
        [Report.status .starting] ++ (if sc.failStart then [Report.status .permanent] else [Report.okIfStarting])
      else [] := by
  obtain ⟨e1, _, e3⟩ := start_with_target cap t false sc ea eb s.g0 ha hb (Quiet_g0 t s) rfl
  rw [← hX] at e1 e3
  simp only [Bool.false_eq_true, if_false, List.map_nil, List.append_nil] at e3
  obtain ⟨p1, p2, _⟩ := startAll_foreign cap t true s.startOrder hS _ e1
  refine Sys.up_cases cap s (fun g o => Quiet t g ∧ pr t o = _) _ _ _ rfl rfl rfl ?_ ?_ ?_
  · intro _; exact ⟨e1, e3⟩
  · intro _ _; exact ⟨p1, by rw [pr_append, e3, p2, List.append_nil]⟩
  · intro _ _
    obtain ⟨r1, r2⟩ := runShared_foreign cap t _ p1
    exact ⟨r1, by simp only [pr_append, e3, p2, r2, runPlain_foreign t true _ hS, List.append_nil]⟩

/-! ## an instance of a shared component stays attached -/

/-- `SCInv` of every shared component -/
def Good (g : GState) : Prop := ∀ k, SCInv (g.sc k)

theorem Good.setSc {g : GState} (h : Good g) (k : Nat) (c : SC) (hc : SCInv c) : Good (g.setSc k c) := by
  intro k'
  rw [GState.sc_setSc]
  split
  · exact hc
  · exact h k'

/-- `x` stays attached to `k`; `Good`, size and `k`'s script are kept -/
def Keeps (k : Nat) (x : Inst) (g g' : GState) : Prop :=
  Good g' ∧ g'.scs.length = g.scs.length ∧ (x ∈ (g.sc k).sources → x ∈ (g'.sc k).sources) ∧ (g'.sc k).script = (g.sc k).script

theorem Keeps.good {k : Nat} {x : Inst} {g g' : GState} (h : Keeps k x g g') : Good g' := h.1
theorem Keeps.size {k : Nat} {x : Inst} {g g' : GState} (h : Keeps k x g g') : g'.scs.length = g.scs.length := h.2.1
theorem Keeps.stays {k : Nat} {x : Inst} {g g' : GState} (h : Keeps k x g g') :
    x ∈ (g.sc k).sources → x ∈ (g'.sc k).sources := h.2.2.1
theorem Keeps.script {k : Nat} {x : Inst} {g g' : GState} (h : Keeps k x g g') : (g'.sc k).script = (g.sc k).script := h.2.2.2

theorem Keeps.refl {k : Nat} {x : Inst} {g : GState} (h : Good g) : Keeps k x g g := ⟨h, rfl, id, rfl⟩

theorem Keeps.trans {k : Nat} {x : Inst} {g g1 g2 : GState} (h1 : Keeps k x g g1) (h2 : Keeps k x g1 g2) : Keeps k x g g2 :=
  ⟨h2.good, by rw [h2.size, h1.size], fun h => h2.stays (h1.stays h), by rw [h2.script, h1.script]⟩

theorem Keeps.setSc {k : Nat} {x : Inst} {g : GState} (hg : Good g) (k' : Nat) (c' : SC) (hinv : SCInv c')
    (hsrc : x ∈ (g.sc k').sources → x ∈ c'.sources) (hscript : c'.script = (g.sc k').script) : Keeps k x g (g.setSc k' c') := by
  refine ⟨hg.setSc k' _ hinv, GState.setSc_length _ _ _, ?_, ?_⟩ <;> rw [GState.sc_setSc] <;> split
  · rename_i h; exact fun hx => hsrc (h.1 ▸ hx)
  · exact id
  · rename_i h; exact h.1 ▸ hscript
  · rfl

theorem startNode_keeps (cap : Nat) (k : Nat) (x : Inst) (hr : Bool) (g : GState) (n : Node) (hg : Good g) :
    Keeps k x g (g.startNode cap n hr).1 := by
  obtain ⟨ni, kind⟩ := n
  cases kind with
  | plain sc => exact Keeps.refl hg
  | shared k' =>
    exact Keeps.setSc hg k' _ (SCInv_start cap _ _ _ (hg k'))
      (fun hx => by rw [SC.start_sources cap _ _ _ (hg k').wrapper]; exact List.mem_append_left _ hx) (SC.start_script cap _ _ _)

theorem stopNode_keeps (cap : Nat) (k : Nat) (x : Inst) (hr : Bool) (g : GState) (n : Node) (hg : Good g) :
    Keeps k x g (g.stopNode cap n hr).1 := by
  obtain ⟨ni, kind⟩ := n
  cases kind with
  | plain sc => exact Keeps.refl hg
  | shared k' =>
    exact Keeps.setSc hg k' _ (SCInv_shutdown cap _ (hg k')) (fun hx => by rw [SC.shutdown_sources]; exact hx)
      (SC.shutdown_script cap _)

theorem startAll_keeps (cap : Nat) (k : Nat) (x : Inst) (hr : Bool) (l : List Node) (g : GState) (hg : Good g) :
    Keeps k x g (startAll cap hr g l).1 :=
  startAll_induct cap hr (fun g' _ => Keeps k x g g') l
    (fun g' _ n _ _ h => h.trans (startNode_keeps cap k x hr g' n h.good)) g [] (Keeps.refl hg)

theorem stopAll_keeps (cap : Nat) (k : Nat) (x : Inst) (hr : Bool) (l : List Node) (g : GState) (hg : Good g) :
    Keeps k x g (stopAll cap hr g l).1 :=
  stopAll_induct cap hr (fun g' _ => Keeps k x g g') l
    (fun g' _ n _ _ h => h.trans (stopNode_keeps cap k x hr g' n h.good)) g [] (Keeps.refl hg)

theorem g0_sc (s : Sys) (k : Nat) : s.g0.sc k = { script := s.shared.getD k {} } := by
  simp only [GState.sc, Sys.g0, List.getD_eq_getElem?_getD, List.getElem?_map]
  cases s.shared[k]? <;> rfl

theorem Good_g0 (s : Sys) : Good s.g0 := fun k => g0_sc s k ▸ SCInv_fresh _

theorem startAll_attaches (cap : Nat) (k : Nat) (x : Inst) (a b : List Node) (g : GState) (hg : Good g)
    (hk : k < g.scs.length) (hok : (startAll cap true g (a ++ ⟨x, .shared k⟩ :: b)).2.2 = true) :
    x ∈ ((startAll cap true g (a ++ ⟨x, .shared k⟩ :: b)).1.sc k).sources := by
  have kA := startAll_keeps cap k x true a g hg
  rw [(startAll_ok_node cap true g a _ b hok).2.2]
  -- `x`'s own `Start` puts it on the list; the instances started after it keep it there
  refine (startAll_keeps cap k x true b _ (startNode_keeps cap k x true _ ⟨x, .shared k⟩ kA.good).good).stays ?_
  show x ∈ (((startAll cap true g a).1.setSc k _).sc k).sources
  rw [GState.sc_setSc_self _ _ _ (kA.size ▸ hk), SC.start_sources cap _ _ _ (kA.good k).wrapper]
  exact List.mem_append_right _ (List.mem_singleton_self x)

theorem runShared_delivers (cap : Nat) (x : Inst) (k : Nat) (g : GState) (hk : k < g.scs.length) (hx : x ∈ (g.sc k).sources)
    (e : St) (he : e ∈ (g.sc k).script.running) : (x, Report.status e) ∈ (runShared cap g.scs).2 := by
  apply mem_of_mem_pr
  rw [runShared_pr]
  exact List.mem_flatMap.mpr ⟨_, List.mem_of_getElem? (GState.getElem?_of_lt hk), mem_fanned (List.count_pos_iff.mpr hx) he⟩

/-! ## every instance of a shared component receives the same reports until the service starts stopping -/

/-- `k`'s ring holds its whole start history -/
structure KInv (sc : Script) (k : Nat) (g : GState) : Prop where
  lt : k < g.scs.length
  replays : (g.sc k).Replays sc

theorem KInv_startNode (cap : Nat) (sc : Script) (k : Nat) (g : GState) (n : Node)
    (hfit : sc.startHistory.length ≤ cap) (h : KInv sc k g) : KInv sc k (g.startNode cap n true).1 := by
  obtain ⟨hk, hst⟩ := h
  obtain ⟨ni, kind⟩ := n
  cases kind with
  | plain s0 => exact ⟨hk, hst⟩
  | shared k' =>
    refine ⟨by rw [GState.startNode, GState.setSc_length]; exact hk, ?_⟩
    rw [GState.startNode, GState.sc_setSc]
    split
    · next h => obtain ⟨rfl, _⟩ := h; exact (hst.start hfit ni).1
    · exact hst

theorem KInv_startAll (cap : Nat) (sc : Script) (k : Nat) (l : List Node) (g : GState)
    (hfit : sc.startHistory.length ≤ cap) (h : KInv sc k g) : KInv sc k (startAll cap true g l).1 :=
  startAll_induct cap true (fun g' _ => KInv sc k g') l (fun g' _ n _ _ h => KInv_startNode cap sc k g' n hfit h) g [] h

theorem startAll_untouched (cap : Nat) (hr : Bool) (k : Nat) (l : List Node) (g : GState)
    (hl : ∀ n ∈ l, n.kind ≠ .shared k) : (startAll cap hr g l).1.sc k = g.sc k ∧ (startAll cap hr g l).1.scs.length = g.scs.length := by
  refine startAll_induct cap hr (fun g' _ => g'.sc k = g.sc k ∧ g'.scs.length = g.scs.length) l ?_ g [] ⟨rfl, rfl⟩
  intro g' _ n hn _ h
  obtain ⟨ni, kind⟩ := n
  cases kind with
  | plain s0 => exact h
  | shared k' =>
    have hkk : k' ≠ k := fun e => hl _ hn (by rw [e])
    exact ⟨(GState.sc_setSc_ne _ _ _ _ hkk).trans h.1, (GState.setSc_length _ _ _).trans h.2⟩

/-- the start history is reported to `x` if it is the first instance of `k`, replayed to it if not -/
theorem startNode_shared_own (cap : Nat) (sc : Script) (k : Nat) (x : Inst) (g : GState)
    (hfit : sc.startHistory.length ≤ cap) (hK : KInv sc k g) :
    pr x (g.startNode cap ⟨x, .shared k⟩ true).2.1 = sc.startHistory.map Report.status ∧
    ∀ k', (g.startNode cap ⟨x, .shared k⟩ true).1.fan x k' = g.fan x k' + if k' = k then 1 else 0 := by
  obtain ⟨hk, hR⟩ := hK
  obtain ⟨_, hp, hs⟩ := hR.start hfit x
  refine ⟨hp, fun k' => ?_⟩
  simp only [GState.startNode, GState.fan, GState.sc_setSc, hk, and_true]
  by_cases hkk : k = k'
  · subst hkk; rw [if_pos rfl, if_pos rfl, hs, List.count_append, List.count_singleton_self]
  · rw [if_neg hkk, if_neg (Ne.symm hkk)]; rfl

theorem flatMap_single {α β} (f : α → List β) (l : List α) (k : Nat) (a : α) (hk : l[k]? = some a)
    (h : ∀ j b, j ≠ k → l[j]? = some b → f b = []) : l.flatMap f = f a := by
  induction l generalizing k with
  | nil => cases hk
  | cons c cs ih =>
    rw [List.flatMap_cons]
    cases k with
    | zero =>
      obtain rfl : c = a := Option.some.inj hk
      rw [List.flatMap_eq_nil_iff.mpr, List.append_nil]
      intro b hb
      obtain ⟨j, hj⟩ := List.getElem?_of_mem hb
      exact h (j + 1) b (by omega) hj
    | succ k => rw [h 0 c (by omega) rfl, ih k hk (fun j b hj hb => h (j + 1) b (by omega) hb)]; rfl

theorem runShared_one (cap : Nat) (x : Inst) (k : Nat) (g : GState) (hk : k < g.scs.length)
    (hfan : ∀ k', g.fan x k' = if k' = k then 1 else 0) :
    pr x (runShared cap g.scs).2 = (g.sc k).script.running.map Report.status := by
  rw [runShared_pr, flatMap_single _ _ k _ (GState.getElem?_of_lt hk),
    show (g.sc k).sources.count x = 1 by simpa [GState.fan] using hfan k, fanned_one]
  intro j b hj hb
  rw [← GState.sc_of_getElem? hb, show (g.sc j).sources.count x = 0 by simpa [GState.fan, hj] using hfan j, fanned_zero]

theorem fan_g0 (x : Inst) (s : Sys) (k : Nat) : s.g0.fan x k = 0 :=
  List.count_eq_zero.mpr ((Quiet_g0 x s).sc k)

theorem sys_shared_up_reports (cap : Nat) (s : Sys) (k : Nat) (x : Inst) (a b : List Node)
    (hS : s.startOrder = a ++ ⟨x, .shared k⟩ :: b) (ha : ∀ n ∈ a, n.inst ≠ x) (hb : ∀ n ∈ b, n.inst ≠ x)
    (he : ∀ n ∈ s.exts, n.inst ≠ x ∧ n.kind ≠ .shared k) (hk : k < s.shared.length)
    (hfit : (s.shared.getD k {}).startHistory.length ≤ cap) (hup : s.startedUp cap = true) :
    pr x (s.upOpsDoc cap) =
      Report.status .starting :: ((s.shared.getD k {}).startHistory.map Report.status ++
        Report.okIfStarting :: (s.shared.getD k {}).running.map Report.status) := by
  have hP := ((Sys.reaches_iff cap s _).mp hup).2
  -- the extensions hand `x` nothing and leave component `k` fresh
  obtain ⟨e1, e2, _⟩ := startAll_aloof cap x false s.exts (fun n hn => (he n hn).1) s.g0
  obtain ⟨u1, u2⟩ := startAll_untouched cap false k s.exts s.g0 (fun n hn => (he n hn).2)
  have hkE : k < (startAll cap false s.g0 s.exts).1.scs.length := by rw [u2]; simpa [Sys.g0] using hk
  have hKE : KInv (s.shared.getD k {}) k (startAll cap false s.g0 s.exts).1 := ⟨hkE, Or.inl (by rw [u1, g0_sc])⟩
  have hplain : pr x (runPlain true s.startOrder) = [] := by
    apply runPlain_shared_target
    intro n hn hx
    rw [hS] at hn
    rcases List.mem_append.mp hn with hn | hn
    · exact absurd hx (ha n hn)
    · rcases List.mem_cons.mp hn with rfl | hn
      · exact ⟨k, rfl⟩
      · exact absurd hx (hb n hn)
  have kP := KInv_startAll cap _ k s.startOrder _ hfit hKE
  rw [Sys.up_ok cap s hup, pr_append, pr_append, pr_append, e1, hplain]
  rw [hS] at hP kP ⊢
  obtain ⟨hA, hX, _⟩ := startAll_ok_node cap true _ a _ b hP
  obtain ⟨p1, _, p2, _⟩ := startAll_own cap x true ⟨x, .shared k⟩ rfl a b (startAll cap false s.g0 s.exts).1 ha hb
  obtain ⟨t1, t2⟩ := startNode_shared_own cap _ k x _ hfit (KInv_startAll cap _ k a _ hfit hKE)
  obtain ⟨_, a2, _⟩ := startAll_aloof cap x true a ha (startAll cap false s.g0 s.exts).1
  rw [hA, hX] at p1
  -- so after the start loop `x` is attached once, to `k`
  rw [p1, t1, runShared_one cap x k _ kP.lt, kP.replays.script]
  · simp
  · intro k'
    rw [p2 k', hA, if_pos rfl, t2 k', a2 k', e2 k', fan_g0, Nat.zero_add]

end OtelVerif.C11

import OtelVerif.Lemmas.C02
/-! what the persistent-queue LTS (`pfire`) has of its own: size accounting from any start (`InvT k m`, `m` the restored size; the
empty start is `m = 0` and gives `InvZp`); the wake-up promise `InvWp` follows from it and `InvF`; histories, the cond and `InvF` are
those of `Proto` -/
namespace OtelVerif.C02

def PReachableFrom (k : Cfg) (s0 s : St) : Prop := ∃ ls, prunSched k s0 ls = some s

/-- what `initPersistentContiguousStorage` may leave behind: any stored items (accepted in an earlier life, their
producers long gone), any non-negative restored `queueSize` (the `si` snapshot may be stale in either direction, the
capacity may have been lowered), 0 when nothing is stored (`wi = ri`); nobody inside the queue yet -/
structure PStart (s0 : St) : Prop where
  H : InvH s0
  quiet : ∀ p, ¬ (s0.ps p).ph.inCond ∧ (s0.ps p).sig = false
  waiters : s0.waiters = []
  inflight : s0.inflight = []
  finished : s0.finished = []
  handed : s0.handed = []
  sizes : ∀ x ∈ s0.items, 0 ≤ x.2
  nonneg : 0 ≤ s0.size
  emptyZero : s0.items = [] → s0.size = 0

/-- what survives an arbitrary start (`m` = the restored size): the part of `InvT` that `C02_persistent_size_any_start` states -/
structure InvS (k : Cfg) (m : Int) (s : St) : Prop where
  nonneg : 0 ≤ s.size
  posI : ∀ x ∈ s.items, 0 ≤ x.2
  posF : ∀ x ∈ s.inflight, 0 ≤ x.2
  elNN : ∀ p, (s.ps p).ph.inCond → 0 ≤ (s.ps p).el
  bound : s.size ≤ k.cap ∨ s.size ≤ m
  emptied : s.items = [] → s.size ≤ sumSz s.inflight
  hperm : s.handed.Perm (s.finished ++ s.inflight.map Prod.fst)

/-- the size invariant of the persistent queue: the reported size exceeds the unfinished total by at most the restored size (the
`si` snapshot may be stale); from the empty start it is a lower bound of it (`InvT.toZp`) -/
structure InvT (k : Cfg) (m : Int) (s : St) : Prop extends InvS k m s where
  slack : s.size ≤ sumSz s.items + sumSz s.inflight + m

theorem InvT.frame {k : Cfg} {m : Int} {s s' : St} (h : InvT k m s) (e1 : s'.items = s.items) (e2 : s'.inflight = s.inflight)
    (e3 : s'.size = s.size) (e4 : s'.handed = s.handed) (e5 : s'.finished = s.finished)
    (hel : ∀ q, (s'.ps q).ph.inCond → 0 ≤ (s'.ps q).el) : InvT k m s' :=
  ⟨⟨by rw [e3]; exact h.nonneg, by rw [e1]; exact h.posI, by rw [e2]; exact h.posF, hel,
    by rw [e3]; exact h.bound, by rw [e1, e2, e3]; exact h.emptied, by rw [e2, e4, e5]; exact h.hperm⟩,
   by rw [e1, e2, e3]; exact h.slack⟩

theorem InvT.congr {k : Cfg} {m : Int} {s s' : St} (h : InvT k m s) (e1 : s'.items = s.items) (e2 : s'.inflight = s.inflight)
    (e3 : s'.size = s.size) (e4 : s'.handed = s.handed) (e5 : s'.finished = s.finished)
    (hp : ∀ q, (s'.ps q).ph.inCond → (s.ps q).ph.inCond ∧ (s'.ps q).el = (s.ps q).el) : InvT k m s' :=
  h.frame e1 e2 e3 e4 e5 (fun q hq => by rw [(hp q hq).2]; exact h.elNN q (hp q hq).1)

theorem InvT.upd {k : Cfg} {m : Int} {s s' : St} {p : Nat} {x : P} (h : InvT k m s) (e1 : s'.items = s.items)
    (e2 : s'.inflight = s.inflight) (e3 : s'.size = s.size) (e4 : s'.handed = s.handed) (e5 : s'.finished = s.finished)
    (e6 : s'.ps = upd s.ps p x) (hx : x.ph.inCond → 0 ≤ x.el) : InvT k m s' := by
  refine h.frame e1 e2 e3 e4 e5 (fun q hq => ?_)
  rw [e6] at hq ⊢
  by_cases hqp : q = p
  · subst hqp; rw [upd_same] at hq ⊢; exact hx hq
  · rw [upd_other _ _ _ _ hqp] at hq ⊢; exact h.elNN q hq

theorem InvT.setP {k : Cfg} {m : Int} {s : St} {p : Nat} {x : P} (h : InvT k m s) (hx : x.ph.inCond → 0 ≤ x.el) :
    InvT k m (setP s p x) := h.upd rfl rfl rfl rfl rfl rfl hx

theorem InvT.refuse {k : Cfg} {m : Int} {s : St} {p : Nat} {r : Res} (h : InvT k m s) : InvT k m (refuse s p r) :=
  h.upd rfl rfl rfl rfl rfl rfl (fun a => absurd a (Ph.not_inCond_done r))

theorem InvT.register {k : Cfg} {m : Int} {s : St} {p : Nat} {el : Int} (h : InvT k m s) (h0 : 0 ≤ el) :
    InvT k m (register s p el) := h.upd rfl rfl rfl rfl rfl rfl (fun _ => h0)

theorem InvT.condBroadcast {k : Cfg} {m : Int} {s : St} (h : InvT k m s) : InvT k m (condBroadcast s) :=
  h.congr rfl rfl rfl rfl rfl (fun q hq => ⟨by rwa [condBroadcast_ph] at hq, condBroadcast_el s q⟩)

theorem InvT.ctxCleanup {k : Cfg} {m : Int} {s : St} (h : InvT k m s) (p : Nat) : InvT k m (ctxCleanup s p) := by
  obtain ⟨c1, c2, c3, c4, c5, _⟩ := ctxCleanup_fields s p
  exact h.congr c1 c2 c3 c4 c5 (fun q hq => ⟨by rwa [ctxCleanup_ph] at hq, ctxCleanup_el s p q⟩)

theorem InvT.push {k : Cfg} {m : Int} {s s' : St} {x : Nat × Int} (h : InvT k m s) (e1 : s'.items = s.items ++ [x])
    (e2 : s'.inflight = s.inflight) (e3 : s'.size = s.size + x.2) (e4 : s'.handed = s.handed) (e5 : s'.finished = s.finished)
    (e6 : s'.ps = s.ps) (h0 : 0 ≤ x.2) (hle : s.size + x.2 ≤ k.cap) : InvT k m s' := by
  refine ⟨⟨by rw [e3]; exact Int.add_nonneg h.nonneg h0, ?_, by rw [e2]; exact h.posF, by rw [e6]; exact h.elNN,
    by rw [e3]; exact Or.inl hle, ?_, by rw [e2, e4, e5]; exact h.hperm⟩, ?_⟩
  · intro y hy
    rw [e1] at hy
    rcases List.mem_append.mp hy with hy | hy
    · exact h.posI y hy
    · rw [List.mem_singleton.mp hy]; exact h0
  · intro hi
    rw [e1] at hi
    exact absurd hi (List.append_ne_nil_of_right_ne_nil _ (List.cons_ne_nil _ _))
  · have := h.slack
    rw [e1, e2, e3, sumSz_append]; simp only [sumSz]; omega

theorem InvT.paccept {k : Cfg} {m : Int} {s : St} {p : Nat} {el : Int} (h : InvT k m s) (h0 : 0 ≤ el)
    (hle : s.size + el ≤ k.cap) : InvT k m (paccept s p el) :=
  (h.setP (p := p) (x := { s.ps p with ph := .done .ok, el := el, sig := false }) (fun a => absurd a (Ph.not_inCond_done _))).push
    (x := (p, el)) rfl rfl rfl rfl rfl rfl h0 hle

theorem InvT.ptryAdd {k : Cfg} {m : Int} {s : St} {p : Nat} {el : Int} (h : InvT k m s) (h0 : 0 ≤ el) :
    InvT k m (ptryAdd k s p el) :=
  ptryAdd_cases k s p el (fun _ _ _ => h.refuse) (fun _ _ => h.refuse) (fun _ _ _ => h.register h0) (fun hle => h.paccept h0 hle)

theorem InvT.ppop {k : Cfg} {m : Int} {s s' : St} (hk : 0 ≤ k.cap) (hm : 0 ≤ m) (h : InvT k m s) (hp : ppop s = some s') :
    InvT k m s' := by
  obtain ⟨s1, h1, hcase⟩ := ppop_some hp
  obtain ⟨a, b, c, _⟩ := pop_books h1
  have hperm' := HandedPerm.pop h.hperm h1
  obtain ⟨id, el, t, hi, rfl⟩ := pop_some h1
  have hposI : ∀ x ∈ t, 0 ≤ x.2 := fun x hx => h.posI x (a x hx)
  have hposF : ∀ x ∈ s.inflight ++ [(id, el)], 0 ≤ x.2 := fun x hx => (b x hx).elim (h.posF x) (h.posI x)
  have hI := sumSz_nonneg0 _ hposI
  have hF := sumSz_nonneg0 _ hposF
  rcases hcase with ⟨hne, rfl⟩ | ⟨_, rfl⟩
  · exact ⟨⟨h.nonneg, hposI, hposF, h.elNN, h.bound, fun e => absurd e hne, hperm'⟩, c ▸ h.slack⟩
  · have h0 : InvT k m { ({ s with items := t, inflight := s.inflight ++ [(id, el)], handed := s.handed ++ [id] } : St) with size := 0 } :=
      ⟨⟨Int.le_refl 0, hposI, hposF, h.elNN, Or.inl hk, fun _ => hF, hperm'⟩, by simp only []; omega⟩
    exact h0.condBroadcast

theorem clamp_sub (a b : Int) (ha : 0 ≤ a) (hb : 0 ≤ b) :
    0 ≤ (if a - b < 0 then 0 else a - b) ∧ (if a - b < 0 then 0 else a - b) ≤ a ∧
      ∀ t, 0 ≤ t → a - b ≤ t → (if a - b < 0 then 0 else a - b) ≤ t := by
  by_cases h : a - b < 0
  · rw [if_pos h]; exact ⟨Int.le_refl 0, ha, fun t ht _ => ht⟩
  · rw [if_neg h]; exact ⟨Int.not_lt.mp h, Int.sub_le_self a hb, fun t _ hab => hab⟩

theorem InvT.pfinish {k : Cfg} {m : Int} {s : St} {id : Nat} {el : Int} {e : Nat} (hm : 0 ≤ m) (h : InvT k m s) (hH : InvH s)
    (hl : s.inflight.lookup id = some el) : InvT k m (pfinish s id el e) := by
  obtain ⟨r1, _, r3⟩ := remove_key s.inflight id el (hH.inflight_keys_nodup h.hperm) hl
  have hposF' : ∀ x ∈ s.inflight.filter (fun x => x.1 != id), 0 ≤ x.2 := fun x hx => h.posF x (List.mem_filter.mp hx).1
  obtain ⟨z0, z1, z2⟩ := clamp_sub s.size el h.nonneg (h.posF _ r3)
  have hI := sumSz_nonneg0 _ h.posI
  have hF := sumSz_nonneg0 _ hposF'
  have h0 : InvT k m { s with size := (if s.size - el < 0 then 0 else s.size - el),
                              inflight := s.inflight.filter (fun x => x.1 != id),
                              finished := s.finished ++ [id], outcomes := s.outcomes ++ [(id, e)] } :=
    ⟨⟨z0, h.posI, hposF', h.elNN, h.bound.imp (Int.le_trans z1) (Int.le_trans z1),
      fun hi => z2 _ hF (r1 ▸ Int.sub_le_sub_right (h.emptied hi) el),
      HandedPerm.settle h.hperm hH hl e 0 s.results⟩,  -- the new size plays no part here
     z2 (sumSz s.items + sumSz (s.inflight.filter (fun x => x.1 != id)) + m) (by omega) (by have := h.slack; rw [r1]; omega)⟩
  exact h0.condBroadcast

theorem InvT.pstep {k : Cfg} {m : Int} {s s' : St} {l : Label} (hk : 0 ≤ k.cap) (hm : 0 ≤ m) (h : InvT k m s) (hH : InvH s)
    (hf : pfire k s l = some s') : InvT k m s' := by
  have same : ∀ {t : St}, t.items = s.items → t.inflight = s.inflight → t.size = s.size → t.handed = s.handed →
      t.finished = s.finished → t.ps = s.ps → InvT k m t :=
    fun e1 e2 e3 e4 e5 e6 => h.congr e1 e2 e3 e4 e5 (fun q hq => by rw [e6] at hq ⊢; exact ⟨hq, rfl⟩)
  induction pfire_rule hf with
  | offer p el _ h0 => exact h.ptryAdd h0
  | cancel p => exact h.setP (fun a => h.elNN p a)
  | wakeTok p hp => exact h.setP (fun _ => h.elNN p (Or.inl hp))
  | wakeCtx p hp => exact h.setP (fun _ => h.elNN p (Or.inl hp))
  | relockTok p hp => exact h.ptryAdd (h.elNN p (Or.inr (Or.inl hp)))
  | relockCtx p => exact (h.ctxCleanup p).refuse
  | readStopped => exact h
  | readPop c s1 _ _ hp => exact h.ppop hk hm hp
  | readPark => exact same rfl rfl rfl rfl rfl rfl
  | recheckStopped => exact same rfl rfl rfl rfl rfl rfl
  | recheckPop c s1 _ _ hp => exact (h.ppop hk hm hp).congr rfl rfl rfl rfl rfl (fun q hq => ⟨hq, rfl⟩)
  | recheckPark => exact same rfl rfl rfl rfl rfl rfl
  | complete id el e hl => exact h.pfinish hm hH hl
  | shutdown => exact same rfl rfl rfl rfl rfl rfl

theorem InvT.init (k : Cfg) : InvT k 0 {} :=
  ⟨⟨Int.le_refl 0, by simp, by simp, fun p hp => by simp [Ph.inCond] at hp, Or.inr (Int.le_refl 0), fun _ => by simp [sumSz], by simp⟩,
   by simp [sumSz]⟩

theorem PStart.invT {k : Cfg} {s0 : St} (h : PStart s0) : InvT k s0.size s0 :=
  ⟨⟨h.nonneg, h.sizes, by rw [h.inflight]; simp, fun p hp => absurd hp (h.quiet p).1, Or.inr (Int.le_refl _),
    fun hi => by rw [h.emptyZero hi, h.inflight]; simp [sumSz], by rw [h.handed, h.finished, h.inflight]; simp⟩,
   by have := sumSz_nonneg0 _ h.sizes; rw [h.inflight]; simp only [sumSz]; omega⟩

/-! ### the empty start: the reported size is a lower bound of the unfinished total, within [0, cap] -/

structure InvZp (k : Cfg) (s : St) : Prop where
  szLe : s.size ≤ sumSz s.items + sumSz s.inflight
  nonneg : 0 ≤ s.size
  posI : ∀ x ∈ s.items, 0 ≤ x.2
  posF : ∀ x ∈ s.inflight, 0 ≤ x.2
  le : s.size ≤ k.cap
  hperm : s.handed.Perm (s.finished ++ s.inflight.map Prod.fst)

theorem InvT.le {k : Cfg} {s : St} (hk : 0 ≤ k.cap) (h : InvT k 0 s) : s.size ≤ k.cap := h.bound.elim id (fun a => Int.le_trans a hk)

theorem InvT.toZp {k : Cfg} {s : St} (hk : 0 ≤ k.cap) (h : InvT k 0 s) : InvZp k s :=
  ⟨by have := h.slack; omega, h.nonneg, h.posI, h.posF, h.le hk, h.hperm⟩

/-! ### group W (persistent): a registered waiter always has a completion or a signal still to come -/

def InvWp (s : St) : Prop := s.waiters ≠ [] → (s.items ≠ [] ∨ s.inflight ≠ []) ∨ ∃ p, (s.ps p).sig = true

theorem unfinished_of_pos {k : Cfg} {s : St} (hZ : InvZp k s) (h : 0 < s.size) : s.items ≠ [] ∨ s.inflight ≠ [] := by
  cases hi : s.items with
  | cons x t => exact Or.inl (by simp)
  | nil =>
    cases hf : s.inflight with
    | cons x t => exact Or.inr (by simp)
    | nil =>
      have := hZ.szLe
      rw [hi, hf] at this
      simp [sumSz] at this
      omega

theorem InvWp.of_fits {k : Cfg} {s : St} (hC : InvC k s) (hZ : InvZp k s) (hF : InvF k s) : InvWp s :=
  fun hw => Or.inl (unfinished_of_pos hZ (hF.size_pos hC hw))

structure Invp (k : Cfg) (s : St) : Prop where
  H : InvH s
  C : InvC k s
  Z : InvZp k s
  W : InvWp s

theorem Invp.all_reachable {k : Cfg} (hk : 0 ≤ k.cap) {s : St} (hr : PReachable k s) : Invp k s ∧ InvF k s :=
  have ⟨hH, hC, hT, hF⟩ := (pers k).reach_induction (fun s => InvH s ∧ InvC k s ∧ InvT k 0 s ∧ InvF k s)
    ⟨InvH.init, InvC.init k, InvT.init k, .of_nowaiters rfl⟩
    (fun _ _ _ ⟨hH, hC, hT, hF⟩ hf => ⟨hH.proto (pfire_proto hf), hC.proto (hT.le hk) (pfire_proto hf),
      hT.pstep hk (Int.le_refl 0) hH hf, hF.proto hC (pfire_proto hf)⟩) s hr
  ⟨⟨hH, hC, hT.toZp hk, .of_fits hC (hT.toZp hk) hF⟩, hF⟩

theorem Invp.reachable {k : Cfg} (hk : 0 ≤ k.cap) {s : St} (hr : PReachable k s) : Invp k s := (Invp.all_reachable hk hr).1

theorem InvF.preachable {k : Cfg} (hk : 0 ≤ k.cap) {s : St} (hr : PReachable k s) : InvF k s := (Invp.all_reachable hk hr).2

theorem PStart.reachableFrom {k : Cfg} {s0 s : St} (h0 : PStart s0) (hk : 0 ≤ k.cap) (hr : PReachableFrom k s0 s) :
    InvH s ∧ InvT k s0.size s := by
  obtain ⟨ls, hrun⟩ := hr
  exact run_induction (I := fun t => InvH t ∧ InvT k s0.size t) (ok := fun _ => True) (fun _ => rfl) (prunSched_cons k)
    (fun _ _ _ h1 _ hf => ⟨h1.1.proto (pfire_proto hf), h1.2.pstep hk h0.nonneg h1.1 hf⟩) ls s0 s ⟨h0.H, h0.invT⟩ (fun _ _ => trivial) hrun

/-- the persistent queue is at rest: no goroutine can take a step of its own -/
def PQuiescent (k : Cfg) (s : St) : Prop := ∀ l, Label.internal l = true → pfire k s l = none

theorem PQuiescent.cwoken_nil {k : Cfg} {s : St} (hq : PQuiescent k s) : s.cwoken = [] :=
  List.eq_nil_iff_forall_not_mem.mpr (fun c hc => by have := (recheck_isSome k s hc).2; rw [hq (.recheck c) rfl] at this; cases this)

end OtelVerif.C02

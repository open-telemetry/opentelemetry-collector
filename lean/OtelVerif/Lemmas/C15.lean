import OtelVerif.Model.C15
/-!
# C15 — the regenerated switch tables lifted to all of `Nat` (`lookupD_rel`, `httpOf_rel`, `httpOf_class`), the generated constants as rewrite rules,
`wrap64`, `firstFail_none`, the exact answers of the two server stacks to a rejected request, the code the HTTP exporter returns
-/
namespace OtelVerif.C15
open OtelVerif.Gen

/-- how a switch table is lifted to all of `Nat`: rows evaluated, default branch argued for a key unlike every row's -/
theorem lookupD_rel {l : List (Nat × Nat)} {d : Nat} (P : Nat → Nat → Prop)
    (hrow : ∀ p ∈ l, P p.1 p.2) (hdef : ∀ x, (∀ p ∈ l, x ≠ p.1) → P x d) (x : Nat) : P x (lookupD l d x) := by
  specialize hdef x
  induction l with
  | nil => exact hdef nofun
  | cons p r ih =>
    unfold lookupD
    split
    · rename_i h; rw [h]; exact hrow p (List.mem_cons_self ..)
    · rename_i h
      exact ih (fun q hq => hrow q (List.mem_cons_of_mem _ hq))
        (fun hr => hdef (fun q hq => (List.mem_cons.mp hq).elim (fun e => e ▸ h) (hr q)))

theorem httpOf_rel (P : Nat → Nat → Prop) (hrow : ∀ p ∈ OtlpTables.httpOfGrpc, P p.1 p.2)
    (hdef : ∀ x, (x ≠ 1 ∧ x ≠ 4 ∧ x ≠ 10 ∧ x ≠ 11 ∧ x ≠ 14 ∧ x ≠ 15 ∧ x ≠ 8 ∧ x ≠ 3 ∧ x ≠ 16 ∧ x ≠ 7 ∧ x ≠ 12) → P x 500)
    (c : Nat) : P c (httpOf c) := by
  refine lookupD_rel P hrow (fun x h => hdef x ?_) c
  simpa only [OtlpTables.httpOfGrpc, List.forall_mem_cons, List.not_mem_nil, false_imp_iff, implies_true, and_true] using h

theorem successLo_eq : OtlpTables.successLo = 200 := rfl
theorem successHi_eq : OtlpTables.successHi = 299 := rfl
theorem expThrottleStatuses_eq : OtlpTables.expThrottleStatuses = [429, 503] := rfl
theorem recvThrottleStatuses_eq : OtlpTables.recvThrottleStatuses = [429, 503] := rfl
theorem retryAfterRoundsUp_eq : OtlpTables.retryAfterRoundsUp = true := rfl
theorem errorHandlerKeepsStatus_eq : OtlpTables.errorHandlerKeepsStatus = true := rfl

/-- from the throttle-status lists of the code to the `st = 429 ∨ st = 503` of `specHttp` -/
theorem throttle_contains (n : Nat) : ([429, 503] : List Nat).contains n = true ↔ n = 429 ∨ n = 503 := by simp

theorem ite_mem {α : Type} {L : List α} {c : Prop} [Decidable c] {a b : α} (ha : a ∈ L) (hb : ¬ c → b ∈ L) :
    (if c then a else b) ∈ L := by
  by_cases h : c
  · rw [if_pos h]; exact ha
  · rw [if_neg h]; exact hb h

theorem wrap64_id {x : Int} (h1 : -9223372036854775808 ≤ x) (h2 : x < 9223372036854775808) : wrap64 x = x := by
  unfold wrap64
  omega

theorem wrap64_seconds {s : Int} (h1 : -9223372036 ≤ s) (h2 : s ≤ 9223372036) : wrap64 (s * nsPerSec) = s * nsPerSec := by
  apply wrap64_id <;> simp only [nsPerSec] <;> omega

theorem firstFail_none (c : Bool) (sig : String) (r : List (Bool × String)) :
    firstFail ((c, sig) :: r) = none ↔ c = false ∧ firstFail r = none := by
  cases c <;> simp [firstFail]

theorem httpOf_class (c : Nat) :
    ¬ (200 ≤ httpOf c ∧ httpOf c ≤ 299) ∧ specHttpRetryable (httpOf c) = specGrpcRetryable c true ∧
    ([429, 503] : List Nat).contains (httpOf c) = specGrpcRetryable c true := by
  refine httpOf_rel (fun c st => ¬ (200 ≤ st ∧ st ≤ 299) ∧ specHttpRetryable st = specGrpcRetryable c true ∧
    ([429, 503] : List Nat).contains st = specGrpcRetryable c true) (by decide +kernel) (fun x h => ?_) c
  have hx : specGrpcRetryable x true = false := by simp [specGrpcRetryable, h]
  rw [hx]
  decide

theorem specGrpc_throttle {w : WireGrpc} {d' : Nat} (h : specGrpc w = .throttle d') : w.retry = some d' := by
  unfold specGrpc at h
  -- of the arms of `specGrpc` only `some d` with `d ≠ 0` returns `throttle`
  repeat' split at h
  all_goals first | (cases h; assumption) | cases h

/-- stage by stage; if no stage rejects, `h` is contradicted -/
theorem httpFront_rejected (r : HttpReq) (sink : Outcome)
    (h : r.authOk = some false ∨ r.encodingOk = false ∨ r.pathKnown = false ∨ r.isPost = false ∨
         r.ctype = .other ∨ r.bodyReads = false ∨ r.bodyDecodes = false) :
    httpFront r sink ∈ [(⟨401, none, 16⟩, 0), (⟨400, none, 3⟩, 0), (⟨404, none, 0⟩, 0), (⟨405, none, 0⟩, 0), (⟨415, none, 0⟩, 0)] := by
  have hk : ∀ ct st, errorHandlerStatus ct st = st := by
    intro ct st; simp [errorHandlerStatus, errorHandlerKeepsStatus_eq]
  unfold httpFront
  rw [hk, hk]
  refine ite_mem (by decide) fun h1 => ite_mem (by decide) fun h2 => ite_mem (by decide) fun h3 => ite_mem (by decide) fun h4 =>
    ite_mem (by decide) fun h5 => ite_mem (by decide) fun h6 => ite_mem (by decide) fun h7 => ?_
  simp only [Bool.not_eq_true', Bool.not_eq_false] at h2 h3 h4 h6 h7
  simp [h1, h2, h3, h4, h5, h6, h7] at h

theorem grpcFront_rejected (r : GrpcReq) (sink : Outcome)
    (h : r.methodKnown = false ∨ r.encodingKnown = false ∨ r.fitsMaxRecv = false ∨ r.bodyDecodes = false ∨ r.authOk = some false) :
    grpcFront r sink ∈ [(⟨12, none⟩, 0), (⟨8, none⟩, 0), (⟨13, none⟩, 0), (⟨16, none⟩, 0)] := by
  unfold grpcFront
  refine ite_mem (by decide) fun h1 => ite_mem (by decide) fun h2 => ite_mem (by decide) fun h3 => ite_mem (by decide) fun h4 =>
    ite_mem (by decide) fun h5 => ?_
  simp only [Bool.not_eq_true', Bool.not_eq_false] at h1 h2 h3 h4
  simp [h1, h2, h3, h4, h5] at h

/-- `expHttpErrCode` reads only the HTTP status -/
theorem expHttpErrCode_recvHttp_status (c : Nat) (ri : Option Nat) :
    expHttpErrCode (recvHttp (.status c ri)) = expHttpErrCode ⟨httpOf c, none, 0⟩ := rfl

/-- the code of the error the HTTP exporter returns, for every consumer code (0 included) -/
theorem returned_http_code (c : Nat) (ri : Option Nat) :
    (expHttpErrCode (recvHttp (.status c ri)) = c ↔ c ∈ [2, 3, 7, 8, 12, 14, 16]) ∧
    expHttpErrCode (recvHttp (.status c ri)) ≠ 0 ∧
    specGrpcRetryable (expHttpErrCode (recvHttp (.status c ri))) true = specGrpcRetryable c true := by
  rw [expHttpErrCode_recvHttp_status]
  refine httpOf_rel (fun c st => (expHttpErrCode ⟨st, none, 0⟩ = c ↔ c ∈ [2, 3, 7, 8, 12, 14, 16]) ∧
    expHttpErrCode ⟨st, none, 0⟩ ≠ 0 ∧ specGrpcRetryable (expHttpErrCode ⟨st, none, 0⟩) true = specGrpcRetryable c true)
    (by decide +kernel) (fun x h => ?_) c
  have e : expHttpErrCode ⟨500, none, 0⟩ = 2 := by decide
  rw [e]
  simp [specGrpcRetryable, h, eq_comm]

end OtelVerif.C15

import OtelVerif.Model.C13Validate
/-!
# C13 — lemmas: the interpreter of the regenerated `Config.Validate` statements equals the hand model

The lemmas are stated for the statement SHAPES (messages, variable names and argument lists are universally
quantified); the final equalities are `pipe_regen` and the proof of `C13_root_phases_regenerated`.
-/
namespace OtelVerif.C13
open OtelVerif.Gen

theorem evalPhases_cons (c : Top) (ph : Phase) (rest : List Phase) :
    evalPhases c (ph :: rest) = if (phaseErrs c ph).isEmpty then evalPhases c rest else phaseErrs c ph := by
  simp only [evalPhases]
  cases phaseErrs c ph <;> simp

theorem matchList_eq {α : Type} (l x : List α) :
    (match l with | e :: es => e :: es | [] => x) = if l.isEmpty then x else l := by
  cases l <;> simp

theorem clash_eq (c : Top) (v : String) (f1 f2 : String) (n1 n2 : Nat) (a2 b2 : List (String × String)) :
    phaseErrs c (.clash .connectors v [(.exporters, ⟨.ambiguousExporter, f1, n1, a2⟩), (.receivers, ⟨.ambiguousReceiver, f2, n2, b2⟩)])
      = c.connectors.filterMap (connErr c) := by
  simp only [phaseErrs, Top.ids]
  congr 1
  funext id
  simp only [List.map, Top.look, Top.ids, connErr, EK.mk]
  by_cases h1 : id ∈ c.exporters
  · simp [h1, firstSome]
  · by_cases h2 : id ∈ c.receivers
    · simp [h1, h2, firstSome]
    · simp [h1, h2, firstSome]

theorem loops_eq (c : Top) (pid : Nat) (p : Pipe) (v1 v2 v3 : String) (m1 m2 m3 : String) (n1 n2 n3 : Nat) (a1 a2 a3 : List (String × String)) :
    firstSome ([ (⟨.recv, v1, [.present .receivers, .present .connectors], ⟨.danglingReceiver, m1, n1, a1⟩⟩ : RefLoop),
                 ⟨.procs, v2, [.nonNil .processors], ⟨.danglingProcessor, m2, n2, a2⟩⟩,
                 ⟨.exps, v3, [.present .exporters, .present .connectors], ⟨.danglingExporter, m3, n3, a3⟩⟩ ].map (loopErr c pid p))
      = pipeRefErr c pid p := by
  simp only [List.map, loopErr, Pipe.get, pipeRefErr, List.any_cons, List.any_nil, Bool.or_false, Top.look, Top.ids]
  cases h1 : p.recv.find? (fun r => !(c.receivers.contains r || c.connectors.contains r)) with
  | some r => simp [firstSome, EK.mk]
  | none =>
    cases h2 : p.procs.find? (fun r => !configured c.processors r) with
    | some r => simp [firstSome, EK.mk]
    | none =>
      cases h3 : p.exps.find? (fun r => !(c.exporters.contains r || c.connectors.contains r)) with
      | some r => simp [firstSome, EK.mk]
      | none => simp [firstSome]

theorem evalPhases_allEmpty (c : Top) (secs : List Sec) (m : Msg) (rest : List Phase) :
    evalPhases c (.allEmpty secs m :: rest) = if secs.all c.secEmpty then [m.kind.mk 0 0] else evalPhases c rest := by
  cases h : secs.all c.secEmpty <;> simp only [evalPhases, phaseErrs, h, if_true, Bool.false_eq_true, if_false]

theorem evalPhases_gatedEmpty (c : Top) (g : String) (s : Sec) (m : Msg) (rest : List Phase) :
    evalPhases c (.gatedEmpty g s m :: rest) = if c.secEmpty s then [m.kind.mk 0 0] else evalPhases c rest := by
  cases h : c.secEmpty s <;> simp only [evalPhases, phaseErrs, h, if_true, Bool.false_eq_true, if_false]

theorem pipe_regen (pid : Nat) (p : Pipe) : evalPipe pid p ConfigValidate.pipePhases = pipeErr pid p := by
  simp only [ConfigValidate.pipePhases, evalPipe, List.map, pphaseErr, Pipe.get, pipeErr, EK.mk]
  by_cases h1 : p.recv.isEmpty = true
  · simp [h1, firstSome]
  · by_cases h2 : p.exps.isEmpty = true
    · simp [h1, h2, firstSome]
    · cases firstDup [] p.procs <;> simp [h1, h2, firstSome, EK.mk]

end OtelVerif.C13

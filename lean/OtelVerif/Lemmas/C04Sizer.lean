import OtelVerif.Model.C04
/-!
C04: the two sizers.  What the capacity arithmetic of `extract*` uses of `DeltaSize` holds for both (`delta_ge`, `delta_slope`,
`frag_fits`), so sizes, bounds and `removedSize` are proved once for a sizer `sz`; the items sizer is the case `DeltaSize = id`.  `wsumBy`: the weight of items in context.
-/
namespace OtelVerif.C04
open OtelVerif.Payload

theorem isum_cons (a : Int) (l : List Int) : isum (a :: l) = a + isum l := rfl
theorem isum_append (a b : List Int) : isum (a ++ b) = isum a + isum b := List.sum_append_int

theorem sumD_nil {α : Type} (sz : Sizer) (f : α → Int) : sumD sz f [] = 0 := rfl
theorem sumD_cons {α : Type} (sz : Sizer) (f : α → Int) (a : α) (l : List α) :
    sumD sz f (a :: l) = sz.delta (f a) + sumD sz f l := rfl
theorem sumD_append {α : Type} (sz : Sizer) (f : α → Int) (a b : List α) :
    sumD sz f (a ++ b) = sumD sz f a + sumD sz f b := by
  simp [sumD, isum_append]

def osize {α : Type} (sz : Sizer) (f : α → Int) (o : Option α) : Int := sumD sz f o.toList
@[simp] theorem osize_none {α : Type} (sz : Sizer) (f : α → Int) : osize sz f none = 0 := rfl
@[simp] theorem osize_some {α : Type} (sz : Sizer) (f : α → Int) (a : α) : osize sz f (some a) = sz.delta (f a) := by
  simp [osize, sumD, isum]

abbrev sz0 : Sizer := ⟨false⟩
abbrev szB : Sizer := ⟨true⟩

@[simp] theorem delta0 (n : Int) : Sizer.delta sz0 n = n := by simp [Sizer.delta]
@[simp] theorem own0 (b : Nat) : Sizer.own sz0 b = 0 := by simp [Sizer.own]
@[simp] theorem deltaB (n : Int) : Sizer.delta szB n = 1 + n + sov n := by simp [Sizer.delta]
@[simp] theorem ownB (b : Nat) : Sizer.own szB b = (b : Int) := by simp [Sizer.own]

theorem sovFuel_pos (f n : Nat) : 1 ≤ sovFuel f n := by
  cases f with
  | zero => simp [sovFuel]
  | succ f => simp only [sovFuel]; split <;> omega

theorem sovFuel_mono (f : Nat) : ∀ (a b : Nat), a ≤ b → sovFuel f a ≤ sovFuel f b := by
  induction f with
  | zero => intro a b _; simp [sovFuel]
  | succ f ih =>
    intro a b h
    simp only [sovFuel]
    by_cases ha : a < 128
    · simp only [ha, if_true]
      split
      · omega
      · have := sovFuel_pos f (b / 128); omega
    · have hb : ¬ b < 128 := by omega
      simp only [ha, hb, if_false]
      have := ih (a / 128) (b / 128) (Nat.div_le_div_right h)
      omega

theorem sov_mono (a b : Int) (ha : 0 ≤ a) (hab : a ≤ b) : sov a ≤ sov b := by
  have h1 : ¬ a < 0 := by omega
  have h2 : ¬ b < 0 := by omega
  simp only [sov, h1, h2, if_false]
  have := sovFuel_mono 9 a.toNat b.toNat (by omega)
  omega

theorem sov_pos (n : Int) : 1 ≤ sov n := by
  unfold sov
  split
  · omega
  · have := sovFuel_pos 9 n.toNat; omega

theorem delta_ge (sz : Sizer) (n : Int) : n ≤ sz.delta n := by
  cases sz with
  | mk b =>
    cases b with
    | false => exact Int.le_of_eq (delta0 n).symm
    | true => have := sov_pos n; rw [deltaB]; omega

theorem delta_slope (sz : Sizer) (a b : Int) (hb : 0 ≤ b) (hab : b ≤ a) : a - b ≤ sz.delta a - sz.delta b := by
  cases sz with
  | mk bb =>
    cases bb with
    | false => rw [delta0, delta0]; exact Int.le_refl _
    | true => have := sov_mono b a hb hab; rw [deltaB, deltaB]; omega

theorem own_nonneg (sz : Sizer) (b : Nat) : 0 ≤ sz.own b := by
  unfold Sizer.own; split
  · exact Int.natCast_nonneg _
  · exact Int.le_refl _

theorem isum_nonneg (l : List Int) (h : ∀ x ∈ l, 0 ≤ x) : 0 ≤ isum l := by
  induction l with
  | nil => exact Int.le_refl _
  | cons a l ih =>
    have h1 := h a List.mem_cons_self
    have h2 := ih (fun x hx => h x (List.mem_cons_of_mem _ hx))
    rw [isum_cons]; omega

theorem sumD_nonneg {α : Type} (sz : Sizer) (f : α → Int) (hf : ∀ c, 0 ≤ f c) (l : List α) : 0 ≤ sumD sz f l :=
  isum_nonneg _ fun x hx => by
    obtain ⟨c, _, rfl⟩ := List.mem_map.mp hx
    exact Int.le_trans (hf c) (delta_ge sz _)

theorem sumD_pos_of_ne {α : Type} (sz : Sizer) (hb : sz.bytes = true) (size : α → Int) (hsz : ∀ c, 0 ≤ size c) (l : List α)
    (h : l ≠ []) : 0 < sumD sz size l := by
  cases sz with
  | mk b =>
    cases hb
    cases l with
    | nil => exact absurd rfl h
    | cons a l =>
      have := sumD_nonneg szB size hsz l
      have := sov_pos (size a)
      have := hsz a
      show 0 < sumD szB size (a :: l)
      rw [sumD_cons, deltaB]; omega

/-- a fragment with own fields `sz.own b` and children worth `S ≤ innerCap` fits `cap` once its length prefix is added; with the
bytes sizer the fragment must hold something (an empty one still costs its prefix) -/
theorem frag_fits (sz : Sizer) (cap : Int) (b : Nat) (S : Int) (hpos : sz.bytes = true → 0 < S)
    (hle : S ≤ max (innerCap sz cap (sz.own b)) 0) : sz.delta (sz.own b + S) ≤ max cap 0 := by
  cases sz with
  | mk bb =>
    cases bb with
    | false =>
      have e : innerCap sz0 cap (Sizer.own sz0 b) = cap := by simp only [innerCap, delta0, own0]; omega
      rw [e] at hle
      rw [own0, delta0, Int.zero_add]; exact hle
    | true =>
      -- `S > 0` rules out the `0` of the `max`: the budget is positive, hence `cap` is, and `sov` of the fragment is at most `sov cap`
      have hS := hpos rfl
      have hin : S ≤ innerCap szB cap (Sizer.own szB b) := by
        rcases Int.le_total 0 (innerCap szB cap (Sizer.own szB b)) with h | h
        · rwa [Int.max_eq_left h] at hle
        · rw [Int.max_eq_right h] at hle; omega
      simp only [innerCap, deltaB, ownB] at hin ⊢
      have hp := sov_pos cap
      have hm := sov_mono ((b : Int) + S) cap (by omega) (by omega)
      have := Int.le_max_left cap 0
      generalize max cap 0 = M at this ⊢
      omega

theorem sumD_count_points (l : List Item) : sumD sz0 (pointSize sz0) l = (l.length : Int) := by
  induction l with
  | nil => rfl
  | cons a l ih =>
    rw [sumD_cons, ih, delta0, List.length_cons]
    simp only [pointSize, Bool.false_eq_true, if_false]
    omega

def wsumBy {β : Type} (wt : β → Int) (l : List β) : Int := isum (l.map wt)

theorem wsumBy_cons {β : Type} (wt : β → Int) (a : β) (l : List β) : wsumBy wt (a :: l) = wt a + wsumBy wt l := rfl

theorem wsumBy_append {β : Type} (wt : β → Int) (a b : List β) : wsumBy wt (a ++ b) = wsumBy wt a + wsumBy wt b := by
  rw [wsumBy, List.map_append, isum_append]; rfl

theorem wsumBy_nonneg {β : Type} (wt : β → Int) (hwt : ∀ x, 0 ≤ wt x) (l : List β) : 0 ≤ wsumBy wt l :=
  isum_nonneg _ fun x hx => by obtain ⟨c, _, rfl⟩ := List.mem_map.mp hx; exact hwt c

theorem wsumBy_one {β : Type} (l : List β) : wsumBy (fun _ => (1 : Int)) l = (l.length : Int) := by
  induction l with
  | nil => rfl
  | cons a l ih => rw [wsumBy_cons, ih, List.length_cons]; omega

theorem wsumBy_flatMap_le {α β : Type} (sz : Sizer) (wt : β → Int) (f : α → List β) (size : α → Int)
    (h : ∀ c, wsumBy wt (f c) ≤ size c) (l : List α) : wsumBy wt (l.flatMap f) ≤ sumD sz size l := by
  induction l with
  | nil => exact Int.le_refl _
  | cons a l ih =>
    rw [List.flatMap_cons, wsumBy_append, sumD_cons]
    have := h a; have := delta_ge sz (size a); omega

theorem heavy_zero_of_wsum {β : Type} (wt : β → Int) (hwt : ∀ x, 0 ≤ wt x) (l : List β) (h : wsumBy wt l ≤ 0) :
    (l.filter (fun c => decide (wt c > 0))).length = 0 := by
  induction l with
  | nil => rfl
  | cons a l ih =>
    have h1 := wsumBy_nonneg wt hwt l
    have h2 := hwt a
    rw [wsumBy_cons] at h
    rw [List.filter_cons, decide_eq_false (by omega : ¬ wt a > 0)]
    exact ih (by omega)

end OtelVerif.C04

import OtelVerif.Model.C15Route
/-! # C15 — addressing: normal forms of the URL composition and of the receiver's mux; string facts -/
namespace OtelVerif.C15
open OtelVerif.Gen

theorem hasSuffix_slash_split {e : String} (h : hasSuffix e "/" = true) : e = String.ofList e.toList.dropLast ++ "/" := by
  obtain ⟨t, ht⟩ := List.isSuffixOf_iff_suffix.mp h
  apply String.toList_injective
  simp [String.toList_append, ← ht]

/-- version segment of the OTLP path of a signal (hand: `/v1/…`, profiles `/v1development/…`) -/
def specVersion : Signal → String
  | .profiles => "v1development" | _ => "v1"

theorem specPath_eq (g : Signal) : specPath g = "/" ++ (specVersion g ++ ("/" ++ g.name)) := by
  cases g <;> simp [specPath, specVersion, Signal.name]

theorem Signal.mem_all (g : Signal) : g ∈ Signal.all := by cases g <;> decide

theorem compose_call_of_signal : ∀ g ∈ Signal.all,
    (httpPushOf g).bind (fun p => (OtlpRoutes.expComposeCalls.find? (fun r => r.2.1 = p.2.2.2.1)).map (·.2.2)) =
      some (specOverrideField g, g.name, specVersion g) := by decide +kernel

/-- which `composeSignalURL` call feeds the URL field that the push function of each signal reads -/
theorem exportUrl_compose (g : Signal) (c : ExpCfg) :
    exportUrl g c = composeSignalURL c.endpoint (c.overrideOf g) g.name (specVersion g) := by
  have h := compose_call_of_signal g g.mem_all
  unfold exportUrl ExpCfg.overrideOf
  cases hp : httpPushOf g with
  | none => rw [hp] at h; cases h
  | some p =>
    obtain ⟨_, _, _, urlField, _⟩ := p
    rw [hp, Option.bind_some] at h
    simp only
    cases hq : OtlpRoutes.expComposeCalls.find? (fun r => r.2.1 = urlField) with
    | none => rw [hq] at h; cases h
    | some q =>
      obtain ⟨_, _, ov, name, ver⟩ := q
      rw [hq] at h
      cases h
      rfl

theorem composeSignalURL_eq (e o n v : String) :
    composeSignalURL e o n v =
      if o ≠ "" then some o else if e = "" then none
      else if hasSuffix e "/" then some (String.ofList e.toList.dropLast ++ ("/" ++ (v ++ ("/" ++ n))))
      else some (e ++ ("/" ++ (v ++ ("/" ++ n)))) := by
  simp only [composeSignalURL, OtlpRoutes.composeOverride, OtlpRoutes.composeWithSuffix, OtlpRoutes.composeWithoutSuffix,
    OtlpRoutes.composeSuffix, interp, String.reduceEq, if_true, if_false, String.append_empty]
  by_cases hs : hasSuffix e "/" = true
  · have he : e ++ (v ++ ("/" ++ n)) = String.ofList e.toList.dropLast ++ ("/" ++ (v ++ ("/" ++ n))) := by
      conv => lhs; rw [hasSuffix_slash_split hs]
      simp [String.append_assoc]
    simp only [hs, if_true, he]
  · simp only [hs, Bool.false_eq_true, if_false]

/-- the mux + registration table, normalised: a path reaches the first signal configured on it, decoded AS and delivered TO that signal -/
theorem routeHttp_eq (rc : RecvCfg) (p : String) :
    routeHttp rc p = (Signal.all.find? (fun s => specRecvPath rc s = some p)).map (fun s => (s, s)) := by
  simp only [routeHttp, OtlpRoutes.recvHttpRoutes, Signal.all, List.find?, pathOfSrc, specRecvPath, specPath]
  simp only [show ("lit" = "cfg") = False by decide, if_true, if_false]
  -- by the first path that matches; what is left at a hit is closed: the row's handler drives the package built in its block, its
  -- guard is its consumer, and `regEffect` gives the row's signal twice
  by_cases h1 : rAssoc rc "TracesURLPath" = some p
  · simp only [h1, decide_true]; decide +kernel
  · by_cases h2 : rAssoc rc "MetricsURLPath" = some p
    · simp only [h1, h2, decide_true, decide_false]; decide +kernel
    · by_cases h3 : rAssoc rc "LogsURLPath" = some p
      · simp only [h1, h2, h3, decide_true, decide_false]; decide +kernel
      · by_cases h4 : (some "/v1development/profiles" : Option String) = some p
        · simp only [h1, h2, h3, h4, decide_true, decide_false]; decide +kernel
        · simp only [h1, h2, h3, h4, decide_false]; rfl

theorem stripBase_append (b p : String) : stripBase b (b ++ p) = some p := by
  unfold stripBase
  simp [String.toList_append, String.ofList_toList]

theorem hasPrefix_append (p a : String) : hasPrefix (p ++ a) p = true := by
  unfold hasPrefix
  rw [List.isPrefixOf_iff_prefix, String.toList_append]
  exact List.prefix_append _ _

theorem trimPrefix_append (p a : String) : trimPrefix (p ++ a) p = a := by
  unfold trimPrefix
  rw [hasPrefix_append, if_pos rfl, String.toList_append, List.drop_left]
  exact String.ofList_toList

theorem https_not_http (a : String) : hasPrefix ("https://" ++ a) "http://" = false := by
  simp [hasPrefix, String.toList_append, List.isPrefixOf]

/-- one row of `C15_grpc_compression_registered`: a mapped type names a compressor package config/configgrpc links, under the type's own name;
an unmapped one is uncompressed ("" / none) or refused by the error default -/
def grpcCompressionRow (t : String) : Bool :=
  match grpcCompressor t with
  | some p => OtlpRoutes.grpcCompressorImports.contains p && p == t
  | none => t == "" || t == "none" || OtlpRoutes.grpcCompressionDefaultErrors

end OtelVerif.C15

import OtelVerif.Lemmas.C20
import OtelVerif.Lemmas.C20Mon
/-! # C20 — every log the model can produce is accepted by the monitor, whose state is a function of the model state (`monOf`) -/
namespace OtelVerif.C20

/-- pcs at which the current service has been started (possibly partially) and not shut down -/
def Pc.hasStarted : Pc → Bool
  | .setupSd _ | .setup4 _ | .select | .reload1 | .reload2 | .shut1 | .shut2 | .shut3 => true
  | _ => false

/-- the monitor state that corresponds to a model state: `monOf` (below) as a relation, with `reqSt` left open -/
structure Rel (c : Core) (req : Bool) (m : Mon) : Prop where
  live : m.live = if c.pc.hasStarted then [(c.gen, 0)] else []
  shut : m.shutOnce = (c.sdLog.map (fun g => (g, 0))).reverse
  prov : m.prov = c.provSd
  st : m.st = c.st
  stopped : m.stopped = c.stop.isSome
  ret : m.ret = c.ret
  ever : m.everRunning = c.everRunning
  req : m.req = req

/-- `hs` stands for `pc.hasStarted`, `rs` is the state sampled at the first request -/
def monOf (hs : Bool) (c : Core) (req : Bool) (rs : CState) : Mon :=
  { live := if hs then [(c.gen, 0)] else [], shutOnce := (c.sdLog.map (fun g => (g, 0))).reverse, prov := c.provSd, st := c.st,
    everRunning := c.everRunning, req := req, reqSt := rs, stopped := c.stop.isSome, ret := c.ret }

theorem rel_monOf (c : Core) (req : Bool) (rs : CState) : Rel c req (monOf c.pc.hasStarted c req rs) :=
  ⟨rfl, rfl, rfl, rfl, rfl, rfl, rfl, rfl⟩

/-- the monitor accepts the log and ends in `monOf` of the state -/
def Acc (s : S) : Prop := ∃ rs, Mon.run {} s.log = .ok (monOf s.pc.hasStarted s.core s.req rs)

theorem Acc.rel {s : S} (h : Acc s) : ∃ m, Mon.run {} s.log = .ok m ∧ Rel s.core s.req m :=
  h.elim fun rs h => ⟨_, h, rel_monOf s.core s.req rs⟩

theorem acc_init : Acc init := ⟨.starting, rfl⟩

theorem gen_fresh {hl s2 : Bool} {c : Core} (d : Data hl s2 c) (h : hl = true) : c.gen ∉ c.sdLog := by
  have hs := d.sorted
  rw [d.created, d.live, h, if_pos rfl] at hs
  intro hmem
  exact Nat.lt_irrefl _ ((List.pairwise_append.1 hs).2.2 c.gen hmem c.gen List.mem_cons_self)

theorem mon_st (m : Mon) (x : Option CState) :
    Mon.run m (x.map TEv.st).toList =
      .ok { m with st := x.getD m.st, everRunning := x == some .running || m.everRunning } := by
  cases x with
  | none => rfl
  | some a =>
    show Except.ok _ = Except.ok _
    rw [Bool.or_comm m.everRunning]
    cases a <;> rfl

def Op.fitsStarted : Op → (hs hs' : Bool) → Bool
  | .create, hs, hs' | .newGen, hs, hs' => !hs && !hs'
  | .start, hs, hs' => !hs && hs'
  | .shutdown, hs, hs' => hs && !hs'
  | _, hs, hs' => hs' == hs

theorem Pc.next_started {p p' : Pc} {ok : Bool} (h : p.next ok = some p') :
    (p.op ok).fitsStarted p.hasStarted p'.hasStarted = true ∧ (p.op ok = .prov → p.provAt = 0) ∧
      (p.op ok = .shutdown → p.hasLive = true) :=
  Pc.next_rows p ok p' h (by decide)

theorem mon_op {hl s2 hs hs' : Bool} {c : Core} (op : Op) (d : Data hl s2 c) (m : Mon)
    (h1 : m.live = if hs then [(c.gen, 0)] else []) (h2 : m.shutOnce = (c.sdLog.map (fun g => (g, 0))).reverse)
    (h3 : m.prov = c.provSd)
    (hf : op.fitsStarted hs hs' = true) (hlive : op = .shutdown → hl = true) (hprov : op = .prov → c.provSd = 0) :
    Mon.run m (op.events c.gen c.svc) =
      .ok { m with live := if hs' then [((op.run c).gen, 0)] else [],
                   shutOnce := ((op.run c).sdLog.map (fun g => (g, 0))).reverse, prov := (op.run c).provSd } := by
  obtain ⟨live, shutOnce, prov, st, ever, req, reqSt, stopped, ret⟩ := m
  simp only at h1 h2 h3
  subst h1 h2 h3
  cases op <;> simp only [Op.fitsStarted, Bool.and_eq_true, Bool.not_eq_true', beq_iff_eq] at hf
  case skip => subst hf; rfl
  case newGen => obtain ⟨rfl, rfl⟩ := hf; rfl
  case create => obtain ⟨rfl, rfl⟩ := hf; rfl
  case start => obtain ⟨rfl, rfl⟩ := hf; rfl
  case prov =>
    subst hf
    exact Mon.run_one (e := .prov) (hprov rfl)
  case shutdown =>
    obtain ⟨rfl, rfl⟩ := hf
    have hfresh : (c.gen, 0) ∉ (c.sdLog.map (fun g => (g, 0))).reverse := by
      simpa using gen_fresh d (hlive rfl)
    simp only [Op.events, Op.run, d.svcLive (hlive rfl)]
    refine (Mon.run_one (e := .shut c.gen 0) ?_).trans (by simp [Mon.next])
    exact hfresh

theorem acc_step {s s' : S} {ok : Bool} (hg : Good s.core) (ha : Acc s) (h : stepRun s ok = some s') : Acc s' := by
  -- the log grows by `[st?] ++ events ++ [ret?]` (`Stepped.log`): `mon_st` accepts the first segment, `mon_op` the second (`h12`),
  -- and the `ret` event is accepted by `AtDone.stopped`
  have hg' := good_step hg h
  obtain ⟨hn, hret, hcore, hout, hlog⟩ := stepRun_stepped h
  obtain ⟨rs, hm⟩ := ha
  have hp : s.pc ≠ .done := fun hd => by rw [hd] at hn; cases hn
  obtain ⟨hfs, hpr, hlive⟩ := Pc.next_started hn
  have hreq : s'.req = s.req := congrArg Outer.req hout
  have h1 := mon_st (monOf s.pc.hasStarted s.core s.req rs) s.pc.stores
  have h2 := mon_op (s.pc.op ok) hg.data
      { monOf s.pc.hasStarted s.core s.req rs with
        st := s.pc.stores.getD s.st, everRunning := s.pc.stores == some .running || s.everRunning }
      (hs := s.pc.hasStarted) rfl rfl rfl hfs hlive (fun e => ((hg.atPc hp).prov).trans (hpr e))
  have h12 : Mon.run {} (s.log ++ (s.pc.stores.map TEv.st).toList ++ (s.pc.op ok).events s.gen s.svc) = _ :=
    (Mon.run_append_ok (Mon.run_append_ok hm _ ▸ h1) _).trans h2
  refine ⟨rs, ?_⟩
  rw [hlog, hreq, hcore]
  by_cases hd : s'.pc = .done
  · obtain ⟨-, f2, -⟩ := hg'.atDone hd
    rw [hcore] at f2
    rw [if_pos hd, Mon.run_append_ok h12, Mon.run_one (e := .ret _) ⟨by rw [hd]; rfl, fun hs => ⟨(f2 hs).1, (f2 hs).2.1⟩⟩, hret, if_pos hd]
    rfl
  · rw [if_neg hd, List.append_nil, h12, hret, if_neg hd]
    rfl

theorem acc_fire (v : Variant) {s s' : S} {l : Label} (hg : Good s.core) (ha : Acc s) (h : fire v s l = some s') : Acc s' := by
  rcases fire_cases v h with ⟨-, x⟩ | ⟨-, hpc, rfl⟩ | ⟨ok, -, hs⟩ | ⟨e, -, hpc, hp⟩
  · obtain ⟨rs, hm⟩ := ha
    have hpc := x.pc
    refine ⟨if l = .call ∧ s.req = false then s.st else rs, ?_⟩
    rw [x.log, (fire_frame v h).req, x.core, hpc, Mon.run_append_ok hm]
    by_cases hc : l = .call
    · subst hc; cases s.req <;> rfl
    · have hb : (l == .call) = false := beq_eq_false_iff_ne.2 hc
      rw [if_neg hc, if_neg (fun h => hc h.1), hb, Bool.false_and, Bool.or_false]
      rfl
  · obtain ⟨rs, hm⟩ := ha
    exact ⟨rs, by rw [hpc] at hm; exact hm⟩
  · exact acc_step hg ha hs
  · obtain ⟨rs, hm⟩ := ha
    have pk := pickEv_picked hp
    have hpc' := pk.pc
    refine ⟨rs, ?_⟩
    rw [pk.log, pk.req, pk.core, hpc', hpc] at *
    cases e.stops <;> exact (Mon.run_append_ok hm _).trans rfl

theorem acc_reachable {v : Variant} {s : S} (h : Reachable v s) : Acc s :=
  reachable_induction acc_init (fun _ _ _ hg ha hf => acc_fire v hg ha hf) h

end OtelVerif.C20

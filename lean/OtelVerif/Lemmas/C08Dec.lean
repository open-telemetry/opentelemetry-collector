import OtelVerif.Lemmas.C08
/-! C08: equations of `confD` and `canon`; slot-wise checks through `get`/`set`/`snoc`; the protobuf decoder returns decoder-shaped (`confD`)
values and the defaults are such; `canon` maps them to canonical (`conf`) values without changing the encoding. Core Lean only. -/
namespace OtelVerif.C08
open OtelVerif.Wire OtelVerif.Proto

/-! ## the equations of `confD` -/

theorem confD_slots_cons (S : Schema) (s : Slot) (ss : List Slot) (x xs : Val) :
    confD S (.slots (s :: ss)) (.cons x xs) = (confD S (.slot s) x && confD S (.slots ss) xs) := by conv => lhs; rw [confD]

theorem confD_slots_nil (S : Schema) : confD S (.slots []) .nil = true := by rw [confD]

theorem confD_reps_cons (S : Schema) (f : Field) (e rest : Val) :
    confD S (.reps f) (.cons e rest) = (confD S (.elem f) e && confD S (.reps f) rest) := by conv => lhs; rw [confD]

theorem confD_reps_nil (S : Schema) (f : Field) : confD S (.reps f) .nil = true := by rw [confD]

theorem confD_slot_one (S : Schema) (f : Field) (v : Val) :
    confD S (.slot (.one f)) v =
      match f.card with
      | .opt => leafOk f.ty v
      | .req => confD S (.elem f) v
      | .rep => confD S (.reps f) v
      | .packed => packedOk f.ty v := by
  conv => lhs; rw [confD]
  cases f with | mk num go json orig ty card => cases card <;> rfl

theorem confD_slot_oneof (S : Schema) (g : String) (alts : List Field) (k : Nat) (p : Val) :
    confD S (.slot (.oneof g alts)) (.cons (.num k) (.cons p .nil)) =
      match findAlt alts k with
      | some a => confD S (.elem a) p
      | none => false := by
  conv => lhs; rw [confD]
  cases findAlt alts k <;> rfl

theorem confD_slot_oneof_nil (S : Schema) (g : String) (alts : List Field) : confD S (.slot (.oneof g alts)) .nil = true := by
  rw [confD]

theorem confD_elem_leaf (S : Schema) (f : Field) (v : Val) (hty : ∀ sub, f.ty ≠ .msg sub) :
    confD S (.elem f) v = leafOk f.ty v := by
  rw [confD]; split
  · next sub h => exact absurd h (hty sub)
  · rfl

theorem confD_elem_msg (S : Schema) (f : Field) (v : Val) (sub : Nat) (hty : f.ty = .msg sub) :
    confD S (.elem f) v = confD S (.slots (S.slots sub)) v := by
  (conv => lhs; rw [confD]); simp [hty]

/-! ## slot-wise checks through `get` / `set` / `snoc`; packed lists -/

/-- `P`: any slot-wise check; the `confD` hypothesis only says that `acc` is a chain as long as `ss` -/
theorem slots_set (S : Schema) {P : Mode → Val → Bool}
    (hP : ∀ s ss x xs, P (.slots (s :: ss)) (.cons x xs) = (P (.slot s) x && P (.slots ss) xs)) :
    ∀ (ss : List Slot) (acc : Val) (j : Nat) (s : Slot) (nv : Val),
    confD S (.slots ss) acc = true → P (.slots ss) acc = true → ss[j]? = some s → P (.slot s) nv = true →
    P (.slots ss) (Val.set acc j nv) = true := by
  intro ss
  induction ss with
  | nil => intro acc j s nv _ _ h; simp at h
  | cons s0 ss ih =>
    intro acc j s nv hc hp hj hn
    cases acc with
    | cons x xs =>
      rw [confD_slots_cons, Bool.and_eq_true] at hc
      rw [hP, Bool.and_eq_true] at hp
      cases j with
      | zero =>
        simp at hj; subst hj
        simp only [Val.set]; rw [hP, Bool.and_eq_true]; exact ⟨hn, hp.2⟩
      | succ j =>
        simp at hj
        simp only [Val.set]; rw [hP, Bool.and_eq_true]; exact ⟨hp.1, ih xs j s nv hc.2 hp.2 hj hn⟩
    | _ => simp [confD] at hc

theorem slots_get (S : Schema) {P : Mode → Val → Bool}
    (hP : ∀ s ss x xs, P (.slots (s :: ss)) (.cons x xs) = (P (.slot s) x && P (.slots ss) xs)) :
    ∀ (ss : List Slot) (acc : Val) (j : Nat) (s : Slot),
    confD S (.slots ss) acc = true → P (.slots ss) acc = true → ss[j]? = some s → P (.slot s) (Val.get acc j) = true := by
  intro ss
  induction ss with
  | nil => intro acc j s _ _ h; simp at h
  | cons s0 ss ih =>
    intro acc j s hc hp hj
    cases acc with
    | cons x xs =>
      rw [confD_slots_cons, Bool.and_eq_true] at hc
      rw [hP, Bool.and_eq_true] at hp
      cases j with
      | zero => simp at hj; subst hj; exact hp.1
      | succ j => simp at hj; exact ih xs j s hc.2 hp.2 hj
    | _ => simp [confD] at hc

theorem reps_mem {P : Mode → Val → Bool} {f : Field}
    (hP : ∀ e rest, P (.reps f) (.cons e rest) = (P (.elem f) e && P (.reps f) rest)) :
    ∀ (l x : Val), P (.reps f) l = true → x ∈ Val.toList l → P (.elem f) x = true := by
  intro l
  induction l with
  | cons h t _ iht =>
    intro x hc hx
    rw [hP, Bool.and_eq_true] at hc
    simp only [Val.toList, List.mem_cons] at hx
    rcases hx with h1 | h1
    · subst h1; exact hc.1
    · exact iht x hc.2 h1
  | _ => intro x _ hx; simp [Val.toList] at hx

theorem reps_snoc {P : Mode → Val → Bool} {f : Field}
    (hP : ∀ e rest, P (.reps f) (.cons e rest) = (P (.elem f) e && P (.reps f) rest)) (hnil : P (.reps f) .nil = true) :
    ∀ (cur x : Val), P (.reps f) cur = true → P (.elem f) x = true → P (.reps f) (Val.snoc cur x) = true := by
  intro cur
  induction cur with
  | cons h t _ iht =>
    intro x hc hx
    rw [hP, Bool.and_eq_true] at hc
    simp only [Val.snoc]; rw [hP, Bool.and_eq_true]; exact ⟨hc.1, iht x hc.2 hx⟩
  | _ => intro x _ hx; simp only [Val.snoc]; rw [hP, hx, hnil]; rfl

theorem confD_set (S : Schema) (ss : List Slot) (acc : Val) (j : Nat) (s : Slot) (nv : Val)
    (hc : confD S (.slots ss) acc = true) (hj : ss[j]? = some s) (hn : confD S (.slot s) nv = true) :
    confD S (.slots ss) (Val.set acc j nv) = true :=
  slots_set S (confD_slots_cons S) ss acc j s nv hc hc hj hn

theorem confD_get (S : Schema) (ss : List Slot) (acc : Val) (j : Nat) (s : Slot)
    (hc : confD S (.slots ss) acc = true) (hj : ss[j]? = some s) : confD S (.slot s) (Val.get acc j) = true :=
  slots_get S (confD_slots_cons S) ss acc j s hc hc hj

theorem packedOk_snoc (ty : Ty) : ∀ (cur : Val) (n : Nat), packedOk ty cur = true → scalarOk ty n = true →
    packedOk ty (Val.snoc cur (.num n)) = true := by
  intro cur
  induction cur with
  | cons h t _ iht =>
    intro n hc hn
    cases h with
    | num k =>
      simp only [packedOk, Bool.and_eq_true] at hc
      simp only [Val.snoc, packedOk, Bool.and_eq_true]; exact ⟨hc.1, iht n hc.2 hn⟩
    | _ => simp [packedOk] at hc
  | nil => intro n _ hn; simp [Val.snoc, packedOk, hn]
  | _ => intro n hc; simp [packedOk] at hc

theorem leafOk_num (ty : Ty) (n : Nat) : leafOk ty (.num n) = scalarOk ty n := by cases ty <;> rfl

theorem leafOk_scalar (ty : Ty) (hs : isScalar ty = true) (v : Val) (hv : ∀ n, v ≠ .num n) : leafOk ty v = false := by
  cases ty <;> first | (cases hs; done) | (cases v <;> first | rfl | exact absurd rfl (hv _))

/-- a packed slot is a repeated slot of scalars -/
theorem packedOk_eq_reps (S : Schema) (f : Field) (hs : isScalar f.ty = true) : ∀ v, packedOk f.ty v = confD S (.reps f) v := by
  have hty : ∀ sub, f.ty ≠ .msg sub := by intro sub h; simp [h, isScalar] at hs
  intro v
  induction v with
  | cons h t _ iht =>
    rw [confD_reps_cons, confD_elem_leaf S f _ hty, ← iht]
    cases h with
    | num n => rw [leafOk_num]; rfl
    | _ => rw [leafOk_scalar _ hs _ (fun n h => by cases h)]; rfl
  | nil => rw [confD_reps_nil]; rfl
  | _ => simp [packedOk, confD]

theorem conf_reps_leaf (S : Schema) (f : Field) (hty : ∀ sub, f.ty ≠ .msg sub) : ∀ v, conf S false (.reps f) v = confD S (.reps f) v := by
  intro v
  induction v with
  | cons h t _ iht => rw [conf_reps_cons, confD_reps_cons, conf_elem_leaf S false f _ hty, confD_elem_leaf S f _ hty, iht]
  | nil => rw [confD_reps_nil, conf]
  | _ => simp [conf, confD]

theorem packedOk_conf_reps (S : Schema) (f : Field) (hs : isScalar f.ty = true) (v : Val) (h : packedOk f.ty v = true) :
    conf S false (.reps f) v = true := by
  rw [conf_reps_leaf S f (fun sub h => by simp [h, isScalar] at hs), ← packedOk_eq_reps S f hs]; exact h

/-! ## what the decoder returns is `confD`; so are the defaults -/

theorem fromVarint_ok (ty : Ty) (w : Nat) (hw : w < 2 ^ 64) (h0 : wireType ty = 0) : scalarOk ty (fromVarint ty w) = true := by
  -- every varint type stores `w`, `w % 2^32`, `0`/`1` or `unzigzag32 w`
  cases ty <;> simp [wireType] at h0 <;> simp only [scalarOk, fromVarint, unzigzag32] <;> (try split) <;> (apply decide_eq_true) <;> omega

theorem decScalar_ok (ty : Ty) (r : Bytes) (v : Nat) (r' : Bytes)
    (h : decScalar ty r = some (v, r')) : scalarOk ty v = true ∧ r'.length < r.length := by
  simp only [decScalar] at h
  split at h
  · next h0 =>
    split at h
    · next w r'' heq =>
      simp only [Option.some.injEq, Prod.mk.injEq] at h
      rw [← h.1, ← h.2]
      exact ⟨fromVarint_ok ty w (decVarint_lt heq) h0, decVarint_length heq⟩
    · cases h
  case h_2 hw | h_3 hw =>
    obtain ⟨hn, hl⟩ := unle_spec _ _ _ _ h
    refine ⟨?_, by omega⟩
    cases ty <;> simp [wireType] at hw <;> simp only [scalarOk] <;> (apply decide_eq_true) <;> simpa using hl
  · cases h

theorem decPackedLoop_ok (ty : Ty) : ∀ (fuel budget : Nat) (acc : Val) (r : Bytes) (nv : Val) (r' : Bytes),
    packedOk ty acc = true → decPackedLoop ty fuel budget acc r = some (nv, r') →
    packedOk ty nv = true ∧ r'.length ≤ r.length := by
  intro fuel
  induction fuel with
  | zero => intro b acc r nv r' _ h; simp [decPackedLoop] at h
  | succ fuel ih =>
    intro b acc r nv r' ha h
    simp only [decPackedLoop] at h
    split at h
    · cases h; exact ⟨ha, Nat.le_refl _⟩
    · split at h
      · cases h
      · next v r1 heq =>
        obtain ⟨hv, hl⟩ := decScalar_ok ty r v r1 heq
        obtain ⟨h1, h2⟩ := ih _ _ _ _ _ (packedOk_snoc ty acc v ha hv) h
        exact ⟨h1, by omega⟩

/-- which slot a hit belongs to -/
def SlotOf (s : Slot) (f : Field) (alt : Bool) : Prop :=
  (alt = false ∧ s = .one f) ∨ (alt = true ∧ ∃ g alts, s = .oneof g alts ∧ findAlt alts f.num = some f)

theorem hit_slot {p : Field → Bool} {ss : List Slot} {hit : Hit} (hwf : slotsOkFrom ss ss 0 = true)
    (h : findBy p ss 0 = some hit) :
    ∃ s, ss[hit.idx]? = some s ∧ SlotOf s hit.f hit.alt ∧ fieldOk hit.alt hit.f = true ∧ p hit.f = true := by
  obtain ⟨j, hj, hp, hr⟩ := findBy_spec ss 0 hit h
  have hj' : hit.idx = j := by omega
  rcases hr with ⟨ha, hs⟩ | ⟨ha, g, alts, hs, hmem⟩
  · have hat := slotsOk_getAt ss ss 0 j _ hwf hs
    exact ⟨_, by rw [hj']; exact hs, Or.inl ⟨ha, rfl⟩, by rw [ha]; exact hat.1, hp⟩
  · obtain ⟨hfok, _, hfa⟩ := slotsOk_getAt ss ss 0 j _ hwf hs _ hmem
    exact ⟨_, by rw [hj']; exact hs, Or.inr ⟨ha, g, alts, rfl, hfa⟩, by rw [ha]; exact hfok, hp⟩

theorem confD_wrap_alt (S : Schema) (g : String) (alts : List Field) (f : Field) (x : Val)
    (hfa : findAlt alts f.num = some f) (hx : confD S (.elem f) x = true) :
    confD S (.slot (.oneof g alts)) (.cons (.num f.num) (.cons x .nil)) = true := by
  rw [confD_slot_oneof]; simp [hfa, hx]

theorem confD_upd (S : Schema) (f : Field) (alt : Bool) (s : Slot) (cur x : Val)
    (hs : SlotOf s f alt) (hcur : confD S (.slot s) cur = true) (hel : confD S (.elem f) x = true)
    (hopt : alt = false → f.card = .opt → leafOk f.ty x = true) (hnp : alt = true ∨ f.card ≠ .packed) :
    confD S (.slot s) (upd f alt cur x) = true := by
  rcases hs with ⟨ha, hs⟩ | ⟨ha, g, alts, hs, hfa⟩ <;> subst ha <;> subst hs
  · simp only [upd, Bool.false_eq_true, if_false]
    rw [confD_slot_one] at hcur ⊢
    cases hc : f.card <;> simp only [hc] at hcur ⊢ <;> simp only [reduceCtorEq, if_false, if_true]
    · exact hopt rfl hc
    · exact hel
    · exact reps_snoc (confD_reps_cons S f) (confD_reps_nil S f) cur x hcur hel
    · simp [hc] at hnp
  · exact confD_wrap_alt S g alts f x hfa hel

theorem decLeaf_confD (S : Schema) (f : Field) (alt : Bool) (s : Slot) (wt : Nat) (cur : Val) (r : Bytes) (nv : Val) (r' : Bytes)
    (hs : SlotOf s f alt) (hf : fieldOk alt f = true) (hcur : confD S (.slot s) cur = true)
    (h : decLeaf f alt wt cur r = some (nv, r')) : confD S (.slot s) nv = true := by
  by_cases hsc : isScalar f.ty = true
  · have htym : ∀ sub, f.ty ≠ .msg sub := by intro sub hh; rw [hh] at hsc; cases hsc
    by_cases hpk : alt = true ∨ f.card ≠ .packed
    · rw [decLeaf_scalar f alt wt cur r hsc hpk] at h
      split at h
      · cases h
      · split at h
        · cases h
        · next v r1 heq =>
          cases h
          have hv : leafOk f.ty (.num v) = true := by rw [leafOk_num]; exact (decScalar_ok _ r v _ heq).1
          exact confD_upd S f alt s cur _ hs hcur (by rw [confD_elem_leaf S f _ htym]; exact hv) (fun _ _ => hv) hpk
    · have ha : alt = false := by cases alt <;> simp at hpk ⊢
      have hc : f.card = .packed := by simpa [ha] using hpk
      subst ha
      rcases hs with ⟨_, hs⟩ | ⟨ha2, _⟩
      · subst hs
        rw [confD_slot_one] at hcur ⊢
        simp only [hc] at hcur ⊢
        rw [decLeaf_scalar_packed f wt cur r hsc hc] at h
        split at h
        · split at h  -- an unpacked element
          · cases h
          · next v r1 heq =>
            cases h
            exact packedOk_snoc _ cur v hcur (decScalar_ok _ r v _ heq).1
        · split at h  -- a packed run: the length checks, then `decPackedLoop`
          · split at h
            · cases h
            · split at h
              · cases h
              · split at h
                · cases h
                · exact (decPackedLoop_ok _ _ _ _ _ _ _ hcur h).1
          · cases h
      · cases ha2
  · have hnp : alt = true ∨ f.card ≠ .packed := by
      cases alt with
      | true => exact Or.inl rfl
      | false => right; intro hc; simp [fieldOk, hc, hsc] at hf
    have hbytes : ∀ p : List Nat, leafOk f.ty (.bytes p) = true → (∀ sub, f.ty ≠ .msg sub) →
        confD S (.slot s) (upd f alt cur (.bytes p)) = true :=
      fun p hp htym => confD_upd S f alt s cur _ hs hcur (by rw [confD_elem_leaf S f _ htym]; exact hp) (fun _ _ => hp) hnp
    cases hty : f.ty <;> simp only [hty, isScalar, not_true_eq_false] at hsc
    case msg sub => simp [decLeaf, hty] at h
    case id k =>
      have htym : ∀ sub, f.ty ≠ .msg sub := by intro sub hh; rw [hty] at hh; cases hh
      rw [decLeaf_id f alt wt cur r k hty] at h
      split at h
      · cases h
      · split at h
        · cases h
        · next p r1 _ =>
          split at h
          · cases h; exact hbytes [] (by rw [hty]; rfl) htym
          · split at h
            · cases h
            · next hne hlen =>
              cases h
              refine hbytes _ ?_ htym
              rw [hty]
              by_cases hz : allZero p = true
              · simp [hz, leafOk]
              · have hlen' : p.length = k := by simpa using hlen
                simp [hz, leafOk, hlen']
    all_goals
      have htym : ∀ sub, f.ty ≠ .msg sub := by intro sub hh; rw [hty] at hh; cases hh
      rw [decLeaf_text f alt wt cur r (by simp [hty])] at h
      split at h
      · cases h
      · split at h
        · cases h
        · cases h; exact hbytes _ (by rw [hty]; rfl) htym

theorem reqRank_lt {S : Schema} {r : List Nat} (hr : reqRankOk S r = true) {sub sub' : Nat} {f : Field}
    (hs : Slot.one f ∈ S.slots sub) (hc : f.card = .req) (hty : f.ty = .msg sub') : r.getD sub' 0 < r.getD sub 0 := by
  simp only [reqRankOk, List.all_eq_true, List.mem_range, Bool.and_eq_true, decide_eq_true_eq] at hr
  have hm : sub' ∈ reqSubs (S.slots sub) := by
    simp only [reqSubs, List.mem_filterMap]
    exact ⟨.one f, hs, by simp [hc, hty]⟩
  exact (hr sub (lt_of_mem_slots hs) sub' hm).2

/-- for any slot-wise check `P`: the induction on the rank of the embedded messages (`reqRankOk`) and the walk over the slot list -/
theorem defaults_all {S : Schema} {D : List Val} {r : List Nat} {P : Nat → Mode → Val → Bool}
    (hcons : ∀ m s ss x xs, P m (.slots (s :: ss)) (.cons x xs) = (P m (.slot s) x && P m (.slots ss) xs))
    (hnil : ∀ m, P m (.slots []) .nil = true)
    (hD : ∀ sub, D.getD sub .nil = msgDefault D (S.slots sub)) (hr : reqRankOk S r = true)
    (hslot : ∀ m s, s ∈ S.slots m →
      (∀ f sub, s = .one f → f.card = .req → f.ty = .msg sub → P sub (.slots (S.slots sub)) (D.getD sub .nil) = true) →
      P m (.slot s) (slotDefault D s) = true) :
    ∀ m, P m (.slots (S.slots m)) (D.getD m .nil) = true := by
  suffices h : ∀ n m, r.getD m 0 ≤ n → P m (.slots (S.slots m)) (D.getD m .nil) = true from fun m => h _ m (Nat.le_refl _)
  intro n
  induction n using Nat.strongRecOn with
  | _ n ih =>
    intro m hn
    have hmap : ∀ ss, (∀ s, s ∈ ss → P m (.slot s) (slotDefault D s) = true) →
        P m (.slots ss) (Val.ofList (ss.map (slotDefault D))) = true := by
      intro ss
      induction ss with
      | nil => intro _; exact hnil m
      | cons s ss ihs =>
        intro h
        simp only [List.map_cons, Val.ofList]
        rw [hcons, Bool.and_eq_true]
        exact ⟨h s (List.mem_cons_self), ihs (fun s' hs' => h s' (List.mem_cons_of_mem _ hs'))⟩
    rw [hD m, msgDefault]
    refine hmap _ (fun s hs => hslot m s hs (fun f sub hsf hc hty => ?_))
    subst hsf
    have := reqRank_lt hr hs hc hty
    exact ih (r.getD sub 0) (by omega) sub (Nat.le_refl _)

theorem defaults_confD (S : Schema) (D : List Val) (r : List Nat)
    (hwf : ∀ m, slotsOkFrom (S.slots m) (S.slots m) 0 = true)
    (hD : ∀ sub, D.getD sub .nil = msgDefault D (S.slots sub))
    (hr : reqRankOk S r = true) (sub : Nat) : confD S (.slots (S.slots sub)) (D.getD sub .nil) = true := by
  refine defaults_all (P := fun _ => confD S) (fun _ => confD_slots_cons S) (fun _ => confD_slots_nil S) hD hr ?_ sub
  intro m s hs ih
  obtain ⟨j, hj⟩ := List.getElem?_of_mem hs
  have hat := slotsOk_getAt (S.slots m) (S.slots m) 0 j s (hwf m) hj
  cases s with
  | oneof g alts => exact confD_slot_oneof_nil S g alts
  | one f =>
    have hf := hat.1
    rw [confD_slot_one]
    cases hc : f.card <;> simp only [slotDefault, hc]
    · cases hty : f.ty <;> simp [fieldOk, hc, hty] at hf <;> simp [isScalar, leafOk, scalarOk]
    · cases hty : f.ty <;> simp [fieldOk, hc, hty] at hf
      · next k => rw [confD_elem_leaf S f _ (by intro sub' h; rw [hty] at h; cases h), hty]; simp [leafOk]
      · next sub' => rw [confD_elem_msg S f _ sub' hty]; exact ih f sub' rfl hc hty
    · exact confD_reps_nil S f
    · rfl

/-- **the decoder returns decoder-shaped values** -/
theorem decMsg_confD (S : Schema) (D : List Val)
    (hwf : ∀ m, slotsOkFrom (S.slots m) (S.slots m) 0 = true)
    (hdef : ∀ sub, confD S (.slots (S.slots sub)) (D.getD sub .nil) = true) (m : Nat) (acc : Val) (bs : Bytes) :
    ∀ v, confD S (.slots (S.slots m)) acc = true → decMsg S D m acc bs = some v →
      confD S (.slots (S.slots m)) v = true := by
  fun_induction decMsg S D m acc bs
  all_goals intro v hacc h
  all_goals try (cases h; done)  -- every other branch returns `none`
  case case1 => cases h; exact hacc  -- empty input
  case case6 ih => exact ih v hacc h  -- unknown field, skipped
  case case11 m acc bs _ key r _ wt fn _ _ hit hfind sub hty _ p r' _ _ cur start x hx nv ih2 ih1 =>  -- message field
    obtain ⟨s, hs, hso, hfok, _⟩ := hit_slot (hwf m) ((findSlot_eq _ _ 0).symm.trans hfind)
    have hcur : confD S (.slot s) cur = true := confD_get S _ acc hit.idx s hacc hs
    have hcard : hit.alt = false → hit.f.card = .req ∨ hit.f.card = .rep := by
      intro ha; rw [ha] at hfok
      cases hc : hit.f.card <;> simp [fieldOk, hc, hty, isScalar] at hfok ⊢
    have hstart : confD S (.slots (S.slots sub)) start = true := by
      simp only [start, dite_eq_ite]
      split
      · exact hdef sub
      · next ha =>
        split
        · next hc =>
          rcases hso with ⟨_, hs1⟩ | ⟨ha2, _⟩
          · subst hs1
            rw [confD_slot_one] at hcur; simp only [hc] at hcur
            rw [confD_elem_msg S _ _ sub hty] at hcur; exact hcur
          · exact absurd ha2 ha
        · exact hdef sub
    have hnv : nv = upd hit.f hit.alt cur x := by
      simp only [nv, upd, dite_eq_ite]
      split
      · rfl
      · next ha => rcases hcard (by simpa using ha) with hc | hc <;> simp [hc]
    have hel : confD S (.elem hit.f) x = true := by
      rw [confD_elem_msg S _ _ sub hty]; exact ih2 x hstart hx
    refine ih1 v (confD_set S _ acc hit.idx s _ hacc hs ?_) h
    rw [hnv]
    refine confD_upd S hit.f hit.alt s cur x hso hcur hel ?_ ?_
    · intro ha hc; rcases hcard ha with h | h <;> rw [h] at hc <;> cases hc
    · cases ha : hit.alt
      · right; rcases hcard ha with h | h <;> rw [h] <;> decide
      · exact Or.inl rfl
  case case14 m acc bs _ key r _ wt fn _ _ hit hfind nv r' hleaf _ _ ih =>  -- leaf field
    obtain ⟨s, hs, hso, hfok, _⟩ := hit_slot (hwf m) ((findSlot_eq _ _ 0).symm.trans hfind)
    have hcur := confD_get S _ acc hit.idx s hacc hs
    exact ih v (confD_set S _ acc hit.idx s nv hacc hs (decLeaf_confD S hit.f hit.alt s _ _ r nv r' hso hfok hcur hleaf)) h

/-! ## `canon`: its equations; `confD` to `conf`; the encoding stays -/

theorem canon_slots_cons (S : Schema) (s : Slot) (ss : List Slot) (x xs : Val) :
    canon S (.slots (s :: ss)) (.cons x xs) = .cons (canon S (.slot s) x) (canon S (.slots ss) xs) := by
  conv => lhs; rw [canon]

theorem canon_reps_cons (S : Schema) (f : Field) (e rest : Val) :
    canon S (.reps f) (.cons e rest) = .cons (canon S (.elem f) e) (canon S (.reps f) rest) := by
  conv => lhs; rw [canon]

theorem canon_reps_nil (S : Schema) (f : Field) : canon S (.reps f) .nil = .nil := by
  rw [canon]; intro e r h; cases h

theorem canon_slot_one (S : Schema) (f : Field) (v : Val) :
    canon S (.slot (.one f)) v =
      match f.card with
      | .opt => if f.ty == .double && v == .num (2 ^ 63) then .num 0 else v
      | .req => canon S (.elem f) v
      | .rep => canon S (.reps f) v
      | .packed => v := by
  conv => lhs; rw [canon]
  cases f with | mk num go json orig ty card => cases card <;> rfl

theorem canon_elem_msg (S : Schema) (f : Field) (v : Val) (sub : Nat) (hty : f.ty = .msg sub) :
    canon S (.elem f) v = canon S (.slots (S.slots sub)) v := by
  (conv => lhs; rw [canon]); simp [hty]

theorem canon_reps_mapChain (S : Schema) (f : Field) : ∀ l, canon S (.reps f) l = mapChain (canon S (.elem f)) l := by
  intro l
  induction l with
  | cons h t _ iht => rw [canon_reps_cons, iht]; rfl
  | nil => exact canon_reps_nil S f
  | _ => rw [canon]; rfl; intro e r h; cases h

theorem canon_conf (S : Schema) (mode : Mode) (v : Val) :
    confD S mode v = true → conf S false mode (canon S mode v) = true := by
  fun_induction canon S mode v
  case case1 s ss x xs ih2 ih1 =>  -- slots cons
    intro h
    rw [confD_slots_cons, Bool.and_eq_true] at h
    rw [conf_slots_cons, Bool.and_eq_true]; exact ⟨ih2 h.1, ih1 h.2⟩
  case case2 ss v hne =>  -- slots end
    intro h
    obtain ⟨rfl, rfl⟩ := confD_slots_end S ss v hne h
    exact conf_slots_nil_nil S false
  case case3 f v sub hty ih =>  -- elem msg
    intro h
    rw [confD_elem_msg S f v sub hty] at h
    rw [conf_elem_msg S false f _ sub hty]; exact ih h
  case case4 f v hty =>  -- elem leaf
    intro h
    rw [confD_elem_leaf S f v hty] at h
    rw [conf_elem_leaf S false f v hty]; exact h
  case case5 f e rest ih2 ih1 =>  -- reps cons
    intro h
    rw [confD_reps_cons, Bool.and_eq_true] at h
    rw [conf_reps_cons, Bool.and_eq_true]; exact ⟨ih2 h.1, ih1 h.2⟩
  case case6 f v hne =>  -- reps end
    intro h
    rw [confD_reps_end S f v hne h, conf]
  case case7 f v hc hz =>  -- opt -0.0
    intro _
    rw [conf_slot_one]; simp only [hc]
    simp only [Bool.and_eq_true, beq_iff_eq] at hz
    rw [hz.1]; decide
  case case8 f v hc hz =>  -- opt
    intro h
    rw [confD_slot_one] at h; simp only [hc] at h
    rw [conf_slot_one]; simp only [hc]
    simp only [Bool.not_eq_true] at hz
    simp [h, hz]
  case case9 f v hc ih | case10 f v hc ih =>  -- req | rep
    intro h
    rw [confD_slot_one] at h; simp only [hc] at h
    rw [conf_slot_one]; simp only [hc]; exact ih h
  case case11 f v hc =>  -- packed
    intro h
    rw [confD_slot_one] at h; simp only [hc] at h
    rw [conf_slot_one]; simp only [hc]; exact h
  case case12 g alts k p a hfa ih =>  -- one-of found
    intro h
    rw [confD_slot_oneof] at h; simp only [hfa] at h
    rw [conf_slot_oneof]; simp only [hfa]; exact ih h
  case case13 g alts k p hfa =>  -- one-of unknown
    intro h
    rw [confD_slot_oneof] at h; simp [hfa] at h
  case case14 g alts v hne =>  -- one-of other
    intro h
    rcases confD_oneof_cases S g alts v h with rfl | ⟨k, p, rfl⟩
    · rw [conf]
    · exact (hne k p rfl).elim

theorem canon_enc (S : Schema) (mode : Mode) (v : Val) : enc S mode (canon S mode v) = enc S mode v := by
  fun_induction canon S mode v
  case case1 s ss x xs ih2 ih1 => rw [enc_slots_cons, enc_slots_cons, ih2, ih1]  -- slots cons
  case case3 f v sub hty ih => rw [enc_elem_msg S f _ sub hty, enc_elem_msg S f _ sub hty, ih]  -- elem msg
  case case5 f e rest ih2 ih1 => rw [enc_reps_cons, enc_reps_cons, ih2, ih1]  -- reps cons
  case case7 f v hc hz =>  -- opt -0.0
    simp only [Bool.and_eq_true, beq_iff_eq] at hz
    simp [enc_slot_one, hc, hz.1, hz.2, isZero]
  case case9 f v hc ih | case10 f v hc ih => simp only [enc_slot_one, hc, ih]  -- req | rep
  case case12 g alts k p a hfa ih => rw [enc_slot_oneof S g alts k _ a hfa, enc_slot_oneof S g alts k _ a hfa, ih]  -- one-of found
  all_goals rfl  -- the other cases: `canon` returns `v` itself

end OtelVerif.C08

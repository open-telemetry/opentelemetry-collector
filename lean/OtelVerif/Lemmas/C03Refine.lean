import OtelVerif.Model.C03Spec
import OtelVerif.Lemmas.C03
/-! # C03: lemmas for the refinement onto `Model/C03Spec.lean`: the spec's own invariant, `work_sim` / `work_step`, equations of `abs` -/
namespace OtelVerif.C03
open Spec

/-- the guard of `ret`, kept by every later step -/
def SpecInv (a : AState) : Prop :=
  a.returned = true →
    a.requested = true ∧ a.active = 0 ∧ (a.persistent = false → a.owed = []) ∧ (a.persistent = true → ∀ x ∈ a.owed, x ∈ a.stored)

theorem specInv_step {a b : AState} (h : SpecInv a) (hs : AStep a b) : SpecInv b := by
  cases hs with
  | accept xs hr | request hr => intro hret; have := (h hret).1; rw [hr] at this; cases this
  | lateAccept xs hr hp =>
    intro hret
    obtain ⟨h1, h2, h3, h4⟩ := h hret
    exact ⟨h1, h2, h3, fun _ x hx => List.mem_append_left _ (h4 hp x hx)⟩
  | work e st ac hr _ _ _ => intro hret; have hret' : a.returned = true := hret; rw [hr] at hret'; cases hret'
  | ret h1 h2 h3 h4 h5 => intro _; exact ⟨h1, h3, h4, h5⟩

theorem specInv_reach {a : AState} (h : AReach a) : SpecInv a := by
  obtain ⟨a0, hi, hst⟩ := h
  induction hst with
  | refl => intro hr; rw [hi.2.1] at hr; cases hr
  | tail _ hs ih => exact specInv_step ih hs

theorem areach_star {a b : AState} (h : AReach a) (hs : AStar a b) : AReach b := by
  induction hs with
  | refl => exact h
  | tail _ hs ih => obtain ⟨a0, hi, h0⟩ := ih; exact ⟨a0, hi, .tail h0 hs⟩

theorem AState.ext' {a b : AState} (h1 : a.persistent = b.persistent) (h2 : a.requested = b.requested) (h3 : a.returned = b.returned)
    (h4 : a.owed = b.owed) (h5 : a.ended = b.ended) (h6 : a.stored = b.stored) (h7 : a.active = b.active) : a = b := by
  cases a; cases b; simp_all

theorem mem_settledItems {p : Bool} {fs : List Flight} {x : Item} :
    x ∈ settledItems p fs ↔ ∃ fl ∈ fs, settled p fl = true ∧ x ∈ fl.batch := by
  simp only [settledItems, List.mem_flatMap]
  constructor
  · rintro ⟨fl, hfl, hx⟩
    by_cases hs : settled p fl = true
    · rw [if_pos hs] at hx; exact ⟨fl, hfl, hs, hx⟩
    · rw [if_neg hs] at hx; simp at hx
  · rintro ⟨fl, hfl, hs, hx⟩
    exact ⟨fl, hfl, by rw [if_pos hs]; exact hx⟩

theorem settled_mono_step {s s' : State} {l : Label} (hs : Step s l s') (p : Bool) {x : Item}
    (hx : x ∈ settledItems p s.flights) : x ∈ settledItems p s'.flights := by
  obtain ⟨fl, hfl, hst, hxb⟩ := mem_settledItems.mp hx
  exact mem_settledItems.mpr ⟨fl, done_mono hs hfl (by simp [settled] at hst; exact hst.1), hst, hxb⟩

theorem fresh_filter_mono {l e e' : List Item} (h : ∀ x ∈ e, x ∈ e') :
    l.filter (fresh e') = (l.filter (fresh e)).filter (fresh e') := by
  rw [List.filter_filter]
  apply List.filter_congr
  intro x _
  by_cases hx : x ∈ e'
  · simp [fresh, hx]
  · have : x ∉ e := fun h' => hx (h x h')
    simp [fresh, hx, this]

theorem cons_ne_nil_step {s s' : State} {l : Label} (hf : fire s l = some s') (hn : s.cons ≠ []) : s'.cons ≠ [] :=
  List.ne_nil_of_length_pos (cons_length_step (fire_step hf) ▸ List.length_pos_iff.mpr hn)

/-- any step that keeps `cfg`, `early`, "requested", is not after the return, only lets flights settle and only drops settled
items from storage is a `work` step of the spec -/
theorem work_sim {s s' : State} (hcfg : s'.cfg = s.cfg) (he : s'.early = s.early)
    (hreq : decide (1 ≤ s'.phase) = decide (1 ≤ s.phase)) (h5 : s.phase ≠ 5) (h5' : s'.phase ≠ 5)
    (hsub : ∀ x ∈ (abs s).ended, x ∈ (abs s').ended) (hst : ∀ x ∈ s'.stored, x ∈ s.stored)
    (hlost : ∀ x ∈ s.stored, x ∈ s'.stored ∨ x ∈ (abs s').ended) : AStep (abs s) (abs s') := by
  have e : abs s' = { abs s with ended := (abs s').ended, owed := (abs s).owed.filter (fresh (abs s').ended),
                                 stored := s'.stored, active := activeCount s' } := by
    apply AState.ext'
    · show s'.cfg.persistent = s.cfg.persistent; rw [hcfg]
    · exact hreq
    · show decide (s'.phase = 5) = decide (s.phase = 5); simp [h5, h5']
    · show s'.early.filter (fresh (abs s').ended) = (s.early.filter (fresh (abs s).ended)).filter (fresh (abs s').ended)
      rw [he]; exact fresh_filter_mono hsub
    · rfl
    · rfl
    · rfl
  rw [e]
  exact AStep.work (abs s) _ _ _ (by simp [abs, h5]) hsub hst hlost

theorem work_step {s s' : State} {l : Label} (hs : Step s l s') (hoff : ∀ b, l ≠ .offer b) (hreq : l ≠ .shutRetry) (hret : l ≠ .shutWait)
    (h5 : s.phase ≠ 5) : AStep (abs s) (abs s') := by
  rcases step_stored hs with ⟨b, rfl⟩ | ⟨he, -, hst, hlost⟩
  · exact absurd rfl (hoff b)
  have hcfg := cfg_step hs
  have hph : decide (1 ≤ s'.phase) = decide (1 ≤ s.phase) ∧ s'.phase ≠ 5 := by
    rcases step_phase hs with ⟨-, e⟩ | ⟨hl, e⟩
    · rw [e]; exact ⟨rfl, h5⟩
    · have h0 : s.phase ≠ 0 := fun h => hreq (Option.some.inj (h ▸ hl : shutSteps[0]? = some l)).symm
      have h4 : s.phase ≠ 4 := fun h => hret (Option.some.inj (h ▸ hl : shutSteps[4]? = some l)).symm
      have := shutSteps_lt hl
      exact ⟨by rw [e]; simp; omega, by omega⟩
  refine work_sim hcfg he hph.1 h5 hph.2 (fun x hx => ?_) hst (fun x hx => (hlost x hx).imp id ?_)
  · show x ∈ settledItems s'.cfg.persistent s'.flights
    rw [hcfg]; exact settled_mono_step hs _ hx
  · rintro ⟨fl, hfl, hd, hk, hxb⟩
    exact mem_settledItems.mpr ⟨fl, hfl, by simp [settled, hd, hk], hxb⟩

theorem activeCount_eq_zero {s : State} : activeCount s = 0 ↔
    (∀ c ∈ s.cons, c = .exited) ∧ s.timer = .dead ∧ (∀ fl ∈ s.flights, fl.st = .done) ∧ s.shutHand = none ∧ s.cur = none := by
  have h1 : (s.cons.filter (fun c => c != .exited)).length = 0 ↔ ∀ c ∈ s.cons, c = .exited := by
    simp [List.filter_eq_nil_iff]
  have h3 : (s.flights.filter (fun fl => fl.st != .done)).length = 0 ↔ ∀ fl ∈ s.flights, fl.st = .done := by
    simp [List.filter_eq_nil_iff]
  rw [← h1, ← h3]
  unfold activeCount
  cases s.shutHand <;> cases s.cur <;> by_cases ht : s.timer = .dead <;> simp [ht] <;> omega

theorem abs_phase (s : State) (k : Nat) :
    abs { s with phase := k } = { abs s with requested := decide (1 ≤ k), returned := decide (k = 5) } := rfl

theorem abs_offer (s : State) (b : Batch) :
    abs { s with
          queue := s.queue ++ [(b, decide (1 ≤ s.phase))], accepted := s.accepted ++ b
          early := if s.phase = 0 then s.early ++ b else s.early
          stored := if s.cfg.persistent then s.stored ++ b else s.stored
          reqs := s.reqs ++ [b], qsize := s.qsize + reqSize s.cfg b } =
      { abs s with owed := (if s.phase = 0 then s.early ++ b else s.early).filter (fresh (abs s).ended)
                   stored := if s.cfg.persistent then s.stored ++ b else s.stored } := rfl

theorem abs_init_AInit (cfg : Cfg) (n w : Nat) (t : Bool) : AInit (abs (init cfg n w t)) := by
  simp [AInit, abs, init]

/-! ## what the examples of `Props/C03Refine.lean` evaluate: a run seen through `abs` -/

def absTrace (s : State) (ls : List Label) (k : Nat) : Option (Bool × Bool × List Item × Nat) :=
  (runFrom s (ls.take k)).map (fun s => ((abs s).requested, (abs s).returned, (abs s).owed, (abs s).active))

end OtelVerif.C03

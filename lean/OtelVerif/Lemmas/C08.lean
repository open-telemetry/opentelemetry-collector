import OtelVerif.Model.C08Conf
import OtelVerif.Lemmas.Wire
/-! C08, protobuf side: `sz` = length of `enc`; chains (`app`, `proper`, `Val.get`/`set`); the equations of `conf` and `enc`, the shape at
their end cases; scalar and leaf round trips, `upd`, the equations of `decLeaf`; one iteration of `decMsg`; the slot list and its lookup (`SlotAt`,
`findBy`); the round trip of `decMsg ∘ enc` by induction over `enc` (`RT`, `rt_all`).  Core Lean only. -/
namespace OtelVerif.C08
open OtelVerif.Wire OtelVerif.Proto

/-! ## `sz` is the length of `enc` -/

theorem zigzag64_sext32 (n : Nat) : zigzag64 (sext32 n) = zigzag32 n := by
  simp only [zigzag64, sext32, zigzag32]
  split <;> split <;> omega

theorem encScalar_length (ty : Ty) (n : Nat) : (encScalar ty n).length = scalarSize ty n := by
  cases ty <;> simp [encScalar, scalarSize, varint_length, le_length, zigzag64_sext32]

theorem packedBody_length (ty : Ty) (v : Val) : (packedBody ty v).length = packedSize ty v := by
  induction v with
  | cons h t _ iht =>
    cases h <;> simp [packedBody, packedSize, encScalar_length, iht]
  | _ => simp [packedBody, packedSize]

theorem lenPrefixed_length (p : Bytes) : (lenPrefixed p).length = sov p.length + p.length := by
  simp [lenPrefixed, varint_length]

theorem sov_zero : sov 0 = 1 := by rw [sov]; simp

theorem leaf_length (ty : Ty) (v : Val) : (leaf ty v).length = leafSize ty v := by
  cases v <;> simp only [leaf, leafSize] <;> split <;> simp [encScalar_length, lenPrefixed_length, sov_zero]

theorem tag_length (n w : Nat) : (tag n w).length = sov (n * 8 + w) := by simp [tag, varint_length]

theorem sz_eq_length (S : Schema) (m : Mode) (v : Val) : sz S m v = (enc S m v).length := by
  -- `sz` and `enc` recurse alike; the leaves are the lemmas above
  fun_induction enc S m v <;> simp_all [sz, tag_length, lenPrefixed_length, leaf_length, packedBody_length]

/-! ## chains: `Val.get` / `Val.set`, `app`, `proper` -/

/-- append two chains -/
def app : Val → Val → Val
  | .cons h t, v => .cons h (app t v)
  | _, v => v

/-- a chain that ends in `nil` -/
def proper : Val → Bool
  | .nil => true
  | .cons _ t => proper t
  | _ => false

theorem set_get_self (v : Val) (i : Nat) : Val.set v i (Val.get v i) = v := by
  induction v generalizing i with
  | cons h t _ iht => cases i <;> simp [Val.set, Val.get, iht]
  | _ => cases i <;> simp [Val.set]

theorem set_set (v : Val) (i : Nat) (x y : Val) : Val.set (Val.set v i x) i y = Val.set v i y := by
  induction v generalizing i with
  | cons h t _ iht => cases i <;> simp [Val.set, iht]
  | _ => cases i <;> simp [Val.set]

theorem get_set_ne (v : Val) : ∀ (i d : Nat) (x : Val), i ≠ d → Val.get (Val.set v d x) i = Val.get v i := by
  induction v with
  | cons h t _ iht =>
    intro i d x hne
    cases d with
    | zero =>
      cases i with
      | zero => exact absurd rfl hne
      | succ i => simp [Val.set, Val.get]
    | succ d =>
      cases i with
      | zero => simp [Val.set, Val.get]
      | succ i => simp only [Val.set, Val.get]; exact iht i d x (by omega)
  | _ => intro i d x _; cases d <;> simp [Val.set]

theorem get_set_self_or (v : Val) : ∀ (i : Nat) (x : Val), Val.get (Val.set v i x) i = x ∨
    (Val.get (Val.set v i x) i = .nil ∧ Val.set v i x = v) := by
  induction v with
  | cons h t _ iht =>
    intro i x
    cases i with
    | zero => left; simp [Val.set, Val.get]
    | succ i =>
      simp only [Val.set, Val.get]
      rcases iht i x with h1 | ⟨h1, h2⟩
      · exact Or.inl h1
      · exact Or.inr ⟨h1, by rw [h2]⟩
  | _ => intro i x; right; cases i <;> simp [Val.set, Val.get]

theorem get_set_nil (v : Val) (d : Nat) : Val.get (Val.set v d .nil) d = .nil := by
  rcases get_set_self_or v d .nil with h | ⟨h, _⟩ <;> exact h

theorem set_nil_of_get_nil (v : Val) (i : Nat) (h : Val.get v i = .nil) : Val.set v i .nil = v := by
  rw [← h, set_get_self]

theorem get_ofList_append (l1 : List Val) (d : Val) (l2 : List Val) :
    Val.get (Val.ofList (l1 ++ d :: l2)) l1.length = d := by
  induction l1 with
  | nil => simp [Val.ofList, Val.get]
  | cons a l ih => simp [Val.ofList, Val.get, ih]

theorem set_ofList_append (l1 : List Val) (d x : Val) (l2 : List Val) :
    Val.set (Val.ofList (l1 ++ d :: l2)) l1.length x = Val.ofList (l1 ++ x :: l2) := by
  induction l1 with
  | nil => simp [Val.ofList, Val.set]
  | cons a l ih => simp [Val.ofList, Val.set, ih]

theorem nil_app (v : Val) : app .nil v = v := rfl

theorem app_snoc (c x v : Val) : app (Val.snoc c x) v = app c (.cons x v) := by
  induction c with
  | cons h t _ iht => simp [Val.snoc, app, iht]
  | _ => simp [Val.snoc, app]

theorem app_nil (a : Val) (h : proper a = true) : app a .nil = a := by
  induction a with
  | cons x t _ iht => simp [app, proper] at *; exact iht h
  | nil => rfl
  | _ => simp [proper] at h

theorem proper_snoc (c x : Val) : proper (Val.snoc c x) = true := by
  induction c with
  | cons h t _ iht => simp [Val.snoc, proper, iht]
  | _ => simp [Val.snoc, proper]

theorem ofList_toList (v : Val) (h : proper v = true) : Val.ofList (Val.toList v) = v := by
  induction v with
  | cons x t _ iht => simp [Val.toList, Val.ofList, proper] at *; exact iht h
  | nil => rfl
  | _ => simp [proper] at h

/-! ## the equations of `conf` and `enc` -/

theorem msg_or_leaf (ty : Ty) : (∃ sub, ty = .msg sub) ∨ ∀ sub, ty ≠ .msg sub := by
  cases ty <;> first | exact Or.inl ⟨_, rfl⟩ | exact Or.inr (fun _ h => nomatch h)

theorem conf_slots_cons (S : Schema) (api : Bool) (s : Slot) (ss : List Slot) (x xs : Val) :
    conf S api (.slots (s :: ss)) (.cons x xs) = (conf S api (.slot s) x && conf S api (.slots ss) xs) := by conv => lhs; rw [conf]

theorem conf_slots_nil_nil (S : Schema) (api : Bool) : conf S api (.slots []) .nil = true := by conv => lhs; rw [conf]

theorem conf_reps_cons (S : Schema) (api : Bool) (f : Field) (e rest : Val) :
    conf S api (.reps f) (.cons e rest) = (conf S api (.elem f) e && conf S api (.reps f) rest) := by conv => lhs; rw [conf]

theorem conf_slot_one (S : Schema) (api : Bool) (f : Field) (v : Val) :
    conf S api (.slot (.one f)) v =
      match f.card with
      | .opt => leafOk f.ty v && !(f.ty == .double && v == .num (2 ^ 63))
      | .req => conf S api (.elem f) v
      | .rep => conf S api (.reps f) v
      | .packed => packedOk f.ty v := by
  conv => lhs; rw [conf]
  cases f with | mk num go json orig ty card => cases card <;> rfl

theorem conf_slot_oneof (S : Schema) (api : Bool) (g : String) (alts : List Field) (k : Nat) (p : Val) :
    conf S api (.slot (.oneof g alts)) (.cons (.num k) (.cons p .nil)) =
      match findAlt alts k with
      | some a => conf S api (.elem a) p
      | none => false := by
  conv => lhs; rw [conf]
  cases findAlt alts k <;> rfl

theorem conf_elem_msg (S : Schema) (api : Bool) (f : Field) (v : Val) (sub : Nat) (hty : f.ty = .msg sub) :
    conf S api (.elem f) v = conf S api (.slots (S.slots sub)) v := by
  (conv => lhs; rw [conf]); simp [hty]

theorem conf_elem_leaf (S : Schema) (api : Bool) (f : Field) (v : Val) (hty : ∀ sub, f.ty ≠ .msg sub) :
    conf S api (.elem f) v = leafOk f.ty v := by
  rw [conf]; split
  · next sub h => exact absurd h (hty sub)
  · rfl

/-- `conf` is `confD` with one more conjunct at the plain double fields -/
theorem confD_of_conf (S : Schema) (mode : Mode) (v : Val) : conf S false mode v = true → confD S mode v = true := by
  fun_induction conf S false mode v <;> intro h <;> rw [confD] <;> simp_all

/-! ## the shape (`confD`; its equations are in C08Dec) at the "any other value" cases of `fun_induction enc` / `canon` / `toJ` -/

theorem confD_slots_end (S : Schema) (ss : List Slot) (v : Val) (hne : ∀ s ss' x xs, v = .cons x xs → ss = s :: ss' → False)
    (h : confD S (.slots ss) v = true) : ss = [] ∧ v = .nil := by
  cases ss with
  | nil => cases v <;> simp [confD] at h; exact ⟨rfl, rfl⟩
  | cons s ss =>
    cases v with
    | cons x xs => exact (hne s ss x xs rfl rfl).elim
    | _ => simp [confD] at h

theorem confD_reps_end (S : Schema) (f : Field) (v : Val) (hne : ∀ e rest, v = Val.cons e rest → False)
    (h : confD S (.reps f) v = true) : v = .nil := by
  cases v with
  | cons e rest => exact (hne e rest rfl).elim
  | nil => rfl
  | _ => simp [confD] at h

theorem confD_oneof_cases (S : Schema) (g : String) (alts : List Field) (v : Val)
    (h : confD S (.slot (.oneof g alts)) v = true) : v = .nil ∨ ∃ k p, v = .cons (.num k) (.cons p .nil) := by
  cases v with
  | nil => exact Or.inl rfl
  | cons a b =>
    cases a with
    | num k =>
      cases b with
      | cons p c =>
        cases c with
        | nil => exact Or.inr ⟨k, p, rfl⟩
        | _ => simp [confD] at h
      | _ => simp [confD] at h
    | _ => simp [confD] at h
  | _ => simp [confD] at h

theorem conf_slots_proper (S : Schema) (api : Bool) : ∀ (v : Val) (ss : List Slot), conf S api (.slots ss) v = true → proper v = true := by
  intro v
  induction v with
  | cons x xs _ ih =>
    intro ss h
    cases ss with
    | nil => simp [conf] at h
    | cons s ss => simp only [conf, Bool.and_eq_true] at h; simp [proper, ih ss h.2]
  | nil => intro _ _; rfl
  | _ => intro ss h; cases ss <;> simp [conf] at h

theorem enc_slots_cons (S : Schema) (s : Slot) (ss : List Slot) (x xs : Val) :
    enc S (.slots (s :: ss)) (.cons x xs) = enc S (.slot s) x ++ enc S (.slots ss) xs := by conv => lhs; rw [enc]

theorem enc_slots_nil (S : Schema) (v : Val) : enc S (.slots []) v = [] := by rw [enc]; intro s ss x xs _ h; cases h

theorem enc_reps_cons (S : Schema) (f : Field) (e rest : Val) :
    enc S (.reps f) (.cons e rest) = enc S (.elem f) e ++ enc S (.reps f) rest := by conv => lhs; rw [enc]

theorem enc_slot_one (S : Schema) (f : Field) (v : Val) :
    enc S (.slot (.one f)) v =
      match f.card with
      | .opt => if isZero f.ty v then [] else enc S (.elem f) v
      | .req => enc S (.elem f) v
      | .rep => enc S (.reps f) v
      | .packed => if v.isCons then tag f.num 2 ++ lenPrefixed (packedBody f.ty v) else [] := by
  conv => lhs; rw [enc]
  cases f with | mk num go json orig ty card => cases card <;> rfl

theorem enc_slot_oneof (S : Schema) (g : String) (alts : List Field) (k : Nat) (p : Val) (a : Field)
    (hfa : findAlt alts k = some a) : enc S (.slot (.oneof g alts)) (.cons (.num k) (.cons p .nil)) = enc S (.elem a) p := by
  (conv => lhs; rw [enc]); simp [hfa]

theorem enc_elem_msg (S : Schema) (f : Field) (v : Val) (sub : Nat) (hty : f.ty = .msg sub) :
    enc S (.elem f) v = tag f.num 2 ++ lenPrefixed (enc S (.slots (S.slots sub)) v) := by
  (conv => lhs; rw [enc]); simp [hty]

theorem enc_elem_leaf (S : Schema) (f : Field) (v : Val) (hty : ∀ sub, f.ty ≠ .msg sub) :
    enc S (.elem f) v = tag f.num (wireType f.ty) ++ leaf f.ty v := by
  rw [enc]; split
  · next sub h => exact absurd h (hty sub)
  · rfl

/-! ## scalars and leaves: decoding what was encoded -/

theorem varint_small (b : Nat) (h : b < 128) : varint b = [b] := by rw [varint]; simp [h]

theorem sext32_lt (n : Nat) : sext32 n < 2 ^ 64 := by
  simp only [sext32]; split <;> omega

theorem sext32_mod (n : Nat) (h : n < 2 ^ 32) : sext32 n % 2 ^ 32 = n := by
  simp only [sext32]; split <;> omega

theorem zigzag32_lt (n : Nat) : zigzag32 n < 2 ^ 64 := by
  simp only [zigzag32]; split <;> omega

theorem decScalar_encScalar (ty : Ty) (n : Nat) (rest : Bytes) (hs : isScalar ty = true) (hn : scalarOk ty n = true) :
    decScalar ty (encScalar ty n ++ rest) = some (n, rest) := by
  cases ty <;> simp [isScalar] at hs <;> simp [scalarOk] at hn <;> simp only [decScalar, wireType, encScalar]
  case u64 => simp [decVarint_varint n hn, fromVarint]
  case i64 => simp [decVarint_varint n hn, fromVarint]
  case u32 =>
    have : n < 2 ^ 64 := by omega
    simp [decVarint_varint n this, fromVarint]; omega
  case i32 | enum =>
    rw [decVarint_varint _ (sext32_lt n)]
    simp [fromVarint, sext32_mod n hn]
  case bool =>
    have h1 : (if n = 0 then 0 else 1) < 128 := by split <;> omega
    have h2 : (if n = 0 then 0 else 1) < 2 ^ 64 := by split <;> omega
    rw [← varint_small _ h1, decVarint_varint _ h2]; simp [fromVarint]; split <;> omega
  case s32 =>
    rw [decVarint_varint _ (zigzag32_lt n)]
    have : unzigzag32 (zigzag32 n) = n := by simp only [zigzag32, unzigzag32]; split <;> split <;> omega
    simp [fromVarint, this]
  case fixed64 => exact unle_le 8 n rest (by simpa using hn)
  case sfixed64 => exact unle_le 8 n rest (by simpa using hn)
  case double => exact unle_le 8 n rest (by simpa using hn)
  case fixed32 => exact unle_le 4 n rest (by simpa using hn)

theorem encScalar_ne_nil (ty : Ty) (n : Nat) (hs : isScalar ty = true) : 0 < (encScalar ty n).length := by
  rw [encScalar_length]
  cases ty <;> simp [isScalar] at hs <;> simp [scalarSize, sov_pos]

theorem wireType_lt (ty : Ty) : wireType ty < 8 ∧ wireType ty ≠ 4 := by cases ty <;> simp [wireType]

theorem wireType_scalar_ne_two (ty : Ty) (hs : isScalar ty = true) : wireType ty ≠ 2 := by
  cases ty <;> first | (simp [wireType]; done) | cases hs

/-- what one wire entry of field `f` does to the slot value `cur` -/
def upd (f : Field) (alt : Bool) (cur v : Val) : Val :=
  if alt then Val.cons (.num f.num) (.cons v .nil) else if f.card = .rep then Val.snoc cur v else v

theorem upd_alt (f : Field) (cur v : Val) : upd f true cur v = .cons (.num f.num) (.cons v .nil) := rfl

theorem upd_rep {f : Field} (hc : f.card = .rep) (cur v : Val) : upd f false cur v = Val.snoc cur v := by simp [upd, hc]

theorem upd_plain {f : Field} (hc : f.card ≠ .rep) (cur v : Val) : upd f false cur v = v := by simp [upd, hc]

theorem decLeaf_text (f : Field) (alt : Bool) (wt : Nat) (cur : Val) (r : Bytes) (h : f.ty = .string ∨ f.ty = .bytes) :
    decLeaf f alt wt cur r =
      if wt ≠ 2 then none else
      match lenDelim r with
      | none => none
      | some (p, r') => some (upd f alt cur (.bytes p), r') := by
  unfold decLeaf
  rcases h with h | h <;> rw [h] <;> rfl

theorem decLeaf_id (f : Field) (alt : Bool) (wt : Nat) (cur : Val) (r : Bytes) (n : Nat) (h : f.ty = .id n) :
    decLeaf f alt wt cur r =
      if wt ≠ 2 then none else
      match lenDelim r with
      | none => none
      | some (p, r') =>
        if p.length = 0 then some (upd f alt cur (.bytes []), r')
        else if p.length ≠ n then none
        else some (upd f alt cur (.bytes (if allZero p then [] else p)), r') := by
  unfold decLeaf
  rw [h]; rfl

theorem decLeaf_scalar (f : Field) (alt : Bool) (wt : Nat) (cur : Val) (r : Bytes) (hs : isScalar f.ty = true)
    (hnp : alt = true ∨ f.card ≠ .packed) :
    decLeaf f alt wt cur r =
      if wt ≠ wireType f.ty then none
      else match decScalar f.ty r with
        | none => none
        | some (v, r') => some (upd f alt cur (.num v), r') := by
  have hpk : ¬ (f.card = .packed ∧ (!alt) = true) := by
    rcases hnp with h | h <;> simp [h]
  unfold decLeaf
  cases hty : f.ty <;> rw [hty] at hs <;> first | (simp only [hpk, if_false]; rfl) | cases hs

theorem decLeaf_scalar_packed (f : Field) (wt : Nat) (cur : Val) (r : Bytes) (hs : isScalar f.ty = true) (hc : f.card = .packed) :
    decLeaf f false wt cur r =
      if wt = wireType f.ty then
        match decScalar f.ty r with
        | none => none
        | some (v, r') => some (Val.snoc cur (.num v), r')
      else if wt = 2 then
        match decVarint r with
        | none => none
        | some (len, r') =>
          if len ≥ 2 ^ 63 then none else if len > r'.length then none
          else decPackedLoop f.ty (len + 1) len cur r'
      else none := by
  unfold decLeaf
  cases hty : f.ty <;> rw [hty] at hs <;> first | (simp only [hc, Bool.not_false, and_self, if_true]; rfl) | cases hs

theorem decLeaf_leaf (f : Field) (alt : Bool) (cur v : Val) (tail : Bytes)
    (hty : ∀ sub, f.ty ≠ .msg sub) (hnp : alt = true ∨ f.card ≠ .packed)
    (hok : leafOk f.ty v = true) (hlen : (leaf f.ty v).length < 2 ^ 63) :
    decLeaf f alt (wireType f.ty) cur (leaf f.ty v ++ tail) = some (upd f alt cur v, tail) := by
  by_cases hs : isScalar f.ty = true
  · cases v with
    | num n =>
      rw [decLeaf_scalar f alt _ cur _ hs hnp, leaf, if_pos hs,
        decScalar_encScalar _ n tail hs (by rw [← hok]; cases f.ty <;> rfl)]
      simp
    | _ => cases hty' : f.ty <;> simp [hty', leafOk, isScalar] at hok hs
  · have hb : ∀ b, v = .bytes b → b.length < 2 ^ 63 := by
      intro b hv; subst hv
      cases hty' : f.ty <;> simp [hty', leaf, isScalar, lenPrefixed_length] at hs hlen <;> omega
    cases hty' : f.ty <;> simp only [hty', isScalar, not_true_eq_false] at hs
    · cases v <;> simp [hty', leafOk, scalarOk] at hok
      next b => simp [decLeaf_text f alt _ cur _ (.inl hty'), wireType, leaf, isScalar, lenDelim_lenPrefixed b tail (hb b rfl)]
    · cases v <;> simp [hty', leafOk, scalarOk] at hok
      next b => simp [decLeaf_text f alt _ cur _ (.inr hty'), wireType, leaf, isScalar, lenDelim_lenPrefixed b tail (hb b rfl)]
    · next k =>
      cases v <;> simp [hty', leafOk, scalarOk] at hok
      next b =>
      simp only [decLeaf_id f alt _ cur _ k hty', wireType, leaf, isScalar, Bool.false_eq_true, if_false, ne_eq,
        not_true_eq_false]
      rw [lenDelim_lenPrefixed b tail (hb b rfl)]
      rcases hok with h | ⟨h1, h2⟩
      · subst h; simp
      · have : b.length ≠ 0 := by
          intro h0; have : b = [] := List.length_eq_zero_iff.mp h0; subst this; simp [allZero] at h2
        have hk0 : k ≠ 0 := by omega
        simp [h1, h2, hk0]
    · exact absurd hty' (hty _)

theorem decPackedLoop_body (ty : Ty) (hs : isScalar ty = true) : ∀ (v cur : Val) (fuel : Nat) (tail : Bytes),
    packedOk ty v = true → proper cur = true → (packedBody ty v).length < fuel →
    decPackedLoop ty fuel (packedBody ty v).length cur (packedBody ty v ++ tail) = some (app cur v, tail) := by
  intro v
  induction v with
  | nil =>
    intro cur fuel tail _ hp hf
    cases fuel with
    | zero => simp at hf
    | succ fuel => simp [packedBody, decPackedLoop, app_nil cur hp]
  | cons h t _ iht =>
    intro cur fuel tail hok hp hf
    cases h with
    | num n =>
      simp only [packedOk, Bool.and_eq_true] at hok
      cases fuel with
      | zero => simp at hf
      | succ fuel =>
        have hpos := encScalar_ne_nil ty n hs
        simp only [packedBody, List.length_append] at hf ⊢
        have hb : ¬ ((encScalar ty n).length + (packedBody ty t).length = 0) := by omega
        simp only [decPackedLoop, hb, if_false, List.append_assoc]
        rw [decScalar_encScalar ty n _ hs hok.1]
        simp only [List.length_append]
        have : (encScalar ty n).length + (packedBody ty t).length -
            ((encScalar ty n).length + ((packedBody ty t).length + tail.length) - ((packedBody ty t).length + tail.length))
            = (packedBody ty t).length := by omega
        rw [this, iht _ fuel tail hok.2 (proper_snoc _ _) (by omega), app_snoc]
    | _ => simp [packedOk] at hok
  | _ => intro cur fuel tail hok; simp [packedOk] at hok

theorem decLeaf_packed (f : Field) (v : Val) (tail : Bytes) (hc : f.card = .packed) (hs : isScalar f.ty = true)
    (hok : packedOk f.ty v = true) (hlen : (lenPrefixed (packedBody f.ty v)).length < 2 ^ 63) :
    decLeaf f false 2 .nil (lenPrefixed (packedBody f.ty v) ++ tail) = some (v, tail) := by
  have hb : (packedBody f.ty v).length < 2 ^ 63 := by rw [lenPrefixed_length] at hlen; omega
  have hloop := decPackedLoop_body f.ty hs v .nil ((packedBody f.ty v).length + 1) tail hok rfl (by omega)
  rw [decLeaf_scalar_packed f 2 .nil _ hs hc, if_neg (Ne.symm (wireType_scalar_ne_two _ hs)), if_pos rfl, lenPrefixed,
    List.append_assoc, decVarint_varint _ (by omega)]
  simp only [Nat.not_le.mpr hb, List.length_append, if_false, hloop, nil_app]
  simp

/-! ## one iteration of `decMsg` -/

theorem decVarint_nil : decVarint [] = none := by simp [decVarint, decVarintAux]

theorem isEmpty_of_decVarint {bs : Bytes} {x : Nat × Bytes} (h : decVarint bs = some x) : bs.isEmpty = false := by
  cases bs with
  | nil => simp [decVarint_nil] at h
  | cons _ _ => rfl

theorem decMsg_nil (S : Schema) (D : List Val) (m : Nat) (acc : Val) : decMsg S D m acc [] = some acc := by
  rw [decMsg]; simp

theorem tag_facts (num wt : Nat) (rest : Bytes) (h0 : 0 < num) (h1 : num < 2 ^ 28) (hw : wt < 8) :
    decVarint (tag num wt ++ rest) = some (num * 8 + wt, rest) ∧ (num * 8 + wt) % 8 = wt ∧
    (num * 8 + wt) / 8 % 2 ^ 32 = num ∧ ¬ ((num * 8 + wt) / 8 % 2 ^ 32 = 0 ∨ (num * 8 + wt) / 8 % 2 ^ 32 ≥ 2 ^ 31) := by
  refine ⟨decVarint_varint _ (by omega) rest, by omega, by omega, by omega⟩

theorem fieldOk_num {alt : Bool} {f : Field} (h : fieldOk alt f = true) : 0 < f.num ∧ f.num < 2 ^ 28 := by
  simp only [fieldOk, Bool.and_eq_true, decide_eq_true_eq] at h
  exact ⟨h.1.1, h.1.2⟩

theorem decMsg_unfold_leaf (S : Schema) (D : List Val) (m : Nat) (l1 l2 : List Val) (cur : Val) (bs : Bytes) (key : Nat) (r : Bytes)
    (f : Field) (alt : Bool) (nv : Val) (r' : Bytes)
    (hdec : decVarint bs = some (key, r))
    (hwt4 : key % 8 ≠ 4) (hfn : ¬ (key / 8 % 2 ^ 32 = 0 ∨ key / 8 % 2 ^ 32 ≥ 2 ^ 31))
    (hfind : findSlot (S.slots m) 0 (key / 8 % 2 ^ 32) = some ⟨l1.length, f, alt⟩)
    (hty : ∀ sub, f.ty ≠ .msg sub)
    (hleaf : decLeaf f alt (key % 8) cur r = some (nv, r'))
    (hlen : r'.length < bs.length) :
    decMsg S D m (Val.ofList (l1 ++ cur :: l2)) bs = decMsg S D m (Val.ofList (l1 ++ nv :: l2)) r' := by
  have hne := isEmpty_of_decVarint hdec
  rw [decMsg]
  simp only [hne, Bool.false_eq_true, if_false, hdec, hwt4, hfn, hfind, get_ofList_append, set_ofList_append]
  cases hty' : f.ty <;> first | (exact absurd hty' (hty _)) | (simp only [hleaf, hlen, dite_true])

theorem decMsg_unfold_msg (S : Schema) (D : List Val) (m : Nat) (l1 l2 : List Val) (cur : Val) (bs : Bytes) (key : Nat) (r : Bytes)
    (f : Field) (alt : Bool) (sub : Nat) (p r' : Bytes) (x : Val)
    (hdec : decVarint bs = some (key, r))
    (hwt : key % 8 = 2) (hfn : ¬ (key / 8 % 2 ^ 32 = 0 ∨ key / 8 % 2 ^ 32 ≥ 2 ^ 31))
    (hfind : findSlot (S.slots m) 0 (key / 8 % 2 ^ 32) = some ⟨l1.length, f, alt⟩)
    (hty : f.ty = .msg sub)
    (hld : lenDelim r = some (p, r'))
    (hsub : decMsg S D sub (if alt then D.getD sub .nil else if f.card = .req then cur else D.getD sub .nil) p = some x) :
    decMsg S D m (Val.ofList (l1 ++ cur :: l2)) bs = decMsg S D m (Val.ofList (l1 ++
      (if alt then Val.cons (.num f.num) (.cons x .nil) else if f.card = .req then x else Val.snoc cur x) :: l2)) r' := by
  have hne := isEmpty_of_decVarint hdec
  have h1 := decVarint_length hdec
  have h2 := lenDelim_length hld
  have hlen : p.length < bs.length ∧ r'.length < bs.length := by omega
  rw [decMsg]
  simp only [hne, Bool.false_eq_true, if_false, hdec, hwt, hfn, hfind, hty, hld, get_ofList_append, set_ofList_append]
  simp only [hlen, and_self, dite_true, hsub]
  simp

/-! ## the slot list of a message and how it is searched -/

theorem slots_eq_nil {S : Schema} {m : Nat} (h : ¬ m < S.msgs.length) : S.slots m = [] := by
  simp only [Schema.slots]; rw [List.getElem?_eq_none (by omega)]; rfl

theorem all_msgs_slots {S : Schema} {P : List Slot → Bool} (h0 : P [] = true)
    (h : S.msgs.all (fun m => P m.slots) = true) (r : Nat) : P (S.slots r) = true := by
  simp only [List.all_eq_true] at h
  simp only [Schema.slots]
  cases hm : S.msgs[r]? with
  | none => exact h0
  | some msg => simpa using h msg (List.mem_of_getElem? hm)

theorem lt_of_mem_slots {S : Schema} {m : Nat} {s : Slot} (h : s ∈ S.slots m) : m < S.msgs.length := by
  by_cases hlt : m < S.msgs.length
  · exact hlt
  · rw [slots_eq_nil hlt] at h; cases h

theorem wf_slots {S : Schema} {D : List Val} (h : WF S D = true) (m : Nat) :
    slotsOkFrom (S.slots m) (S.slots m) 0 = true := by
  simp only [WF, Bool.and_eq_true] at h
  exact all_msgs_slots (P := fun ss => slotsOkFrom ss ss 0) rfl h.1.1 m

theorem wf_defaults {S : Schema} {D : List Val} (h : WF S D = true) (sub : Nat) :
    D.getD sub .nil = msgDefault D (S.slots sub) := by
  simp only [WF, Bool.and_eq_true, DefaultsOk, beq_iff_eq, defaultsStep] at h
  have hD := h.1.2
  simp only [Schema.slots]
  have : D[sub]? = (S.msgs[sub]?).map (fun m => msgDefault D m.slots) := by
    conv => lhs; rw [← hD]
    simp
  rw [List.getD_eq_getElem?_getD, this]
  cases S.msgs[sub]? <;> simp [msgDefault, Val.ofList]

theorem mem_of_findAlt {alts : List Field} {k : Nat} {a : Field} (h : findAlt alts k = some a) : a ∈ alts ∧ a.num = k := by
  simp only [findAlt] at h
  exact ⟨List.mem_of_find?_eq_some h, by have := List.find?_some h; simpa using this⟩

/-- slot `s` at index `i`: its field(s) are admissible and found by number at `i` -/
def SlotAt (all : List Slot) (i : Nat) : Slot → Prop
  | .one f => fieldOk false f = true ∧ findSlot all 0 f.num = some ⟨i, f, false⟩
  | .oneof _ alts => ∀ a, a ∈ alts → fieldOk true a = true ∧ findSlot all 0 a.num = some ⟨i, a, true⟩ ∧ findAlt alts a.num = some a

/-- a check with a running index (`slotsOkFrom`, `jslotsOkFrom`) holds of every slot at its index -/
theorem from_getAt {chk : List Slot → Nat → Bool} {t : Slot → Nat → Bool}
    (hcons : ∀ s ss i, chk (s :: ss) i = (t s i && chk ss (i + 1))) :
    ∀ (rem : List Slot) (i j : Nat) (s : Slot), chk rem i = true → rem[j]? = some s → t s (i + j) = true := by
  intro rem
  induction rem with
  | nil => intro i j s _ h; simp at h
  | cons s0 rem ih =>
    intro i j s h hj
    rw [hcons, Bool.and_eq_true] at h
    cases j with
    | zero => simp at hj; subst hj; exact h.1
    | succ j => simp at hj; rw [show i + (j + 1) = i + 1 + j by omega]; exact ih (i + 1) j s h.2 hj

theorem slotsOk_getAt (all rem : List Slot) (i j : Nat) (s : Slot)
    (h : slotsOkFrom all rem i = true) (hj : rem[j]? = some s) : SlotAt all (i + j) s := by
  have := from_getAt (chk := slotsOkFrom all) (t := fun s i => match s with
      | .one f => fieldOk false f && findSlot all 0 f.num == some ⟨i, f, false⟩
      | .oneof _ alts => alts.all (fun a =>
          fieldOk true a && findSlot all 0 a.num == some ⟨i, a, true⟩ && findAlt alts a.num == some a))
    (fun s ss i => by cases s <;> rfl) rem i j s h hj
  cases s with
  | one f => simpa [SlotAt] using this
  | oneof g alts =>
    simp only [List.all_eq_true, Bool.and_eq_true, beq_iff_eq] at this
    exact fun a ha => ⟨(this a ha).1.1, (this a ha).1.2, (this a ha).2⟩

theorem slotAt_of_split {all pre ss : List Slot} {s : Slot} (hwf : slotsOkFrom all all 0 = true) (hsl : all = pre ++ s :: ss) :
    SlotAt all pre.length s := by
  simpa using slotsOk_getAt all all 0 pre.length s hwf (by rw [hsl]; simp)

/-- the first field — plain, or an alternative of a one-of — that satisfies `p`, with the index of its slot: `findSlot` looks up by
number and `findKey` by either name, and both are this -/
def findBy (p : Field → Bool) : List Slot → Nat → Option Hit
  | [], _ => none
  | .one f :: ss, i => if p f then some ⟨i, f, false⟩ else findBy p ss (i + 1)
  | .oneof _ alts :: ss, i =>
    match alts.find? p with
    | some a => some ⟨i, a, true⟩
    | none => findBy p ss (i + 1)

theorem findSlot_eq (n : Nat) : ∀ (ss : List Slot) (i : Nat), findSlot ss i n = findBy (·.num == n) ss i := by
  intro ss
  induction ss with
  | nil => intro i; rfl
  | cons s ss ih => intro i; cases s <;> simp only [findSlot, findBy, findAlt, ih] <;> rfl

theorem findKey_eq (k : List Nat) : ∀ (ss : List Slot) (i : Nat),
    findKey ss i k = findBy (fun f => str f.json == k || str f.orig == k) ss i := by
  intro ss
  induction ss with
  | nil => intro i; rfl
  | cons s ss ih => intro i; cases s <;> simp only [findKey, findBy, ih] <;> rfl

theorem findBy_spec {p : Field → Bool} : ∀ (ss : List Slot) (i : Nat) (hit : Hit), findBy p ss i = some hit →
    ∃ j, hit.idx = i + j ∧ p hit.f = true ∧
      ((hit.alt = false ∧ ss[j]? = some (.one hit.f)) ∨
       (hit.alt = true ∧ ∃ g alts, ss[j]? = some (.oneof g alts) ∧ hit.f ∈ alts)) := by
  intro ss
  induction ss with
  | nil => intro i hit h; simp [findBy] at h
  | cons s ss ih =>
    intro i hit h
    cases s with
    | one f =>
      simp only [findBy] at h
      split at h
      · next heq => cases h; exact ⟨0, rfl, heq, Or.inl ⟨rfl, rfl⟩⟩
      · obtain ⟨j, hj, hn, hr⟩ := ih (i + 1) hit h
        exact ⟨j + 1, by omega, hn, by simpa using hr⟩
    | oneof g alts =>
      simp only [findBy] at h
      split at h
      · next a ha =>
        cases h
        exact ⟨0, rfl, List.find?_some ha, Or.inr ⟨rfl, g, alts, rfl, List.mem_of_find?_eq_some ha⟩⟩
      · obtain ⟨j, hj, hn, hr⟩ := ih (i + 1) hit h
        exact ⟨j + 1, by omega, hn, by simpa using hr⟩

/-! ## the protobuf round trip -/

/-- `jsonOmit` is the not-written test of BOTH codecs; such a plain field holds its default -/
theorem omit_default (S : Schema) (D : List Val) (f : Field) (x : Val) (hf : fieldOk false f = true)
    (hc : conf S false (.slot (.one f)) x = true) (ho : jsonOmit f x = true) : x = slotDefault D (.one f) := by
  rw [conf_slot_one] at hc
  have hnil : (f.card = .rep ∨ f.card = .packed) → x = .nil := by
    intro hl
    cases x with
    | cons a b => rcases hl with h | h <;> simp [jsonOmit, h, Val.isCons] at ho
    | nil => rfl
    | _ => rcases hl with h | h <;> simp [h, conf, packedOk] at hc
  cases hcard : f.card <;> simp only [hcard, jsonOmit] at hc ho
  · simp only [Bool.and_eq_true, Bool.not_eq_true'] at hc
    obtain ⟨hok, hnz⟩ := hc
    simp only [fieldOk, hcard, Bool.and_eq_true] at hf
    have hf := hf.2
    simp only [slotDefault, hcard]
    -- zero test ∧ in range leaves only `num 0` / `bytes []`; for a double (`omega`): `n % 2^63 = 0`, `n < 2^64`, `n ≠ 2^63` give `n = 0`
    cases hty : f.ty <;> rw [hty] at hok ho hnz hf <;> cases x <;>
      simp_all [leafOk, scalarOk, isZero, isScalar]
    all_goals omega
  · cases ho
  · rw [hnil (Or.inl hcard)]; simp [slotDefault, hcard]
  · rw [hnil (Or.inr hcard)]; simp [slotDefault, hcard]

/-- The round-trip statement, by mode of `enc`: `decMsg` on `enc S mode v ++ tail` from a message value is `decMsg` on `tail` from that value with
`v` put in.  `.slots rem`: `pre`/`done` are the slots passed and their values, the others hold their defaults.  The other modes speak of ONE slot,
the one after `l1` (index `l1.length`), holding `cur`.  `.elem f`: one entry updates it by `upd`; `hreq`: an embedded message is decoded INTO
it, so it must hold the default.  `.reps f`: the entries are appended to it (a `proper` chain).  `.slot s`: it held its default, now `v`.

Cases of `fun_induction enc`: 1 slots cons · 2 slots end · 3 elem message · 4 elem leaf · 5 reps cons · 6 reps end · 7 opt zero (not written) ·
8 opt · 9 req · 10 rep · 11 packed cons · 12 packed empty · 13–15 one-of: alternative found / unknown number / other value.  `canon`, `normV`,
`toJ` split the same graph at their own tests; the proofs label their cases. -/
def RT (S : Schema) (D : List Val) : Mode → Val → Prop
  | .slots rem, v => ∀ (m : Nat) (pre : List Slot) (done : List Val) (tail : Bytes),
      S.slots m = pre ++ rem → done.length = pre.length → conf S false (.slots rem) v = true →
      (enc S (.slots rem) v).length < 2 ^ 63 →
      decMsg S D m (Val.ofList (done ++ rem.map (slotDefault D))) (enc S (.slots rem) v ++ tail)
        = decMsg S D m (Val.ofList (done ++ Val.toList v)) tail
  | .elem f, v => ∀ (m : Nat) (alt : Bool) (l1 l2 : List Val) (cur : Val) (tail : Bytes),
      findSlot (S.slots m) 0 f.num = some ⟨l1.length, f, alt⟩ → fieldOk alt f = true →
      (alt = true ∨ f.card ≠ .packed) →
      (alt = false → f.card = .req → ∀ sub, f.ty = .msg sub → cur = D.getD sub .nil) →
      conf S false (.elem f) v = true → (enc S (.elem f) v).length < 2 ^ 63 →
      decMsg S D m (Val.ofList (l1 ++ cur :: l2)) (enc S (.elem f) v ++ tail)
        = decMsg S D m (Val.ofList (l1 ++ upd f alt cur v :: l2)) tail
  | .reps f, v => ∀ (m : Nat) (l1 l2 : List Val) (cur : Val) (tail : Bytes),
      findSlot (S.slots m) 0 f.num = some ⟨l1.length, f, false⟩ → fieldOk false f = true → f.card = .rep →
      proper cur = true → conf S false (.reps f) v = true → (enc S (.reps f) v).length < 2 ^ 63 →
      decMsg S D m (Val.ofList (l1 ++ cur :: l2)) (enc S (.reps f) v ++ tail)
        = decMsg S D m (Val.ofList (l1 ++ app cur v :: l2)) tail
  | .slot s, v => ∀ (m : Nat) (l1 l2 : List Val) (tail : Bytes),
      SlotAt (S.slots m) l1.length s → conf S false (.slot s) v = true → (enc S (.slot s) v).length < 2 ^ 63 →
      decMsg S D m (Val.ofList (l1 ++ slotDefault D s :: l2)) (enc S (.slot s) v ++ tail)
        = decMsg S D m (Val.ofList (l1 ++ v :: l2)) tail

theorem rt_msg {S : Schema} {D : List Val} (hD : ∀ sub, D.getD sub .nil = msgDefault D (S.slots sub)) (m : Nat) (v : Val)
    (h : RT S D (.slots (S.slots m)) v) (hc : conf S false (.slots (S.slots m)) v = true)
    (hlen : (enc S (.slots (S.slots m)) v).length < 2 ^ 63) :
    decMsg S D m (D.getD m .nil) (enc S (.slots (S.slots m)) v) = some v := by
  have := h m [] [] [] (by simp) rfl hc hlen
  simp only [List.nil_append, List.append_nil] at this
  rw [hD m, msgDefault, this, decMsg_nil, ofList_toList v (conf_slots_proper S false v _ hc)]

theorem rt_all (S : Schema) (D : List Val)
    (hwf : ∀ m, slotsOkFrom (S.slots m) (S.slots m) 0 = true)
    (hD : ∀ sub, D.getD sub .nil = msgDefault D (S.slots sub)) :
    ∀ mode v, RT S D mode v := by
  intro mode v
  fun_induction enc S mode v
  case case1 s ss x xs ih2 ih1 =>  -- slots cons
    intro m pre done tail hsl hlen hconf hbound
    rw [conf_slots_cons, Bool.and_eq_true] at hconf
    rw [enc_slots_cons, List.length_append] at hbound
    rw [enc_slots_cons, List.append_assoc, List.map_cons,
      ih2 m done _ _ (by rw [hlen]; exact slotAt_of_split (hwf m) hsl) hconf.1 (by omega)]
    have h2 := ih1 m (pre ++ [s]) (done ++ [x]) tail (by simp [hsl]) (by simp [hlen]) hconf.2 (by omega)
    simp only [List.append_assoc, List.singleton_append] at h2
    rw [h2]; simp [Val.toList]
  case case2 ss v hne =>  -- slots end
    intro m pre done tail hsl hlen hconf hbound
    obtain ⟨rfl, rfl⟩ := confD_slots_end S ss v hne (confD_of_conf S _ _ hconf)
    simp [enc_slots_nil, Val.toList]
  case case3 f v sub hty ih =>  -- elem msg
    intro m alt l1 l2 cur tail hfind hfok hnp hreq hconf hbound
    have hconf' := (conf_elem_msg S false f v sub hty).symm.trans hconf
    rw [enc_elem_msg S f v sub hty] at hbound ⊢
    have hp : (enc S (.slots (S.slots sub)) v).length < 2 ^ 63 := by
      simp only [List.length_append, lenPrefixed_length] at hbound; omega
    have hinner := rt_msg hD sub v ih hconf' hp
    obtain ⟨hn0, hn1⟩ := fieldOk_num hfok
    obtain ⟨hdec, hk1, hk2, hk3⟩ := tag_facts f.num 2 (lenPrefixed (enc S (.slots (S.slots sub)) v) ++ tail) hn0 hn1 (by omega)
    rw [List.append_assoc]
    have hstart : (if alt = true then D.getD sub .nil else if f.card = .req then cur else D.getD sub .nil)
        = D.getD sub .nil := by
      cases alt with
      | true => simp
      | false =>
        by_cases hc : f.card = .req
        · simp [hc, hreq rfl hc sub hty]
        · simp [hc]
    rw [decMsg_unfold_msg S D m l1 l2 cur _ (f.num * 8 + 2) _ f alt sub _ tail v hdec hk1 hk3 (by rw [hk2]; exact hfind) hty
      (lenDelim_lenPrefixed _ tail hp) (by rw [hstart]; exact hinner)]
    congr 4
    simp only [upd]
    cases alt with
    | true => simp
    | false =>
      simp only [fieldOk, hty, Bool.false_eq_true, if_false, Bool.and_eq_true] at hfok
      cases hc : f.card <;> simp [hc, isScalar] at hfok ⊢
  case case4 f v hty =>  -- elem leaf
    intro m alt l1 l2 cur tail hfind hfok hnp hreq hconf hbound
    rw [conf_elem_leaf S false f v hty] at hconf
    rw [enc_elem_leaf S f v hty] at hbound ⊢
    obtain ⟨hn0, hn1⟩ := fieldOk_num hfok
    obtain ⟨hw8, hw4⟩ := wireType_lt f.ty
    obtain ⟨hdec, hk1, hk2, hk3⟩ := tag_facts f.num (wireType f.ty) (leaf f.ty v ++ tail) hn0 hn1 hw8
    rw [List.append_assoc]
    have hl : (leaf f.ty v).length < 2 ^ 63 := by simp only [List.length_append] at hbound; omega
    have hleaf := decLeaf_leaf f alt cur v tail hty hnp hconf hl
    have hpos := sov_pos (f.num * 8 + wireType f.ty)
    exact decMsg_unfold_leaf S D m l1 l2 cur _ (f.num * 8 + wireType f.ty) _ f alt _ tail hdec (by rw [hk1]; exact hw4) hk3
      (by rw [hk2]; exact hfind) hty (by rw [hk1]; exact hleaf) (by simp [tag_length]; omega)
  case case5 f e rest ih2 ih1 =>  -- reps cons
    intro m l1 l2 cur tail hfind hfok hcard hprop hconf hbound
    rw [conf_reps_cons, Bool.and_eq_true] at hconf
    rw [enc_reps_cons, List.length_append] at hbound
    rw [enc_reps_cons, List.append_assoc,
      ih2 m false l1 l2 cur _ hfind hfok (Or.inr (by simp [hcard])) (by intro _ h; simp [hcard] at h) hconf.1 (by omega),
      upd_rep hcard, ih1 m l1 l2 _ tail hfind hfok hcard (proper_snoc _ _) hconf.2 (by omega), app_snoc]
  case case6 f v hne =>  -- reps end
    intro m l1 l2 cur tail hfind hfok hcard hprop hconf hbound
    rw [confD_reps_end S f v hne (confD_of_conf S _ _ hconf)]
    simp [enc, app_nil _ hprop]
  case case7 f v hc hz =>  -- opt zero
    intro m l1 l2 tail hat hconf hbound
    have henc : enc S (.slot (.one f)) v = [] := by simp [enc_slot_one, hc, hz]
    rw [henc, omit_default S D f v hat.1 hconf (by simp [jsonOmit, hc, hz])]; rfl
  case case8 f v hc hz ih =>  -- opt
    intro m l1 l2 tail hat hconf hbound
    simp only [SlotAt] at hat
    have hty : ∀ sub, f.ty ≠ .msg sub := by
      intro sub h
      have := hat.1
      simp [fieldOk, hc, h] at this
    rw [conf_slot_one] at hconf
    simp only [hc, Bool.and_eq_true] at hconf
    simp only [enc_slot_one, hc, hz, Bool.false_eq_true, if_false] at hbound ⊢
    rw [ih m false l1 l2 _ tail hat.2 hat.1 (Or.inr (by simp [hc])) (by intro _ h; simp [hc] at h)
      (by rw [conf_elem_leaf S false f v hty]; exact hconf.1) hbound, upd_plain (by simp [hc])]
  case case9 f v hc ih =>  -- req
    intro m l1 l2 tail hat hconf hbound
    simp only [SlotAt] at hat
    rw [conf_slot_one] at hconf
    simp only [enc_slot_one, hc] at hconf hbound ⊢
    rw [ih m false l1 l2 _ tail hat.2 hat.1 (Or.inr (by simp [hc]))
      (by intro _ _ sub hty; simp [slotDefault, hc, hty]) hconf hbound, upd_plain (by simp [hc])]
  case case10 f v hc ih =>  -- rep
    intro m l1 l2 tail hat hconf hbound
    simp only [SlotAt] at hat
    rw [conf_slot_one] at hconf
    simp only [enc_slot_one, hc] at hconf hbound ⊢
    have hd : slotDefault D (.one f) = .nil := by simp [slotDefault, hc]
    rw [hd, ih m l1 l2 .nil tail hat.2 hat.1 hc rfl hconf hbound, nil_app]
  case case11 f v hc hv =>  -- packed cons
    intro m l1 l2 tail hat hconf hbound
    simp only [SlotAt] at hat
    rw [conf_slot_one] at hconf
    simp only [enc_slot_one, hc, hv, if_true] at hconf hbound ⊢
    have hs : isScalar f.ty = true := by
      have := hat.1
      simp only [fieldOk, hc, Bool.false_eq_true, if_false, Bool.and_eq_true] at this
      exact this.2
    have hty : ∀ sub, f.ty ≠ .msg sub := by intro sub h; simp [h, isScalar] at hs
    obtain ⟨hn0, hn1⟩ := fieldOk_num hat.1
    obtain ⟨hdec, hk1, hk2, hk3⟩ := tag_facts f.num 2 (lenPrefixed (packedBody f.ty v) ++ tail) hn0 hn1 (by omega)
    rw [List.append_assoc]
    have hl : (lenPrefixed (packedBody f.ty v)).length < 2 ^ 63 := by simp only [List.length_append] at hbound; omega
    have hd : slotDefault D (.one f) = .nil := by simp [slotDefault, hc]
    have hleaf := decLeaf_packed f v tail hc hs hconf hl
    have hpos := sov_pos (f.num * 8 + 2)
    rw [hd]
    exact decMsg_unfold_leaf S D m l1 l2 .nil _ (f.num * 8 + 2) _ f false _ tail hdec (by omega) hk3
      (by rw [hk2]; exact hat.2) hty (by rw [hk1]; exact hleaf) (by simp [tag_length]; omega)
  case case12 f v hc hv =>  -- packed empty
    intro m l1 l2 tail hat hconf hbound
    have henc : enc S (.slot (.one f)) v = [] := by simp [enc_slot_one, hc, hv]
    rw [henc, omit_default S D f v hat.1 hconf (by simp [jsonOmit, hc, hv])]; rfl
  case case13 g alts k p a hfa ih =>  -- one-of found
    intro m l1 l2 tail hat hconf hbound
    simp only [SlotAt] at hat
    obtain ⟨hmem, hk⟩ := mem_of_findAlt hfa
    obtain ⟨hfok, hfind, _⟩ := hat a hmem
    have hconf' : conf S false (.elem a) p = true := by rw [conf_slot_oneof] at hconf; simpa [hfa] using hconf
    rw [enc_slot_oneof S g alts k p a hfa] at hbound ⊢
    rw [ih m true l1 l2 _ tail hfind hfok (Or.inl rfl) (by intro h; simp at h) hconf' hbound, upd_alt, hk]
  case case14 g alts k p hfa =>  -- one-of unknown
    intro m l1 l2 tail hat hconf hbound
    rw [conf_slot_oneof] at hconf; simp [hfa] at hconf
  case case15 g alts v hne =>  -- one-of other
    intro m l1 l2 tail hat hconf hbound
    have hvn : v = .nil := (confD_oneof_cases S g alts v (confD_of_conf S _ _ hconf)).resolve_right fun ⟨k, p, hv⟩ => hne k p hv
    subst hvn
    have henc : enc S (.slot (.oneof g alts)) .nil = [] := by rw [enc]; exact hne
    rw [henc]; simp [slotDefault]

end OtelVerif.C08

import OtelVerif.Lemmas.C04Seq
import OtelVerif.Lemmas.C04Sizer
/-!
C04: what an `extract*` function guarantees, as two records, and how the guarantees go up the tree.

`Moves` (every sizer, both signals): the items are kept in order up to `R`, and the source loses a node whenever `removedSize` moved.
`Sized` (where the accounting is exact: logs under any sizer, metrics under the items sizer): `removedSize` is what the source lost,
the extracted part fits the capacity, and `removedSize` is at least the weight of the items that left.  `CutMoves` / `CutSized` say
the same of the closure a pass calls on a child that does not fit.  `extractScope`, `extractRes`, `extractMScope`, `extractMRes`
(`extractScopeLogs` … `extractResourceMetrics`) are `Level.extract` of their level by `rfl`, `extract` / `mextract` are `topExt`.
-/
namespace OtelVerif.C04
open OtelVerif.Payload

structure Moves {α β : Type} (R : List β → List β → Prop) (f : α → List β) (n : α → Nat) (ext : Int → α → α × α × Int) : Prop where
  seq : ∀ cap a, R (f (ext cap a).1 ++ f (ext cap a).2.1) (f a)
  nodes : ∀ cap a, n (ext cap a).2.1 ≤ n a ∧ ((ext cap a).2.2 ≠ 0 → n (ext cap a).2.1 < n a)

structure Sized {α β : Type} (sz : Sizer) (size : α → Int) (f : α → List β) (wt : β → Int) (nonEmpty : α → Bool)
    (ext : Int → α → α × α × Int) : Prop where
  exact : ∀ cap a, size (ext cap a).2.1 = size a - (ext cap a).2.2
  fit : ∀ cap a, nonEmpty (ext cap a).1 = true → sz.delta (size (ext cap a).1) ≤ max cap 0
  rm_ge : ∀ cap a, wsumBy wt (f (ext cap a).1) ≤ (ext cap a).2.2

structure CutMoves {κ β : Type} (R : List β → List β → Prop) (f : κ → List β) (n : κ → Nat)
    (cut : St → κ → Option κ × Option κ × St) : Prop where
  stops : ∀ st c, (cut st c).2.2.cap = 0
  seq : ∀ st c, R (oflat f (cut st c).1 ++ oflat f (cut st c).2.1) (f c)
  nodes : ∀ st c, ocnt n (cut st c).2.1 ≤ n c ∧ ((cut st c).2.2.rm ≠ st.rm → ocnt n (cut st c).2.1 < n c)

structure CutSized {κ β : Type} (sz : Sizer) (size : κ → Int) (f : κ → List β) (wt : β → Int)
    (cut : St → κ → Option κ × Option κ × St) : Prop where
  stops : ∀ st c, (cut st c).2.2.cap = 0
  exact : ∀ st c, (cut st c).2.2.rm - st.rm = sz.delta (size c) - osize sz size (cut st c).2.1
  fit : ∀ st c, osize sz size (cut st c).1 + max (cut st c).2.2.cap 0 ≤ max st.cap 0
  rm_ge : ∀ st c, wsumBy wt (oflat f (cut st c).1) ≤ (cut st c).2.2.rm - st.rm

theorem cutLeaf_moves {κ β : Type} {R : List β → List β → Prop} (m : Seq R) (f : κ → List β) (n : κ → Nat) :
    CutMoves R f n cutLeaf :=
  ⟨fun _ _ => rfl, fun _ c => m.of_eq (oflat_some f c), fun _ c => ⟨Nat.le_of_eq (ocnt_some n c), fun h => absurd rfl h⟩⟩

theorem cutLeaf_sized {κ β : Type} (sz : Sizer) (size : κ → Int) (f : κ → List β) (wt : β → Int) : CutSized sz size f wt cutLeaf := by
  refine ⟨fun _ _ => rfl, fun st c => ?_, fun st c => ?_, fun st c => ?_⟩
  · simp [cutLeaf]
  · simp [cutLeaf]; omega
  · show (0 : Int) ≤ st.rm - st.rm
    omega

theorem cutBy_moves {κ β : Type} {R : List β → List β → Prop} {f : κ → List β} {n : κ → Nat} {ext : Int → κ → κ × κ × Int}
    (sz : Sizer) (size : κ → Int) (nonEmpty : κ → Bool) (h : Moves R f n ext)
    (hne : ∀ cap c, nonEmpty (ext cap c).1 = false → f (ext cap c).1 = []) : CutMoves R f n (cutBy sz size ext nonEmpty) := by
  refine ⟨fun _ _ => rfl, fun st c => ?_, fun st c => ?_⟩
  · simp only [cutBy]
    cases hn : nonEmpty (ext st.cap c).1 with
    | true => simpa only [if_true, oflat_some] using h.seq st.cap c
    | false =>
      have := h.seq st.cap c
      rw [hne _ _ hn] at this
      simpa only [Bool.false_eq_true, if_false, oflat_none, oflat_some] using this
  · simp only [cutBy, ocnt_some]
    refine ⟨(h.nodes st.cap c).1, fun hrm => (h.nodes st.cap c).2 fun h0 => hrm ?_⟩
    rw [h0]
    simp

theorem cutBy_sized {κ β : Type} {sz : Sizer} {size : κ → Int} {f : κ → List β} {wt : β → Int} {nonEmpty : κ → Bool}
    {ext : Int → κ → κ × κ × Int} (hsz : ∀ c, 0 ≤ size c) (hwt : ∀ x, 0 ≤ wt x) (h : Sized sz size f wt nonEmpty ext) :
    CutSized sz size f wt (cutBy sz size ext nonEmpty) := by
  refine ⟨fun _ _ => rfl, fun st c => ?_, fun st c => ?_, fun st c => ?_⟩
  · -- `cutBy`'s correction term: `removedSize` grows by `δ(size c) − δ(size of the rest)`
    simp only [cutBy, osize_some, h.exact]
    omega
  · simp only [cutBy]
    by_cases hn : nonEmpty (ext st.cap c).1 = true
    · have := h.fit st.cap c hn
      simp only [hn, if_true, osize_some]; omega
    · simp only [hn, Bool.false_eq_true, if_false, osize_none]; omega
  · have h3 := h.rm_ge st.cap c
    have h2 := Int.le_trans (wsumBy_nonneg wt hwt _) h3
    have hrem := hsz (ext st.cap c).2.1
    rw [h.exact] at hrem
    -- what `removedSize` grows by beyond `extSize`: the length prefix of the child shrinks no slower than the child
    have hk := delta_slope sz (size c) (size c - (ext st.cap c).2.2) hrem (Int.sub_le_self _ h2)
    simp only [cutBy]
    by_cases hn : nonEmpty (ext st.cap c).1 = true
    · simp only [hn, if_true, oflat_some]; omega
    · simp only [hn, Bool.false_eq_true, if_false, oflat_none]
      show (0 : Int) ≤ _
      omega

theorem walk_moves {κ β : Type} {R : List β → List β → Prop} (m : Seq R) {f : κ → List β} {n : κ → Nat}
    {cut : St → κ → Option κ × Option κ × St} (h : CutMoves R f n cut) (hn : ∀ c, 0 < n c) (fits : St → κ → Option St)
    (s : St) (l : List κ) :
    R ((walk stop fits cut s l).dest.flatMap f ++ (walk stop fits cut s l).rem.flatMap f) (l.flatMap f) ∧
    sumBy n (walk stop fits cut s l).rem ≤ sumBy n l ∧
    ((walk stop fits cut s l).st.rm ≠ s.rm → sumBy n (walk stop fits cut s l).rem < sumBy n l) :=
  ⟨walk_seq m stop fits cut f (fun st c => ⟨h.seq st c, Or.inl (by rw [stop, h.stops]; rfl)⟩) s l,
   walk_nodes stop fits cut n St.rm hn (fun st c _ => h.nodes st c) s l⟩

theorem walk_sized {κ β : Type} {sz : Sizer} {size : κ → Int} {f : κ → List β} {wt : β → Int}
    {cut : St → κ → Option κ × Option κ × St} (h : CutSized sz size f wt cut) (hf : ∀ c, wsumBy wt (f c) ≤ size c)
    (s : St) (l : List κ) :
    (walk stop (fitsBy sz size) cut s l).st.rm - s.rm = sumD sz size l - sumD sz size (walk stop (fitsBy sz size) cut s l).rem ∧
    sumD sz size (walk stop (fitsBy sz size) cut s l).dest + max (walk stop (fitsBy sz size) cut s l).st.cap 0 ≤ max s.cap 0 ∧
    wsumBy wt ((walk stop (fitsBy sz size) cut s l).dest.flatMap f) ≤ (walk stop (fitsBy sz size) cut s l).st.rm - s.rm := by
  induction l generalizing s with
  | nil => exact ⟨(Int.sub_self _).trans (Int.sub_self _).symm, Int.le_of_eq (Int.zero_add _), Int.le_of_eq (Int.sub_self _).symm⟩
  | cons c cs ih =>
    by_cases hs : stop s = true
    · rw [walk_stopped stop _ cut s hs]
      exact ⟨(Int.sub_self _).trans (Int.sub_self _).symm, Int.le_of_eq (Int.zero_add _), Int.le_of_eq (Int.sub_self _).symm⟩
    · have hs' : stop s = false := by simpa using hs
      rw [sumD_cons]
      by_cases hd : sz.delta (size c) > s.cap
      · -- the child is cut, which stops the pass: the three claims are the closure's
        have hn : fitsBy sz size s c = none := by simp only [fitsBy, if_pos hd]
        rw [walk_cuts stop _ cut s c cs hs' hn, walk_stopped stop _ cut _ (by rw [stop, h.stops]; rfl)]
        dsimp only
        rw [List.append_nil, sumD_append]
        have he := h.exact s c
        exact ⟨by show _ = _ - (osize sz size (cut s c).2.1 + _); omega, h.fit s c, h.rm_ge s c⟩
      · -- the child moves whole
        have hn : fitsBy sz size s c = some ⟨s.cap - sz.delta (size c), s.rm + sz.delta (size c)⟩ := by
          simp only [fitsBy, if_neg hd]
        rw [walk_fits stop _ cut s _ c cs hs' hn]
        dsimp only
        obtain ⟨h1, h2, h3⟩ := ih ⟨s.cap - sz.delta (size c), s.rm + sz.delta (size c)⟩
        dsimp only at h1 h2 h3
        rw [Int.max_eq_left (show (0 : Int) ≤ s.cap - sz.delta (size c) by omega)] at h2
        have hM := Int.le_max_left s.cap 0
        have hw := hf c
        have hg := delta_ge sz (size c)
        rw [sumD_cons, List.flatMap_cons, wsumBy_append]
        generalize max s.cap 0 = M at hM ⊢
        exact ⟨by omega, by omega, by omega⟩

/-- a node type `α` with children `κ` and own fields of measured size (instances below) -/
structure Level (α κ : Type) where
  kids : α → List κ
  /-- the node around other children -/
  set : α → List κ → α
  /-- encoded size of the node's own fields -/
  base : α → Nat
  kids_set : ∀ a l, kids (set a l) = l
  base_set : ∀ a l, base (set a l) = base a

namespace Level
variable {α κ : Type} (L : Level α κ)

def size (sz : Sizer) (csize : κ → Int) (a : α) : Int := sz.own (L.base a) + sumD sz csize (L.kids a)

def extract (sz : Sizer) (csize : κ → Int) (cut : St → κ → Option κ × Option κ × St) (cap : Int) (a : α) : α × α × Int :=
  (L.set a (walk stop (fitsBy sz csize) cut ⟨innerCap sz cap (L.size sz csize (L.set a [])), 0⟩ (L.kids a)).dest,
   L.set a (walk stop (fitsBy sz csize) cut ⟨innerCap sz cap (L.size sz csize (L.set a [])), 0⟩ (L.kids a)).rem,
   (walk stop (fitsBy sz csize) cut ⟨innerCap sz cap (L.size sz csize (L.set a [])), 0⟩ (L.kids a)).st.rm)

theorem size_set (sz : Sizer) (csize : κ → Int) (a : α) (l : List κ) :
    L.size sz csize (L.set a l) = sz.own (L.base a) + sumD sz csize l := by
  rw [size, L.kids_set, L.base_set]

/-- `F` = the node's flattening, `cf a` = that of the children of `a`; `n`, `cn` = the node counts -/
theorem moves {β : Type} {R : List β → List β → Prop} (m : Seq R) (sz : Sizer) (csize : κ → Int) (F : α → List β)
    (cf : α → κ → List β) (hF : ∀ a l, F (L.set a l) = l.flatMap (cf a)) (hk : ∀ a, F a = (L.kids a).flatMap (cf a))
    (n : α → Nat) (cn : κ → Nat) (hn : ∀ a l, n (L.set a l) = 1 + sumBy cn l) (hnk : ∀ a, n a = 1 + sumBy cn (L.kids a))
    (hcn : ∀ c, 0 < cn c) {cut : St → κ → Option κ × Option κ × St} (h : ∀ a, CutMoves R (cf a) cn cut) :
    Moves R F n (L.extract sz csize cut) := by
  refine ⟨fun cap a => ?_, fun cap a => ?_⟩
  · show R (F (L.set a _) ++ F (L.set a _)) (F a)
    rw [hF, hF, hk]
    exact (walk_moves m (h a) hcn _ _ _).1
  · have := (walk_moves m (h a) hcn (fitsBy sz csize) ⟨innerCap sz cap (L.size sz csize (L.set a [])), 0⟩ (L.kids a)).2
    show n (L.set a _) ≤ n a ∧ (_ → n (L.set a _) < n a)
    rw [hn, hnk]
    exact ⟨Nat.add_le_add_left this.1 1, fun h0 => Nat.add_lt_add_left (this.2 h0) 1⟩

theorem sized {β : Type} {sz : Sizer} {csize : κ → Int} (hsz : ∀ c, 0 ≤ csize c) {wt : β → Int} (F : α → List β)
    (cf : α → κ → List β) (hF : ∀ a l, F (L.set a l) = l.flatMap (cf a)) (hcf : ∀ a c, wsumBy wt (cf a c) ≤ csize c)
    {cut : St → κ → Option κ × Option κ × St} (h : ∀ a, CutSized sz csize (cf a) wt cut) :
    Sized sz (L.size sz csize) F wt (fun a => decide ((L.kids a).length > 0)) (L.extract sz csize cut) := by
  refine ⟨fun cap a => ?_, fun cap a hne => ?_, fun cap a => ?_⟩ <;>
    have hw := walk_sized (h a) (hcf a) ⟨innerCap sz cap (L.size sz csize (L.set a [])), 0⟩ (L.kids a)
  · simp only [extract, L.size_set] at hw ⊢
    simp only [size] at hw ⊢
    omega
  · simp only [extract, L.kids_set] at hne
    have hpos := fun hb => sumD_pos_of_ne sz hb csize hsz
      (walk stop (fitsBy sz csize) cut ⟨innerCap sz cap (L.size sz csize (L.set a [])), 0⟩ (L.kids a)).dest
      (fun h0 => by rw [h0] at hne; exact absurd (of_decide_eq_true hne) (Nat.lt_irrefl 0))
    simp only [extract, L.size_set, sumD_nil, Int.add_zero] at hw hpos ⊢
    exact frag_fits sz cap _ _ hpos (by omega)
  · show wsumBy wt (F (L.set a _)) ≤ _
    rw [hF]
    have h3 := hw.2.2
    rw [Int.sub_zero] at h3
    exact h3

end Level

def scopeLevel : Level Scope Item := ⟨(·.items), fun s l => { s with items := l }, (·.smeta.base), fun _ _ => rfl, fun _ _ => rfl⟩
def resLevel : Level Res Scope := ⟨(·.scopes), fun r l => { r with scopes := l }, (·.rmeta.base), fun _ _ => rfl, fun _ _ => rfl⟩
def mscopeLevel : Level MScope Metric :=
  ⟨(·.metrics), fun s l => { s with metrics := l }, (·.smeta.base), fun _ _ => rfl, fun _ _ => rfl⟩
/-- for `leaf_movesFirst` only: `extractPoints` is no `Level.extract` -/
def metricLevel : Level Metric Item := ⟨(·.points), fun m l => { m with points := l }, (·.mmeta.base), fun _ _ => rfl, fun _ _ => rfl⟩
def mresLevel : Level MRes MScope := ⟨(·.scopes), fun r l => { r with scopes := l }, (·.rmeta.base), fun _ _ => rfl, fun _ _ => rfl⟩

/-- `extractLogs` / `extractMetrics`: a payload has no fields of its own and no length prefix -/
def topExt {κ : Type} (sz : Sizer) (csize : κ → Int) (cut : St → κ → Option κ × Option κ × St) (cap : Int) (p : List κ) :
    List κ × List κ × Int :=
  ((walk stop (fitsBy sz csize) cut ⟨cap - sumD sz csize [], 0⟩ p).dest,
   (walk stop (fitsBy sz csize) cut ⟨cap - sumD sz csize [], 0⟩ p).rem,
   (walk stop (fitsBy sz csize) cut ⟨cap - sumD sz csize [], 0⟩ p).st.rm)

theorem top_moves {κ β : Type} {R : List β → List β → Prop} (m : Seq R) {f : κ → List β} {n : κ → Nat}
    {cut : St → κ → Option κ × Option κ × St} (h : CutMoves R f n cut) (hn : ∀ c, 0 < n c) (sz : Sizer) (csize : κ → Int) :
    Moves R (fun p => p.flatMap f) (sumBy n) (topExt sz csize cut) :=
  ⟨fun _ _ => (walk_moves m h hn _ _ _).1, fun _ _ => (walk_moves m h hn _ _ _).2⟩

theorem top_sized {κ β : Type} {sz : Sizer} {csize : κ → Int} {wt : β → Int} {f : κ → List β}
    {cut : St → κ → Option κ × Option κ × St} (h : CutSized sz csize f wt cut) (hf : ∀ c, wsumBy wt (f c) ≤ csize c)
    (cap : Int) (p : List κ) :
    sumD sz csize (topExt sz csize cut cap p).2.1 = sumD sz csize p - (topExt sz csize cut cap p).2.2 ∧
    (0 ≤ cap → sumD sz csize (topExt sz csize cut cap p).1 ≤ cap) ∧
    wsumBy wt ((topExt sz csize cut cap p).1.flatMap f) ≤ (topExt sz csize cut cap p).2.2 := by
  have hw := walk_sized h hf ⟨cap - sumD sz csize [], 0⟩ p
  simp only [topExt, sumD_nil, Int.sub_zero] at hw ⊢
  refine ⟨by omega, fun hc => ?_, hw.2.2⟩
  have := Int.le_max_right (walk stop (fitsBy sz csize) cut ⟨cap, 0⟩ p).st.cap 0
  have h2 := hw.2.1
  rw [Int.max_eq_left hc] at h2
  omega

end OtelVerif.C04

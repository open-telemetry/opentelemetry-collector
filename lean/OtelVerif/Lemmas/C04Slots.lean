import OtelVerif.Model.C04
/-! C04: what one label of the batcher does to the pending batch and the batches in flight (`slots`), once per operation
(`Started`, `Flushed`, `Finished`, `ConsumeStep`), and `pack` -/
namespace OtelVerif.C04

/-! ## the slots -/

/-- the pending batch and the in-flight batches, as (units, multiDone) -/
def BState.slots (s : BState) : List (Parts × List DoneObj) :=
  (match s.cur with | some b => [b] | none => []) ++ s.flights.map (fun f => (f.parts, f.dones))

theorem dones_eq_slots (s : BState) : s.dones = s.slots.flatMap (·.2) := by
  cases h : s.cur <;>
    simp only [BState.dones, BState.curDones, BState.slots, h, List.flatMap_append, List.flatMap_map, List.flatMap_cons,
      List.flatMap_nil, List.append_nil]

theorem slots_dones_mem (s : BState) (b : Parts × List DoneObj) (hb : b ∈ s.slots) : ∀ d ∈ b.2, d ∈ s.dones := by
  intro d hd
  rw [dones_eq_slots]
  exact List.mem_flatMap.mpr ⟨b, hb, hd⟩

theorem cur_mem_slots {s : BState} {b : Parts × List DoneObj} (h : s.cur = some b) : b ∈ s.slots := by
  simp only [BState.slots, h, List.mem_append, List.mem_singleton, true_or]

theorem flight_mem_slots {s : BState} {f : Flight} (h : f ∈ s.flights) : (f.parts, f.dones) ∈ s.slots :=
  List.mem_append.mpr (Or.inr (List.mem_map.mpr ⟨f, h, rfl⟩))

def BState.curParts (s : BState) : Parts := match s.cur with | some b => b.1 | none => []

theorem curParts_none {s : BState} (h : s.cur = none) : s.curParts = [] := by rw [BState.curParts, h]
theorem curParts_some {s : BState} {b : Parts × List DoneObj} (h : s.cur = some b) : s.curParts = b.1 := by rw [BState.curParts, h]
theorem curDones_none {s : BState} (h : s.cur = none) : s.curDones = [] := by rw [BState.curDones, h]
theorem curDones_some {s : BState} {b : Parts × List DoneObj} (h : s.cur = some b) : s.curDones = b.2 := by rw [BState.curDones, h]

theorem cur_none_eq {s : BState} (h : s.cur = none) : ({ s with cur := none } : BState) = s := by
  cases s; cases h; rfl

theorem slots_parts_eq (s : BState) : s.slots.flatMap (·.1) = s.curParts ++ s.flights.flatMap (·.parts) := by
  cases h : s.cur <;> simp only [BState.slots, BState.curParts, h, List.flatMap_append, List.flatMap_map, List.flatMap_cons,
    List.flatMap_nil, List.append_nil, List.nil_append]

theorem slots_nil_of_idle {s : BState} (hc : s.cur = none) (hf : s.flights = []) : s.slots = [] := by
  rw [BState.slots, hc, hf]; rfl

/-! ## flight ids -/

/-- flight ids are unique and below the next fresh one -/
def FOK (s : BState) : Prop := (s.flights.map (·.fid)).Nodup ∧ ∀ f ∈ s.flights, f.fid < s.nextF

theorem fok_init : FOK {} := ⟨List.nodup_nil, fun _ hf => (nomatch hf)⟩

theorem FOK.frame {s t : BState} (h : FOK s) (hf : t.flights = s.flights) (hn : t.nextF = s.nextF) : FOK t := by
  unfold FOK; rw [hf, hn]; exact h

/-! ## start, flush, finish -/

/-- what `start fl` does -/
structure Started (s s' : BState) (fl : List (Parts × List DoneObj)) : Prop where
  refs : s'.refs = s.refs
  cur : s'.cur = s.cur
  slots : s'.slots = s.slots ++ fl
  fok : FOK s → FOK s'

theorem start_spec (fl : List (Parts × List DoneObj)) : ∀ (s : BState), Started s (s.start fl) fl := by
  induction fl with
  | nil => intro s; exact ⟨rfl, rfl, (List.append_nil _).symm, id⟩
  | cons x xs ih =>
    intro s
    have := ih { s with flights := s.flights ++ [⟨s.nextF, x.1, x.2⟩], nextF := s.nextF + 1 }
    refine ⟨this.refs, this.cur, ?_, fun hf => this.fok ⟨?_, ?_⟩⟩
    · exact this.slots.trans (by simp only [BState.slots, List.map_append, List.map_cons, List.map_nil, List.append_assoc,
        List.singleton_append])
    · simp only [List.map_append, List.map_cons, List.map_nil]
      refine List.nodup_append.mpr ⟨hf.1, List.nodup_cons.mpr ⟨List.not_mem_nil, List.nodup_nil⟩, ?_⟩
      intro a ha b hb
      obtain ⟨f, hfm, rfl⟩ := List.mem_map.mp ha
      rw [List.mem_singleton.mp hb]
      exact Nat.ne_of_lt (hf.2 f hfm)
    · intro f hfm
      rcases List.mem_append.mp hfm with h | h
      · exact Nat.lt_succ_of_lt (hf.2 f h)
      · rw [List.mem_singleton.mp h]; exact Nat.lt_succ_self _

/-- what a flush does -/
structure Flushed (s s' : BState) : Prop where
  refs : s'.refs = s.refs
  cur : s'.cur = none
  slots : s'.slots.Perm s.slots
  fok : FOK s → FOK s'

theorem flush_step (s : BState) : Flushed s (s.flushCur.1.start s.flushCur.2) := by
  cases hcur : s.cur with
  | none =>
    have e : s.flushCur = (s, []) := by simp only [BState.flushCur, hcur]
    rw [e]
    exact ⟨rfl, hcur, List.Perm.refl _, id⟩
  | some b =>
    have e : s.flushCur = (({ s with cur := none } : BState), [b]) := by simp only [BState.flushCur, hcur]
    rw [e]
    have hst := start_spec [b] { s with cur := none }
    refine ⟨hst.refs, hst.cur, ?_, fun h => hst.fok (h.frame rfl rfl)⟩
    rw [hst.slots]
    simp only [BState.slots, hcur, List.nil_append]
    exact List.perm_append_comm

theorem perm_find_filter (fid : Nat) : ∀ (l : List Flight) (f : Flight), l.find? (fun g => g.fid = fid) = some f →
    (l.map (·.fid)).Nodup → l.Perm (f :: l.filter (fun g => g.fid ≠ fid)) := by
  intro l
  induction l with
  | nil => intro f h; cases h
  | cons a l ih =>
    intro f h hnd
    simp only [List.map_cons, List.nodup_cons] at hnd
    by_cases e : a.fid = fid
    · have hp : decide (a.fid = fid) = true := decide_eq_true e
      have hq : decide (a.fid ≠ fid) = false := decide_eq_false (fun x => x e)
      simp only [List.find?_cons, hp, Option.some.injEq] at h
      subst h
      have hrest : l.filter (fun g => decide (g.fid ≠ fid)) = l := by
        apply List.filter_eq_self.mpr
        intro g hg
        exact decide_eq_true (fun hh => hnd.1 (List.mem_map.mpr ⟨g, hg, hh.trans e.symm⟩))
      rw [List.filter_cons, hq, if_neg Bool.false_ne_true, hrest]
    · have hp : decide (a.fid = fid) = false := decide_eq_false e
      have hq : decide (a.fid ≠ fid) = true := decide_eq_true e
      simp only [List.find?_cons, hp] at h
      rw [List.filter_cons, hq, if_pos rfl]
      exact ((ih f h hnd.2).cons a).trans (List.Perm.swap f a _)

/-- what the end of flight `f` does -/
structure Finished (s : BState) (fid : Nat) (err : Err) (f : Flight) : Prop where
  found : s.flights.find? (fun f => f.fid = fid) = some f
  refs : (s.finish fid err).1.refs = (onDoneAll s.refs err f.dones).1
  fired : (s.finish fid err).2 = (onDoneAll s.refs err f.dones).2
  cur : (s.finish fid err).1.cur = s.cur
  slots : s.slots.Perm ((f.parts, f.dones) :: (s.finish fid err).1.slots)
  fok : FOK (s.finish fid err).1

theorem finish_step (s : BState) (fid : Nat) (err : Err) (hok : FOK s) :
    (s.flights.find? (fun f => f.fid = fid) = none ∧ s.finish fid err = (s, [])) ∨ ∃ f, Finished s fid err f := by
  cases hfind : s.flights.find? (fun f => f.fid = fid) with
  | none => exact Or.inl ⟨rfl, by simp only [BState.finish, hfind]⟩
  | some f =>
    have e : s.finish fid err =
        (({ s with refs := (onDoneAll s.refs err f.dones).1, flights := s.flights.filter (fun g => g.fid ≠ fid) } : BState),
          (onDoneAll s.refs err f.dones).2) := by
      simp only [BState.finish, hfind]
    refine Or.inr ⟨f, hfind, by rw [e], by rw [e], by rw [e], ?_, ?_⟩
    · rw [e]
      have hp := (perm_find_filter fid s.flights f hfind hok.1).map (fun f => (f.parts, f.dones))
      simp only [BState.slots]
      exact (List.Perm.append_left _ hp).trans List.perm_middle
    · rw [e]
      exact ⟨List.Nodup.sublist (List.Sublist.map _ List.filter_sublist) hok.1, fun g hg => hok.2 g (List.mem_filter.mp hg).1⟩

/-! ## `pack` -/

theorem Parts.items_cons (u : Nat × Nat) (p : Parts) : Parts.items (u :: p) = u.2 + Parts.items p := rfl

theorem Parts.count_append (a b : Parts) : Parts.count (a ++ b) = Parts.count a + Parts.count b := by
  simp only [Parts.count, List.filter_append, List.length_append]

theorem Parts.count_zero_no_pos (p : Parts) (h : Parts.count p = 0) : ∀ u ∈ p, ¬ 0 < u.2 := by
  intro u hu hp
  have hm : u ∈ p.filter (fun u => decide (u.2 > 0)) := List.mem_filter.mpr ⟨hu, decide_eq_true hp⟩
  rw [List.eq_nil_of_length_eq_zero h] at hm
  cases hm

theorem pack_head (max : Nat) : ∀ (all acc : Parts) (room : Nat),
    ∃ pre chs, pack max all acc room = (acc.reverse ++ pre) :: chs := by
  intro all
  induction all with
  | nil => intro acc room; exact ⟨[], [], by simp only [pack, List.append_nil]⟩
  | cons x rest ih =>
    intro acc room
    obtain ⟨id, n⟩ := x
    simp only [pack]
    split
    · exact ⟨[], _, by rw [List.append_nil]⟩
    · obtain ⟨pre, chs, h⟩ := ih ((id, n) :: acc) (room - n)
      exact ⟨(id, n) :: pre, chs, by rw [h, List.reverse_cons, List.append_assoc]; rfl⟩

theorem pack_fits (max : Nat) (units : Parts) : ∀ (cur acc : Parts) (room : Nat), cur.items ≤ room →
    pack max (cur ++ units) acc room = pack max units (cur.reverse ++ acc) (room - cur.items) := by
  intro cur
  induction cur with
  | nil => intro acc room _; rfl
  | cons x rest ih =>
    intro acc room h
    obtain ⟨id, n⟩ := x
    rw [Parts.items_cons] at h ⊢
    have hn : (decide (n > room) && !acc.isEmpty) = false := by
      rw [decide_eq_false (Nat.not_lt.mpr (Nat.le_trans (Nat.le_add_right _ _) h))]; rfl
    simp only [List.cons_append, pack, hn, Bool.false_eq_true, if_false]
    rw [ih ((id, n) :: acc) (room - n) (Nat.le_sub_of_add_le' h), Nat.sub_sub, List.reverse_cons, List.append_assoc]
    rfl

theorem pack_flatten (max : Nat) : ∀ (all acc : Parts) (room : Nat), (pack max all acc room).flatten = acc.reverse ++ all := by
  intro all
  induction all with
  | nil => intro acc room; simp only [pack, List.flatten_cons, List.flatten_nil]
  | cons x rest ih =>
    intro acc room
    obtain ⟨id, n⟩ := x
    simp only [pack]
    split
    · rw [List.flatten_cons, ih]; rfl
    · rw [ih, List.reverse_cons, List.append_assoc]; rfl

theorem pack_nonempty (max : Nat) : ∀ (all acc : Parts) (room : Nat), (acc ≠ [] ∨ all ≠ []) →
    ∀ ch ∈ pack max all acc room, ch ≠ [] := by
  intro all
  induction all with
  | nil =>
    intro acc room h ch hch
    simp only [pack, List.mem_singleton] at hch
    subst hch
    rcases h with h | h
    · exact fun e => h (List.reverse_eq_nil_iff.mp e)
    · exact absurd rfl h
  | cons x rest ih =>
    intro acc room _ ch hch
    obtain ⟨id, n⟩ := x
    simp only [pack] at hch
    split at hch
    · rename_i hc
      rcases List.mem_cons.mp hch with h | h
      · subst h
        simp only [Bool.and_eq_true, Bool.not_eq_true', List.isEmpty_eq_false_iff] at hc
        exact fun e => hc.2 (List.reverse_eq_nil_iff.mp e)
      · exact ih _ _ (Or.inl (List.cons_ne_nil _ _)) ch h
    · exact ih _ _ (Or.inl (List.cons_ne_nil _ _)) ch hch

theorem partsMergeSplit_flatten (max : Nat) (a b : Parts) : (partsMergeSplit max a b).flatten = a ++ b := by
  simp only [partsMergeSplit]
  split
  · simp only [List.flatten_cons, List.flatten_nil, List.append_nil]
  · rw [pack_flatten]; rfl

theorem partsMergeSplit_nonempty (max : Nat) (a b : Parts) (h : a ++ b ≠ []) : ∀ ch ∈ partsMergeSplit max a b, ch ≠ [] := by
  intro ch hch
  simp only [partsMergeSplit] at hch
  split at hch
  · rw [List.mem_singleton.mp hch]; exact h
  · exact pack_nonempty max (a ++ b) [] max (Or.inr h) ch hch

theorem partsMergeSplit_shape (max : Nat) (cur units : Parts) (hfit : max = 0 ∨ cur.items ≤ max) :
    ∃ pre chs, partsMergeSplit max cur units = (cur ++ pre) :: chs ∧ units = pre ++ chs.flatten := by
  have hfl := partsMergeSplit_flatten max cur units
  have key : ∃ pre chs, partsMergeSplit max cur units = (cur ++ pre) :: chs := by
    simp only [partsMergeSplit]
    by_cases h0 : (max == 0) = true
    · rw [if_pos h0]; exact ⟨units, [], rfl⟩
    · rw [if_neg h0]
      have hm : cur.items ≤ max := hfit.resolve_left (fun h => h0 (by rw [h]; rfl))
      rw [pack_fits max units cur [] max hm]
      obtain ⟨pre, chs, h⟩ := pack_head max units (cur.reverse ++ []) (max - cur.items)
      exact ⟨pre, chs, by rw [h, List.append_nil, List.reverse_reverse]⟩
  obtain ⟨pre, chs, h⟩ := key
  refine ⟨pre, chs, h, ?_⟩
  rw [h, List.flatten_cons, List.append_assoc] at hfl
  exact (List.append_cancel_left hfl).symm

theorem partsMergeSplit_cons (max : Nat) (a b : Parts) : ∃ first chs, partsMergeSplit max a b = first :: chs := by
  simp only [partsMergeSplit]
  split
  · exact ⟨_, [], rfl⟩
  · obtain ⟨pre, chs, h⟩ := pack_head max (a ++ b) [] max
    exact ⟨_, chs, h⟩

/-! ## `Consume` -/

theorem mkDone_frame (s : BState) (id n : Nat) :
    (s.mkDone id n).1.flights = s.flights ∧ (s.mkDone id n).1.nextF = s.nextF ∧ (s.mkDone id n).1.cur = s.cur := by
  simp only [BState.mkDone]; split <;> exact ⟨rfl, rfl, rfl⟩

theorem dropLast_getLastD (l : List Parts) (h : l ≠ []) : l.dropLast ++ [l.getLast?.getD []] = l := by
  rw [List.getLast?_eq_some_getLast h]
  exact List.dropLast_concat_getLast h

theorem start_slots_of {t m1 : BState} (fl : List (Parts × List DoneObj)) (hf : t.flights = m1.flights) :
    (t.start fl).slots = (match t.cur with | some b => [b] | none => []) ++
      (m1.flights.map (fun f => (f.parts, f.dones)) ++ fl) := by
  rw [(start_spec fl t).slots, BState.slots, hf, List.append_assoc]

theorem consumeMerge_frame (m1 : BState) (d : DoneObj) (dones : List DoneObj) (fhn ff small : Bool) (first last : Parts)
    (rest : List Parts) :
    (consumeMerge m1 d dones fhn ff small first last rest).1.flights = m1.flights ∧
    (consumeMerge m1 d dones fhn ff small first last rest).1.nextF = m1.nextF ∧
    (consumeMerge m1 d dones fhn ff small first last rest).1.refs = m1.refs ∧
    (consumeMerge m1 d dones fhn ff small first last rest).1.cur =
      (if small then some (last, [d]) else if ff then none else some (first, if fhn then dones ++ [d] else dones)) ∧
    (consumeMerge m1 d dones fhn ff small first last rest).2 =
      (if ff then [(first, if fhn then dones ++ [d] else dones)] else []) ++
        (if small then rest.dropLast else rest).map (fun r => (r, [d])) := by
  cases ff <;> cases small <;> exact ⟨rfl, rfl, rfl, rfl, rfl⟩

theorem consumeMerge_step (m1 : BState) (d : DoneObj) (dones : List DoneObj) (fhn ff small : Bool) (first : Parts)
    (chs : List Parts) (min : Nat)
    (hff : ff = (decide (chs.length + 1 > 1) || decide (first.items ≥ min)))
    (hsm : small = (decide (chs.length > 0) && decide ((chs.getLast?.getD []).items < min)))
    (s' : BState) (hs' : s' = (consumeMerge m1 d dones fhn ff small first (chs.getLast?.getD []) chs).1.start
      (consumeMerge m1 d dones fhn ff small first (chs.getLast?.getD []) chs).2) :
    s'.refs = m1.refs ∧
    s'.slots.Perm ((first, dones ++ if fhn then [d] else []) :: (m1.flights.map (fun f => (f.parts, f.dones)) ++
      chs.map (fun r => (r, [d])))) ∧
    (∀ b, s'.cur = some b → b.1.items < min) ∧ (FOK m1 → FOK s') := by
  have hfr := consumeMerge_frame m1 d dones fhn ff small first (chs.getLast?.getD []) chs
  have hst := start_spec (consumeMerge m1 d dones fhn ff small first (chs.getLast?.getD []) chs).2
    (consumeMerge m1 d dones fhn ff small first (chs.getLast?.getD []) chs).1
  have hdn : (if fhn then dones ++ [d] else dones) = dones ++ if fhn then [d] else [] := by
    cases fhn
    · exact (List.append_nil _).symm
    · rfl
  refine ⟨by rw [hs', hst.refs, hfr.2.2.1], ?_, ?_, fun h => by rw [hs']; exact hst.fok (h.frame hfr.1 hfr.2.1)⟩
  · rw [hs', start_slots_of _ hfr.1, hfr.2.2.2.1, hfr.2.2.2.2, hdn]
    generalize (first, dones ++ if fhn then [d] else []) = y
    generalize m1.flights.map (fun f => (f.parts, f.dones)) = F
    cases chs with
    | nil =>
      have hs0 : small = false := hsm
      subst hs0
      cases ff with
      | false => exact List.Perm.refl _
      | true =>
        show (F ++ y :: []).Perm (y :: (F ++ []))
        exact List.perm_middle
    | cons a as =>
      have hd : decide ((a :: as).length + 1 > 1) = true := decide_eq_true (Nat.succ_lt_succ (Nat.succ_pos _))
      have hf1 : ff = true := by rw [hff, hd]; rfl
      subst hf1
      cases small with
      | false =>
        show (F ++ y :: (a :: as).map (fun r => (r, [d]))).Perm _
        exact List.perm_middle
      | true =>
        -- the last result stays pending: the slots are the same, with it at the front
        conv => rhs; rw [← dropLast_getLastD (a :: as) (List.cons_ne_nil _ _), List.map_append]
        show (((a :: as).getLast?.getD [], [d]) :: (F ++ y :: (a :: as).dropLast.map (fun r => (r, [d])))).Perm _
        refine (List.perm_append_singleton _ _).symm.trans ?_
        rw [List.append_assoc, List.cons_append]
        exact List.perm_middle
  · intro b hb
    rw [hs', hst.cur, hfr.2.2.2.1] at hb
    cases small with
    | true =>
      rw [if_pos rfl] at hb
      have h2 := (Bool.and_eq_true _ _).mp hsm.symm
      rw [← Option.some.inj hb]
      exact of_decide_eq_true h2.2
    | false =>
      cases ff with
      | true => cases hb
      | false =>
        rw [if_neg Bool.false_ne_true, if_neg Bool.false_ne_true] at hb
        have h2 := (Bool.or_eq_false_iff.mp hff.symm).2
        rw [← Option.some.inj hb]
        exact Nat.lt_of_not_le (of_decide_eq_false h2)

/-- one `Consume` of request `id` on the slots, both paths: merging the request into the pending units (none when nothing is
pending) gives `first :: chs`; `first` replaces the pending batch, keeps its `Done`s and is handed `ds` (`[d]`, or nothing when no
counted unit of the request went into it); every further result is a new slot holding `d` alone -/
structure ConsumeStep (c : BCfg) (s s' : BState) (id : Nat) (units : Parts) (k : Nat) (first : Parts) (chs : List Parts)
    (ds : List DoneObj) : Prop where
  kpos : 0 < k
  keq : k = ds.length + chs.length
  handed : ds = [] ∨ ds = [(s.mkDone id k).2]
  refs : s'.refs = (s.mkDone id k).1.refs
  split : partsMergeSplit c.max s.curParts units = first :: chs
  slots : s'.slots.Perm ((first, s.curDones ++ ds) :: (s.flights.map (fun f => (f.parts, f.dones)) ++
    chs.map (fun r => (r, [(s.mkDone id k).2]))))
  nonew : ds = [] → first.count ≤ s.curParts.count
  hasnew : ds ≠ [] → s.cur = none ∨ chs = [] ∨ s.curParts.count < first.count
  small : ∀ b, s'.cur = some b → b.1.items < c.min
  fok : FOK s → FOK s'

/-- both paths of `Consume` are `consumeMerge`: an idle batcher merges into nothing, with `firstHasNew` true -/
theorem consume_eq (c : BCfg) (s : BState) (id : Nat) (units first : Parts) (chs : List Parts)
    (hrl : partsMergeSplit c.max s.curParts units = first :: chs) (fhn ff small : Bool) (k : Nat)
    (hfhn : fhn = (s.cur.isNone || (chs.length + 1 == 1 || decide (first.count > s.curParts.count))))
    (hff : ff = (decide (chs.length + 1 > 1) || decide (first.items ≥ c.min)))
    (hsm : small = (decide (chs.length > 0) && decide ((chs.getLast?.getD []).items < c.min)))
    (hk : k = if fhn then chs.length + 1 else chs.length + 1 - 1) :
    s.consume c id units =
      consumeMerge (s.mkDone id k).1 (s.mkDone id k).2 s.curDones fhn ff small first (chs.getLast?.getD []) chs := by
  cases hcur : s.cur with
  | some b =>
    obtain ⟨cur, dones⟩ := b
    rw [curParts_some hcur] at hrl hfhn
    rw [hcur] at hfhn
    subst hfhn hff hsm hk
    simp only [BState.consume, hcur, curDones_some hcur]
    rw [hrl]
    rfl
  | none =>
    rw [curParts_none hcur] at hrl
    rw [hcur] at hfhn
    have hf : fhn = true := hfhn
    subst hf
    rw [if_pos rfl] at hk
    subst hk
    have hrl' : partsMergeSplit c.max units [] = first :: chs := by
      rw [← hrl]; simp only [partsMergeSplit, List.append_nil, List.nil_append]
    have hmc : (s.mkDone id (chs.length + 1)).1.cur = none := (mkDone_frame s id _).2.2.trans hcur
    simp only [BState.consume, hcur, curDones_none hcur, hrl', List.length_cons]
    cases chs with
    | nil =>
      have hs0 : small = false := hsm
      subst hs0 hff
      by_cases hm : first.items < c.min
      · simp [consumeMerge, hm, Nat.not_le.mpr hm]
      · simp [consumeMerge, hm, Nat.not_lt.mp hm]
        exact (cur_none_eq hmc).symm
    | cons a as =>
      have hf1 : ff = true := by rw [hff]; simp
      subst hf1 hsm
      rw [List.getLast?_cons_cons]
      by_cases hm : ((a :: as).getLast?.getD []).items < c.min
      · simp [consumeMerge, hm]
      · simp [consumeMerge, hm]
        exact (cur_none_eq hmc).symm

theorem consume_step (c : BCfg) (s : BState) (id : Nat) (units : Parts) :
    ∃ k first chs ds, ConsumeStep c s ((s.consume c id units).1.start (s.consume c id units).2) id units k first chs ds := by
  obtain ⟨first, chs, hrl⟩ := partsMergeSplit_cons c.max s.curParts units
  obtain ⟨fhn, hfhn⟩ : ∃ fhn, fhn = (s.cur.isNone || (chs.length + 1 == 1 || decide (first.count > s.curParts.count))) := ⟨_, rfl⟩
  obtain ⟨ff, hff⟩ : ∃ ff, ff = (decide (chs.length + 1 > 1) || decide (first.items ≥ c.min)) := ⟨_, rfl⟩
  obtain ⟨small, hsm⟩ : ∃ sm, sm = (decide (chs.length > 0) && decide ((chs.getLast?.getD []).items < c.min)) := ⟨_, rfl⟩
  obtain ⟨k, hk⟩ : ∃ k, k = if fhn then chs.length + 1 else chs.length + 1 - 1 := ⟨_, rfl⟩
  rw [consume_eq c s id units first chs hrl fhn ff small k hfhn hff hsm hk]
  have hmf := mkDone_frame s id k
  obtain ⟨h1, h2, h3, h4⟩ := consumeMerge_step (s.mkDone id k).1 (s.mkDone id k).2 s.curDones fhn ff small first chs c.min hff hsm _ rfl
  rw [hmf.1] at h2
  refine ⟨k, first, chs, if fhn then [(s.mkDone id k).2] else [], ?_⟩
  cases fhn with
  | false =>
    obtain ⟨_, h6⟩ := Bool.or_eq_false_iff.mp hfhn.symm
    obtain ⟨h7, h8⟩ := Bool.or_eq_false_iff.mp h6
    have hne : chs ≠ [] := fun e => by rw [e] at h7; exact absurd h7 (by decide)
    exact {
      kpos := hk ▸ List.length_pos_iff.mpr hne
      keq := hk ▸ (Nat.zero_add _).symm
      handed := Or.inl rfl
      refs := h1
      split := hrl
      slots := h2
      nonew := fun _ => Nat.le_of_not_lt (of_decide_eq_false h8)
      hasnew := fun h => absurd rfl h
      small := h3
      fok := fun h => h4 (h.frame hmf.1 hmf.2.1) }
  | true =>
    exact {
      kpos := hk ▸ Nat.succ_pos _
      keq := hk ▸ Nat.add_comm _ _
      handed := Or.inr rfl
      refs := h1
      split := hrl
      slots := h2
      nonew := fun h => nomatch h
      hasnew := fun _ => by
        rcases (Bool.or_eq_true _ _).mp hfhn.symm with h | h
        · exact Or.inl (Option.isNone_iff_eq_none.mp h)
        · rcases (Bool.or_eq_true _ _).mp h with h | h
          · exact Or.inr (Or.inl (List.eq_nil_of_length_eq_zero (Nat.succ.inj (eq_of_beq h))))
          · exact Or.inr (Or.inr (of_decide_eq_true h))
      small := h3
      fok := fun h => h4 (h.frame hmf.1 hmf.2.1) }

/-! ## from a `ConsumeStep` -/

theorem flatMap_const_dones (l : List Parts) (d : DoneObj) :
    (l.map (fun r => (r, [d]))).flatMap (·.2) = List.replicate l.length d := by
  induction l with
  | nil => rfl
  | cons a l ih => rw [List.map_cons, List.flatMap_cons, ih]; rfl

theorem replicate_handed (d : DoneObj) (ds : List DoneObj) (n k : Nat) (hk : k = ds.length + n) (hd : ds = [] ∨ ds = [d]) :
    ds ++ List.replicate n d = List.replicate k d := by
  subst hk
  rcases hd with e | e
  · rw [e, List.length_nil, Nat.zero_add]; rfl
  · rw [e, List.length_singleton, Nat.add_comm, List.replicate_succ]; rfl

theorem ConsumeStep.chunks {c : BCfg} {s s' : BState} {id : Nat} {units : Parts} {k : Nat} {first : Parts} {chs : List Parts}
    {ds : List DoneObj} (h : ConsumeStep c s s' id units k first chs ds) (hu : units ≠ []) : ∀ ch ∈ first :: chs, ch ≠ [] :=
  h.split ▸ partsMergeSplit_nonempty c.max s.curParts units (fun e => hu (List.append_eq_nil_iff.mp e).2)

theorem ConsumeStep.mem_slots {c : BCfg} {s s' : BState} {id : Nat} {units : Parts} {k : Nat} {first : Parts} {chs : List Parts}
    {ds : List DoneObj} (h : ConsumeStep c s s' id units k first chs ds) {b : Parts × List DoneObj} (hb : b ∈ s'.slots) :
    b = (first, s.curDones ++ ds) ∨ b ∈ s.slots ∨ ∃ ch ∈ chs, b = (ch, [(s.mkDone id k).2]) := by
  rcases List.mem_cons.mp (h.slots.mem_iff.mp hb) with e | hm
  · exact Or.inl e
  · rcases List.mem_append.mp hm with hm | hm
    · obtain ⟨f, hf, e⟩ := List.mem_map.mp hm
      exact Or.inr (Or.inl (e ▸ flight_mem_slots hf))
    · obtain ⟨ch, hch, e⟩ := List.mem_map.mp hm
      exact Or.inr (Or.inr ⟨ch, hch, e.symm⟩)

theorem ConsumeStep.dones {c : BCfg} {s s' : BState} {id : Nat} {units : Parts} {k : Nat} {first : Parts} {chs : List Parts}
    {ds : List DoneObj} (h : ConsumeStep c s s' id units k first chs ds) :
    s'.dones.Perm (s.dones ++ List.replicate k (s.mkDone id k).2) := by
  rw [dones_eq_slots s']
  refine (h.slots.flatMap_right _).trans ?_
  rw [List.flatMap_cons, List.flatMap_append, flatMap_const_dones, List.flatMap_map,
    ← replicate_handed _ ds chs.length k h.keq h.handed]
  rw [BState.dones, List.append_assoc, List.append_assoc]
  exact List.Perm.append_left _ (List.perm_append_comm_assoc _ _ _)

theorem ConsumeStep.prefix {c : BCfg} {s s' : BState} {id : Nat} {units : Parts} {k : Nat} {first : Parts} {chs : List Parts}
    {ds : List DoneObj} (h : ConsumeStep c s s' id units k first chs ds) (hv : c.max = 0 ∨ c.min ≤ c.max)
    (hsm : ∀ b, s.cur = some b → b.1.items < c.min) :
    ∃ pre, units = pre ++ chs.flatten ∧ first = s.curParts ++ pre ∧ (ds = [] → pre.count = 0) ∧
      (ds ≠ [] → units ≠ [] → pre ≠ []) := by
  have hfit : c.max = 0 ∨ s.curParts.items ≤ c.max := by
    cases hc : s.cur with
    | none => exact Or.inr (by rw [curParts_none hc]; exact Nat.zero_le _)
    | some b0 =>
      rw [curParts_some hc]
      exact hv.imp (fun x => x) (fun hle => Nat.le_trans (Nat.le_of_lt (hsm b0 hc)) hle)
  obtain ⟨pre, chs', hsh, hun⟩ := partsMergeSplit_shape c.max s.curParts units hfit
  rw [h.split] at hsh
  obtain ⟨e1, rfl⟩ := List.cons.inj hsh
  refine ⟨pre, hun, e1, fun hd => ?_, fun hd hu hp => ?_⟩
  · have := h.nonew hd
    rw [e1, Parts.count_append] at this
    exact Nat.le_zero.mp (Nat.le_of_add_le_add_left (c := 0) this)
  · rw [hp, List.append_nil] at e1
    rw [hp, List.nil_append] at hun
    rcases h.hasnew hd with hn | e | e
    · -- nothing was pending: the first result is not empty
      have hcp : s.curParts = [] := curParts_none hn
      exact h.chunks hu first (List.mem_cons_self ..) (e1.trans hcp)
    · rw [e] at hun; exact hu hun
    · rw [e1] at e; exact Nat.lt_irrefl _ e

theorem flatMap_const_parts (l : List Parts) (d : DoneObj) : (l.map (fun r => (r, [d]))).flatMap (·.1) = l.flatten := by
  induction l with
  | nil => rfl
  | cons a l ih => rw [List.map_cons, List.flatMap_cons, ih]; rfl

theorem ConsumeStep.parts_perm {c : BCfg} {s s' : BState} {id : Nat} {units : Parts} {k : Nat} {first : Parts} {chs : List Parts}
    {ds : List DoneObj} (h : ConsumeStep c s s' id units k first chs ds) :
    (s'.slots.flatMap (·.1)).Perm (s.slots.flatMap (·.1) ++ units) := by
  refine (h.slots.flatMap_right _).trans ?_
  have hfl := partsMergeSplit_flatten c.max s.curParts units
  rw [h.split, List.flatten_cons] at hfl
  rw [List.flatMap_cons, List.flatMap_append, flatMap_const_parts, List.flatMap_map, slots_parts_eq, List.append_assoc]
  show (first ++ (s.flights.flatMap (·.parts) ++ chs.flatten)).Perm _
  refine (List.perm_append_comm_assoc _ _ _).trans ?_
  rw [hfl]
  exact List.perm_append_comm_assoc _ _ _

/-! ## every label -/

theorem bstep_fok (c : BCfg) (s : BState) (l : BLabel) (h : FOK s) : FOK (bstep c s l).1 := by
  cases l with
  | consume id units =>
    obtain ⟨k, first, chs, ds, hs⟩ := consume_step c s id units
    exact hs.fok h
  | flush => exact (flush_step s).fok h
  | finish fid err =>
    rcases finish_step s fid err h with ⟨_, e⟩ | ⟨f, hf⟩
    · show FOK (s.finish fid err).1
      rw [e]; exact h
    · exact hf.fok

theorem brun_cons (c : BCfg) (s : BState) (l : BLabel) (ls : List BLabel) :
    brun c s (l :: ls) = ((brun c (bstep c s l).1 ls).1, (bstep c s l).2 ++ (brun c (bstep c s l).1 ls).2) := rfl

end OtelVerif.C04

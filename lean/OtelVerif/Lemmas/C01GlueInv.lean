import OtelVerif.Lemmas.C01Glue
/-!
# C01 — the glue invariant is preserved by every glue label; the queue component of a glue run is a run of the queue machine
-/
namespace OtelVerif.C01

theorem fireG_crash (g : GCfg) : fireG g (.env .crash) = { qfire g .crash with cons := [], inOp := none } := rfl
theorem fireG_start (g : GCfg) : fireG g (.env .start) =
    (match g.q.ph with
     | .dead => { qfire g .start with cons := List.replicate g.gk.n .idle, inOp := none, stopCh := false }
     | _ => g) := rfl
theorem fireG_tick (g : GCfg) : fireG g (.env .tick) =
    (match g.q.ph, g.inOp with
     | .live _ (.readRet i r), some (j, .read) => { qfire g .tick with inOp := none, cons := g.cons.set j (.got i r) }
     | _, _ => settle (qfire g .tick)) := rfl
theorem fireG_offer (g : GCfg) (r : Req) : fireG g (.env (.offer r)) = settle (qfire g (.offer r)) := rfl
theorem fireG_shutdown (g : GCfg) : fireG g (.env .shutdown) = settle (qfire g .shutdown) := rfl
theorem fireG_wake (g : GCfg) : fireG g (.env .wake) = settle (qfire g .wake) := rfl
theorem fireG_cancel (g : GCfg) (j : Nat) : fireG g (.env (.cancel j)) = settle (qfire g (.cancel j)) := rfl
theorem fireG_promote (g : GCfg) (j : Nat) : fireG g (.env (.promote j)) = settle (qfire g (.promote j)) := rfl
theorem fireG_cRead (g : GCfg) (j : Nat) : fireG g (.cRead j) =
    (if g.inOp = none ∧ g.q.idle = true ∧ g.cons[j]? = some .idle then
       settle { qfire g .read with inOp := some (j, .read), cons := g.cons.set j .inQueue }
     else g) := rfl
theorem fireG_cInvoke (g : GCfg) (j : Nat) : fireG g (.cInvoke j) =
    (match g.cons[j]? with
     | some (.got i r) => { g with cons := g.cons.set j (.sending i r), invoked := r :: g.invoked }
     | _ => g) := rfl
theorem fireG_expRet (g : GCfg) (j : Nat) (res : ExpRes) : fireG g (.expRet j res) =
    (match g.cons[j]? with
     | some (.sending i r) =>
       let g1 := { g with returned := r :: g.returned }
       match res with
       | .ok => { g1 with cons := g.cons.set j (.ret i r none) }
       | .err t perm =>
         if g.gk.retry = false ∨ perm = true then { g1 with cons := g.cons.set j (.ret i r (some (permErr g.gk.retry t))) }
         else { g1 with cons := g.cons.set j (.backoff i r t) }
     | _ => g) := rfl
theorem fireG_backoffEnd (g : GCfg) (j : Nat) (why : BackoffEnd) : fireG g (.backoffEnd j why) =
    (match g.cons[j]? with
     | some (.backoff i r t) =>
       match why with
       | .exhausted => { g with cons := g.cons.set j (.ret i r (some (.wrap t))) }
       | .ctxDone => { g with cons := g.cons.set j (.ret i r (some (.wrap t))) }
       | .stop => if g.stopCh then { g with cons := g.cons.set j (.ret i r (some (.shutdown t))) } else g
       | .timer => { g with cons := g.cons.set j (.sending i r), invoked := r :: g.invoked }
     | _ => g) := rfl
theorem fireG_cDone (g : GCfg) (j : Nat) : fireG g (.cDone j) =
    (if g.inOp = none ∧ g.q.idle = true then
      match g.cons[j]? with
      | some (.ret i _ e) =>
        settle { qfire g (.done i (outcomeOf e)) with inOp := some (j, .done), cons := g.cons.set j .inQueue }
      | _ => g
    else g) := rfl

/-- the labels that the environment passes to the queue untouched are one case (`env`) -/
theorem fireG_cases {P : GLabel → GCfg → Prop} (g : GCfg) (l : GLabel)
    (skip : P l g)
    (crash : P (.env .crash) { qfire g .crash with cons := [], inOp := none })
    (start : g.q.ph = .dead →
      P (.env .start) { qfire g .start with cons := List.replicate g.gk.n .idle, inOp := none, stopCh := false })
    (ret : ∀ m i r j, g.q.ph = .live m (.readRet i r) → g.inOp = some (j, .read) →
      P (.env .tick) { qfire g .tick with inOp := none, cons := g.cons.set j (.got i r) })
    (env : ∀ l, (∀ i oc, l ≠ .done i oc) → l ≠ .crash → l ≠ .start → P (.env l) (settle (qfire g l)))
    (cRead : ∀ j, g.inOp = none ∧ g.q.idle = true ∧ g.cons[j]? = some .idle →
      P (.cRead j) (settle { qfire g .read with inOp := some (j, .read), cons := g.cons.set j .inQueue }))
    (cInvoke : ∀ j i r, g.cons[j]? = some (.got i r) →
      P (.cInvoke j) { g with cons := g.cons.set j (.sending i r), invoked := r :: g.invoked })
    (expOk : ∀ j i r, g.cons[j]? = some (.sending i r) →
      P (.expRet j .ok) { g with returned := r :: g.returned, cons := g.cons.set j (.ret i r none) })
    (expPerm : ∀ j i r t perm, g.cons[j]? = some (.sending i r) →
      P (.expRet j (.err t perm))
        { g with returned := r :: g.returned, cons := g.cons.set j (.ret i r (some (permErr g.gk.retry t))) })
    (expRetry : ∀ j i r t perm, g.cons[j]? = some (.sending i r) →
      P (.expRet j (.err t perm)) { g with returned := r :: g.returned, cons := g.cons.set j (.backoff i r t) })
    (boWrap : ∀ j i r t why, g.cons[j]? = some (.backoff i r t) →
      P (.backoffEnd j why) { g with cons := g.cons.set j (.ret i r (some (.wrap t))) })
    (boStop : ∀ j i r t, g.cons[j]? = some (.backoff i r t) → g.stopCh = true →
      P (.backoffEnd j .stop) { g with cons := g.cons.set j (.ret i r (some (.shutdown t))) })
    (boTimer : ∀ j i r t, g.cons[j]? = some (.backoff i r t) →
      P (.backoffEnd j .timer) { g with cons := g.cons.set j (.sending i r), invoked := r :: g.invoked })
    (cDone : ∀ j i r e, g.inOp = none ∧ g.q.idle = true → g.cons[j]? = some (.ret i r e) →
      P (.cDone j)
        (settle { qfire g (.done i (outcomeOf e)) with inOp := some (j, .done), cons := g.cons.set j .inQueue }))
    (rsShutdown : P .rsShutdown { g with stopCh := true }) : P l (fireG g l) := by
  -- the cases in the order of the definition of `fireG`, each followed by its "not enabled" case
  fun_cases fireG g l
  · exact skip
  · exact skip
  · exact crash
  · exact start ‹_›
  · exact skip
  · exact ret _ _ _ _ ‹_› ‹_›
  · exact env _ nofun nofun nofun
  · exact env _ ‹_› ‹_› ‹_›
  · exact cRead _ ‹_›
  · exact skip
  · exact cInvoke _ _ _ ‹_›
  · exact skip
  · exact expOk _ _ _ ‹_›
  · exact expPerm _ _ _ _ _ ‹_›
  · exact expRetry _ _ _ _ _ ‹_›
  · exact skip
  · exact boWrap _ _ _ _ _ ‹_›
  · exact boWrap _ _ _ _ _ ‹_›
  · exact boStop _ _ _ _ ‹_› ‹_›
  · exact skip
  · exact boTimer _ _ _ _ ‹_›
  · exact skip
  · exact cDone _ _ _ _ ‹_› ‹_›
  · exact skip
  · exact skip
  · exact rsShutdown

/-- one glue label fires at most one label of the queue machine, and records it; the settings stay -/
def QStep (g g' : GCfg) : Prop :=
  g'.gk = g.gk ∧ ((g'.q = g.q ∧ g'.emitted = g.emitted) ∨ ∃ l, g'.q = fire g.q l ∧ g'.emitted = l :: g.emitted)

theorem QStep.settle {g g' : GCfg} (h : QStep g g') : QStep g (settle g') := by
  obtain ⟨hq, he, _, _, _, hk⟩ := settle_q g'
  unfold QStep; rw [hq, he, hk]; exact h

theorem qstep_fireG (g : GCfg) (l : GLabel) : QStep g (fireG g l) := by
  have same : ∀ {g' : GCfg}, g'.gk = g.gk → g'.q = g.q → g'.emitted = g.emitted → QStep g g' :=
    fun hk hq he => ⟨hk, .inl ⟨hq, he⟩⟩
  have fired : ∀ {g' : GCfg} (l : Label), g'.gk = g.gk → g'.q = fire g.q l → g'.emitted = l :: g.emitted → QStep g g' :=
    fun l hk hq he => ⟨hk, .inr ⟨l, hq, he⟩⟩
  exact fireG_cases (P := fun _ g' => QStep g g') g l (skip := same rfl rfl rfl) (crash := fired .crash rfl rfl rfl)
    (start := fun _ => fired .start rfl rfl rfl) (ret := fun _ _ _ _ _ _ => fired .tick rfl rfl rfl)
    (env := fun l _ _ _ => QStep.settle (fired l rfl rfl rfl))
    (cRead := fun _ _ => QStep.settle (fired .read rfl rfl rfl))
    (cDone := fun _ i _ e _ _ => QStep.settle (fired (.done i (outcomeOf e)) rfl rfl rfl))
    (cInvoke := fun _ _ _ _ => same rfl rfl rfl) (expOk := fun _ _ _ _ => same rfl rfl rfl)
    (expPerm := fun _ _ _ _ _ _ => same rfl rfl rfl) (expRetry := fun _ _ _ _ _ _ => same rfl rfl rfl)
    (boWrap := fun _ _ _ _ _ _ => same rfl rfl rfl) (boStop := fun _ _ _ _ _ _ => same rfl rfl rfl)
    (boTimer := fun _ _ _ _ _ => same rfl rfl rfl) (rsShutdown := same rfl rfl rfl)

theorem refines_foldl (k : Conf) (ls : List GLabel) : ∀ g : GCfg, g.q = run k g.emitted.reverse →
    (ls.foldl fireG g).q = run k (ls.foldl fireG g).emitted.reverse := by
  induction ls with
  | nil => intro g h; exact h
  | cons l ls ih =>
    intro g h
    apply ih
    rcases (qstep_fireG g l).2 with ⟨hq, he⟩ | ⟨l', hq, he⟩
    · rw [hq, he]; exact h
    · rw [hq, he, h]; unfold run; rw [List.reverse_cons, List.foldl_append]; rfl

theorem fireG_gk (g : GCfg) (l : GLabel) : (fireG g l).gk = g.gk := (qstep_fireG g l).1

theorem foldl_gk (ls : List GLabel) (g : GCfg) : (ls.foldl fireG g).gk = g.gk :=
  List.foldlRecOn (motive := fun g' => g'.gk = g.gk) ls fireG rfl fun s h l _ => (fireG_gk s l).trans h

theorem GInv.init (gk : GConf) (k : Conf) : GInv (initG gk k) :=
  ⟨trivial, HeldOK.nil _, fun _ _ hj => of_replicate_idle (n := 0) trivial hj, nofun, nofun, nofun⟩

theorem GInv.fireG {g : GCfg} (h : GInv g) (l : GLabel) : GInv (fireG g l) := by
  have enter : ∀ {j : Nat} {p0 : CPc} {i : Nat} {r : Req}, g.cons[j]? = some p0 → p0.held = some (i, r) →
      GInv { g with cons := g.cons.set j (.sending i r), invoked := r :: g.invoked } := fun hj hp =>
    h.own hj hp.symm (fun _ hx => List.mem_cons_of_mem _ hx) (fun _ hx => hx)
      (fun x hx => List.mem_cons_of_mem _ (h.sub x hx)) List.mem_cons_self
  have back : ∀ {j i : Nat} {r : Req} {p' : CPc}, g.cons[j]? = some (.sending i r) → p'.held = some (i, r) →
      p'.backed g.invoked (r :: g.returned) →
      GInv { g with returned := r :: g.returned, cons := g.cons.set j p' } := fun hj hp hb =>
    h.own hj hp (fun _ hx => hx) (fun _ hx => List.mem_cons_of_mem _ hx)
      (fun x hx => (List.mem_cons.mp hx).elim (fun e => e ▸ h.backed _ _ hj) (h.sub x)) hb
  have stay : ∀ {j i : Nat} {r : Req} {t : ErrTree} (e : Option ErrTree), g.cons[j]? = some (.backoff i r t) →
      GInv { g with cons := g.cons.set j (.ret i r e) } := fun {j i r t} _ hj =>
    h.own hj rfl (fun _ hx => hx) (fun _ hx => hx) h.sub (h.backed j (.backoff i r t) hj)
  refine fireG_cases (P := fun _ g' => GInv g') g l (skip := h) (crash := ?crash) (start := ?start)
    (ret := fun _ _ _ j hph _ => h.ret hph j) (env := fun l hl hc hs => (h.qfire_env l hl hc hs).settle)
    (cRead := ?cRead) (cDone := ?cDone) (cInvoke := fun _ _ _ hj => enter hj rfl)
    (expOk := fun _ _ _ hj => back hj rfl List.mem_cons_self) (expPerm := fun _ _ _ _ _ hj => back hj rfl List.mem_cons_self)
    (expRetry := fun _ _ _ _ _ hj => back hj rfl List.mem_cons_self) (boWrap := fun _ _ _ _ _ hj => stay _ hj)
    (boStop := fun _ _ _ _ hj _ => stay _ hj) (boTimer := fun _ _ _ _ hj => enter hj rfl)
    (rsShutdown := ⟨h.out, h.held, h.backed, h.sub, h.fin, h.unk⟩)
  case crash => exact ⟨trivial, HeldOK.nil _, fun _ _ hj => of_replicate_idle (n := 0) trivial hj, h.sub, h.fin, h.unk⟩
  case start =>
    intro hph
    have e : fire g.q .start = doStart g.q := fire_start_dead hph
    unfold qfire; rw [e]
    exact ⟨OutInv.mk rfl ⟨List.nodup_nil, nofun, trivial⟩, HeldOK.replicate _ _,
      fun _ _ hj => of_replicate_idle trivial hj, h.sub, h.fin, nofun⟩
  case cRead =>
    intro j _
    have h1 := h.qfire_env .read nofun nofun nofun
    exact GInv.settle ⟨h1.out, h1.held.set_none j rfl, all_set h1.backed j trivial, h1.sub, h1.fin, h1.unk⟩
  case cDone =>
    -- goroutine j holds (i, r): it is pending, so `done` finds it
    intro j i r e hg hj
    obtain ⟨m, hph⟩ := idle_iff.mp hg.2
    have hheld := h.held
    rw [outstOf_live hph] at hheld
    obtain ⟨hres, hfin, hout⟩ :=
      done_pending (outcomeOf e) hph (lookup_of_mem_nodup (h.out.ok hph).nodup (hheld.mem j _ (i, r) hj rfl))
    refine GInv.settle ⟨outInv_fire h.out _, ?_, all_set h.backed j trivial, h.sub, ?_, ?_⟩
    · show HeldOK (g.cons.set j .inQueue) (outstOf (fire g.q (.done i (outcomeOf e))))
      rw [hout]; exact hheld.set_done hj rfl rfl
    · show ∀ x ∈ (fire g.q (.done i (outcomeOf e))).finalised, x ∈ g.returned
      rw [hfin]
      cases outcomeOf e with
      | final => exact fun x hx => (List.mem_cons.mp hx).elim (fun e => e ▸ h.backed j _ hj) (h.fin x)
      | shutdownErr => exact h.fin
    · show (fire g.q (.done i (outcomeOf e))).res ≠ .doneUnknown
      rw [hres]; nofun

theorem ginv_runG (gk : GConf) (k : Conf) (ls : List GLabel) : GInv (runG gk k ls) :=
  List.foldlRecOn (motive := GInv) ls fireG (GInv.init gk k) fun _ h l _ => h.fireG l

end OtelVerif.C01

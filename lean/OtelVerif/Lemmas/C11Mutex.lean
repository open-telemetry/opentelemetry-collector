import OtelVerif.Model.C11Mutex
import OtelVerif.Lemmas.C11Run
import OtelVerif.Lemmas.C11Crit
/-!
# C11 — the reporter mutex makes a report atomic

`mutex_atomic`: with the lock, every schedule delivers a prefix of — with the lock free, exactly — what the atomic reporter model
delivers for the calls in `Lock` order.  The lock argument is `Lemmas/C11Crit.lean`'s (`crit`, `sim`).
-/
namespace OtelVerif.C11.Mutex

/-! ## the atomic model depends on a reporter only through `cur` -/

def agree (r r' : Reporter) : Prop := ∀ i, r.cur i = r'.cur i

theorem agree_set (r r' : Reporter) (i : Inst) (s : St) (h : agree r r') : agree (r.set i s) (r'.set i s) := by
  intro j
  by_cases hj : j = i
  · subst hj; rw [Reporter.cur_set_same, Reporter.cur_set_same]
  · rw [Reporter.cur_set_other _ _ _ _ hj, Reporter.cur_set_other _ _ _ _ hj]; exact h j

theorem agree_set_self (r r' : Reporter) (i : Inst) (h : agree r r') : agree r (r'.set i (r'.cur i)) := by
  intro j
  by_cases hj : j = i
  · subst hj; rw [Reporter.cur_set_same]; exact h j
  · rw [Reporter.cur_set_other _ _ _ _ hj]; exact h j

theorem report_fst (r : Reporter) (i : Inst) (rep : Report) : (r.report i rep).1 = r.set i (step (r.cur i) rep).1 := rfl
theorem report_snd (r : Reporter) (i : Inst) (rep : Report) : (r.report i rep).2 = (step (r.cur i) rep).2 := rfl

theorem agree_report (r r' : Reporter) (i : Inst) (rep : Report) (h : agree r r') :
    agree (r.report i rep).1 (r'.report i rep).1 := by
  rw [report_fst, report_fst, h i]; exact agree_set _ _ _ _ h

theorem runAll_agree (r r' : Reporter) (ops : List (Inst × Report)) (h : agree r r') : r.runAll ops = r'.runAll ops := by
  induction ops generalizing r r' with
  | nil => rfl
  | cons op rest ih =>
    obtain ⟨i, rep⟩ := op
    simp only [Reporter.runAll, report_snd, h i]
    rw [ih _ _ (agree_report r r' i rep h)]

theorem after_cons (r : Reporter) (op : Inst × Report) (ops : List (Inst × Report)) :
    after r (op :: ops) = after (r.report op.1 op.2).1 ops := rfl

theorem after_append (r : Reporter) (a b : List (Inst × Report)) : after r (a ++ b) = after (after r a) b := by
  simp [after, List.foldl_append]

theorem after_agree (r r' : Reporter) (ops : List (Inst × Report)) (h : agree r r') : agree (after r ops) (after r' ops) := by
  induction ops generalizing r r' with
  | nil => exact h
  | cons op rest ih => rw [after_cons, after_cons]; exact ih _ _ (agree_report _ _ _ _ h)

theorem runAll_append (r : Reporter) (a b : List (Inst × Report)) :
    r.runAll (a ++ b) = r.runAll a ++ (after r a).runAll b := by
  induction a generalizing r with
  | nil => rfl
  | cons op rest ih =>
    obtain ⟨i, rep⟩ := op
    simp only [List.cons_append, Reporter.runAll, after_cons]
    cases (r.report i rep).2 <;> simp [ih]

theorem runAll_single (r : Reporter) (i : Inst) (rep : Report) :
    r.runAll [(i, rep)] = (step (r.cur i) rep).2.toList.map (fun e => (i, e)) := by
  simp only [Reporter.runAll, report_snd]
  cases (step (r.cur i) rep).2 <;> rfl

abbrev Sh := Reporter × List (Inst × St)

/-- the arms of `fire` between `Lock` and `Unlock` -/
def body : Inst × Report → Phase → Sh → Option (Phase × Sh)
  | (i, _), .locked, (rep, log) => some (.read (rep.cur i), rep, log)
  | (i, r), .read seen, (rep, log) => some (.wrote (step seen r).2, if (step seen r).2.isSome then rep.set i (step seen r).1 else rep, log)
  | (i, _), .wrote ev, (rep, log) => some (.notified, rep, log ++ ev.toList.map (fun e => (i, e)))
  | _, _, _ => none

def crit : Crit MState (Inst × Report) Phase Sh where
  idle := .idle
  locked := .locked
  body := body
  useLock := (·.useLock)
  threads s := s.threads.map fun th => (th.todo, th.phase)
  holder := (·.holder)
  sh s := (s.rep, s.log)
  hist := (·.hist)

theorem sim {s s' : MState} {t : Nat} (h : fire s t = some s') : crit.Step s t s' := by
  unfold fire at h
  cases hth : s.threads[t]? with
  | none => rw [hth] at h; cases h
  | some th =>
    obtain ⟨todo, ph⟩ := th
    rw [hth] at h
    cases todo with
    | nil => cases h
    | cons c rest =>
      have hth' : (crit.threads s)[t]? = some (c :: rest, ph) := by simp [crit, hth]
      obtain ⟨i, r⟩ := c
      cases ph with
      | idle =>
        dsimp only at h
        split at h
        · cases h
        · next hb => cases h; exact ⟨rfl, _, _, _, hth', Or.inl ⟨rfl, (Bool.not_eq_true _).mp hb, List.map_set, rfl, rfl, rfl⟩⟩
      | locked => cases h; exact ⟨rfl, _, _, _, hth', Or.inr (Or.inl ⟨nofun, _, rfl, List.map_set, rfl, rfl⟩)⟩
      | read seen => cases h; exact ⟨rfl, _, _, _, hth', Or.inr (Or.inl ⟨nofun, _, rfl, List.map_set, rfl, rfl⟩)⟩
      | wrote ev => cases h; exact ⟨rfl, _, _, _, hth', Or.inr (Or.inl ⟨nofun, _, rfl, List.map_set, rfl, rfl⟩)⟩
      | notified => cases h; exact ⟨rfl, _, _, _, hth', Or.inr (Or.inr ⟨nofun, rfl, List.map_set, rfl, rfl, rfl⟩)⟩

theorem busy : crit.Busy where
  locked := by simp [crit]
  body := by
    intro ⟨i, r⟩ ph ⟨rep, log⟩ ph' sh' h
    cases ph <;> cases h <;> simp [crit]

/-- `ops0` = the calls taken before the call `(i, r)` -/
def PhaseOk (ops0 : List (Inst × Report)) (i : Inst) (r : Report) (log : List (Inst × St)) (rep : Reporter) : Phase → Prop
  | .idle => False
  | .locked => log = Reporter.runAll {} ops0 ∧ agree rep (after {} ops0)
  | .read seen => log = Reporter.runAll {} ops0 ∧ agree rep (after {} ops0) ∧ seen = (after {} ops0).cur i
  | .wrote ev =>
    log = Reporter.runAll {} ops0 ∧ agree rep (after {} (ops0 ++ [(i, r)])) ∧ ev = (step ((after {} ops0).cur i) r).2
  | .notified => log = Reporter.runAll {} (ops0 ++ [(i, r)]) ∧ agree rep (after {} (ops0 ++ [(i, r)]))

def atomic : crit.Atomic where
  free cs sh := sh.2 = Reporter.runAll {} cs ∧ agree sh.1 (after {} cs)
  ok cs c ph sh := PhaseOk cs c.1 c.2 sh.2 sh.1 ph
  not_idle _ _ _ h := h
  enter _ _ _ h := h
  step := by
    intro cs ⟨i, r⟩ ph ⟨rep, log⟩ ph' sh' hok hb
    cases ph <;> cases hb <;> dsimp only at hok ⊢
    · exact ⟨hok.1, hok.2, hok.2 i⟩
    · -- the write: the decision was taken on the value read, which is still the current one
      obtain ⟨hl, ha, hseen⟩ := hok
      refine ⟨hl, ?_, by rw [hseen]⟩
      rw [after_append, after_cons, report_fst]
      show agree _ ((after {} cs).set i (step ((after {} cs).cur i) r).1)
      rw [← hseen]
      cases hsome : (step _ r).2 with
      | none =>
        simp only [Option.isSome_none, Bool.false_eq_true, if_false]
        rw [step_none_state _ _ hsome, hseen]
        exact agree_set_self _ _ _ ha
      | some e =>
        simp only [Option.isSome_some, if_true]
        exact agree_set _ _ _ _ ha
    · obtain ⟨hl, ha, hev⟩ := hok
      exact ⟨by rw [runAll_append, runAll_single, hl, hev], ha⟩
  exit := by
    intro cs ⟨i, r⟩ ph ⟨rep, log⟩ hok hb
    cases ph <;> simp only [crit, body, reduceCtorEq] at hb
    · exact hok.elim
    · exact hok
  pre cs sh := ∃ k, sh.2 = (Reporter.runAll {} cs).take k
  pre_free cs sh h := ⟨sh.2.length, by rw [← h.1]; simp⟩
  pre_ok := by
    intro cs ⟨i, r⟩ ph ⟨rep, log⟩ hok
    have hpre : log = Reporter.runAll {} cs → ∃ k, log = (Reporter.runAll {} (cs ++ [(i, r)])).take k :=
      fun hl => ⟨log.length, by rw [runAll_append, ← hl]; simp⟩
    cases ph with
    | idle => exact hok.elim
    | locked => exact hpre hok.1
    | read seen => exact hpre hok.1
    | wrote ev => exact hpre hok.1
    | notified => exact ⟨log.length, by rw [← hok.1]; simp⟩

theorem mutex_atomic (progs : List (List (Inst × Report))) (sched : List Nat) (s : MState)
    (h : runSched (init true progs) sched = some s) :
    (∀ (t : Nat) (th : Thread), s.threads[t]? = some th → ∃ done, progs[t]? = some (done ++ th.todo) ∧
        s.taken t = done ++ (if th.phase = Phase.idle then [] else th.todo.take 1)) ∧
    (s.holder = Option.none → s.log = Reporter.runAll {} s.ops ∧ ∀ i, s.rep.cur i = (after {} s.ops).cur i) ∧
    (∃ k, s.log = (Reporter.runAll {} s.ops).take k) := by
  let I := fun s : MState => crit.OrderInv progs s ∧ crit.Inv atomic s
  have hstep : ∀ s t s', I s → fire s t = some s' → I s' := fun s t s' hp hf => ⟨hp.1.step busy (sim hf), hp.2.step (sim hf)⟩
  have hth : crit.threads (init true progs) = progs.map fun p => (p, Phase.idle) := by simp [crit, init, Function.comp_def]
  have hbase : I (init true progs) :=
    ⟨crit.OrderInv_init _ progs hth rfl, crit.Inv_init atomic _ progs rfl rfl hth rfl ⟨rfl, fun _ => rfl⟩⟩
  obtain ⟨hA, hI⟩ := run_induction (f := fire) (run := runSched) (fun _ => rfl) (fun _ _ _ => rfl) (I := I) (ok := fun _ => True)
    (fun s t s' hp _ hf => hstep s t s' hp hf) sched _ s hbase (fun _ _ => trivial) h
  exact ⟨fun t th hth => hA t (th.todo, th.phase) (by simp [crit, hth]), hI.free, hI.pre⟩

end OtelVerif.C11.Mutex

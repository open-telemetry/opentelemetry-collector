import OtelVerif.Lemmas.C14Exp
/-! C14, fmt: one induction (`pv_ni`) for both shape classes — the tree is exported-only, and the verb is one `fmtPointer`
accepts or the tree is plain; `pa_ni_of` lifts it to `printArg` -/
namespace OtelVerif.C14

theorem methodsOf_const {td : TD} (hc : td.Const) (c : FmtCtx) (p : Bool) (s₁ s₂ : String) :
    methodsOf td c p s₁ = methodsOf td c p s₂ := by
  have key : ∀ {n m}, td.find n p = some m → m.result.eval s₁ = m.result.eval s₂ :=
    fun h => eval_const (hc _ (find_mem h)) s₁ s₂
  -- each branch of `methodsOf` is `some [⟨how, m.result.eval s⟩]` for a method of `td`, or `none`
  unfold methodsOf
  split
  · next h => rw [key h]
  · split
    · split
      · next h => rw [key h]
      · rfl
    · split
      · split
        · next h => rw [key h]
        · split
          · next h => rw [key h]
          · rfl
      · rfl

section
variable {td : TD} {c : FmtCtx} (hw : (c.verb == 'w') = false) (ρ : Nat → String) (top ci : Bool)
include hw

/-- the `%w` branch of `pv` is off -/
theorem pv_guard : (!top && ci && c.verb == 'w') = false := by rw [hw, Bool.and_false]

theorem pv_top : ∀ v : GV, (∀ i, v ≠ .opq i) → (∀ w, v ≠ .ptr w) → pv td c ρ true ci v = pv td c ρ false ci v
  | .opq i, h, _ => absurd rfl (h i)
  | .ptr w, _, h => absurd rfl (h w)
  | .str _, _, _ | .num _, _, _ | .nilv, _, _ | .nilSlice, _, _ | .nilMap, _, _ | .iface _, _, _ => rfl
  | .slice _, _, _ | .array _, _, _ | .map _, _, _ | .struct _, _, _ | .tm _ _ _, _, _ | .sh _ _, _, _ => by
    simp only [pv, pv_guard hw, Bool.false_eq_true, if_false]

end

theorem pv_top_ptr {td : TD} (c : FmtCtx) (ρ : Nat → String) {w : GV} (hq : w.isOpq = none) :
    pv td c ρ true true (.ptr w) = if w.isContainer then pv td c ρ false true w else [] := by
  cases hcn : w.isContainer <;>
    simp only [pv, rawLeaves, hq, hcn, Bool.not_true, Bool.false_and, Bool.and_false, Bool.and_true, Bool.false_eq_true, if_false,
      if_true, ite_self]

section
variable {td : TD} (hc : td.Const) (hF : (td.find "Format" false).isSome = true)
variable (c : FmtCtx) (hw : (c.verb == 'w') = false) (ρ₁ ρ₂ : Nat → String)
include hc

theorem methodsOf_some (p : Bool) (hp : (td.find "Format" p).isSome = true) (i : Nat) :
    ∃ l, methodsOf td c p (ρ₁ i) = some l ∧ methodsOf td c p (ρ₂ i) = some l := by
  rw [← methodsOf_const hc c p (ρ₁ i) (ρ₂ i)]
  unfold methodsOf
  cases h : td.find "Format" p with
  | some m => exact ⟨_, rfl, rfl⟩
  | none => simp [h] at hp

include hF hw
set_option linter.unusedSectionVars false  -- used in the recursive calls only

mutual
theorem pv_ni : ∀ v : GV, v.expIn = true → (pointerVerbs.contains c.verb = true ∨ v.plainIn = true) →
    pv td c ρ₁ false true v = pv td c ρ₂ false true v
  | .opq i, _, _ => by
    obtain ⟨l, h1, h2⟩ := methodsOf_some hc c ρ₁ ρ₂ false hF i
    simp only [pv, hw, h1, h2, Bool.not_false, Bool.and_self, Bool.false_and, if_true, Bool.false_eq_true, if_false,
      Option.getD_some]
  | .str _, _, _ | .num _, _, _ | .nilv, _, _ | .nilSlice, _, _ | .nilMap, _, _ => rfl
  | .ptr v, _, hp => by
    have hne : (c.verb != 'w') = true := by simp [bne, hw]
    cases hq : v.isOpq with
    | some i =>
      obtain ⟨l, h1, h2⟩ := methodsOf_some hc c ρ₁ ρ₂ true (find_mono hF) i
      simp only [pv, hq, hne, h1, h2, Bool.not_false, Bool.and_self, if_true]
    | none =>
      -- not plain: the verb is one `fmtPointer` accepts, and the address is all that is printed
      have hpv : pointerVerbs.contains c.verb = true := hp.resolve_right (by simp [GV.plainIn, hq])
      simp only [pv, hq, hw, hpv, Bool.not_false, Bool.and_false, Bool.false_and, Bool.false_eq_true, if_false, if_true]
  | .iface v, h, hp => pv_ni v h hp
  | .slice vs, h, hp | .array vs, h, hp => by
    simp only [pv, pv_guard hw, Bool.false_eq_true, if_false]; exact pvL_ni vs h hp
  | .map kvs, h, hp => by
    simp only [GV.expIn, GV.plainIn, Bool.and_eq_true] at h hp
    simp only [pv, pv_guard hw, Bool.false_eq_true, if_false]; exact pvKV_ni kvs h.2 (hp.imp_right And.right)
  | .struct fs, h, hp | .tm _ _ fs, h, hp | .sh _ fs, h, hp => by
    simp only [pv, pv_guard hw, Bool.false_eq_true, if_false]; exact pvF_ni fs h hp
theorem pvL_ni : ∀ vs : List GV, GV.expInL vs = true → (pointerVerbs.contains c.verb = true ∨ GV.plainInL vs = true) →
    pvL td c ρ₁ true vs = pvL td c ρ₂ true vs
  | [], _, _ => rfl
  | v :: vs, h, hp => by
    simp only [GV.expInL, GV.plainInL, Bool.and_eq_true] at h hp
    simp only [pvL, pv_ni v h.1 (hp.imp_right And.left), pvL_ni vs h.2 (hp.imp_right And.right)]
theorem pvKV_ni : ∀ kvs : List (GV × GV), GV.expInKV kvs = true →
    (pointerVerbs.contains c.verb = true ∨ GV.plainInKV kvs = true) → pvKV td c ρ₁ true kvs = pvKV td c ρ₂ true kvs
  | [], _, _ => rfl
  | (k, v) :: kvs, h, hp => by
    simp only [GV.expInKV, GV.plainInKV, Bool.and_eq_true] at h hp
    simp only [pvKV, pv_ni k h.1.1 (hp.imp_right (·.1.1)), pv_ni v h.1.2 (hp.imp_right (·.1.2)),
      pvKV_ni kvs h.2 (hp.imp_right And.right)]
theorem pvF_ni : ∀ fs : List (FieldInfo × GV), GV.expInF fs = true →
    (pointerVerbs.contains c.verb = true ∨ GV.plainInF fs = true) → pvF td c ρ₁ true fs = pvF td c ρ₂ true fs
  | [], _, _ => rfl
  | (fi, v) :: fs, h, hp => by
    simp only [GV.expInF, GV.plainInF, Bool.and_eq_true, Bool.or_eq_true] at h hp
    rcases h.1 with ⟨he, hv⟩ | hn
    · simp only [pvF, he, Bool.and_self, pv_ni v hv (hp.imp_right (·.1.2)), pvF_ni fs h.2 (hp.imp_right And.right)]
    · -- a field that holds no opaque string contributes no leaf
      simp only [pvF, pv_nil td c _ v false _ hn, pvF_ni fs h.2 (hp.imp_right And.right)]
end

theorem pa_ni_of (hp : (c.verb == 'p') = false) (v0 : GV)
    (hptr : ∀ u, v0.dyn = .ptr u → u.isContainer = true → pv td c ρ₁ false true u = pv td c ρ₂ false true u)
    (hval : (∀ u, v0.dyn ≠ .ptr u) → pv td c ρ₁ false true v0.dyn = pv td c ρ₂ false true v0.dyn) :
    pa td c ρ₁ v0 = pa td c ρ₂ v0 := by
  unfold pa
  simp only [hw, hp, Bool.false_and, Bool.false_eq_true, if_false]
  split
  · rfl
  · generalize v0.dyn = v at hptr hval
    split
    · next i =>
      obtain ⟨l, h1, h2⟩ := methodsOf_some hc c ρ₁ ρ₂ false hF i
      simp only [h1, h2, Option.getD_some]
    · next u =>
      split
      · next i _ =>
        obtain ⟨l, h1, h2⟩ := methodsOf_some hc c ρ₁ ρ₂ true (find_mono hF) i
        simp only [h1, h2, Option.getD_some]
      · next hq =>
        rw [pv_top_ptr c ρ₁ hq, pv_top_ptr c ρ₂ hq]
        split
        · next hcn => exact hptr u rfl hcn
        · rfl
    · next hno hnp =>
      rw [pv_top hw ρ₁ true v hno hnp, pv_top hw ρ₂ true v hno hnp]
      exact hval hnp

end
end OtelVerif.C14

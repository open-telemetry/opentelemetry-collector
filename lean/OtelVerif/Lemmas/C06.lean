import OtelVerif.Model.C06
/-! C06, flat model: the plan (who is handed what) and the heap under calls along ANY plan are kept apart; `runFan_spec` puts
them together. -/
namespace OtelVerif.C06

/-! ## a list fact; the index lists; `fanCap` -/

theorem pairwise_at_ne_index {α : Type} {R : α → α → Prop} (hs : ∀ a b, R a b → R b a) {l : List α} (h : l.Pairwise R)
    {i j : Nat} {a b : α} (hij : i ≠ j) (ha : l[i]? = some a) (hb : l[j]? = some b) : R a b := by
  obtain ⟨hi, rfl⟩ := List.getElem?_eq_some_iff.1 ha
  obtain ⟨hj, rfl⟩ := List.getElem?_eq_some_iff.1 hb
  rcases Nat.lt_or_gt_of_ne hij with hlt | hgt
  · exact (List.pairwise_iff_getElem.1 h) i j hi hj hlt
  · exact hs _ _ ((List.pairwise_iff_getElem.1 h) j i hj hi hgt)

theorem idxWhere_eq (b : Bool) (caps : List Bool) (s : Nat) :
    idxWhere b caps s = ((caps.zipIdx s).filter (·.1 == b)).map (·.2) := by
  induction caps generalizing s with
  | nil => rfl
  | cons c cs ih => by_cases hc : c = b <;> simp [idxWhere, hc, ih]

theorem idxWhere_mem (b : Bool) (caps : List Bool) (s i : Nat) :
    i ∈ idxWhere b caps s ↔ s ≤ i ∧ caps[i - s]? = some b := by
  rw [← List.mk_mem_zipIdx_iff_le_and_getElem?_sub, idxWhere_eq]
  simp only [List.mem_map, List.mem_filter, beq_iff_eq, Prod.exists, exists_eq_right]

theorem mem_mutableIdx (caps : List Bool) (i : Nat) : i ∈ mutableIdx caps ↔ caps[i]? = some true := by
  simp [mutableIdx, idxWhere_mem]

theorem mem_readonlyIdx (caps : List Bool) (i : Nat) : i ∈ readonlyIdx caps ↔ caps[i]? = some false := by
  simp [readonlyIdx, idxWhere_mem]

theorem idxWhere_perm (caps : List Bool) (s : Nat) :
    (idxWhere true caps s ++ idxWhere false caps s).Perm (List.range' s caps.length) := by
  have : (fun p : Bool × Nat => p.1 == false) = fun p => !(p.1 == true) := by funext p; cases p.1 <;> rfl
  rw [idxWhere_eq, idxWhere_eq, ← List.map_append, ← List.zipIdx_map_snd s caps, this]
  exact (List.filter_append_perm _ _).map _

theorem idxWhere_nodup (b : Bool) (caps : List Bool) (s : Nat) : (idxWhere b caps s).Nodup := by
  rw [idxWhere_eq]
  refine List.Nodup.sublist (List.filter_sublist.map _) ?_
  rw [List.zipIdx_map_snd]
  exact List.nodup_range'

theorem idxWhere_length (b : Bool) (caps : List Bool) (s : Nat) : (idxWhere b caps s).length = caps.count b := by
  have : caps.count b = List.countP (· == b) ((caps.zipIdx s).map Prod.fst) := by rw [List.zipIdx_map_fst]; rfl
  rw [idxWhere_eq, List.length_map, ← List.countP_eq_length_filter, this, List.countP_map]
  rfl

theorem idxWhere_isEmpty (b : Bool) (caps : List Bool) (s : Nat) : (idxWhere b caps s).isEmpty = !caps.contains b := by
  rw [Bool.eq_iff_iff, List.isEmpty_iff_length_eq_zero, idxWhere_length]
  simp [List.count_eq_zero]

theorem fanCap_eq (caps : List Bool) : fanCap caps = (caps.any id && !caps.any (!·)) := by
  have h1 : (fun x => true == x) = id := by funext c; cases c <;> rfl
  have h2 : (fun x => false == x) = (!·) := by funext c; cases c <;> rfl
  simp only [fanCap, mutableIdx, readonlyIdx, idxWhere_isEmpty, Bool.not_not, List.contains_eq_any_beq, h1, h2]

theorem fanCap_eq_true {caps : List Bool} : fanCap caps = true ↔ mutableIdx caps ≠ [] ∧ readonlyIdx caps = [] := by
  simp [fanCap, List.isEmpty_iff]

theorem fanCap_false (cs : List Bool) (h : fanCap cs = false) : cs.any (!·) = true ∨ cs.any id = false := by
  rw [fanCap_eq, Bool.and_eq_false_iff, Bool.not_eq_false'] at h
  exact h.symm

/-! ## the plan -/

theorem mutDeliveries_cons (L : Bool) (c : Nat) (m : List Nat) (k : Nat) :
    mutDeliveries L (c :: m) k = ⟨c, if m = [] ∧ L = true then .orig else .clone k⟩ :: mutDeliveries L m (k + 1) := by
  cases m with
  | nil => cases L <;> simp [mutDeliveries]
  | cons c' m' => simp [mutDeliveries]

theorem mutDeliveries_consumers (L : Bool) (m : List Nat) (k : Nat) : (mutDeliveries L m k).map (·.consumer) = m := by
  induction m generalizing k with
  | nil => rfl
  | cons c m ih => rw [mutDeliveries_cons, List.map_cons, ih]

theorem mutDeliveries_obj (L : Bool) (m : List Nat) (k : Nat) :
    ∀ d ∈ mutDeliveries L m k, (d.obj = .orig ∧ L = true) ∨ ∃ j, d.obj = .clone j ∧ k ≤ j := by
  induction m generalizing k with
  | nil => nofun
  | cons c m ih =>
    rw [mutDeliveries_cons]
    refine List.forall_mem_cons.2 ⟨?_, fun d hd => (ih (k + 1) d hd).imp_right fun ⟨j, hj, hk⟩ => ⟨j, hj, by omega⟩⟩
    split
    · exact Or.inl ⟨rfl, ‹_ ∧ _›.2⟩
    · exact Or.inr ⟨k, rfl, Nat.le_refl _⟩

theorem mutDeliveries_pairwise (L : Bool) (m : List Nat) (k : Nat) :
    (mutDeliveries L m k).Pairwise (fun a b => a.obj ≠ .orig ∧ a.obj ≠ b.obj) := by
  induction m generalizing k with
  | nil => exact .nil
  | cons c m ih =>
    rw [mutDeliveries_cons]
    refine List.pairwise_cons.2 ⟨fun d hd => ?_, ih (k + 1)⟩
    -- this one has a successor, so it is clone `k`; the later ones are the original or clones from `k + 1` on
    have hm : m ≠ [] := by rintro rfl; cases hd
    rw [if_neg fun h => hm h.1]
    refine ⟨nofun, ?_⟩
    rcases mutDeliveries_obj L m (k + 1) d hd with ⟨h, _⟩ | ⟨j, hj, hk⟩
    · simp [h]
    · simp only [hj, ne_eq, Obj.clone.injEq]; omega

theorem roDeliveries_consumers (r : List Nat) : (roDeliveries r).map (·.consumer) = r := by
  simp [roDeliveries, Function.comp_def]

theorem deliveries_consumers (caps : List Bool) (inputRO : Bool) :
    (deliveries caps inputRO).map (·.consumer) = mutableIdx caps ++ readonlyIdx caps := by
  rw [deliveries, List.map_append, mutDeliveries_consumers, roDeliveries_consumers]

theorem lastGetsOrig_eq_true {caps : List Bool} {inputRO : Bool} :
    lastGetsOrig caps inputRO = true ↔ readonlyIdx caps = [] ∧ inputRO = false := by
  simp [lastGetsOrig]

theorem mem_mutDeliveries_cap {caps : List Bool} {L : Bool} {k : Nat} {d : Delivery}
    (hd : d ∈ mutDeliveries L (mutableIdx caps) k) : caps[d.consumer]? = some true := by
  rw [← mem_mutableIdx, ← mutDeliveries_consumers L (mutableIdx caps) k]
  exact List.mem_map_of_mem hd

theorem mutDeliveries_true_orig {m : List Nat} (hm : m ≠ []) (k : Nat) : ∃ d ∈ mutDeliveries true m k, d.obj = .orig := by
  induction m generalizing k with
  | nil => exact absurd rfl hm
  | cons c m ih =>
    rw [mutDeliveries_cons]
    by_cases h : m = []
    · exact ⟨_, List.mem_cons_self, by simp [h]⟩
    · obtain ⟨d, hd, ho⟩ := ih h (k + 1)
      exact ⟨d, List.mem_cons_of_mem _ hd, ho⟩

theorem mutDeliveries_origCount (L : Bool) (m : List Nat) (k : Nat) :
    ((mutDeliveries L m k).filter (fun d => decide (d.obj = .orig))).length = if L && !m.isEmpty then 1 else 0 := by
  induction m generalizing k with
  | nil => simp [mutDeliveries]
  | cons c m ih =>
    have := ih (k + 1)
    rw [mutDeliveries_cons, List.filter_cons]
    -- only the last delivery can be the original, and it is iff `L`
    cases m <;> cases L <;> simp_all

theorem mem_deliveries {caps : List Bool} {inputRO : Bool} {d : Delivery} (hd : d ∈ deliveries caps inputRO) :
    (caps[d.consumer]? = some true ∧
      ((d.obj = .orig ∧ readonlyIdx caps = [] ∧ inputRO = false) ∨ ∃ j, d.obj = .clone j)) ∨
    (caps[d.consumer]? = some false ∧ d.obj = .orig) := by
  rcases List.mem_append.1 hd with hd | hd
  · exact Or.inl ⟨mem_mutDeliveries_cap hd,
      (mutDeliveries_obj _ _ _ d hd).imp (fun h => ⟨h.1, lastGetsOrig_eq_true.1 h.2⟩) fun ⟨j, hj, _⟩ => ⟨j, hj⟩⟩
  · obtain ⟨c, hc, rfl⟩ := List.mem_map.1 hd
    exact Or.inr ⟨(mem_readonlyIdx caps c).1 hc, rfl⟩

theorem orig_to_mut {caps : List Bool} {inputRO : Bool} {d : Delivery} (hd : d ∈ deliveries caps inputRO)
    (hm : caps[d.consumer]? = some true) (ho : d.obj = .orig) : readonlyIdx caps = [] ∧ inputRO = false := by
  rcases mem_deliveries hd with ⟨_, ⟨_, h⟩ | ⟨j, hj⟩⟩ | ⟨hr, _⟩
  · exact h
  · rw [hj] at ho; cases ho
  · rw [hr] at hm; cases hm

/-! ## the heap under calls -/

theorem write_origRO (h : Heap) (o : Obj) (v : Nat) : (h.write o v).1.origRO = h.origRO := by
  cases o with
  | orig => simp only [Heap.write]; split <;> rfl
  | clone k => rfl

theorem write_clone_orig (h : Heap) (k v : Nat) : (h.write (.clone k) v).1.orig = h.orig := rfl

theorem write_ro_noop (h : Heap) (v : Nat) (hro : h.origRO = true) : h.write .orig v = (h, true) := by
  simp [Heap.write, hro]

def Seen.delivery (s : Seen) : Delivery := ⟨s.consumer, s.obj⟩

/-- A run of calls: the calls made are `plan`; everybody is shown content `c` and flag `ro`; afterwards the original's flag is
`roAfter` and, under `K`, its content still `c`. -/
structure Calls (plan : List Delivery) (c : Nat) (ro : Seen → Bool) (roAfter : Bool) (K : Prop) (r : Heap × List Seen) : Prop where
  calls : r.2.map Seen.delivery = plan
  shown : ∀ s ∈ r.2, s.atCall = some c
  flags : ∀ s ∈ r.2, s.ro = ro s
  origRO : r.1.origRO = roAfter
  orig : K → r.1.orig = c

theorem call_spec (syncW : Nat → Option Nat) (h : Heap) (d : Delivery) :
    (call syncW h d).2.delivery = d ∧ (call syncW h d).2.atCall = some h.orig ∧
    (call syncW h d).2.ro = (match (call syncW h d).2.obj with | .orig => h.origRO | .clone _ => false) ∧
    (call syncW h d).1.origRO = h.origRO ∧
    ((d.obj = .orig → h.origRO = true ∨ syncW d.consumer = none) → (call syncW h d).1.orig = h.orig) := by
  obtain ⟨c, o⟩ := d
  cases o <;> cases hs : syncW c <;> simp [call, hs, Heap.read, List.lookup, write_origRO, Seen.delivery]
  -- left: a write to the original, a write to a clone
  · exact fun hro => by rw [write_ro_noop h _ hro]
  · rfl

/-- `hlast`: a delivery of the original that is followed by another call finds it read-only (`Pairwise` with a relation that
ignores its second argument: "every element that has a successor") -/
theorem callAll_spec (syncW : Nat → Option Nat) (ds : List Delivery) (h : Heap)
    (hlast : ds.Pairwise (fun a _ => a.obj = .orig → h.origRO = true)) :
    Calls ds h.orig (fun s => match s.obj with | .orig => h.origRO | .clone _ => false) h.origRO
      (∀ d ∈ ds, d.obj = .orig → h.origRO = true ∨ syncW d.consumer = none) (callAll syncW h ds) := by
  induction ds generalizing h with
  | nil => exact ⟨rfl, nofun, nofun, rfl, fun _ => rfl⟩
  | cons d ds ih =>
    obtain ⟨hd, hat, hro, hflag, hkeep⟩ := call_spec syncW h d
    have hp := List.pairwise_cons.1 hlast
    have ih := ih (call syncW h d).1 (by rw [hflag]; exact hp.2)
    rw [hflag] at ih
    -- a later call: `d` has a successor, so it left the original alone
    have hlater : ∀ s ∈ (callAll syncW (call syncW h d).1 ds).2, (call syncW h d).1.orig = h.orig := fun s hs => by
      have hne : ds ≠ [] := by rintro rfl; cases hs
      obtain ⟨b, hb⟩ := List.exists_mem_of_ne_nil _ hne
      exact hkeep fun ho => Or.inl (hp.1 b hb ho)
    simp only [callAll]
    exact {
      calls := by rw [List.map_cons, hd, ih.calls]
      shown := List.forall_mem_cons.2 ⟨hat, fun s hs => (ih.shown s hs).trans (congrArg some (hlater s hs))⟩
      flags := List.forall_mem_cons.2 ⟨hro, ih.flags⟩
      origRO := ih.origRO
      orig := fun hq => (ih.orig fun d hd => hq d (List.mem_cons_of_mem _ hd)).trans (hkeep (hq d List.mem_cons_self)) }

theorem heapA_spec (caps : List Bool) (inputRO : Bool) (c0 : Nat) (syncW : Nat → Option Nat) :
    Calls (mutDeliveries (lastGetsOrig caps inputRO) (mutableIdx caps) 0) c0 (fun _ => false) inputRO
      (∀ d ∈ mutDeliveries (lastGetsOrig caps inputRO) (mutableIdx caps) 0, d.obj = .orig → syncW d.consumer = none)
      (heapA caps inputRO c0 syncW) := by
  have hA := callAll_spec syncW (mutDeliveries (lastGetsOrig caps inputRO) (mutableIdx caps) 0) { orig := c0, origRO := inputRO }
    ((mutDeliveries_pairwise ..).imp fun h ho => absurd ho h.1)
  refine ⟨hA.calls, hA.shown, fun s hs => ?_, hA.origRO, fun hq => hA.orig fun d hd ho => Or.inr (hq d hd ho)⟩
  rw [hA.flags s hs]
  rcases mutDeliveries_obj _ _ _ _ (hA.calls ▸ List.mem_map_of_mem hs : s.delivery ∈ _) with ⟨ho, hL⟩ | ⟨j, hj, _⟩
  · rw [show s.obj = .orig from ho]; exact (lastGetsOrig_eq_true.1 hL).2
  · rw [show s.obj = .clone j from hj]

theorem markRO_orig (b : Bool) (h : Heap) : (markRO b h).orig = h.orig := by
  simp only [markRO]; split <;> rfl

theorem markRO_origRO (b : Bool) (h : Heap) : (markRO b h).origRO = (b || h.origRO) := by
  simp only [markRO]; cases b <;> simp

/-- `ConsumeLogs`, for every behaviour of the consumers -/
theorem runFan_spec (caps : List Bool) (inputRO : Bool) (c0 : Nat) (syncW : Nat → Option Nat) :
    Calls (deliveries caps inputRO) c0 (fun s => seenRO caps inputRO s.consumer) (inputRO || decide ((readonlyIdx caps).length > 1))
      (∀ d ∈ deliveries caps inputRO, d.obj = .orig →
        (inputRO || decide ((readonlyIdx caps).length > 1)) = true ∨ syncW d.consumer = none)
      (runFan caps inputRO c0 syncW) := by
  have hA := heapA_spec caps inputRO c0 syncW
  have hr2 : (markRO (marksRO caps inputRO) (heapA caps inputRO c0 syncW).1).origRO =
      (inputRO || decide ((readonlyIdx caps).length > 1)) := by
    rw [markRO_origRO, hA.origRO, marksRO]; cases inputRO <;> simp
  have hB := callAll_spec syncW (roDeliveries (readonlyIdx caps)) (markRO (marksRO caps inputRO) (heapA caps inputRO c0 syncW).1) (by
    rw [hr2]
    match readonlyIdx caps with
    | [] => exact .nil
    | [c] => exact List.pairwise_singleton _ _
    | c :: c' :: rest => exact List.pairwise_of_forall_mem_list fun _ _ _ _ _ => by simp)
  rw [markRO_orig, hr2] at hB
  -- with a non-mutating consumer the second phase starts from what was sent
  have hkeep : readonlyIdx caps ≠ [] → (heapA caps inputRO c0 syncW).1.orig = c0 := fun hne =>
    hA.orig fun d hd ho => absurd (orig_to_mut (List.mem_append_left _ hd) (mem_mutDeliveries_cap hd) ho).1 hne
  have hBmem : ∀ s ∈ (callAll syncW (markRO (marksRO caps inputRO) (heapA caps inputRO c0 syncW).1)
      (roDeliveries (readonlyIdx caps))).2, s.consumer ∈ readonlyIdx caps ∧ s.obj = .orig := fun s hs => by
    obtain ⟨c, hc, e⟩ := List.mem_map.1 (hB.calls ▸ List.mem_map_of_mem hs : s.delivery ∈ roDeliveries _)
    exact ⟨(show s.consumer = c from (congrArg Delivery.consumer e).symm) ▸ hc, (congrArg Delivery.obj e).symm⟩
  simp only [runFan]
  exact {
    calls := by rw [List.map_append, hB.calls]; exact congrArg (· ++ _) hA.calls
    shown := List.forall_mem_append.2 ⟨hA.shown, fun s hs => by
      rw [hB.shown s hs, hkeep (List.ne_nil_of_mem (hBmem s hs).1)]⟩
    flags := List.forall_mem_append.2 ⟨fun s hs => by
        rw [hA.flags s hs, seenRO, show caps[s.consumer]? = some true from
          mem_mutDeliveries_cap (hA.calls ▸ List.mem_map_of_mem hs : s.delivery ∈ _)]; rfl,
      fun s hs => by
        rw [hB.flags s hs, (hBmem s hs).2, seenRO, (mem_readonlyIdx caps _).1 (hBmem s hs).1]; simp⟩
    origRO := hB.origRO
    orig := fun hq => by
      rw [hB.orig fun d hd => hq d (List.mem_append_right _ hd)]
      refine hA.orig fun d hd ho => (hq d (List.mem_append_left _ hd) ho).resolve_left fun h => ?_
      have := orig_to_mut (List.mem_append_left _ hd) (mem_mutDeliveries_cap hd) ho
      simp [this.1, this.2] at h }

/-! ## who holds what; later writes -/

theorem objOf_mem {ds : List Delivery} {c : Nat} {o : Obj} (h : objOf ds c = some o) :
    ∃ d ∈ ds, d.consumer = c ∧ d.obj = o := by
  simp only [objOf, Option.map_eq_some_iff] at h
  obtain ⟨d, hd, rfl⟩ := h
  exact ⟨d, List.mem_of_find?_eq_some hd, by simpa using List.find?_some hd, rfl⟩

theorem objOf_ro (M : List Delivery) (r : List Nat) (c : Nat) (hM : ∀ d ∈ M, d.consumer ≠ c) (hc : c ∈ r) :
    objOf (M ++ roDeliveries r) c = some .orig := by
  have hn : M.find? (fun d => decide (d.consumer = c)) = none := List.find?_eq_none.2 (by simpa using hM)
  simp only [objOf, List.find?_append, hn, Option.none_or]
  cases hf : (roDeliveries r).find? (fun d => decide (d.consumer = c)) with
  | none => exact absurd (List.find?_eq_none.1 hf ⟨c, .orig⟩ (List.mem_map_of_mem hc)) (by simp)
  | some d => obtain ⟨c', _, rfl⟩ := List.mem_map.1 (List.mem_of_find?_eq_some hf); rfl

theorem asyncWrites_orig (ds : List Delivery) (h : Heap) (ws : List (Nat × Nat))
    (hq : ∀ p ∈ ws, objOf ds p.1 = some .orig → h.origRO = true) : (asyncWrites ds h ws).orig = h.orig := by
  induction ws generalizing h with
  | nil => rfl
  | cons p ps ih =>
    obtain ⟨c', v⟩ := p
    have hps := fun p hp => hq p (List.mem_cons_of_mem _ hp)
    cases ho : objOf ds c' with
    | none => simp only [asyncWrites, ho]; exact ih h hps
    | some o =>
      simp only [asyncWrites, ho]
      rw [ih _ (by rw [write_origRO]; exact hps)]
      cases o with
      | orig => rw [write_ro_noop h v (hq _ List.mem_cons_self ho)]
      | clone j => rfl

/-! ## capability formulas -/

/-- a same-signal connector advertises mutation whenever it or any pipeline it feeds does (it may
pass the object it received straight on) -/
theorem aggregateCap_spec (base : Bool) (nexts : List Bool) :
    aggregateCap base nexts = true ↔ base = true ∨ ∃ n ∈ nexts, n = true := by
  simp [aggregateCap]

/-- an exporter that batches (merges/splits what it is given after `Consume` returned) always advertises
mutation, whatever it declared itself — so the fan-out in front of it never hands it an object it
shares (`C06_exclusive`) -/
theorem exporterCap_spec (declared : Option Bool) :
    exporterCap declared true = true ∧ exporterCap declared false = declared.getD false := by
  cases declared <;> simp [exporterCap]

theorem applyCaps_last (d : Bool) (l : List Bool) : applyCaps d l = l.getLast?.getD d := by
  induction l generalizing d with
  | nil => rfl
  | cons c cs ih => rw [applyCaps, ih, List.getLast?_cons]; cases cs.getLast? <;> rfl

end OtelVerif.C06

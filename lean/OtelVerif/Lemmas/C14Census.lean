import OtelVerif.Model.C14Census
/-!
# C14 — lemmas: every value of a type of safe shape is plain (the hypothesis of the fmt theorem below the top level)
-/
namespace OtelVerif.C14

theorem inhab_opq {v : GV} (h : v.inhab .opq = true) : v.isOpq.isSome = true := by
  cases v <;> first | rfl | cases h

theorem inhab_other {v : GV} (h : v.inhab .other = true) : v.plainIn = true := by
  cases v <;> first | rfl | cases h

mutual
theorem inhab_plain : ∀ (v : GV) (sh : OShape), sh.safe = true → v.inhab sh = true → v.plainIn = true
  | .opq _, _, _, _ | .str _, _, _, _ | .num _, _, _, _ | .nilv, _, _, _ | .nilSlice, _, _, _ | .nilMap, _, _, _ => rfl
  | .ptr v, sh, hs, hi => by
    cases sh <;> simp only [GV.inhab, Bool.false_eq_true] at hi
    rename_i s
    simp only [OShape.safe, beq_iff_eq] at hs
    subst hs
    simp only [GV.plainIn]; exact inhab_opq hi
  | .iface _, _, _, hi | .struct _, _, _, hi | .tm _ _ _, _, _, hi | .sh _ _, _, _, hi => by cases hi
  | .slice vs, sh, hs, hi | .array vs, sh, hs, hi => by
    cases sh <;> simp only [GV.inhab, Bool.false_eq_true] at hi
    simp only [OShape.safe] at hs
    simp only [GV.plainIn]; exact inhabL_plain vs _ hs hi
  | .map kvs, sh, hs, hi => by
    cases sh <;> simp only [GV.inhab, Bool.false_eq_true] at hi
    rename_i k s
    simp only [OShape.safe, Bool.and_eq_true, beq_iff_eq] at hs
    obtain ⟨hk, hs⟩ := hs
    subst hk
    have := inhabKV_plain kvs s hs hi
    simp only [GV.plainIn, Bool.and_eq_true, Bool.or_eq_true]
    exact ⟨Or.inr this.1, this.2⟩
theorem inhabL_plain : ∀ (vs : List GV) (s : OShape), s.safe = true → GV.inhabL vs s = true → GV.plainInL vs = true
  | [], _, _, _ => rfl
  | v :: vs, s, hs, hi => by
    simp only [GV.inhabL, Bool.and_eq_true] at hi
    simp only [GV.plainInL, Bool.and_eq_true]
    exact ⟨inhab_plain v s hs hi.1, inhabL_plain vs s hs hi.2⟩
theorem inhabKV_plain : ∀ (kvs : List (GV × GV)) (s : OShape), s.safe = true → GV.inhabKV kvs .other s = true →
    (kvs.all (fun p => match p.1 with | .str _ | .num _ => true | _ => false)) = true ∧ GV.plainInKV kvs = true
  | [], _, _, _ => ⟨rfl, rfl⟩
  | (a, b) :: kvs, s, hs, hi => by
    simp only [GV.inhabKV, Bool.and_eq_true] at hi
    obtain ⟨⟨ha, hb⟩, hr⟩ := hi
    have ih := inhabKV_plain kvs s hs hr
    have hk := inhab_other ha
    simp only [List.all_cons, GV.plainInKV, Bool.and_eq_true]
    refine ⟨⟨?_, ih.1⟩, ⟨hk, inhab_plain b s hs hb⟩, ih.2⟩
    cases a <;> first | rfl | cases ha
end
end OtelVerif.C14

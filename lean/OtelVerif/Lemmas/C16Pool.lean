import OtelVerif.Model.C16Pool
import OtelVerif.Props.C16
/-!
# C16 — the client-side writer pools: invariants over ALL interleavings. Imports `Props/C16` for the last part: the end-to-end
theorems rest on `C16_roundtrip_partial`, their example on `padCodec`.
-/
namespace OtelVerif.C16

theorem upd_some_cases {α : Type} {f : Nat → Option α} {t t0 : Nat} {v c0 : α} (h : upd f t (some v) t0 = some c0) :
    (t0 = t ∧ c0 = v) ∨ (t0 ≠ t ∧ f t0 = some c0) := by
  unfold upd at h
  by_cases e : t0 = t
  · simp [e] at h; exact Or.inl ⟨e, h.symm⟩
  · simp [e] at h; exact Or.inr ⟨e, h⟩

theorem upd_same {α : Type} (f : Nat → α) (i : Nat) (v : α) : upd f i v i = v := if_pos rfl

variable (enc : PKey → Bytes → Bytes)

/-! ## `CallOk`, `PInv` -/

/-- what a call that holds a writer knows about it, by program counter -/
def CallOk (t : Nat) (c : PCall) : Prop :=
  c.pc.holding = true →
    ∃ wr, c.writer = some wr ∧ wr.key = c.key ∧
      (c.pc = .reset → wr.target = some t ∧ wr.acc = []) ∧
      ((c.pc = .copied ∨ c.pc = .bodyClosed) → wr.target = some t ∧ wr.acc = c.input)

theorem CallOk.idle {t : Nat} {c : PCall} (h : c.pc.holding = false) : CallOk t c :=
  fun hh => absurd (h.symm.trans hh) nofun

theorem CallOk.of_key {t : Nat} {c : PCall} {wr : PWriter} (hw : c.writer = some wr) (hk : wr.key = c.key)
    (hpc : c.pc = .got ∨ c.pc = .closed ∨ c.pc = .failed) : CallOk t c := by
  refine fun _ => ⟨wr, hw, hk, ?_, ?_⟩ <;> rcases hpc with e | e | e <;> rw [e] <;> nofun

theorem CallOk.at_reset {t : Nat} {c : PCall} {wr : PWriter} (hw : c.writer = some wr) (hk : wr.key = c.key)
    (hpc : c.pc = .reset) (htgt : wr.target = some t) (hacc : wr.acc = []) : CallOk t c :=
  fun _ => ⟨wr, hw, hk, fun _ => ⟨htgt, hacc⟩, by rw [hpc]; nofun⟩

theorem CallOk.after_copy {t : Nat} {c : PCall} {wr : PWriter} (hw : c.writer = some wr) (hk : wr.key = c.key)
    (hpc : c.pc = .copied ∨ c.pc = .bodyClosed) (htgt : wr.target = some t) (hacc : wr.acc = c.input) : CallOk t c :=
  fun _ => ⟨wr, hw, hk, by rcases hpc with e | e <;> rw [e] <;> nofun, fun _ => ⟨htgt, hacc⟩⟩

/-- the invariant of the pool discipline; `running`: a call that returned nil is at `closed` or `done` -/
structure PInv (s : PState) : Prop where
  loc : ∀ t c, s.calls t = some c → CallOk t c
  pooled : ∀ k wr, wr ∈ s.pool k → wr.key = k
  out : ∀ t c, s.calls t = some c → c.result = some true → s.bufs t = some (enc c.key c.input)
  running : ∀ t c, s.calls t = some c → c.result = some true → c.pc = .closed ∨ c.pc = .done

theorem PInv.init : PInv enc PState.init := by
  constructor <;> intros <;> simp_all [PState.init]

/-! ## frame lemmas, `PInv.step` -/

/-- frame: a step that writes the record of call `t` and possibly the buffers, and leaves the pools alone -/
theorem PInv.setCallBufs {s : PState} (I : PInv enc s) {t : Nat} {c' : PCall} {bufs' : Nat → Option Bytes}
    (hok : CallOk t c')
    (hres : c'.result = some true → bufs' t = some (enc c'.key c'.input) ∧ (c'.pc = .closed ∨ c'.pc = .done))
    (hbufs : ∀ t0, t0 ≠ t → bufs' t0 = s.bufs t0) :
    PInv enc { s with calls := upd s.calls t (some c'), bufs := bufs' } := by
  constructor
  · intro t0 c0 h0
    rcases upd_some_cases h0 with ⟨rfl, rfl⟩ | ⟨_, h0'⟩
    · exact hok
    · exact I.loc t0 c0 h0'
  · exact I.pooled
  · intro t0 c0 h0 hr
    rcases upd_some_cases h0 with ⟨rfl, rfl⟩ | ⟨hne, h0'⟩
    · exact (hres hr).1
    · exact (hbufs t0 hne).trans (I.out t0 c0 h0' hr)
  · intro t0 c0 h0 hr
    rcases upd_some_cases h0 with ⟨rfl, rfl⟩ | ⟨_, h0'⟩
    · exact (hres hr).2
    · exact I.running t0 c0 h0' hr

theorem PInv.setCall {s : PState} (I : PInv enc s) {t : Nat} {c c' : PCall} (hc : s.calls t = some c)
    (hok : CallOk t c') (hkey : c'.key = c.key) (hbody : c'.body = c.body)
    (hres : c'.result = some true → c.result = some true)
    (hpc : c.pc = .closed ∨ c.pc = .done → c'.pc = .closed ∨ c'.pc = .done) :
    PInv enc { s with calls := upd s.calls t (some c') } :=
  I.setCallBufs enc hok (fun hr => ⟨by simpa [PCall.input, hkey, hbody] using I.out t c hc (hres hr),
    hpc (I.running t c hc (hres hr))⟩) (fun _ _ => rfl)

theorem PInv.setPool {s : PState} (I : PInv enc s) (k : PKey) (l : List PWriter) (hl : ∀ wr ∈ l, wr.key = k) :
    PInv enc { s with pool := updK s.pool k l } := by
  constructor
  · exact I.loc
  · intro k0 wr h
    unfold updK at h
    by_cases e : k0 = k
    · simp [e] at h; rw [e]; exact hl wr h
    · simp [e] at h; exact I.pooled k0 wr h
  · exact I.out
  · exact I.running

theorem PInv.held {s : PState} (I : PInv enc s) {t : Nat} {c : PCall} {wr : PWriter} (hc : s.calls t = some c)
    (hw : c.writer = some wr) (hh : c.pc.holding = true) :
    wr.key = c.key ∧ (c.pc = .reset → wr.target = some t ∧ wr.acc = []) ∧
      ((c.pc = .copied ∨ c.pc = .bodyClosed) → wr.target = some t ∧ wr.acc = c.input) := by
  obtain ⟨wr', hw', h⟩ := I.loc t c hc hh
  rw [hw] at hw'; cases hw'; exact h

theorem PInv.step {s s' : PState} (I : PInv enc s) (l : PLabel) (h : fire enc s l = some s') : PInv enc s' := by
  cases l with
  | call t key body failAt closeFails =>
    simp only [fire] at h
    split at h
    · cases h
    · cases h
      exact I.setCallBufs enc (.idle rfl) nofun (fun _ _ => rfl)
  | get t i =>
    simp only [fire] at h
    split at h
    · rename_i c hc
      split at h
      · rename_i hpc
        split at h
        · rename_i wr hwr
          cases h
          have I1 := I.setPool enc c.key ((s.pool c.key).eraseIdx i) (fun w hw => I.pooled c.key w (List.mem_of_mem_eraseIdx hw))
          exact PInv.setCall enc (s := { s with pool := updK s.pool c.key ((s.pool c.key).eraseIdx i) }) I1 hc
            (.of_key rfl (I.pooled c.key wr (List.mem_of_getElem? hwr)) (.inl rfl)) rfl rfl id (by rw [hpc]; nofun)
        · cases h
          exact PInv.setCall enc I hc (.of_key (wr := ⟨c.key, none, []⟩) rfl rfl (.inl rfl)) rfl rfl id (by rw [hpc]; nofun)
      · cases h
    · cases h
  | reset t =>
    simp only [fire] at h
    split at h
    · rename_i c hc
      split at h
      · rename_i hpc hw
        cases h
        obtain ⟨hk, -, -⟩ := I.held enc hc hw (by rw [hpc]; rfl)
        exact PInv.setCall enc I hc (.at_reset rfl hk rfl rfl rfl) rfl rfl id (by rw [hpc]; nofun)
      · cases h
    · cases h
  | copy t =>
    simp only [fire] at h
    split at h
    · rename_i c hc
      split at h
      · rename_i hpc hw
        obtain ⟨hk, hreset, -⟩ := I.held enc hc hw (by rw [hpc]; rfl)
        obtain ⟨htgt, hacc⟩ := hreset hpc
        split at h
        · rename_i hb
          cases h
          exact PInv.setCall enc I hc (.after_copy hw hk (.inr rfl) htgt (by simp [PCall.input, hb, hacc])) rfl rfl id
            (by rw [hpc]; nofun)
        · rename_i b hb
          split at h
          · cases h
            exact PInv.setCall enc I hc (.of_key rfl hk (.inr (.inr rfl))) rfl rfl nofun (by rw [hpc]; nofun)
          · cases h
            exact PInv.setCall enc I hc (.after_copy rfl hk (.inl rfl) htgt (by simp [PCall.input, hb, hacc])) rfl rfl id
              (by rw [hpc]; nofun)
      · cases h
    · cases h
  | closeBody t =>
    simp only [fire] at h
    split at h
    · rename_i c hc
      split at h
      · rename_i hpc
        obtain ⟨wr, hw, hk, -, hcop⟩ := I.loc t c hc (by rw [hpc]; rfl)
        split at h
        · cases h
          exact PInv.setCall enc I hc (.of_key hw hk (.inr (.inr rfl))) rfl rfl nofun (by rw [hpc]; nofun)
        · cases h
          exact PInv.setCall enc I hc (.after_copy hw hk (.inr rfl) (hcop (.inl hpc)).1 (hcop (.inl hpc)).2) rfl rfl id (by rw [hpc]; nofun)
      · cases h
    · cases h
  | closeWriter t =>
    simp only [fire] at h
    split at h
    · rename_i c hc
      split at h
      · rename_i wr hpc hw
        cases h
        obtain ⟨hk, -, hcop⟩ := I.held enc hc hw (by rw [hpc]; rfl)
        obtain ⟨htgt, hacc⟩ := hcop (Or.inr hpc)
        have hb : closeInto enc s.bufs wr = upd s.bufs t (some (enc c.key c.input)) := by
          simp [closeInto, htgt, hk, hacc]
        rw [hb]
        refine I.setCallBufs enc (.of_key hw hk (.inr (.inl rfl))) (fun _ => ⟨upd_same .., Or.inl rfl⟩) (fun t0 hne => ?_)
        simp only [upd, hne, if_false]
      · cases h
    · cases h
  | put t =>
    simp only [fire] at h
    split at h
    · rename_i c hc
      split at h
      · rename_i wr hw
        split at h
        · rename_i hpc
          cases h
          obtain ⟨hk, -, -⟩ := I.held enc hc hw (by rcases hpc with h | h <;> rw [h] <;> rfl)
          have I1 := I.setPool enc c.key (wr :: s.pool c.key) (by
            intro w hwm
            rcases List.mem_cons.mp hwm with rfl | hwm
            · exact hk
            · exact I.pooled c.key w hwm)
          exact PInv.setCall enc (s := { s with pool := updK s.pool c.key (wr :: s.pool c.key) }) I1 hc (.idle rfl) rfl rfl id
            (fun _ => Or.inr rfl)
        · cases h
      · cases h
    · cases h
  | drop k i =>
    simp only [fire] at h
    cases h
    exact I.setPool enc k ((s.pool k).eraseIdx i) (fun w hw => I.pooled k w (List.mem_of_mem_eraseIdx hw))

theorem PInv.run {s : PState} (I : PInv enc s) (ls : List PLabel) : PInv enc (runLabels enc s ls) := by
  induction ls generalizing s with
  | nil => exact I
  | cons l ls ih =>
    simp only [runLabels, List.foldl_cons]
    cases hf : fire enc s l with
    | none => simpa [runLabels] using ih I
    | some s' => simpa [runLabels] using ih (I.step enc l hf)

/-! ## every reachable state -/

/-- **No state leaks between uses, under every interleaving.** In every state reachable by ANY sequence of statement-steps of any
number of goroutines (labels that are not enabled are skipped, so every list is a history) — whatever other calls did before or
meanwhile, including failed copies that put their writer back dirty, `sync.Pool` handing out any idle writer or a new one, and the
GC dropping idle writers — every `compress` call that returned nil left in ITS OWN buffer exactly `enc` of ITS key (type AND level)
applied to ITS body. Library law (trusted): `Reset` makes a writer fresh and points it at the given buffer; `Close` completes the
stream there. -/
theorem C16_pool_output (ls : List PLabel) (t : Nat) (c : PCall)
    (hc : (runLabels enc PState.init ls).calls t = some c) (hr : c.result = some true) :
    (runLabels enc PState.init ls).bufs t = some (enc c.key c.input) :=
  ((PInv.init enc).run enc ls).out t c hc hr

/-- **No level / type leak across clients.** In every reachable state an idle writer sits in the pool of the key (type, level) its
constructor closure was made for, and a call holds a writer built for its own compressor's key — two clients that differ only
in `compression_params.level` never see each other's writers. -/
theorem C16_pool_key (ls : List PLabel) :
    (∀ k wr, wr ∈ (runLabels enc PState.init ls).pool k → wr.key = k) ∧
    (∀ t c wr, (runLabels enc PState.init ls).calls t = some c → c.pc.holding = true → c.writer = some wr → wr.key = c.key) := by
  have I := (PInv.init enc).run enc ls
  exact ⟨I.pooled, fun t c wr hc hh hw => (I.held enc hc hw hh).1⟩

theorem C16_pool_result_only_after_close (ls : List PLabel) (t : Nat) (c : PCall)
    (hc : (runLabels enc PState.init ls).calls t = some c) (hr : c.result = some true) : c.pc = .closed ∨ c.pc = .done :=
  ((PInv.init enc).run enc ls).running t c hc hr

/-! ## an uninterleaved call completes -/

theorem runLabels_append (s : PState) (l₁ l₂ : List PLabel) :
    runLabels enc s (l₁ ++ l₂) = runLabels enc (runLabels enc s l₁) l₂ := by
  simp only [runLabels, List.foldl_append]

theorem run_after_get {s : PState} {t : Nat} {key : PKey} {body : Option Bytes} {wr : PWriter}
    (h : s.calls t = some ⟨key, body, none, false, .got, some wr, none⟩) :
    ((runLabels enc s [.reset t, .copy t, .closeBody t, .closeWriter t, .put t]).calls t).map (·.result) = some (some true) ∧
    (runLabels enc s [.reset t, .copy t, .closeBody t, .closeWriter t, .put t]).bufs t = some (enc wr.key (body.getD [])) := by
  -- unfolded on its own first: with `fire` in the same `simp` call this is several times slower to check
  simp only [runLabels, List.foldl_cons, List.foldl_nil]
  cases body <;>
    simp only [fire, h, upd_same, Option.getD_some, Option.getD_none, closeInto,
      reduceCtorEq, if_false, if_true, Bool.false_eq_true, true_or, Option.map_some, List.nil_append, and_self]

theorem seqCall_completes {s : PState} (I : PInv enc s) (t i : Nat) (key : PKey) (body : Option Bytes) (h0 : s.calls t = none) :
    ((runLabels enc s (seqCall t i key body none false)).calls t).map (·.result) = some (some true) ∧
    (runLabels enc s (seqCall t i key body none false)).bufs t = some (enc key (body.getD [])) := by
  rw [show seqCall t i key body none false = [PLabel.call t key body none false, .get t i] ++
      [.reset t, .copy t, .closeBody t, .closeWriter t, .put t] from rfl, runLabels_append]
  cases hp : (s.pool key)[i]? with
  | none =>
    have hc : (runLabels enc s [.call t key body none false, .get t i]).calls t =
        some ⟨key, body, none, false, .got, some ⟨key, none, []⟩, none⟩ := by
      simp only [runLabels, List.foldl_cons, List.foldl_nil]
      simp only [fire, h0, hp, upd_same, Option.getD_some, if_true]
    exact run_after_get enc hc
  | some wr =>
    have hc : (runLabels enc s [.call t key body none false, .get t i]).calls t =
        some ⟨key, body, none, false, .got, some wr, none⟩ := by
      simp only [runLabels, List.foldl_cons, List.foldl_nil]
      simp only [fire, h0, hp, upd_same, Option.getD_some, if_true]
    have := run_after_get enc hc
    rwa [I.pooled key wr (List.mem_of_getElem? hp)] at this

/-- **Re-use after anything.** After ANY history (other calls finished, failed half-way, still in flight, pools holding dirty writers
or none), a new request whose body source does not fail — nil body, empty body, any bytes — taking whichever idle writer (or a new
one) completes with nil and leaves exactly `enc key body` in its buffer: what went on before cannot make a later request fail or
differ. (Also the non-vacuity of `C16_pool_output`: successful returns exist from every reachable state.) -/
theorem C16_pool_call_completes (ls : List PLabel) (t i : Nat) (key : PKey) (body : Option Bytes)
    (h0 : (runLabels enc PState.init ls).calls t = none) :
    ((runLabels enc (runLabels enc PState.init ls) (seqCall t i key body none false)).calls t).map (·.result) = some (some true) ∧
    (runLabels enc (runLabels enc PState.init ls) (seqCall t i key body none false)).bufs t = some (enc key (body.getD [])) :=
  seqCall_completes enc ((PInv.init enc).run enc ls) t i key body h0

/-! ## the regenerated step list; from a pooled call to `clientSend` and the server -/

/-- the regenerated shape of `compress` / `newCompressor` / `RoundTrip` is the one the transition system models: same statements in
the same order; the pool is touched only by that Get and that deferred Put; the pool map is keyed by (type, params), read and written
under the mutex, its writers built by the constructor made for that key; `RoundTrip` hands `compress` a buffer of its own and a
round-tripper asks for the compressor of its own (type, params) -/
theorem C16_pool_gen_shape :
    Gen.Compression.compressSteps = modelProgram ∧ Gen.Compression.poolSelectorUses = 2 ∧
    Gen.Compression.poolKeyFields = ["compressionType", "compressionParams"] ∧
    Gen.Compression.poolKeyedByTypeAndParams = true ∧ Gen.Compression.poolMapUnderMutex = true ∧
    Gen.Compression.poolNewUsesKeyConstructor = true ∧ Gen.Compression.roundTripFreshBuffer = true ∧
    Gen.Compression.roundTripperUsesOwnKey = true := by decide +kernel

/-- (bookkeeping, connects the pool model to `clientSend`) the request a pooled round-tripper sends for a call that returned nil —
`Content-Encoding` = its type name, body = its buffer — is the request `clientSend` describes, in every reachable pool state, when
the writer of key (t, level) produces what the library `l` of type `t` produces (`henc`, for EVERY level: `Codec` has no level).
Hence `C16_client_compresses` and the round-trip theorems apply to every use of a shared pool. -/
theorem C16_pool_request_is_clientSend (codec : String → Codec) (t l : String) (level : Int) (b : Bytes)
    (ht : isCompressed t = true) (hw : assoc Gen.Compression.writers t = some l)
    (henc : ∀ lv x, enc ⟨t, lv⟩ x = (codec l).enc x)
    (ls : List PLabel) (tid : Nat) (c : PCall)
    (hc : (runLabels enc PState.init ls).calls tid = some c) (hr : c.result = some true)
    (hk : c.key = ⟨t, level⟩) (hb : c.body = some b) :
    ((runLabels enc PState.init ls).bufs tid).map (fun buf => (⟨t, ⟨buf, true⟩⟩ : Request)) = clientSend codec t "" b := by
  rw [C16_pool_output enc ls tid c hc hr, hk, henc, C16_client_compresses codec t l b ht hw]
  simp only [PCall.input, hb, Option.getD_some, Option.map_some]
  rfl

/-- **End to end over a shared pool (partial, same two hypotheses as `C16_roundtrip_partial`).** Under every interleaving of the
client-side `compress` calls of any number of goroutines sharing the process-wide pools, the request sent for a call that returned
nil makes the handler behind the server middleware read exactly THAT call's body — for every lawful library, enabled algorithm,
level, body and limit with body and compressed form within the limit. -/
theorem C16_pool_end_to_end_partial (codec : String → Codec) (hlaw : ∀ l, (codec l).Lawful)
    (cfg : Cfg) (t l : String) (level : Int) (b : Bytes)
    (ht : isCompressed t = true) (hw : assoc Gen.Compression.writers t = some l) (hen : t ∈ cfg.enabled)
    (hb : b.length ≤ cfg.limit) (hwire : ((codec l).enc b).length ≤ cfg.limit)
    (henc : ∀ lv x, enc ⟨t, lv⟩ x = (codec l).enc x)
    (ls : List PLabel) (tid : Nat) (c : PCall)
    (hc : (runLabels enc PState.init ls).calls tid = some c) (hr : c.result = some true)
    (hk : c.key = ⟨t, level⟩) (hbody : c.body = some b) :
    (((runLabels enc PState.init ls).bufs tid).map (fun buf => (⟨t, ⟨buf, true⟩⟩ : Request))).map (serve codec cfg)
      = some (.handled ⟨b, true⟩) := by
  rw [C16_pool_request_is_clientSend enc codec t l level b ht hw henc ls tid c hc hr hk hbody]
  exact C16_roundtrip_partial codec hlaw cfg t l b ht hw hen hb hwire

/-! non-vacuity: a concrete interleaving. Goroutine 1 (gzip/1) fails half-way and puts its writer back dirty; goroutines 2 and 3
(gzip/1 and gzip/9) overlap, 2 re-uses the dirty writer; both return nil with their own `enc key body`. -/
def demoEnc : PKey → Bytes → Bytes := fun k b => (UInt8.ofNat k.level.toNat) :: b

def demoHistory : List PLabel :=
  [.call 1 ⟨"gzip", 1⟩ (some [7, 7, 7, 7]) (some 2) false, .get 1 0, .reset 1, .copy 1, .put 1,
   .call 2 ⟨"gzip", 1⟩ (some [1, 2, 3]) none false, .call 3 ⟨"gzip", 9⟩ (some [4, 5]) none false,
   .get 3 0, .get 2 0, .reset 2, .reset 3, .copy 3, .copy 2, .closeBody 2, .closeBody 3, .closeWriter 3, .closeWriter 2, .put 2, .put 3]

example : (runLabels demoEnc PState.init demoHistory).bufs 2 = some [1, 1, 2, 3] ∧
    (runLabels demoEnc PState.init demoHistory).bufs 3 = some [9, 4, 5] ∧
    ((runLabels demoEnc PState.init demoHistory).calls 2).map (·.result) = some (some true) ∧
    ((runLabels demoEnc PState.init demoHistory).calls 1).map (·.result) = some (some false) ∧
    ((runLabels demoEnc PState.init demoHistory).pool ⟨"gzip", 1⟩).length = 1 := by decide +kernel

/-- the hypotheses of `C16_pool_end_to_end_partial` are met: the dirty-writer history above, `padCodec` as every library -/
example : (((runLabels (fun _ x => padCodec.enc x) PState.init demoHistory).bufs 2).map
      (fun buf => (⟨"gzip", ⟨buf, true⟩⟩ : Request))).map (serve (fun _ => padCodec) ⟨["", "gzip"], 10⟩)
    = some (.handled ⟨[1, 2, 3], true⟩) :=
  C16_pool_end_to_end_partial (fun _ x => padCodec.enc x) (fun _ => padCodec) (fun _ => padCodec_lawful) ⟨["", "gzip"], 10⟩
    "gzip" "gzip" 1 [1, 2, 3] (by decide) (by decide) (by decide) (by decide) (by decide) (fun _ _ => rfl) demoHistory 2
    ⟨⟨"gzip", 1⟩, some [1, 2, 3], none, false, .done, none, some true⟩ (by decide) rfl rfl rfl

end OtelVerif.C16

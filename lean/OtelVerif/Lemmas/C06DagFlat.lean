import OtelVerif.Lemmas.C06Dag
/-! the whole-graph semantics (`Dag.fan`) restricted to ONE fan-out over plain exporters is the flat, code-tied model
(`deliveries`, `seenRO`) -/
namespace OtelVerif.C06.Dag

/-- number of the object a delivery of the flat model denotes: the caller's object, or the `k`-th object allocated after `base` -/
def objNum (o base : Nat) : Obj → Nat
  | .orig => o
  | .clone k => base + k

@[simp] theorem objNum_orig (o base : Nat) : objNum o base .orig = o := rfl
@[simp] theorem objNum_clone (o base k : Nat) : objNum o base (.clone k) = base + k := rfl

theorem caps_ofCaps (cs : List Bool) (i : Nat) : caps (ofCaps cs i) = cs := by
  induction cs generalizing i with
  | nil => rfl
  | cons c cs ih => simp [ofCaps, caps, ih]

theorem hasMut_ofCaps (cs : List Bool) (i : Nat) : hasMut (ofCaps cs i) = !(idxWhere true cs i).isEmpty := by
  rw [hasMut, caps_ofCaps, idxWhere_isEmpty, List.contains_eq_any_beq]; simp; rfl

theorem run_true_ofCaps (cs : List Bool) : ∀ (i k base : Nat) (noRO : Bool) (o : Nat) (h : Heap),
    h.next = base + k → o < h.next →
    (run true noRO (ofCaps cs i) o h).2.map (fun ob => (ob.id, ob.obj)) =
      (mutDeliveries (noRO && !h.ro o) (idxWhere true cs i) k).map (fun d => (d.consumer, objNum o base d.obj)) ∧
    (run true noRO (ofCaps cs i) o h).1.ro o = h.ro o ∧
    ∀ ob ∈ (run true noRO (ofCaps cs i) o h).2, ob.ro = false := by
  induction cs with
  | nil => intro i k base noRO o h _ _; simp [ofCaps, run, idxWhere, mutDeliveries]
  | cons c cs ih =>
    intro i k base noRO o h hn ho
    cases c with
    | false =>
      have := ih (i + 1) k base noRO o h hn ho
      simpa [ofCaps, run, idxWhere] using this
    | true =>
      have hne : o ≠ h.next := Nat.ne_of_lt ho
      have hm := hasMut_ofCaps cs (i + 1)
      simp only [ofCaps, run, if_true, idxWhere, mutDeliveries_cons, List.map_cons, List.mem_cons, forall_eq_or_imp, hm]
      by_cases hL : (idxWhere true cs (i + 1) = [] ∧ (noRO && !h.ro o) = true)
      · -- the last mutating consumer, handed the caller's object
        obtain ⟨hM, hL⟩ := hL
        obtain ⟨rfl, hro⟩ : noRO = true ∧ h.ro o = false := by simpa using hL
        have hrest := (run_noMut (ofCaps cs (i + 1)) true o (h.write o i) (by rw [hm, hM]; rfl)).1
        simp [hM, deliver, hro, hrest, mutDeliveries]
      · have hd : deliver true noRO (!(idxWhere true cs (i + 1)).isEmpty) o h = h.clone o := by
          simp only [deliver, if_true, Bool.not_not]
          rw [if_neg]; simpa [List.isEmpty_iff, Bool.and_assoc] using hL
        have := ih (i + 1) (k + 1) base noRO o ((h.clone o).1.write h.next i) (by simp; omega) (by simp; omega)
        rw [show ((h.clone o).1.write h.next i).ro o = h.ro o by simp [clone_ro, hne]] at this
        rw [hd, if_neg hL]
        simp only [clone_snd, objNum_clone, ← hn]
        exact ⟨by rw [this.1], this.2.1, by simp [clone_ro], this.2.2⟩

theorem run_false_ofCaps (cs : List Bool) : ∀ (i : Nat) (x : Bool) (o : Nat) (h : Heap),
    run false x (ofCaps cs i) o h =
      (h, (idxWhere false cs i).map (fun c => (⟨c, o, h.content o, h.ro o, []⟩ : Obs))) := by
  induction cs with
  | nil => intro i x o h; simp [ofCaps, run, idxWhere]
  | cons c cs ih =>
    intro i x o h
    cases c with
    | false => simp [ofCaps, run, idxWhere, deliver, ih (i + 1) x o h]
    | true => simp [ofCaps, run, idxWhere, ih (i + 1) x o h]

theorem hasRO_ofCaps (cs : List Bool) (i : Nat) : hasRO (ofCaps cs i) = !(readonlyIdx cs).isEmpty := by
  rw [hasRO, caps_ofCaps, readonlyIdx, idxWhere_isEmpty, List.contains_eq_any_beq, Bool.not_not]
  congr 1; funext c; cases c <;> rfl

theorem fan_ofCaps (cs : List Bool) (o : Nat) (h : Heap) (ho : o < h.next) :
    (fan (ofCaps cs 0) o h).2.map (fun ob => (ob.id, ob.obj)) =
      (deliveries cs (h.ro o)).map (fun d => (d.consumer, objNum o h.next d.obj)) ∧
    ∀ ob ∈ (fan (ofCaps cs 0) o h).2, ob.ro = seenRO cs (h.ro o) ob.id := by
  have hA := run_true_ofCaps cs 0 0 h.next (!hasRO (ofCaps cs 0)) o h (by simp) ho
  have hnoRO : (!hasRO (ofCaps cs 0)) = (readonlyIdx cs).isEmpty := by rw [hasRO_ofCaps]; simp
  have hcount : roCount (ofCaps cs 0) = (readonlyIdx cs).length := by
    rw [roCount, caps_ofCaps, readonlyIdx, idxWhere_length]
  simp only [fan, run_false_ofCaps]
  constructor
  · rw [List.map_append, hA.1, hnoRO]
    simp only [deliveries, lastGetsOrig, List.map_append, mutableIdx, readonlyIdx, roDeliveries, List.map_map]
    congr 1
  · intro ob hob
    rcases List.mem_append.1 hob with hob | hob
    · -- a mutating consumer never sees a read-only object
      have hid : (ob.id, ob.obj) ∈ (run true (!hasRO (ofCaps cs 0)) (ofCaps cs 0) o h).2.map (fun ob => (ob.id, ob.obj)) :=
        List.mem_map_of_mem hob
      rw [hA.1] at hid
      obtain ⟨d, hd, hde⟩ := List.mem_map.1 hid
      have hmut : cs[ob.id]? = some true := by
        have e : d.consumer = ob.id := by simpa using congrArg Prod.fst hde
        exact e ▸ mem_mutDeliveries_cap (caps := cs) hd
      rw [hA.2.2 ob hob]
      simp [seenRO, hmut]
    · obtain ⟨c, hc, rfl⟩ := List.mem_map.1 hob
      have hro : cs[c]? = some false := (mem_readonlyIdx cs c).1 hc
      simp only [seenRO, hro, beq_self_eq_true, Bool.true_and]
      rw [mark_if_ro, hA.2.1, hcount]

end OtelVerif.C06.Dag

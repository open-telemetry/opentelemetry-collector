import OtelVerif.Lemmas.C04Slots
/-! C04: conservation of units through every history of the batcher -/
namespace OtelVerif.C04

/-- every unit in the pending batch or in a flight -/
def BState.units (s : BState) : Parts := s.slots.flatMap (·.1)

/-- units of the requests a history consumes, in order -/
def consumedUnits : List BLabel → Parts
  | [] => []
  | .consume _ units :: ls => units ++ consumedUnits ls
  | _ :: ls => consumedUnits ls

/-- the batches whose export finished during a history (with the state the history starts from) -/
def finishedParts (c : BCfg) : BState → List BLabel → List Parts
  | _, [] => []
  | s, l :: ls =>
    (match l with
     | .finish fid _ => ((s.flights.find? (fun f => f.fid = fid)).toList.map (·.parts))
     | _ => []) ++ finishedParts c (bstep c s l).1 ls

theorem finishedParts_cons (c : BCfg) (s : BState) (l : BLabel) (ls : List BLabel) :
    finishedParts c s (l :: ls) = finishedParts c s [l] ++ finishedParts c (bstep c s l).1 ls := by
  simp only [finishedParts, List.append_nil]

theorem consumedUnits_cons (l : BLabel) (ls : List BLabel) : consumedUnits (l :: ls) = consumedUnits [l] ++ consumedUnits ls := by
  cases l
  · exact congrArg (· ++ consumedUnits ls) (List.append_nil _).symm
  · rfl
  · rfl

theorem bstep_units (c : BCfg) (s : BState) (l : BLabel) (hok : FOK s) :
    ((bstep c s l).1.units ++ (finishedParts c s [l]).flatten).Perm (s.units ++ consumedUnits [l]) := by
  cases l with
  | consume id units =>
    obtain ⟨k, first, chs, ds, hs⟩ := consume_step c s id units
    show (_ ++ []).Perm (s.units ++ (units ++ []))
    rw [List.append_nil, List.append_nil]
    exact hs.parts_perm
  | flush =>
    show (_ ++ []).Perm (s.units ++ [])
    rw [List.append_nil, List.append_nil]
    exact (flush_step s).slots.flatMap_right _
  | finish fid err =>
    show ((s.finish fid err).1.units ++ _).Perm (s.units ++ [])
    rw [List.append_nil]
    rcases finish_step s fid err hok with ⟨hf, e⟩ | ⟨f, hf⟩
    · simp only [finishedParts, hf, e, Option.toList, List.map_nil, List.append_nil, List.flatten_nil]
      exact List.Perm.refl _
    · simp only [finishedParts, hf.found, Option.toList, List.map_cons, List.map_nil, List.append_nil, List.flatten_cons,
        List.flatten_nil]
      exact List.perm_append_comm.trans (hf.slots.flatMap_right (fun b : Parts × List DoneObj => b.1)).symm

theorem brun_units (c : BCfg) : ∀ (ls : List BLabel) (s : BState), FOK s →
    ((brun c s ls).1.units ++ (finishedParts c s ls).flatten).Perm (s.units ++ consumedUnits ls) := by
  intro ls
  induction ls with
  | nil => intro s _; exact List.Perm.refl _
  | cons l ls ih =>
    intro s hok
    have h1 := bstep_units c s l hok
    have h2 := ih _ (bstep_fok c s l hok)
    rw [brun_cons, finishedParts_cons, consumedUnits_cons, List.flatten_append]
    -- U₂ ++ (F₁ ++ F₂) ~ F₁ ++ (U₂ ++ F₂) ~ F₁ ++ (U₁ ++ C₂) ~ (U₁ ++ F₁) ++ C₂ ~ (U₀ ++ C₁) ++ C₂
    refine (List.perm_append_comm_assoc _ _ _).trans (((List.Perm.append_left _ h2).trans ?_))
    rw [← List.append_assoc, ← List.append_assoc]
    exact List.Perm.append_right _ (List.perm_append_comm.trans h1)

end OtelVerif.C04

import OtelVerif.Model.C01Classify
/-! C01 — the outcome of an aggregated error (`multierr.Append` of the flush errors) -/
namespace OtelVerif.C01

theorem outcome_appendErr (a b : Option ErrTree) :
    outcomeOf (appendErr a b) = .shutdownErr ↔ outcomeOf a = .shutdownErr ∨ outcomeOf b = .shutdownErr := by
  cases a with
  | none => simp [appendErr, outcomeOf]
  | some a =>
    cases b with
    | none => simp [appendErr, outcomeOf]
    | some b =>
      simp only [appendErr, outcomeOf, ErrTree.isShutdown]
      by_cases ha : a.isShutdown = true <;> by_cases hb : b.isShutdown = true <;> simp [ha, hb]

theorem outcome_foldl_appendErr (parts : List (Option ErrTree)) : ∀ acc : Option ErrTree,
    outcomeOf (parts.foldl appendErr acc) = .shutdownErr ↔
      outcomeOf acc = .shutdownErr ∨ ∃ e ∈ parts, outcomeOf e = .shutdownErr := by
  induction parts with
  | nil => intro acc; simp
  | cons p ps ih =>
    intro acc
    rw [List.foldl_cons, ih, outcome_appendErr]
    constructor
    · rintro ((h | h) | ⟨e, he, h⟩)
      · exact Or.inl h
      · exact Or.inr ⟨p, List.mem_cons_self, h⟩
      · exact Or.inr ⟨e, List.mem_cons_of_mem _ he, h⟩
    · rintro (h | ⟨e, he, h⟩)
      · exact Or.inl (Or.inl h)
      · rcases List.mem_cons.mp he with rfl | he
        · exact Or.inl (Or.inr h)
        · exact Or.inr ⟨e, he, h⟩

end OtelVerif.C01

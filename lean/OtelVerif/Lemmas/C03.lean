import OtelVerif.Model.C03
import OtelVerif.Lemmas.Basic
/-!
# C03: the relation `Step`, four views of a step, and the invariant `Good` of the shutdown LTS

The file opens with what its descendants share: generic list facts, run lemmas, lemmas on recorded traces (for `C03Bridge`, `C03Direct`).
`Step` has one rule per branch of `fire`; after `fire_step` / `step_fire` nothing in this file unfolds `fire` again.  A fact that does
not depend on which rule fired is proved against one of four coarse views of a step: `step_flights` (the flight list is kept, extended by a new flight, or one flight makes a
move of `FlMove`: per-flight facts, `done_mono`), `step_items` (where the items go: conservation), `step_phase` (the phase moves only
by the `k`-th of `shutSteps` in phase `k`: monotonicity, order of the shutdown path, what the spec sees of the phase) and `step_stored`
(ghost lists grow only by an offer, storage shrinks only by a flight that ends unkept: `PersistKept`, the spec's `work` rule).  Facts
that rest on the guards of single rules (`WF`, `Owns`, `MemDone`) walk `Step` itself.
-/
namespace OtelVerif.C03

/-! ## generic list facts -/

theorem sum_map_set {α : Type} (g : α → Nat) {l : List α} {i : Nat} {old : α} (v : α) (h : l[i]? = some old) :
    ((l.set i v).map g).sum + g old = (l.map g).sum + g v := by
  obtain ⟨s, t, rfl, e⟩ := set_split v h
  simp only [e, List.map_append, List.map_cons, List.sum_append_nat, List.sum_cons]; omega

theorem count_flatMap_set {α : Type} (g : α → List Item) (x : Item) (l : List α) (i : Nat) (old v : α) (h : l[i]? = some old) :
    ((l.set i v).flatMap g).count x + (g old).count x = (l.flatMap g).count x + (g v).count x := by
  simpa only [List.count_flatMap, Function.comp] using sum_map_set (List.count x ∘ g) v h

theorem flatMap_set_same {α β : Type} (g : α → List β) (l : List α) (i : Nat) (old v : α) (h : l[i]? = some old) (hg : g v = g old) :
    (l.set i v).flatMap g = l.flatMap g := by
  obtain ⟨s, t, rfl, e⟩ := set_split v h
  simp only [e, List.flatMap_append, List.flatMap_cons, hg]

theorem getElem?_append_singleton {α : Type} {l : List α} {a b : α} {g : Nat} (h : (l ++ [a])[g]? = some b) :
    l[g]? = some b ∨ (g = l.length ∧ b = a) := by
  by_cases hlt : g < l.length
  · rw [List.getElem?_append_left hlt] at h; exact .inl h
  · simp only [List.getElem?_append, hlt, if_false] at h
    cases hk : g - l.length with
    | zero => simp [hk] at h; exact .inr ⟨by omega, h.symm⟩
    | succ n => simp [hk] at h

theorem get_set_self {α : Type} {l : List α} {f : Nat} {v old : α} (h : l[f]? = some old) : (l.set f v)[f]? = some v :=
  List.getElem?_set_self (List.getElem?_eq_some_iff.mp h).1

theorem get_append_some {α : Type} {l l' : List α} {a : α} {g : Nat} (h : l[g]? = some a) : (l ++ l')[g]? = some a :=
  (List.getElem?_append_left (List.getElem?_eq_some_iff.mp h).1).trans h

theorem le_sum_map {α : Type} (g : α → Nat) : ∀ (l : List α) (a : α), a ∈ l → g a ≤ (l.map g).sum
  | [], a, h => by simp at h
  | b :: l, a, h => by
    simp only [List.mem_cons] at h
    simp only [List.map_cons, List.sum_cons]
    cases h with
    | inl h => subst h; omega
    | inr h => have := le_sum_map g l a h; omega

theorem filter_isEmpty {α : Type} {p : α → Bool} {l : List α} (h : (l.filter p).isEmpty = true) : ∀ x ∈ l, p x = false :=
  fun x hx => by simpa using List.filter_eq_nil_iff.mp (List.isEmpty_iff.mp h) x hx

theorem exists_getElem?_of_not_forall {α : Type} {p : α → Prop} {l : List α} (h : ¬ ∀ a ∈ l, p a) :
    ∃ (i : Nat) (a : α), l[i]? = some a ∧ ¬ p a := by
  obtain ⟨a, ha⟩ := Classical.not_forall.mp h
  obtain ⟨hm, hp⟩ := Classical.not_imp.mp ha
  obtain ⟨i, hi⟩ := List.mem_iff_getElem?.mp hm
  exact ⟨i, a, hi, hp⟩

theorem ite_some_inj {α : Type} {c : Prop} [Decidable c] {a b : α} (h : (if c then some a else none) = some b) : c ∧ a = b :=
  let ⟨hc, e⟩ := Option.ite_none_right_eq_some.mp h; ⟨hc, Option.some.inj e⟩

theorem ite_none_inj {α : Type} {c : Prop} [Decidable c] {a b : α} (h : (if c then none else some a) = some b) : ¬ c ∧ a = b :=
  let ⟨hc, e⟩ := Option.ite_none_left_eq_some.mp h; ⟨hc, Option.some.inj e⟩

/-! ## runs -/

theorem runFrom_nil (s : State) : runFrom s [] = some s := rfl

theorem runFrom_step (s : State) (l : Label) (ls : List Label) : runFrom s (l :: ls) = (fire s l).bind (fun s' => runFrom s' ls) := by
  simp only [runFrom]; cases fire s l <;> rfl

theorem reachable_of_runFrom {s s' : State} (ls : List Label) (h : Reachable s) (hr : runFrom s ls = some s') : Reachable s' :=
  run_induction (ok := fun _ => True) runFrom_nil runFrom_step (fun _ l _ h _ hf => .step l h hf) ls s s' h (fun _ _ => trivial) hr

theorem exists_of_run_map {α : Type} {s0 : State} (h0 : Reachable s0) {ls : List Label} {f : State → α} {a : α}
    (h : (runFrom s0 ls).map f = some a) : ∃ s, Reachable s ∧ f s = a := by
  cases hd : runFrom s0 ls with
  | none => rw [hd] at h; cases h
  | some s => rw [hd] at h; exact ⟨s, reachable_of_runFrom ls h0 hd, Option.some.inj h⟩

/-! ## recorded traces: before and after an event, calls started and ended -/

theorem evsAfter_append (p : Ev → Bool) (l l' : List Ev) :
    evsAfter p (l ++ l') = if l.any p then evsAfter p l ++ l' else evsAfter p l' := by
  induction l with
  | nil => simp
  | cons e l ih =>
    cases hp : p e with
    | true => simp [evsAfter, hp]
    | false => simp [evsAfter, hp, ih]

theorem evsAfter_none (p : Ev → Bool) (l : List Ev) (h : l.any p = false) : evsAfter p l = [] := by
  simpa [h, evsAfter] using evsAfter_append p l []

theorem evsBefore_append (p : Ev → Bool) (l l' : List Ev) :
    evsBefore p (l ++ l') = if l.any p then evsBefore p l else l ++ evsBefore p l' := by
  induction l with
  | nil => simp
  | cons e l ih =>
    cases hp : p e with
    | true => simp [evsBefore, hp]
    | false => simp [evsBefore, hp, ih]; split <;> rfl

theorem evsBefore_none (p : Ev → Bool) (l : List Ev) (h : l.any p = false) : evsBefore p l = l := by
  simpa [h, evsBefore] using evsBefore_append p l []

theorem startsOf_append (t t' : List Ev) : startsOf (t ++ t') = startsOf t ++ startsOf t' := by
  simp [startsOf, List.filterMap_append]

theorem endsOf_append (t t' : List Ev) : endsOf (t ++ t') = endsOf t ++ endsOf t' := by
  simp [endsOf, List.filterMap_append]

theorem mem_startsOf {t : List Ev} {c : Nat} {b : List Item} : (c, b) ∈ startsOf t ↔ Ev.es c b ∈ t := by
  simp only [startsOf, List.mem_filterMap]
  constructor
  · rintro ⟨e, he, h⟩
    cases e <;> simp at h
    obtain ⟨h1, h2⟩ := h; subst h1; subst h2; exact he
  · intro h; exact ⟨_, h, rfl⟩

theorem mem_endsOf {t : List Ev} {c : Nat} {b : Bool} : (c, b) ∈ endsOf t ↔ Ev.ee c b ∈ t := by
  simp only [endsOf, List.mem_filterMap]
  constructor
  · rintro ⟨e, he, h⟩
    cases e <;> simp at h
    obtain ⟨h1, h2⟩ := h; subst h1; subst h2; exact he
  · intro h; exact ⟨_, h, rfl⟩

/-! ## where the items are -/

theorem afterFlush_items (l : List Batch) : (afterFlush l).items = l.flatten := by
  cases l <;> simp [afterFlush, CSt.items]

theorem afterFlush_ne_exited (l : List Batch) : afterFlush l ≠ .exited := by
  cases l <;> simp [afterFlush]

theorem afterFlush_ne_busy (l : List Batch) (f : Nat) : afterFlush l ≠ .busy f := by
  cases l <;> simp [afterFlush]

theorem afterFlush_ne_flushing_nil (l : List Batch) : afterFlush l ≠ .flushing [] := by
  cases l <;> simp [afterFlush]

theorem flightItems_append_new (fs : List Flight) (b : Batch) (o : Option Nat) :
    flightItems (fs ++ [Flight.new b o]) = flightItems fs ++ b := by
  simp [flightItems, Flight.new, List.flatMap_append]

theorem flightItems_set (fs : List Flight) (f : Nat) (fl v : Flight) (h : fs[f]? = some fl) (hb : v.batch = fl.batch) :
    flightItems (fs.set f v) = flightItems fs :=
  flatMap_set_same (fun fl : Flight => fl.batch) fs f fl v h hb

theorem consItems_set_count (cs : List CSt) (i : Nat) (old v : CSt) (x : Item) (h : cs[i]? = some old) :
    (consItems (cs.set i v)).count x + old.items.count x = (consItems cs).count x + v.items.count x :=
  count_flatMap_set CSt.items x cs i old v h

theorem consItems_set_same (cs : List CSt) (i : Nat) (old v : CSt) (h : cs[i]? = some old) (hv : v.items = old.items) :
    consItems (cs.set i v) = consItems cs :=
  flatMap_set_same CSt.items cs i old v h hv

theorem consItems_releaseOwner (cs : List CSt) (f : Nat) (o : Option Nat) : consItems (releaseOwner cs f o) = consItems cs := by
  cases o with
  | none => rfl
  | some i =>
    simp only [releaseOwner]
    split
    · next h => exact consItems_set_same cs i _ _ h rfl
    · rfl

theorem all_exited_items {cs : List CSt} (h : ∀ c ∈ cs, c = .exited) : consItems cs = [] :=
  List.flatMap_eq_nil_iff.mpr (fun c hc => by rw [h c hc]; rfl)

theorem all_late_queueEarly {q : List (Batch × Bool)} (h : ∀ p ∈ q, p.2 = true) : queueEarly q = [] :=
  List.flatMap_eq_nil_iff.mpr (fun p hp => if_pos (h p hp))

/-- the places outside the queue -/
def inner (s : State) : List Item :=
  consItems s.cons ++ optItems s.cur ++ s.timer.items ++ optItems s.shutHand ++ flightItems s.flights

theorem places_eq (s : State) : places s = queueItems s.queue ++ inner s := by
  simp only [places, inner, List.append_assoc]

theorem placesEarly_eq (s : State) : placesEarly s = queueEarly s.queue ++ inner s := by
  simp only [placesEarly, inner, List.append_assoc]

theorem finalise_inner (s : State) (f : Nat) (fl : Flight) (kept : Bool) (fail : Nat) (h : s.flights[f]? = some fl) :
    inner (finalise s f fl kept fail) = inner s := by
  have := flightItems_set s.flights f fl { fl with st := .done, failures := fl.failures + fail, kept := kept } h rfl
  simp only [finalise, inner, consItems_releaseOwner, this]

theorem queueItems_append (q : List (Batch × Bool)) (b : Batch) (l : Bool) : queueItems (q ++ [(b, l)]) = queueItems q ++ b := by
  simp [queueItems, List.flatMap_append]

theorem queueEarly_append (q : List (Batch × Bool)) (b : Batch) (l : Bool) :
    queueEarly (q ++ [(b, l)]) = queueEarly q ++ (if l then [] else b) := by
  simp [queueEarly, List.flatMap_append]

theorem queueEarly_count_le (q : List (Batch × Bool)) (x : Item) : (queueEarly q).count x ≤ (queueItems q).count x := by
  induction q with
  | nil => exact Nat.le_refl _
  | cons p q ih =>
    simp only [queueEarly, queueItems, List.flatMap_cons, List.count_append] at ih ⊢
    cases p.2 <;> simp <;> omega

/-! ## `Step`, one rule per branch of `fire` -/

def failOf : Outcome → Nat
  | .ok => 0
  | _ => 1

inductive Step : State → Label → State → Prop
  | offer (s : State) (b : Batch) (hopen : ¬(s.cfg.persistent = false ∧ 2 ≤ s.phase)) : Step s (.offer b)
      { s with
        queue := s.queue ++ [(b, decide (1 ≤ s.phase))]
        accepted := s.accepted ++ b
        early := if s.phase = 0 then s.early ++ b else s.early
        stored := if s.cfg.persistent then s.stored ++ b else s.stored
        reqs := s.reqs ++ [b]
        qsize := s.qsize + reqSize s.cfg b }
  | read (s : State) (i : Nat) (b : Batch) (late : Bool) (rest : List (Batch × Bool))
      (hc : s.cons[i]? = some .idle) (hq : s.queue = (b, late) :: rest) (hg : ¬(s.cfg.persistent = true ∧ 2 ≤ s.phase)) :
      Step s (.read i) { s with queue := rest, cons := s.cons.set i (.holding b)
                                qsize := if s.cfg.persistent && rest.isEmpty then 0 else s.qsize }
  | exit (s : State) (i : Nat) (hc : s.cons[i]? = some .idle) (hp : 2 ≤ s.phase) (hq : s.cfg.persistent = true ∨ s.queue = []) :
      Step s (.exit i) { s with cons := s.cons.set i .exited }
  | sendSync (s : State) (i : Nat) (b : Batch) (hc : s.cons[i]? = some (.holding b)) (hb : s.cfg.batching = false) :
      Step s (.sendSync i) { s with cons := s.cons.set i (.busy s.flights.length), flights := s.flights ++ [Flight.new b (some i)] }
  | consume (s : State) (i : Nat) (b : Batch) (flush : List Batch) (keep : Option Batch)
      (hc : s.cons[i]? = some (.holding b)) (hb : s.cfg.batching = true)
      (hp : (flush.flatten ++ keep.getD []).Perm (s.cur.getD [] ++ b)) :
      Step s (.consume i flush keep) { s with cur := keep, cons := s.cons.set i (afterFlush flush) }
  | spawn (s : State) (i : Nat) (b : Batch) (rest : List Batch) (hc : s.cons[i]? = some (.flushing (b :: rest))) (hw : 0 < s.workers) :
      Step s (.spawn i)
        { s with workers := s.workers - 1, cons := s.cons.set i (afterFlush rest), flights := s.flights ++ [Flight.new b none] }
  | timerTake (s : State) (b : Batch) (ht : s.timer = .idle) (hc : s.cur = some b) :
      Step s .timerTake { s with timer := .holding b, cur := none }
  | timerSpawn (s : State) (b : Batch) (ht : s.timer = .holding b) (hw : 0 < s.workers) :
      Step s .timerSpawn { s with workers := s.workers - 1, timer := .idle, flights := s.flights ++ [Flight.new b none] }
  | timerExit (s : State) (ht : s.timer = .idle) (hp : 4 ≤ s.phase) : Step s .timerExit { s with timer := .dead }
  | expStart (s : State) (f : Nat) (fl : Flight) (hfl : s.flights[f]? = some fl) (hs : fl.st = .pending ∨ fl.st = .backoff) :
      Step s (.expStart f) { s with flights := s.flights.set f { fl with st := .calling, attempts := fl.attempts + 1 } }
  | expEndDrop (s : State) (f : Nat) (fl : Flight) (o : Outcome) (hfl : s.flights[f]? = some fl) (hs : fl.st = .calling) :
      Step s (.expEnd f o .drop) (finalise s f fl false (failOf o))
  | expEndAgain (s : State) (f : Nat) (fl : Flight) (hfl : s.flights[f]? = some fl) (hs : fl.st = .calling) (hr : s.cfg.retry = true)
      (hp0 : s.phase = 0) :
      Step s (.expEnd f .trans .again) { s with flights := s.flights.set f { fl with st := .backoff, failures := fl.failures + 1 } }
  | expEndKeep (s : State) (f : Nat) (fl : Flight) (hfl : s.flights[f]? = some fl) (hs : fl.st = .calling) (hr : s.cfg.retry = true)
      (hp : 1 ≤ s.phase) : Step s (.expEnd f .trans .keep) (finalise s f fl true 1)
  | giveUp (s : State) (f : Nat) (fl : Flight) (kept : Bool) (hfl : s.flights[f]? = some fl) (hs : fl.st = .backoff)
      (hk : kept = true → 1 ≤ s.phase) : Step s (.giveUp f kept) (finalise s f fl kept 0)
  | shutRetry (s : State) (hp : s.phase = 0) : Step s .shutRetry { s with phase := 1 }
  | shutQueue (s : State) (hp : s.phase = 1) : Step s .shutQueue { s with phase := 2 }
  | join (s : State) (hp : s.phase = 2) (hall : ∀ c ∈ s.cons, c = .exited) : Step s .join { s with phase := 3 }
  | shutBatcher (s : State) (hp : s.phase = 3) (hh : s.shutHand = none) :
      Step s .shutBatcher { s with phase := 4, shutHand := s.cur, cur := none }
  | shutSpawn (s : State) (b : Batch) (hh : s.shutHand = some b) (hp : s.phase = 4) (hw : 0 < s.workers) :
      Step s .shutSpawn { s with shutHand := none, workers := s.workers - 1, flights := s.flights ++ [Flight.new b none] }
  | shutWait (s : State) (hp : s.phase = 4)
      (hb : s.cfg.batching = true → s.shutHand = none ∧ s.timer = .dead ∧ ∀ fl ∈ s.flights, fl.owner.isSome = true ∨ fl.st = .done) :
      Step s .shutWait { s with phase := 5 }

theorem fire_step {s s' : State} {l : Label} (hf : fire s l = some s') : Step s l s' := by
  cases l with
  | offer b => obtain ⟨hopen, rfl⟩ := ite_none_inj hf; exact .offer s b hopen
  | read i =>
    simp only [fire] at hf
    split at hf
    · next b late rest hc hq =>
      obtain ⟨hg, rfl⟩ := ite_none_inj hf
      exact .read s i b late rest hc hq (by simpa using hg)
    · cases hf
  | exit i =>
    simp only [fire] at hf
    split at hf
    · next hc => obtain ⟨hg, rfl⟩ := ite_some_inj hf; exact .exit s i hc hg.1 hg.2
    · cases hf
  | sendSync i =>
    simp only [fire] at hf
    split at hf
    · next b hc => obtain ⟨hg, rfl⟩ := ite_none_inj hf; exact .sendSync s i b hc (by simpa using hg)
    · cases hf
  | consume i flush keep =>
    simp only [fire] at hf
    split at hf
    · next b hc =>
      obtain ⟨hg, rfl⟩ := ite_some_inj hf
      simp only [Bool.and_eq_true, List.isPerm_iff] at hg
      exact .consume s i b flush keep hc hg.1 hg.2
    · cases hf
  | spawn i =>
    simp only [fire] at hf
    split at hf
    · next b rest hc => obtain ⟨hw, rfl⟩ := ite_some_inj hf; exact .spawn s i b rest hc hw
    · cases hf
  | timerTake =>
    simp only [fire] at hf
    split at hf
    · next b ht hc => cases hf; exact .timerTake s b ht hc
    · cases hf
  | timerSpawn =>
    simp only [fire] at hf
    split at hf
    · next b ht => obtain ⟨hw, rfl⟩ := ite_some_inj hf; exact .timerSpawn s b ht hw
    · cases hf
  | timerExit =>
    simp only [fire] at hf
    split at hf
    · next ht => obtain ⟨hp, rfl⟩ := ite_some_inj hf; exact .timerExit s ht hp
    · cases hf
  | expStart f =>
    simp only [fire] at hf
    split at hf
    · next fl hfl => obtain ⟨hs, rfl⟩ := ite_some_inj hf; exact .expStart s f fl hfl hs
    · cases hf
  | expEnd f o a =>
    simp only [fire] at hf
    split at hf
    · next fl hfl =>
      split at hf
      · next hs =>
        split at hf
        · cases hf; exact .expEndDrop s f fl .ok hfl hs
        · cases hf; exact .expEndDrop s f fl .perm hfl hs
        · cases hf; exact .expEndDrop s f fl .trans hfl hs
        · obtain ⟨hr, rfl⟩ := ite_some_inj hf
          simp only [Bool.and_eq_true, decide_eq_true_eq] at hr
          exact .expEndAgain s f fl hfl hs hr.1 hr.2
        · obtain ⟨hr, rfl⟩ := ite_some_inj hf
          simp only [Bool.and_eq_true, decide_eq_true_eq] at hr
          exact .expEndKeep s f fl hfl hs hr.1 hr.2
        · cases hf
      · cases hf
    · cases hf
  | giveUp f kept =>
    simp only [fire] at hf
    split at hf
    · next fl hfl => obtain ⟨hg, rfl⟩ := ite_some_inj hf; exact .giveUp s f fl kept hfl hg.1 hg.2
    · cases hf
  | shutRetry => obtain ⟨hp, rfl⟩ := ite_some_inj hf; exact .shutRetry s hp
  | shutQueue => obtain ⟨hp, rfl⟩ := ite_some_inj hf; exact .shutQueue s hp
  | join =>
    obtain ⟨hg, rfl⟩ := ite_some_inj hf
    exact .join s hg.1 (fun c hc => by simpa using List.all_eq_true.mp hg.2 c hc)
  | shutBatcher => obtain ⟨hg, rfl⟩ := ite_some_inj hf; exact .shutBatcher s hg.1 hg.2
  | shutSpawn =>
    simp only [fire] at hf
    split at hf
    · next b hh => obtain ⟨hg, rfl⟩ := ite_some_inj hf; exact .shutSpawn s b hh hg.1 hg.2
    · cases hf
  | shutWait =>
    obtain ⟨hg, rfl⟩ := ite_some_inj hf
    refine .shutWait s hg.1 (fun hb => ?_)
    obtain ⟨h1, h2, h3⟩ := hg.2 hb
    exact ⟨h1, h2, fun fl hfl => by simpa using List.all_eq_true.mp h3 fl hfl⟩

theorem step_fire {s s' : State} {l : Label} (h : Step s l s') : fire s l = some s' := by
  cases h with
  | consume i b flush keep hc hb hp => simp [fire, hc, hb, List.isPerm_iff.mpr hp]
  | expEndDrop f fl o hfl hs => cases o <;> simp [fire, hfl, hs, failOf]
  | join hp hall => simp only [fire, hp, true_and]; rw [if_pos]; exact List.all_eq_true.mpr (fun c hc => by simp [hall c hc])
  | shutWait hp hb =>
    simp only [fire, hp, true_and]; rw [if_pos]
    intro hbt
    obtain ⟨h1, h2, h3⟩ := hb hbt
    refine ⟨h1, h2, List.all_eq_true.mpr (fun fl hfl => ?_)⟩
    cases h3 fl hfl with
    | inl h => simp [h]
    | inr h => simp [h]
  | giveUp f fl kept hfl hs hk => simp only [fire, hfl, hs, true_and]; rw [if_pos hk]
  | _ => simp [fire, *]

theorem releaseOwner_length (cs : List CSt) (f : Nat) (o : Option Nat) : (releaseOwner cs f o).length = cs.length := by
  cases o with
  | none => rfl
  | some i => simp only [releaseOwner]; split <;> simp

theorem mem_releaseOwner {cs : List CSt} {f : Nat} {o : Option Nat} {c : CSt} (h : c ∈ releaseOwner cs f o) : c ∈ cs ∨ c = .idle := by
  cases o with
  | none => exact .inl h
  | some i =>
    simp only [releaseOwner] at h
    split at h
    · exact List.mem_or_eq_of_mem_set h
    · exact .inl h

theorem releaseOwner_all_exited {cs : List CSt} {f : Nat} {o : Option Nat} (h : ∀ c ∈ cs, c = .exited) : releaseOwner cs f o = cs := by
  cases o with
  | none => rfl
  | some i =>
    simp only [releaseOwner]
    split
    · next hb => have := h _ (List.mem_of_getElem? hb); simp at this
    · rfl

theorem cfg_step {s s' : State} {l : Label} (hs : Step s l s') : s'.cfg = s.cfg := by
  cases hs <;> rfl

theorem cons_length_step {s s' : State} {l : Label} (hs : Step s l s') : s'.cons.length = s.cons.length := by
  cases hs <;> first | rfl | simp [finalise, releaseOwner_length]

/-! ## the phase view -/

/-- the steps of the goroutine running `BaseExporter.Shutdown`, in the order of the source -/
def shutSteps : List Label := [.shutRetry, .shutQueue, .join, .shutBatcher, .shutWait]

theorem step_phase {s s' : State} {l : Label} (hs : Step s l s') :
    (l ∉ shutSteps ∧ s'.phase = s.phase) ∨ (shutSteps[s.phase]? = some l ∧ s'.phase = s.phase + 1) := by
  cases hs <;> first
    | exact .inl ⟨by simp [shutSteps], rfl⟩
    | exact .inr ⟨by simp only [*]; rfl, by simp only [*]⟩

theorem shutSteps_lt {k : Nat} {l : Label} (h : shutSteps[k]? = some l) : k < 5 := (List.getElem?_eq_some_iff.mp h).1

theorem phase_mono {s s' : State} {l : Label} (hs : Step s l s') : s.phase ≤ s'.phase := by
  rcases step_phase hs with ⟨-, e⟩ | ⟨-, e⟩ <;> omega

theorem phase_le5_step {s s' : State} {l : Label} (h : s.phase ≤ 5) (hs : Step s l s') : s'.phase ≤ 5 := by
  rcases step_phase hs with ⟨-, e⟩ | ⟨hl, e⟩
  · omega
  · have := shutSteps_lt hl; omega

theorem sublist_of_run {s' : State} (h5 : s'.phase = 5) :
    ∀ (ls : List Label) (s : State), runFrom s ls = some s' → (shutSteps.drop s.phase).Sublist ls
  | [], s, hr => by
    obtain rfl := Option.some.inj hr
    rw [h5]; exact List.Sublist.refl _
  | l :: ls, s, hr => by
    rw [runFrom_step] at hr
    cases hf : fire s l with
    | none => rw [hf] at hr; cases hr
    | some s1 =>
      rw [hf] at hr
      have ih := sublist_of_run h5 ls s1 hr
      rcases step_phase (fire_step hf) with ⟨-, e⟩ | ⟨hl, e⟩
      · rw [e] at ih; exact ih.cons l
      · obtain ⟨hlt, hget⟩ := List.getElem?_eq_some_iff.mp hl
        rw [e] at ih
        rw [List.drop_eq_getElem_cons hlt, hget]
        exact ih.cons_cons l

/-! ## the item view: conservation -/

/-- `offer` appends to queue and ghost lists; any other step permutes the items outside the queue or (`read`) moves the head out -/
theorem step_items {s s' : State} {l : Label} (hs : Step s l s') (x : Item) :
    (∃ b, s'.queue = s.queue ++ [(b, decide (1 ≤ s.phase))] ∧ s'.accepted = s.accepted ++ b ∧
        s'.early = (if s.phase = 0 then s.early ++ b else s.early) ∧ inner s' = inner s) ∨
    (s'.accepted = s.accepted ∧ s'.early = s.early ∧
      ((s'.queue = s.queue ∧ (inner s').count x = (inner s).count x) ∨
        ∃ b late, s.queue = (b, late) :: s'.queue ∧ (inner s').count x = (inner s).count x + b.count x)) := by
  cases hs with
  | offer b => exact .inl ⟨b, rfl, rfl, rfl, rfl⟩
  | read i b late rest hc hq hg =>
    refine .inr ⟨rfl, rfl, .inr ⟨b, late, hq, ?_⟩⟩
    have := consItems_set_count s.cons i .idle (.holding b) x hc
    simp only [inner, List.count_append, CSt.items, List.count_nil] at this ⊢
    omega
  | exit i hc hp hq =>
    exact .inr ⟨rfl, rfl, .inl ⟨rfl, by simp only [inner, consItems_set_same s.cons i .idle .exited hc rfl]⟩⟩
  | sendSync i b hc hb =>
    refine .inr ⟨rfl, rfl, .inl ⟨rfl, ?_⟩⟩
    have := consItems_set_count s.cons i (.holding b) (.busy s.flights.length) x hc
    simp only [inner, flightItems_append_new, List.count_append, CSt.items, List.count_nil] at this ⊢
    omega
  | consume i b flush keep hc hb hp =>
    refine .inr ⟨rfl, rfl, .inl ⟨rfl, ?_⟩⟩
    have hp := hp.count_eq x
    have := consItems_set_count s.cons i (.holding b) (afterFlush flush) x hc
    simp only [afterFlush_items] at this
    simp only [inner, List.count_append, CSt.items] at this hp ⊢
    cases hk : keep <;> cases hcur : s.cur <;> simp only [hk, hcur, optItems, Option.getD, List.count_nil] at hp ⊢ <;> omega
  | spawn i b rest hc hw =>
    refine .inr ⟨rfl, rfl, .inl ⟨rfl, ?_⟩⟩
    have := consItems_set_count s.cons i (.flushing (b :: rest)) (afterFlush rest) x hc
    simp only [afterFlush_items] at this
    simp only [inner, flightItems_append_new, List.count_append, CSt.items, List.flatten_cons] at this ⊢
    omega
  | timerTake b ht hc =>
    refine .inr ⟨rfl, rfl, .inl ⟨rfl, ?_⟩⟩
    simp only [inner, ht, hc, optItems, TSt.items, List.count_append, List.count_nil]; omega
  | timerSpawn b ht hw =>
    refine .inr ⟨rfl, rfl, .inl ⟨rfl, ?_⟩⟩
    simp only [inner, ht, TSt.items, flightItems_append_new, List.count_append, List.count_nil]; omega
  | timerExit ht hp => exact .inr ⟨rfl, rfl, .inl ⟨rfl, by simp only [inner, ht, TSt.items]⟩⟩
  | expStart f fl hfl hs =>
    have := flightItems_set s.flights f fl { fl with st := .calling, attempts := fl.attempts + 1 } hfl rfl
    exact .inr ⟨rfl, rfl, .inl ⟨rfl, by simp only [inner, this]⟩⟩
  | expEndDrop f fl o hfl hs | expEndKeep f fl hfl hs hr hp | giveUp f fl kept hfl hs hk =>
    exact .inr ⟨rfl, rfl, .inl ⟨rfl, by rw [finalise_inner _ _ _ _ _ hfl]⟩⟩
  | expEndAgain f fl hfl hs hr hp0 =>
    have := flightItems_set s.flights f fl { fl with st := .backoff, failures := fl.failures + 1 } hfl rfl
    exact .inr ⟨rfl, rfl, .inl ⟨rfl, by simp only [inner, this]⟩⟩
  | shutBatcher hp hh =>
    refine .inr ⟨rfl, rfl, .inl ⟨rfl, ?_⟩⟩
    simp only [inner, hh, optItems, List.count_append, List.count_nil]; omega
  | shutSpawn b hh hp hw =>
    refine .inr ⟨rfl, rfl, .inl ⟨rfl, ?_⟩⟩
    simp only [inner, hh, optItems, flightItems_append_new, List.count_append, List.count_nil]; omega
  | _ => exact .inr ⟨rfl, rfl, .inl ⟨rfl, rfl⟩⟩

def Conserved (s : State) : Prop := ∀ x, s.accepted.count x = (places s).count x
def EarlyConserved (s : State) : Prop := ∀ x, s.early.count x ≤ (placesEarly s).count x

theorem conserved_step {s s' : State} {l : Label} (h : Conserved s) (hs : Step s l s') : Conserved s' := by
  intro x
  have hx := h x
  simp only [places_eq, List.count_append] at hx ⊢
  rcases step_items hs x with ⟨b, hq, ha, -, hi⟩ | ⟨ha, -, ⟨hq, hi⟩ | ⟨b, late, hq, hi⟩⟩
  · rw [hq, ha, hi, queueItems_append, List.count_append, List.count_append]; omega
  · rw [hq, ha, hi]; exact hx
  · rw [hq] at hx; rw [ha, hi]
    simp only [queueItems, List.flatMap_cons, List.count_append] at hx ⊢; omega

theorem earlyConserved_step {s s' : State} {l : Label} (h : EarlyConserved s) (hs : Step s l s') : EarlyConserved s' := by
  intro x
  have hx := h x
  simp only [placesEarly_eq, List.count_append] at hx ⊢
  rcases step_items hs x with ⟨b, hq, -, he, hi⟩ | ⟨-, he, ⟨hq, hi⟩ | ⟨b, late, hq, hi⟩⟩
  · rw [hq, he, hi, queueEarly_append, List.count_append]
    by_cases hp : s.phase = 0
    · simp [hp]; omega
    · have : decide (1 ≤ s.phase) = true := by simp; omega
      simp only [hp, this, if_true, if_false, List.count_nil]; omega
  · rw [hq, he, hi]; exact hx
  · rw [hq] at hx; rw [he, hi]
    simp only [queueEarly, List.flatMap_cons, List.count_append] at hx ⊢
    cases late <;> simp at hx ⊢ <;> omega

def EarlySub (s : State) : Prop := ∀ x ∈ s.early, x ∈ s.accepted

theorem earlySub_of {s : State} (hc : Conserved s) (he : EarlyConserved s) : EarlySub s := fun x hx => by
  have h1 := hc x
  have h2 := he x
  have h3 := queueEarly_count_le s.queue x
  rw [places_eq, List.count_append] at h1
  rw [placesEarly_eq, List.count_append] at h2
  exact List.count_pos_iff.mp (by have := List.count_pos_iff.mpr hx; omega)

/-! ## the flight view: the flight automaton, facts about single flights -/

/-- per-flight counters: what `attempts` and `failures` can be in each state -/
def FlightOK (fl : Flight) : Prop :=
  match fl.st with
  | .pending => fl.attempts = 0 ∧ fl.failures = 0
  | .calling => fl.attempts = fl.failures + 1
  | .backoff => fl.attempts = fl.failures ∧ 1 ≤ fl.attempts
  | .done => 1 ≤ fl.attempts ∧ (fl.attempts = fl.failures ∨ fl.attempts = fl.failures + 1)

theorem FlightOK.pending_iff {fl : Flight} (h : fl.st = .pending) : FlightOK fl ↔ fl.attempts = 0 ∧ fl.failures = 0 := by
  simp only [FlightOK, h]

theorem FlightOK.calling_iff {fl : Flight} (h : fl.st = .calling) : FlightOK fl ↔ fl.attempts = fl.failures + 1 := by
  simp only [FlightOK, h]

theorem FlightOK.backoff_iff {fl : Flight} (h : fl.st = .backoff) : FlightOK fl ↔ fl.attempts = fl.failures ∧ 1 ≤ fl.attempts := by
  simp only [FlightOK, h]

theorem FlightOK.done_iff {fl : Flight} (h : fl.st = .done) :
    FlightOK fl ↔ 1 ≤ fl.attempts ∧ (fl.attempts = fl.failures ∨ fl.attempts = fl.failures + 1) := by
  simp only [FlightOK, h]

def FlightsOK (s : State) : Prop := ∀ fl ∈ s.flights, FlightOK fl

theorem forall_mem_set {α : Type} {P : α → Prop} {fs : List α} {f : Nat} {v : α} (h : ∀ fl ∈ fs, P fl) (hv : P v) :
    ∀ fl ∈ fs.set f v, P fl := by
  intro fl hfl
  cases List.mem_or_eq_of_mem_set hfl with
  | inl h1 => exact h fl h1
  | inr h1 => exact h1 ▸ hv

theorem mem_set_of_ne {α : Type} {fs : List α} {f : Nat} {fl v gl : α} (hfl : fs[f]? = some fl) (hg : gl ∈ fs) (hne : gl ≠ fl) : gl ∈ fs.set f v := by
  obtain ⟨g, hg⟩ := List.mem_iff_getElem?.mp hg
  have hfg : f ≠ g := by
    intro h; subst h; rw [hfl] at hg; simp at hg; exact hne hg.symm
  exact List.mem_iff_getElem?.mpr ⟨g, by simp [hfg, hg]⟩

inductive FlMove (retry : Bool) (phase : Nat) : Flight → Flight → Prop
  | start (fl : Flight) (hs : fl.st = .pending ∨ fl.st = .backoff) :
      FlMove retry phase fl { fl with st := .calling, attempts := fl.attempts + 1 }
  | again (fl : Flight) (hs : fl.st = .calling) (hr : retry = true) (hp : phase = 0) :
      FlMove retry phase fl { fl with st := .backoff, failures := fl.failures + 1 }
  | endCall (fl : Flight) (kept : Bool) (fail : Nat) (hs : fl.st = .calling) (hf : fail ≤ 1)
      (hk : kept = true → retry = true ∧ 1 ≤ phase ∧ fail = 1) :
      FlMove retry phase fl { fl with st := .done, failures := fl.failures + fail, kept := kept }
  | giveUp (fl : Flight) (kept : Bool) (hs : fl.st = .backoff) (hk : kept = true → 1 ≤ phase) :
      FlMove retry phase fl { fl with st := .done, failures := fl.failures + 0, kept := kept }

theorem FlMove.live {r : Bool} {p : Nat} {fl fl' : Flight} (h : FlMove r p fl fl') : fl.st ≠ .done := by
  cases h with
  | start hs => rcases hs with h | h <;> simp [h]
  | again hs | endCall _ _ hs | giveUp _ hs => simp [hs]

theorem step_flights {s s' : State} {l : Label} (hs : Step s l s') :
    s'.flights = s.flights ∨ (∃ b o, s'.flights = s.flights ++ [Flight.new b o]) ∨
    ∃ f fl fl', s.flights[f]? = some fl ∧ s'.flights = s.flights.set f fl' ∧ FlMove s.cfg.retry s.phase fl fl' := by
  cases hs with
  | sendSync i b | spawn i b | timerSpawn b | shutSpawn b => exact .inr (.inl ⟨b, _, rfl⟩)
  | expStart f fl hfl hs => exact .inr (.inr ⟨f, fl, _, hfl, rfl, .start fl hs⟩)
  | expEndAgain f fl hfl hs hr hp0 => exact .inr (.inr ⟨f, fl, _, hfl, rfl, .again fl hs hr hp0⟩)
  | expEndDrop f fl o hfl hs =>
    exact .inr (.inr ⟨f, fl, _, hfl, rfl, .endCall fl false (failOf o) hs (by cases o <;> simp [failOf]) (by simp)⟩)
  | expEndKeep f fl hfl hs hr hp =>
    exact .inr (.inr ⟨f, fl, _, hfl, rfl, .endCall fl true 1 hs (Nat.le_refl _) (fun _ => ⟨hr, hp, rfl⟩)⟩)
  | giveUp f fl kept hfl hs hk => exact .inr (.inr ⟨f, fl, _, hfl, rfl, .giveUp fl kept hs hk⟩)
  | _ => exact .inl rfl

theorem forall_flights_step {P : Flight → Prop} {s s' : State} {l : Label} (hs : Step s l s') (hnew : ∀ b o, P (Flight.new b o))
    (hmove : ∀ fl fl', P fl → FlMove s.cfg.retry s.phase fl fl' → P fl') (h : ∀ fl ∈ s.flights, P fl) : ∀ fl ∈ s'.flights, P fl := by
  rcases step_flights hs with e | ⟨b, o, e⟩ | ⟨f, fl, fl', hfl, e, hm⟩ <;> rw [e]
  · exact h
  · exact List.forall_mem_append.mpr ⟨h, List.forall_mem_singleton.mpr (hnew b o)⟩
  · exact forall_mem_set h (hmove fl fl' (h fl (List.mem_of_getElem? hfl)) hm)

theorem done_mono {s s' : State} {l : Label} (hs : Step s l s') {fl : Flight} (hfl : fl ∈ s.flights) (hd : fl.st = .done) :
    fl ∈ s'.flights := by
  rcases step_flights hs with e | ⟨b, o, e⟩ | ⟨f, gl, gl', hg, e, hm⟩ <;> rw [e]
  · exact hfl
  · exact List.mem_append_left _ hfl
  · exact mem_set_of_ne hg hfl (fun he => hm.live (he ▸ hd))

/-- what holds of every single flight: its counters fit its state; without `retry_on_failure` it is never in back-off nor kept
(`retry_sender.go` is not in the chain); if it ended with a shutdown error its last call did not succeed -/
def FlGood (retry : Bool) (fl : Flight) : Prop :=
  FlightOK fl ∧ (retry = false → fl.kept = false ∧ fl.st ≠ .backoff) ∧ (fl.st = .done → fl.kept = true → fl.attempts ≠ fl.failures + 1)

theorem flGood_move {r : Bool} {p : Nat} {fl fl' : Flight} (h : FlGood r fl) (hm : FlMove r p fl fl') : FlGood r fl' := by
  obtain ⟨hok, hnr, _⟩ := h
  cases hm with
  | start hs =>
    refine ⟨(FlightOK.calling_iff rfl).mpr ?_, fun hr => ⟨(hnr hr).1, by simp⟩, by simp⟩
    rcases hs with h1 | h1
    · have := (FlightOK.pending_iff h1).mp hok; dsimp only; omega
    · have := (FlightOK.backoff_iff h1).mp hok; dsimp only; omega
  | again hs hr hp =>
    have := (FlightOK.calling_iff hs).mp hok
    exact ⟨(FlightOK.backoff_iff rfl).mpr (by dsimp only; omega), fun h0 => (by rw [hr] at h0; cases h0), by simp⟩
  | endCall kept fail hs hf hk =>
    have := (FlightOK.calling_iff hs).mp hok
    refine ⟨(FlightOK.done_iff rfl).mpr (by dsimp only; omega), fun h0 => ⟨?_, by simp⟩, fun _ hkt => ?_⟩
    · cases kept with
      | false => rfl
      | true => have := (hk rfl).1; rw [h0] at this; cases this
    · have := (hk hkt).2.2; show fl.attempts ≠ fl.failures + fail + 1; omega
  | giveUp kept hs hk =>
    have := (FlightOK.backoff_iff hs).mp hok
    exact ⟨(FlightOK.done_iff rfl).mpr (by dsimp only; omega), fun h0 => absurd hs (hnr h0).2,
      fun _ _ => by show fl.attempts ≠ fl.failures + 0 + 1; omega⟩

theorem flGood_step {s s' : State} {l : Label} (hs : Step s l s') (h : ∀ fl ∈ s.flights, FlGood s.cfg.retry fl) :
    ∀ fl ∈ s'.flights, FlGood s'.cfg.retry fl :=
  cfg_step hs ▸ forall_flights_step hs (fun b o => ⟨(FlightOK.pending_iff rfl).mpr ⟨rfl, rfl⟩, by simp [Flight.new], by simp [Flight.new]⟩) (fun _ _ h hm => flGood_move h hm) h

/-! ## a consumer inside the export chain and its flight -/

/-- a live flight that runs on a consumer goroutine is recorded in that consumer's state -/
def OwnerInv (fs : List Flight) (cs : List CSt) : Prop :=
  ∀ (f : Nat) (fl : Flight), fs[f]? = some fl → fl.st ≠ .done → ∀ i, fl.owner = some i → cs[i]? = some (.busy f)

/-- a consumer inside the export chain and its live flight point at each other; `OwnerInv` is the direction from the flight -/
def Owns (fs : List Flight) (cs : List CSt) : Prop :=
  ∀ (i f : Nat), cs[i]? = some (CSt.busy f) ↔ ∃ fl : Flight, fs[f]? = some fl ∧ fl.st ≠ FSt.done ∧ fl.owner = some i

theorem Owns.ownerInv {fs : List Flight} {cs : List CSt} (h : Owns fs cs) : OwnerInv fs cs :=
  fun f fl hfl hnd i hi => (h i f).mpr ⟨fl, hfl, hnd, hi⟩

theorem owns_cons_set {fs : List Flight} {cs : List CSt} (h : Owns fs cs) {i : Nat} {old v : CSt} (hc : cs[i]? = some old)
    (hold : ∀ f, old ≠ .busy f) (hv : ∀ f, v ≠ .busy f) : Owns fs (cs.set i v) := by
  intro j f
  by_cases hij : i = j
  · subst hij
    rw [get_set_self hc, ← h i f, hc]
    simp [hold f, hv f]
  · rw [List.getElem?_set_ne hij]; exact h j f

theorem owns_new {fs : List Flight} {cs : List CSt} (h : Owns fs cs) (b : Batch) : Owns (fs ++ [Flight.new b none]) cs := by
  intro i f
  rw [h i f]
  constructor
  · rintro ⟨fl, hfl, h1, h2⟩
    exact ⟨fl, get_append_some hfl, h1, h2⟩
  · rintro ⟨fl, hfl, h1, h2⟩
    rcases getElem?_append_singleton hfl with hfl | ⟨_, rfl⟩
    · exact ⟨fl, hfl, h1, h2⟩
    · simp [Flight.new] at h2

theorem owns_sendSync {fs : List Flight} {cs : List CSt} (h : Owns fs cs) {i : Nat} {b : Batch} (hc : cs[i]? = some (.holding b)) :
    Owns (fs ++ [Flight.new b (some i)]) (cs.set i (.busy fs.length)) := by
  have hlt : i < cs.length := (List.getElem?_eq_some_iff.mp hc).1
  intro j f
  by_cases hf : f = fs.length
  · subst hf
    have : (fs ++ [Flight.new b (some i)])[fs.length]? = some (Flight.new b (some i)) := by simp
    rw [this]
    by_cases hij : i = j
    · subst hij; rw [List.getElem?_set_self hlt]; simp [Flight.new]
    · rw [List.getElem?_set_ne hij]
      constructor
      · intro hj; obtain ⟨fl, hfl, _⟩ := (h j _).mp hj; simp at hfl
      · rintro ⟨_, e, _, h2⟩; rw [← Option.some.inj e] at h2; simp [Flight.new] at h2; exact absurd h2 hij
  · have hget : (fs ++ [Flight.new b (some i)])[f]? = fs[f]? := by
      by_cases hlt' : f < fs.length
      · exact List.getElem?_append_left hlt'
      · rw [List.getElem?_eq_none (by simp; omega), List.getElem?_eq_none (by omega)]
    rw [hget, ← h j f]
    by_cases hij : i = j
    · subst hij; rw [List.getElem?_set_self hlt, hc]; simp [Ne.symm hf]
    · rw [List.getElem?_set_ne hij]

theorem owns_flights_set {fs : List Flight} {cs : List CSt} (h : Owns fs cs) {f : Nat} {fl v : Flight} (hfl : fs[f]? = some fl)
    (hst : fl.st ≠ .done) (hv : v.st ≠ .done) (ho : v.owner = fl.owner) : Owns (fs.set f v) cs := by
  intro i g
  rw [h i g]
  by_cases hfg : f = g
  · subst hfg
    rw [get_set_self hfl, hfl]
    simp only [Option.some.injEq, exists_eq_left', hst, hv, ho, ne_eq, not_false_eq_true, true_and]
  · rw [List.getElem?_set_ne hfg]

theorem owns_release {fs : List Flight} {cs : List CSt} (h : Owns fs cs) {f : Nat} {fl v : Flight} (hfl : fs[f]? = some fl)
    (hst : fl.st ≠ .done) (hv : v.st = .done) : Owns (fs.set f v) (releaseOwner cs f fl.owner) := by
  -- the consumers: only the owner of `f` changes, from `busy f` to `idle`
  have hcs : ∀ i g : Nat, (releaseOwner cs f fl.owner)[i]? = some (CSt.busy g) ↔ cs[i]? = some (CSt.busy g) ∧ g ≠ f := by
    intro i g
    have hbusy : cs[i]? = some (.busy f) ↔ fl.owner = some i := by
      rw [h i f, hfl]; exact ⟨fun ⟨_, e, _, h2⟩ => (Option.some.inj e) ▸ h2, fun h2 => ⟨fl, rfl, hst, h2⟩⟩
    cases ho : fl.owner with
    | none =>
      rw [ho] at hbusy
      simp only [releaseOwner, iff_self_and]
      rintro hc rfl; simp [hc] at hbusy
    | some k =>
      rw [ho] at hbusy
      have hk : cs[k]? = some (.busy f) := (h k f).mpr ⟨fl, hfl, hst, ho⟩
      simp only [releaseOwner, hk, if_true]
      by_cases hki : k = i
      · subst hki
        rw [get_set_self hk, hk]; simp [eq_comm]
      · rw [List.getElem?_set_ne hki, iff_self_and]
        rintro hc rfl; exact hki (Option.some.inj (hbusy.mp hc))
  intro i g
  rw [hcs i g, h i g]
  by_cases hfg : f = g
  · subst hfg; rw [get_set_self hfl]
    simp only [ne_eq, not_true_eq_false, and_false, false_iff]
    rintro ⟨_, e, h1, _⟩; exact h1 ((Option.some.inj e) ▸ hv)
  · rw [List.getElem?_set_ne hfg]; simp [Ne.symm hfg]

theorem owns_step {s s' : State} {l : Label} (h : Owns s.flights s.cons) (hs : Step s l s') : Owns s'.flights s'.cons := by
  cases hs with
  | read i b late rest hc hq hg | exit i hc hp hq => exact owns_cons_set h hc (by simp) (by simp)
  | consume i b flush keep hc hb hp => exact owns_cons_set h hc (by simp) (afterFlush_ne_busy _)
  | sendSync i b hc hb => exact owns_sendSync h hc
  | spawn i b rest hc hw => exact owns_cons_set (owns_new h b) hc (by simp) (afterFlush_ne_busy _)
  | timerSpawn b ht hw | shutSpawn b hh hp hw => exact owns_new h b
  | expStart f fl hfl hs => exact owns_flights_set h hfl (by rcases hs with h | h <;> simp [h]) (by simp) rfl
  | expEndAgain f fl hfl hs hr hp0 => exact owns_flights_set h hfl (by simp [hs]) (by simp) rfl
  | expEndDrop f fl o hfl hs | expEndKeep f fl hfl hs hr hp | giveUp f fl kept hfl hs hk => exact owns_release h hfl (by simp [hs]) rfl
  | _ => exact h

/-! ## the structural invariant `WF` -/

/-- structural invariant of the shutdown protocol -/
structure WF (s : State) : Prop where
  nb_cur : s.cfg.batching = false → s.cur = none
  nb_hand : s.cfg.batching = false → s.shutHand = none
  nb_timer : s.cfg.batching = false → s.timer = .dead
  nb_flush : s.cfg.batching = false → ∀ c ∈ s.cons, ∀ p, c ≠ .flushing p
  nb_owned : s.cfg.batching = false → ∀ fl ∈ s.flights, fl.owner.isSome = true
  owner : OwnerInv s.flights s.cons
  joined : 3 ≤ s.phase → ∀ c ∈ s.cons, c = .exited
  cur4 : 4 ≤ s.phase → s.cur = none
  hand3 : s.phase ≤ 3 → s.shutHand = none
  ret : s.phase = 5 → s.cfg.batching = true →
    s.shutHand = none ∧ s.timer = .dead ∧ ∀ fl ∈ s.flights, fl.owner.isSome = true ∨ fl.st = .done

theorem WF.not_joined {s : State} (w : WF s) {i : Nat} {c : CSt} (hc : s.cons[i]? = some c) (hne : c ≠ .exited) : ¬ 3 ≤ s.phase :=
  fun h => hne (w.joined h c (List.mem_of_getElem? hc))

/-- a flush goroutine was awaited; a live flight on a consumer goroutine would keep that consumer from exiting -/
theorem WF.flights_done {s : State} (w : WF s) (hp : s.phase = 5) : ∀ fl ∈ s.flights, fl.st = .done := by
  intro fl hfl
  have howned : fl.owner.isSome = true ∨ fl.st = .done := by
    cases hb : s.cfg.batching with
    | true => exact (w.ret hp hb).2.2 fl hfl
    | false => exact .inl (w.nb_owned hb fl hfl)
  cases howned with
  | inr h1 => exact h1
  | inl h1 =>
    by_cases hd : fl.st = .done
    · exact hd
    · obtain ⟨f, hf⟩ := List.mem_iff_getElem?.mp hfl
      obtain ⟨i, hi⟩ := Option.isSome_iff_exists.mp h1
      have := w.joined (by omega) _ (List.mem_of_getElem? (w.owner f fl hf hd i hi))
      simp at this

theorem wf_init (cfg : Cfg) (n w : Nat) (t : Bool) : WF (init cfg n w t) := by
  refine ⟨?_, ?_, ?_, ?_, ?_, ?_, ?_, ?_, ?_, ?_⟩ <;> simp [init, OwnerInv]
  · intro h; simp [h]  -- `nb_timer`: the timer of `init` is an `if` on `batching`

theorem wf_finalise {s : State} (w : WF s) {f : Nat} {fl : Flight} {kept : Bool} {fail : Nat}
    (ow : OwnerInv (finalise s f fl kept fail).flights (finalise s f fl kept fail).cons)
    (hfl : s.flights[f]? = some fl) : WF (finalise s f fl kept fail) := by
  refine ⟨w.nb_cur, w.nb_hand, w.nb_timer, ?_, ?_, ow, ?_, w.cur4, w.hand3, ?_⟩
  · intro hb c hc p
    cases mem_releaseOwner hc with
    | inl h => exact w.nb_flush hb c h p
    | inr h => simp [h]
  · exact fun hb => forall_mem_set (w.nb_owned hb) (w.nb_owned hb fl (List.mem_of_getElem? hfl))
  · intro hp c hc
    have : releaseOwner s.cons f fl.owner = s.cons := releaseOwner_all_exited (w.joined hp)
    simp only [finalise, this] at hc
    exact w.joined hp c hc
  · intro hp hb
    obtain ⟨h1, h2, h3⟩ := w.ret hp hb
    exact ⟨h1, h2, forall_mem_set h3 (.inr rfl)⟩

theorem wf_flight_set {s : State} (w : WF s) {f : Nat} {fl v : Flight} (ow : OwnerInv (s.flights.set f v) s.cons)
    (hfl : s.flights[f]? = some fl) (hst : fl.st ≠ .done) (ho : v.owner = fl.owner) : WF { s with flights := s.flights.set f v } := by
  refine ⟨w.nb_cur, w.nb_hand, w.nb_timer, w.nb_flush, ?_, ow, w.joined, w.cur4, w.hand3, ?_⟩
  · exact fun hb => forall_mem_set (w.nb_owned hb) (ho ▸ w.nb_owned hb fl (List.mem_of_getElem? hfl))
  · intro hp hb
    obtain ⟨h1, h2, h3⟩ := w.ret hp hb
    exact ⟨h1, h2, forall_mem_set h3 ((h3 fl (List.mem_of_getElem? hfl)).elim (fun h4 => .inl (ho ▸ h4)) (absurd · hst))⟩

theorem lt3_not_five {k : Nat} {P : Prop} (h : ¬ 3 ≤ k) (h5 : k = 5) : P := absurd (by omega) h

theorem wf_step {s s' : State} {l : Label} (w : WF s) (ow : OwnerInv s'.flights s'.cons) (hs : Step s l s') : WF s' := by
  cases hs with
  | offer b => exact ⟨w.nb_cur, w.nb_hand, w.nb_timer, w.nb_flush, w.nb_owned, ow, w.joined, w.cur4, w.hand3, w.ret⟩
  | read i b late rest hc hq hg | exit i hc hp hq =>
    have hnj := w.not_joined hc (by simp)
    refine ⟨w.nb_cur, w.nb_hand, w.nb_timer, ?_, w.nb_owned, ow, ?_, w.cur4, w.hand3, ?_⟩
    · exact fun hb => forall_mem_set (w.nb_flush hb) (by simp)
    · exact (absurd · hnj)
    · exact lt3_not_five hnj
  | sendSync i b hc hb =>
    have hnj := w.not_joined hc (by simp)
    refine ⟨w.nb_cur, w.nb_hand, w.nb_timer, ?_, ?_, ow, ?_, w.cur4, w.hand3, ?_⟩
    · exact fun hb => forall_mem_set (w.nb_flush hb) (by simp)
    · exact fun hb' => List.forall_mem_append.mpr ⟨w.nb_owned hb', List.forall_mem_singleton.mpr rfl⟩
    · exact (absurd · hnj)
    · exact lt3_not_five hnj
  | consume i b flush keep hc hb hp =>
    have hnj := w.not_joined hc (by simp)
    refine ⟨?_, w.nb_hand, w.nb_timer, ?_, w.nb_owned, ow, ?_, ?_, w.hand3, ?_⟩
    · intro hb'; simp [hb] at hb'
    · intro hb'; simp [hb] at hb'
    · exact (absurd · hnj)
    · exact fun h4 => absurd (Nat.le_trans (by decide) h4) hnj
    · exact lt3_not_five hnj
  | spawn i b rest hc hw =>
    have hnj := w.not_joined hc (by simp)
    have hbt : s.cfg.batching = false → False := fun hb => w.nb_flush hb _ (List.mem_of_getElem? hc) _ rfl
    refine ⟨w.nb_cur, w.nb_hand, w.nb_timer, ?_, ?_, ow, ?_, w.cur4, w.hand3, ?_⟩
    · intro hb; exact (hbt hb).elim
    · intro hb; exact (hbt hb).elim
    · exact (absurd · hnj)
    · exact lt3_not_five hnj
  | timerTake b ht hc =>
    refine ⟨fun _ => rfl, w.nb_hand, ?_, w.nb_flush, w.nb_owned, ow, w.joined, fun _ => rfl, w.hand3, ?_⟩
    · intro hb; have := w.nb_timer hb; simp [ht] at this
    · intro hp hb; have := (w.ret hp hb).2.1; simp [ht] at this
  | timerSpawn b ht hw =>
    have hbt : s.cfg.batching = false → False := fun hb => by have := w.nb_timer hb; simp [ht] at this
    refine ⟨w.nb_cur, w.nb_hand, ?_, w.nb_flush, ?_, ow, w.joined, w.cur4, w.hand3, ?_⟩
    · intro hb; exact (hbt hb).elim
    · intro hb; exact (hbt hb).elim
    · intro hp hb; have := (w.ret hp hb).2.1; simp [ht] at this
  | timerExit ht hp =>
    refine ⟨w.nb_cur, w.nb_hand, fun _ => rfl, w.nb_flush, w.nb_owned, ow, w.joined, w.cur4, w.hand3, ?_⟩
    intro hp hb; obtain ⟨h1, _, h3⟩ := w.ret hp hb; exact ⟨h1, rfl, h3⟩
  | expStart f fl hfl hs =>
    exact wf_flight_set w ow hfl (by cases hs with | inl h => simp [h] | inr h => simp [h]) rfl
  | expEndDrop f fl o hfl hs => exact wf_finalise w ow hfl
  | expEndAgain f fl hfl hs hr hp0 => exact wf_flight_set w ow hfl (by simp [hs]) rfl
  | expEndKeep f fl hfl hs hr hp => exact wf_finalise w ow hfl
  | giveUp f fl kept hfl hs hk => exact wf_finalise w ow hfl
  | shutRetry hp | shutQueue hp =>
    refine ⟨w.nb_cur, w.nb_hand, w.nb_timer, w.nb_flush, w.nb_owned, ow, ?_, ?_, ?_, ?_⟩
    · intro h; simp at h
    · intro h; simp at h
    · intro _; exact w.hand3 (by omega)
    · intro h; simp at h
  | join hp hall =>
    refine ⟨w.nb_cur, w.nb_hand, w.nb_timer, w.nb_flush, w.nb_owned, ow, fun _ => hall, ?_, ?_, ?_⟩
    · intro h; simp at h
    · intro _; exact w.hand3 (by omega)
    · intro h; simp at h
  | shutBatcher hp hh =>
    refine ⟨fun _ => rfl, w.nb_cur, w.nb_timer, w.nb_flush, w.nb_owned, ow, ?_, fun _ => rfl, ?_, ?_⟩
    · intro _; exact w.joined (by omega)
    · intro h; simp at h
    · intro h; simp at h
  | shutSpawn b hh hp hw =>
    have hbt : s.cfg.batching = false → False := fun hb => by have := w.nb_hand hb; simp [hh] at this
    refine ⟨w.nb_cur, fun _ => rfl, w.nb_timer, w.nb_flush, ?_, ow, w.joined, w.cur4, fun _ => rfl, ?_⟩
    · intro hb; exact (hbt hb).elim
    · intro h; simp only at h; omega
  | shutWait hp hb =>
    refine ⟨w.nb_cur, w.nb_hand, w.nb_timer, w.nb_flush, w.nb_owned, ow, ?_, ?_, ?_, ?_⟩
    · intro _; exact w.joined (by omega)
    · intro _; exact w.cur4 (by omega)
    · intro h; simp at h
    · intro _ hbt; exact hb hbt

def NoEmptyFlush (cs : List CSt) : Prop := ∀ c ∈ cs, c ≠ .flushing []

theorem noEmptyFlush_release {cs : List CSt} (w : NoEmptyFlush cs) (f : Nat) (o : Option Nat) :
    NoEmptyFlush (releaseOwner cs f o) := by
  intro c hc
  cases mem_releaseOwner hc with
  | inl h => exact w c h
  | inr h => simp [h]

theorem noEmptyFlush_step {s s' : State} {l : Label} (w : NoEmptyFlush s.cons) (hs : Step s l s') : NoEmptyFlush s'.cons := by
  cases hs with
  | read i b late rest hc hq hg | exit i hc hp hq | sendSync i b hc hb => exact forall_mem_set w (by simp)
  | consume i b flush keep hc hb hp | spawn i b rest hc hw => exact forall_mem_set w (afterFlush_ne_flushing_nil _)
  | expEndDrop f fl o hfl hs | expEndKeep f fl hfl hs hr hp | giveUp f fl kept hfl hs hk => exact noEmptyFlush_release w _ _
  | _ => exact w

/-! ## the two queue kinds: a memory queue is drained, a persistent queue keeps; the storage view -/

theorem exists_exited {cs : List CSt} (hall : ∀ c ∈ cs, c = .exited) (hn : cs ≠ []) : ∃ c ∈ cs, c = .exited := by
  cases cs with
  | nil => exact absurd rfl hn
  | cons c cs => exact ⟨c, List.mem_cons_self, hall c List.mem_cons_self⟩

theorem exited_of_set {cs : List CSt} {i : Nat} {v : CSt} (hv : v ≠ .exited) (h : ∃ c ∈ cs.set i v, c = .exited) : ∃ c ∈ cs, c = .exited := by
  obtain ⟨c, hc, he⟩ := h
  cases List.mem_or_eq_of_mem_set hc with
  | inl h1 => exact ⟨c, h1, he⟩
  | inr h1 => exact absurd (h1 ▸ he) hv

theorem exited_of_release {cs : List CSt} {f : Nat} {o : Option Nat} (h : ∃ c ∈ releaseOwner cs f o, c = .exited) : ∃ c ∈ cs, c = .exited := by
  obtain ⟨c, hc, he⟩ := h
  cases mem_releaseOwner hc with
  | inl h1 => exact ⟨c, h1, he⟩
  | inr h1 => rw [h1] at he; simp at he

/-- memory queue: once some consumer has left its loop, only requests enqueued after the shutdown request can be in the queue -/
def MemLate (s : State) : Prop :=
  s.cfg.persistent = false → (∃ c ∈ s.cons, c = .exited) → 2 ≤ s.phase ∧ ∀ p ∈ s.queue, p.2 = true

/-- memory queue: a consumer leaves its loop only when the queue is stopped and empty, and a stopped memory queue refuses offers: once
some consumer has left, the queue stays empty -/
def MemDone (s : State) : Prop :=
  s.cfg.persistent = false → (∃ c ∈ s.cons, c = .exited) → 2 ≤ s.phase ∧ s.queue = []

theorem MemDone.late {s : State} (h : MemDone s) : MemLate s :=
  fun hm he => ⟨(h hm he).1, by simp [(h hm he).2]⟩

theorem memDone_step {s s' : State} {l : Label} (h : MemDone s) (hs : Step s l s') : MemDone s' := by
  cases hs with
  | offer b hopen => intro hm he; exact absurd ⟨hm, (h hm he).1⟩ hopen
  | read i b late rest hc hq hg =>
    intro hm he
    have := (h hm (exited_of_set (by simp) he)).2
    rw [hq] at this; cases this
  | exit i hc hp hq =>
    intro hm _
    exact ⟨hp, hq.resolve_left (by rw [show s.cfg.persistent = false from hm]; simp)⟩
  | sendSync i b hc hb => intro hm he; exact h hm (exited_of_set (by simp) he)
  | consume i b flush keep hc hb hp | spawn i b rest hc hw => intro hm he; exact h hm (exited_of_set (afterFlush_ne_exited _) he)
  | expEndDrop f fl o hfl hs | expEndKeep f fl hfl hs hr hp | giveUp f fl kept hfl hs hk => intro hm he; exact h hm (exited_of_release he)
  | shutRetry hp | shutQueue hp | join hp hall | shutBatcher hp hh | shutWait hp hb =>
    intro hm he; have := h hm he; exact ⟨by simp only; omega, this.2⟩
  | _ => exact h

/-- persistent queue: an accepted item is in storage until a flight containing it has ended without a shutdown error -/
def PersistKept (s : State) : Prop :=
  s.cfg.persistent = true → ∀ x ∈ s.accepted, x ∈ s.stored ∨ ∃ fl ∈ s.flights, fl.st = .done ∧ fl.kept = false ∧ x ∈ fl.batch

theorem step_stored {s s' : State} {l : Label} (hs : Step s l s') :
    (∃ b, l = .offer b) ∨ (s'.early = s.early ∧ s'.accepted = s.accepted ∧ (∀ x ∈ s'.stored, x ∈ s.stored) ∧
      ∀ x ∈ s.stored, x ∈ s'.stored ∨ ∃ fl ∈ s'.flights, fl.st = .done ∧ fl.kept = false ∧ x ∈ fl.batch) := by
  have fin : ∀ {f : Nat} {fl : Flight} (kept : Bool) (fail : Nat), s.flights[f]? = some fl →
      (∀ x ∈ (finalise s f fl kept fail).stored, x ∈ s.stored) ∧ ∀ x ∈ s.stored, x ∈ (finalise s f fl kept fail).stored ∨
        ∃ gl ∈ (finalise s f fl kept fail).flights, gl.st = .done ∧ gl.kept = false ∧ x ∈ gl.batch := by
    intro f fl kept fail hfl
    cases kept with
    | true => exact ⟨fun x hx => by simpa [finalise] using hx, fun x hx => .inl (by simpa [finalise] using hx)⟩
    | false =>
      refine ⟨fun x hx => by simp [finalise] at hx; exact hx.1, fun x hx => ?_⟩
      by_cases hxb : x ∈ fl.batch
      · exact .inr ⟨_, List.mem_set (List.getElem?_eq_some_iff.mp hfl).1 _, rfl, rfl, hxb⟩
      · exact .inl (by simp [finalise, hx, hxb])
  cases hs with
  | offer b => exact .inl ⟨b, rfl⟩
  | expEndDrop f fl o hfl hs | expEndKeep f fl hfl hs hr hp | giveUp f fl kept hfl hs hk => exact .inr ⟨rfl, rfl, fin _ _ hfl⟩
  | _ => exact .inr ⟨rfl, rfl, fun _ h => h, fun _ h => .inl h⟩

theorem persistKept_step {s s' : State} {l : Label} (h : PersistKept s) (hs : Step s l s') : PersistKept s' := by
  intro hp x hx
  rw [cfg_step hs] at hp
  rcases step_stored hs with ⟨b, rfl⟩ | ⟨-, ha, -, hlost⟩
  · cases hs with
    | offer b =>
      have hp' : s.cfg.persistent = true := hp
      rcases List.mem_append.mp hx with h1 | h1
      · rcases h hp x h1 with h2 | ⟨gl, hgl, hd, hkp, hb⟩
        · exact .inl (by simp only [hp', if_true, List.mem_append]; exact .inl h2)
        · exact .inr ⟨gl, hgl, hd, hkp, hb⟩
      · exact .inl (by simp only [hp', if_true, List.mem_append]; exact .inr h1)
  -- an item accepted before the step is still stored, or was lost to a flight that ended now, or its ended flight is still there
  · rcases h hp x (ha ▸ hx) with h1 | ⟨gl, hgl, hd, hkp, hb⟩
    · exact hlost x h1
    · exact .inr ⟨gl, done_mono hs hgl hd, hd, hkp, hb⟩

/-! ## the invariant -/

/-- the part of `Good` (below) that the statements of `Props/C03.lean` mention -/
structure Inv (s : State) : Prop where
  wf : WF s
  flights : FlightsOK s
  conserved : Conserved s
  early : EarlyConserved s
  late : MemLate s
  kept : PersistKept s
  sub : EarlySub s

/-- the invariant of the shutdown LTS -/
structure Good (s : State) : Prop where
  wf : WF s
  owns : Owns s.flights s.cons
  nef : NoEmptyFlush s.cons
  le5 : s.phase ≤ 5
  flights : ∀ fl ∈ s.flights, FlGood s.cfg.retry fl
  conserved : Conserved s
  early : EarlyConserved s
  mem : MemDone s
  kept : PersistKept s

theorem Good.inv {s : State} (h : Good s) : Inv s :=
  ⟨h.wf, fun fl hfl => (h.flights fl hfl).1, h.conserved, h.early, h.mem.late, h.kept, earlySub_of h.conserved h.early⟩

theorem good_init (cfg : Cfg) (n w : Nat) (t : Bool) : Good (init cfg n w t) := by
  refine ⟨wf_init cfg n w t, ?_, ?_, by simp [init], ?_, ?_, ?_, ?_, ?_⟩
  · intro i f
    have : (List.replicate n CSt.idle)[i]? ≠ some (.busy f) := fun hi => by
      have := List.mem_of_getElem? hi
      simp [List.mem_replicate] at this
    simp [this, init]
  · intro c hc
    simp [init, List.mem_replicate] at hc
    simp [hc.2]
  · intro fl hfl; simp [init] at hfl
  · intro x; simp [init, places, queueItems, consItems, optItems, flightItems, List.count_flatMap]
    by_cases hbt : cfg.batching = true ∧ t = true <;> simp [hbt, TSt.items, CSt.items]
  · intro x; simp [init]
  · intro _ he; simp [init, List.mem_replicate] at he
  · intro _ x hx; simp [init] at hx

theorem good_step {s s' : State} {l : Label} (h : Good s) (hs : Step s l s') : Good s' :=
  have ow := owns_step h.owns hs
  ⟨wf_step h.wf ow.ownerInv hs, ow, noEmptyFlush_step h.nef hs, phase_le5_step h.le5 hs, flGood_step hs h.flights, conserved_step h.conserved hs, earlyConserved_step h.early hs,
   memDone_step h.mem hs, persistKept_step h.kept hs⟩

theorem good_reachable {s : State} (h : Reachable s) : Good s := by
  induction h with
  | init cfg n w t => exact good_init cfg n w t
  | step l _ hf ih => exact good_step ih (fire_step hf)

theorem inv_reachable {s : State} (h : Reachable s) : Inv s := (good_reachable h).inv

end OtelVerif.C03

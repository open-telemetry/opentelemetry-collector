import OtelVerif.Model.Payload
/-! the drivers' multiset oracle `permB` (erase-based) is core's `List.isPerm`, so it decides `List.Perm` exactly -/
namespace OtelVerif.Payload

theorem permB_eq_isPerm {β : Type} [DecidableEq β] : ∀ (l₁ l₂ : List β), permB l₁ l₂ = l₁.isPerm l₂
  | [], _ => rfl
  | a :: l₁, l₂ => by rw [permB, List.isPerm, permB_eq_isPerm l₁]

theorem permB_iff {β : Type} [DecidableEq β] (l₁ l₂ : List β) : permB l₁ l₂ = true ↔ l₁.Perm l₂ := by
  rw [permB_eq_isPerm]; exact List.isPerm_iff

end OtelVerif.Payload

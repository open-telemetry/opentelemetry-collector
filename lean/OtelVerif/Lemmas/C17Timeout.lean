import OtelVerif.Lemmas.C17Shard
/-!
C17: the per-item deadline of one arrival handled up to `δ` after the pending timer deadline.  The one place where the FIFO
order of `split` is needed: after a size-triggered send the timer is re-armed from `now`, right only because what is left
arrived just now.
-/
namespace OtelVerif.C17
open OtelVerif.Payload

/-- the batch operations take items in arrival (document) order -/
structure Fifo {P β : Type} (o : BatchOps P) (flat : P → List β) : Prop where
  split_eq : ∀ n p, n < o.count p → flat (o.split n p).1 ++ flat (o.split n p).2 = flat p

theorem logs_fifo : Fifo logsBatch flatten := ⟨splitLogs_eq⟩
theorem metrics_fifo : Fifo metricsBatch mflatten := ⟨splitMetrics_eq⟩

theorem suffix_mem {β : Type} (A B C D : List β) (h : A ++ B = C ++ D) (hlen : B.length ≤ D.length) : ∀ x ∈ B, x ∈ D := by
  intro x hx
  rcases List.append_eq_append_iff.mp h with ⟨a', _, h2⟩ | ⟨c', _, h2⟩
  · have : a' = [] := by
      apply List.eq_nil_of_length_eq_zero
      have := congrArg List.length h2
      rw [List.length_append] at this
      omega
    rw [h2, this] at hx
    exact hx
  · rw [h2]; exact List.mem_append.mpr (Or.inr hx)

theorem send_left {P : Type} (o : BatchOps P) (c : Cfg) (hv : c.valid) (now : Nat) (s s1 : Shard P)
    (hi : due c s = false) (n : Nat) (h : s1.cnt = s.cnt + n) : (s1.send o c now).1.cnt ≤ n := by
  rcases send_cases o c now s1 with ⟨h1, _, e⟩ | ⟨_, e⟩ <;> rw [e]
  · show s1.cnt - c.max ≤ n
    rcases idle_fits hv hi with h0 | hle
    · exact absurd h0 (Nat.ne_of_gt h1)
    · omega
  · exact Nat.zero_le _

theorem process_timed_late {P β : Type} (o : BatchOps P) (flat : P → List β) (hl : BatchLaws o flat) (hf : Fifo o flat)
    (c : Cfg) (hv : c.valid) (arr : β → Nat) (now : Nat) (s : Shard P) (p : P)
    (hi : s.inv o c) (hold : ∀ x ∈ flat s.data, s.deadline ≤ arr x + c.timeout) (hdl : s.deadline ≤ now + c.timeout)
    (δ : Nat) (hnow : now ≤ s.deadline + δ) (hnew : ∀ x ∈ flat p, arr x = now) :
    (∀ e ∈ (s.process o c now p).2, ∀ x ∈ flat e.p, e.t ≤ arr x + c.timeout + δ) ∧
    (∀ x ∈ flat (s.process o c now p).1.data, (s.process o c now p).1.deadline ≤ arr x + c.timeout) ∧
    (s.process o c now p).1.deadline ≤ now + c.timeout := by
  obtain ⟨ok1, f1, c1⟩ := add_spec hl s p hi.1
  cases hd : due c (s.add o p) with
  | false =>
    rw [process_idle o c now s p hd]
    refine ⟨(fun e he => nomatch he), fun x hx => ?_, (add_deadline o s p).symm ▸ hdl⟩
    rw [add_deadline]
    rcases List.mem_append.mp (f1 ▸ hx) with h | h
    · exact hold x h
    · rw [hnew x h]; exact hdl
  | true =>
    obtain ⟨ok2, _, lt1, _, r1⟩ := send_spec Seq.eq hl hf.split_eq c now (s.add o p) ok1
    obtain ⟨ok3, _, _, r2⟩ := sendLoop_spec Seq.eq hl hf.split_eq c now (s.add o p).cnt _ ok2 (lt1 (pos_of_due hd))
    have heq : flatEmits flat (((s.add o p).send o c now).2 ::
          (sendLoop o c now (s.add o p).cnt ((s.add o p).send o c now).1 []).2) ++
        flat (sendLoop o c now (s.add o p).cnt ((s.add o p).send o c now).1 []).1.data = flat s.data ++ flat p := by
      rw [flatEmits_cons, List.append_assoc, r2, r1, f1]
    have sf := sendLoop_fields o c now (s.add o p).cnt ((s.add o p).send o c now).1
    have ps := process_stamp o c now s p
    rw [process_first o c now s p hd] at ps ⊢
    refine ⟨fun e he x hx => ?_, fun x hx => ?_, Nat.le_refl _⟩
    · rw [(ps e he).2]
      rcases List.mem_append.mp (heq ▸ List.mem_append.mpr (Or.inl (mem_flatEmits he hx))) with h | h
      · exact Nat.le_trans hnow (Nat.add_le_add_right (hold x h) _)
      · rw [hnew x h, Nat.add_assoc]; exact Nat.le_add_right _ _
    · have hlen : (flat (sendLoop o c now (s.add o p).cnt ((s.add o p).send o c now).1 []).1.data).length ≤ (flat p).length := by
        rw [← hl.count_eq, ← ok3]
        exact Nat.le_trans sf.cnt_le (send_left o c hv now s _ hi.2 _ c1)
      rw [hnew x (suffix_mem _ _ _ _ heq hlen x hx)]
      exact Nat.le_refl _

theorem process_deadline {P : Type} (o : BatchOps P) (c : Cfg) (now : Nat) (s : Shard P) (p : P) :
    (s.process o c now p).1.deadline = s.deadline ∨ (s.process o c now p).1.deadline = now + c.timeout := by
  cases hd : due c (s.add o p) with
  | false => rw [process_idle o c now s p hd]; exact Or.inl (add_deadline o s p)
  | true => rw [process_due o c now s p hd]; exact Or.inr rfl

end OtelVerif.C17

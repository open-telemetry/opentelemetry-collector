import OtelVerif.Lemmas.C08
/-! C08: `otlp.Migrate*` is idempotent and a no-op when no deprecated data is present. Core Lean only. -/
namespace OtelVerif.C08
open OtelVerif.Proto

/-- a repeated slot holds a chain: empty or a `cons` -/
def chainy (x : Val) : Prop := x = .nil ∨ x.isCons = true

theorem confD_reps_chainy (S : Schema) (f : Field) (x : Val) (h : confD S (.reps f) x = true) : chainy x := by
  cases x with
  | nil => exact Or.inl rfl
  | cons a b => exact Or.inr rfl
  | _ => simp [confD] at h

theorem migrateRes_cases (ss : List Slot) : (∀ rv, migrateRes ss rv = rv) ∨ ∃ i d, slotIdx ss 2 = some i ∧ slotIdx ss 1000 = some d ∧
    ∀ rv, migrateRes ss rv = Val.set (if (Val.get rv i).isCons then rv else Val.set rv i (Val.get rv d)) d .nil := by
  unfold migrateRes
  cases slotIdx ss 2 with
  | none => exact Or.inl fun _ => rfl
  | some i =>
    cases slotIdx ss 1000 with
    | none => exact Or.inl fun _ => rfl
    | some d => exact Or.inr ⟨i, d, rfl, rfl, fun _ => rfl⟩

theorem migShape2_slots {S : Schema} (h : migShape2Ok S = true) (r : Nat) : migShape2At (S.slots r) = true :=
  all_msgs_slots (P := migShape2At) rfl h r

theorem migShape2At_spec {ss : List Slot} {i d : Nat} (h : migShape2At ss = true) (hi : slotIdx ss 2 = some i)
    (hd : slotIdx ss 1000 = some d) :
    i ≠ d ∧ ∃ fd fi, ss[d]? = some (.one fd) ∧ ss[i]? = some (.one fi) ∧ fd.card = .rep ∧ fi.card = .rep ∧ fd.ty = fi.ty := by
  simp only [migShape2At, hd, hi, Bool.and_eq_true, bne_iff_ne, ne_eq] at h
  obtain ⟨hne, hsl⟩ := h
  split at hsl
  · next fd fi hsd hsi =>
    simp only [Bool.and_eq_true, beq_iff_eq] at hsl
    exact ⟨hne, fd, fi, hsd, hsi, hsl.1.1, hsl.1.2, hsl.2⟩
  · cases hsl

theorem migrateRes_noop (ss : List Slot) (rv : Val)
    (h : ∀ d, slotIdx ss 1000 = some d → Val.get rv d = .nil ∧ ∀ i, slotIdx ss 2 = some i → chainy (Val.get rv i)) :
    migrateRes ss rv = rv := by
  rcases migrateRes_cases ss with hid | ⟨i, d, h2, h1000, he⟩
  · exact hid rv
  · obtain ⟨hd, hi⟩ := h d h1000
    rw [he]
    rcases hi i h2 with hn | hc
    · rw [hn, hd]
      simp only [Val.isCons, Bool.false_eq_true, if_false]
      rw [set_nil_of_get_nil rv i hn, set_nil_of_get_nil rv d hd]
    · rw [hc]; simp only [if_true]; exact set_nil_of_get_nil rv d hd

/-- a migrated resource has nothing left to migrate: slot 1000 is empty, slot 2 holds its own list or the moved one -/
theorem migrateRes_idem (ss : List Slot) (rv : Val)
    (hne : ∀ i d, slotIdx ss 2 = some i → slotIdx ss 1000 = some d → i ≠ d)
    (hch : ∀ d, slotIdx ss 1000 = some d → chainy (Val.get rv d)) :
    migrateRes ss (migrateRes ss rv) = migrateRes ss rv := by
  rcases migrateRes_cases ss with hid | ⟨i, d, hi, hd, he⟩
  · rw [hid, hid]
  · apply migrateRes_noop
    intro d' hd'; rw [hd] at hd'; cases hd'
    refine ⟨by rw [he]; exact get_set_nil _ d, fun i' hi' => ?_⟩
    · rw [hi] at hi'; cases hi'
      rw [he, get_set_ne _ i d _ (hne i d hi hd)]
      split
      · next hc => exact Or.inr hc
      · rcases get_set_self_or rv i (Val.get rv d) with h | ⟨h, _⟩ <;> rw [h]
        · exact hch d hd
        · exact Or.inl rfl

theorem mapChain_id (f : Val → Val) : ∀ (l : Val), (∀ x, x ∈ Val.toList l → f x = x) → mapChain f l = l := by
  intro l
  induction l with
  | cons h t _ iht =>
    intro hf
    simp only [mapChain]
    rw [hf h (by simp [Val.toList]), iht (fun x hx => hf x (by simp [Val.toList, hx]))]
  | _ => intro _; simp [mapChain]

theorem mem_mapChain (g : Val → Val) : ∀ (l x : Val), x ∈ Val.toList (mapChain g l) → ∃ y, y ∈ Val.toList l ∧ x = g y := by
  intro l
  induction l with
  | cons h t _ iht =>
    intro x hx
    simp only [mapChain, Val.toList, List.mem_cons] at hx ⊢
    rcases hx with h1 | h1
    · exact ⟨h, Or.inl rfl, h1⟩
    · obtain ⟨y, hy, he⟩ := iht x h1
      exact ⟨y, Or.inr hy, he⟩
  | _ => intro x hx; simp [mapChain, Val.toList] at hx

theorem mapChain_idem (f : Val → Val) (l : Val) (hf : ∀ x, x ∈ Val.toList l → f (f x) = f x) :
    mapChain f (mapChain f l) = mapChain f l :=
  mapChain_id f _ fun x hx => by obtain ⟨y, hy, rfl⟩ := mem_mapChain f l x hx; exact hf y hy

/-- the hypothesis of `C08_migrate_idem`, for the resource message with slots `ss` and the resource list `l` -/
def MigOk (ss : List Slot) (l : Val) : Prop :=
  (∀ i d, slotIdx ss 2 = some i → slotIdx ss 1000 = some d → i ≠ d) ∧
  (∀ rv, rv ∈ Val.toList l → ∀ d, slotIdx ss 1000 = some d → chainy (Val.get rv d))

theorem migrate_eq {S : Schema} {m : Nat} {f : Field} {rest : List Slot} {r : Nat} (hs : S.slots m = .one f :: rest)
    (hty : f.ty = .msg r) (v : Val) :
    migrate S m v = Val.set v 0 (mapChain (migrateRes (S.slots r)) (Val.get v 0)) := by
  unfold migrate; rw [hs]; simp only [hty]

theorem migrate_cases (S : Schema) (m : Nat) :
    (∀ v, migrate S m v = v) ∨ ∃ f rest r, S.slots m = .one f :: rest ∧ f.ty = .msg r := by
  unfold migrate
  cases hs : S.slots m with
  | nil => exact Or.inl fun _ => rfl
  | cons s rest =>
    cases s with
    | oneof g alts => exact Or.inl fun _ => rfl
    | one f =>
      rcases msg_or_leaf f.ty with ⟨r, hty⟩ | hty
      · exact Or.inr ⟨f, rest, r, rfl, hty⟩
      · left; intro v; simp only []

theorem migrate_noop_of_res (S : Schema) (m : Nat) (v : Val)
    (h : ∀ f rest r, S.slots m = .one f :: rest → f.ty = .msg r → ∀ rv, rv ∈ Val.toList (Val.get v 0) →
      migrateRes (S.slots r) rv = rv) : migrate S m v = v := by
  rcases migrate_cases S m with hid | ⟨f, rest, r, hs, hty⟩
  · exact hid v
  · rw [migrate_eq hs hty, mapChain_id _ _ (h f rest r hs hty), set_get_self]

end OtelVerif.C08

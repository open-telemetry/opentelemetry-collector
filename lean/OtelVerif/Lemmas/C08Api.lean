import OtelVerif.Lemmas.C08Json
import OtelVerif.Lemmas.C08Mig
/-! C08: payloads built through the public API (`apiVal`) are JSON-representable (`jcov`) and carry no
deprecated data (`migrate` is a no-op on them); `normV` keeps `conf` and `apiVal`. Core Lean only. -/
namespace OtelVerif.C08
open OtelVerif.Proto

theorem apiVal_slots_cons (S : Schema) (s : Slot) (ss : List Slot) (x xs : Val) :
    apiVal S (.slots (s :: ss)) (.cons x xs) = (apiVal S (.slot s) x && apiVal S (.slots ss) xs) := by conv => lhs; rw [apiVal]

theorem apiVal_reps_cons (S : Schema) (f : Field) (e rest : Val) :
    apiVal S (.reps f) (.cons e rest) = (apiVal S (.elem f) e && apiVal S (.reps f) rest) := by conv => lhs; rw [apiVal]

theorem apiVal_slot_one (S : Schema) (f : Field) (v : Val) :
    apiVal S (.slot (.one f)) v = ((!isDep f || !v.isCons) &&
      (match f.card with
       | .rep | .packed => apiVal S (.reps f) v
       | _ => apiVal S (.elem f) v)) := by
  conv => lhs; rw [apiVal]
  cases f with | mk num go json orig ty card => cases card <;> rfl

theorem apiVal_slot_oneof (S : Schema) (g : String) (alts : List Field) (k : Nat) (p : Val) :
    apiVal S (.slot (.oneof g alts)) (.cons (.num k) (.cons p .nil)) =
      match findAlt alts k with
      | some a => apiVal S (.elem a) p
      | none => true := by
  conv => lhs; rw [apiVal]
  cases findAlt alts k <;> rfl

theorem apiVal_elem_msg (S : Schema) (f : Field) (v : Val) (sub : Nat) (hty : f.ty = .msg sub) :
    apiVal S (.elem f) v = apiVal S (.slots (S.slots sub)) v := by
  (conv => lhs; rw [apiVal.eq_def]); simp [hty]

theorem apiVal_elem_leaf (S : Schema) (f : Field) (v : Val) (hty : ∀ sub, f.ty ≠ .msg sub) :
    apiVal S (.elem f) v = bytesLeaf f.ty v := by
  rw [apiVal.eq_def]
  cases hft : f.ty <;> cases v <;> simp [hft, bytesLeaf] <;> (try exact absurd hft (hty _))

/-- side condition of `jcov_of_apiVal` per mode: the slots in hand belong to message `m` and are covered -/
def CovSide (S : Schema) (m : Nat) : Mode → Prop
  | .slots rem => ∀ s, s ∈ rem → slotCovOk S m s = true
  | .slot s => slotCovOk S m s = true
  | _ => True

theorem jcov_of_apiVal (S : Schema) (hcov : ∀ m s, s ∈ S.slots m → slotCovOk S m s = true)
    (m : Nat) (mode : Mode) (v : Val) :
    apiVal S mode v = true → CovSide S m mode → jcov S m mode v = true := by
  fun_induction jcov S m mode v
  case case1 m s ss x xs ih2 ih1 =>  -- slots cons
    intro ha hs
    rw [apiVal_slots_cons, Bool.and_eq_true] at ha
    rw [Bool.and_eq_true]
    exact ⟨ih2 ha.1 (hs s (by simp)), ih1 ha.2 (fun s' hs' => hs s' (by simp [hs']))⟩
  case case3 m f v sub hty ih =>  -- elem msg
    intro ha _
    rw [apiVal_elem_msg S f v sub hty] at ha
    exact ih ha (fun s hs => hcov sub s hs)
  case case4 m f hty b =>  -- elem bytes
    intro ha _
    rw [apiVal_elem_leaf S f _ (by simp [hty]), hty] at ha; exact ha
  case case6 m f n hty b =>  -- elem id
    intro ha _
    rw [apiVal_elem_leaf S f _ (by simp [hty]), hty] at ha; exact ha
  case case9 m f e rest ih2 ih1 =>  -- reps cons
    intro ha _
    rw [apiVal_reps_cons, Bool.and_eq_true] at ha
    rw [Bool.and_eq_true]
    exact ⟨ih2 ha.1 trivial, ih1 ha.2 trivial⟩
  case case11 m f v ih2 ih1 =>  -- plain slot
    intro ha hs
    rw [apiVal_slot_one, Bool.and_eq_true] at ha
    simp only [CovSide, slotCovOk, Bool.or_eq_true, Bool.and_eq_true, beq_iff_eq] at hs
    rcases hs with ⟨hd, hc⟩ | hc
    · -- deprecated list: never populated, hence omitted
      have h1 := ha.1
      simp only [hd, Bool.not_true, Bool.false_or, Bool.not_eq_true'] at h1
      simp [jsonOmit, hc, h1]
    · rw [Bool.or_eq_true, Bool.and_eq_true]
      right
      refine ⟨hc, ?_⟩
      have h2 := ha.2
      cases hcard : f.card <;> simp only [hcard] at h2 ⊢
      · exact ih1 h2 trivial
      · exact ih1 h2 trivial
      · exact ih2 h2 trivial
      · exact ih2 h2 trivial
  case case12 m g alts k p a hfa ih =>  -- one-of found
    intro ha hs
    rw [apiVal_slot_oneof] at ha; simp only [hfa] at ha
    simp only [CovSide, slotCovOk, List.all_eq_true] at hs
    rw [Bool.and_eq_true]
    exact ⟨hs a (mem_of_findAlt hfa).1, ih ha trivial⟩
  all_goals (intro _ _; rfl)

theorem covOk_mem {S : Schema} (h : covOk S = true) (m : Nat) (s : Slot) (hs : s ∈ S.slots m) : slotCovOk S m s = true := by
  simp only [covOk, List.all_eq_true, List.mem_range, covOkAt] at h
  exact h m (lt_of_mem_slots hs) s hs

theorem migrateRes_noop_api (S : Schema) (ss : List Slot) (rv : Val) (hshape : migShapeAt ss = true)
    (hc : conf S false (.slots ss) rv = true) (ha : apiVal S (.slots ss) rv = true) : migrateRes ss rv = rv := by
  have hD := confD_of_conf S _ rv hc
  apply migrateRes_noop
  intro d hd
  simp only [migShapeAt, hd, Bool.and_eq_true] at hshape
  obtain ⟨h1, h2⟩ := hshape
  split at h1
  · next f hsd =>
    simp only [Bool.and_eq_true, beq_iff_eq] at h1
    have hcd := confD_get S ss rv d _ hD hsd
    have had := slots_get S (apiVal_slots_cons S) ss rv d _ hD ha hsd
    rw [confD_slot_one] at hcd; simp only [h1.2] at hcd
    rw [apiVal_slot_one, Bool.and_eq_true] at had
    have hnc : (Val.get rv d).isCons = false := by simpa [h1.1] using had.1
    refine ⟨?_, ?_⟩
    · rcases confD_reps_chainy S f _ hcd with hn | hcons
      · exact hn
      · rw [hcons] at hnc; cases hnc
    · intro i hi
      simp only [hi] at h2
      split at h2
      · next f2 hsi =>
        simp only [beq_iff_eq] at h2
        have hci := confD_get S ss rv i _ hD hsi
        rw [confD_slot_one] at hci; simp only [h2] at hci
        exact confD_reps_chainy S f2 _ hci
      · cases h2
  · cases h1

/-- **a payload built through the public API carries no deprecated data**: `otlp.Migrate*` leaves it alone -/
theorem migrate_noop_api (S : Schema) (hshape : migShapeOk S = true) (m : Nat) (v : Val)
    (hfirst : ∀ f rest, S.slots m = .one f :: rest → f.card = .rep)
    (hc : conf S false (.slots (S.slots m)) v = true) (ha : apiVal S (.slots (S.slots m)) v = true) :
    migrate S m v = v := by
  apply migrate_noop_of_res
  intro f rest r hs hty rv hrv
  have hcard := hfirst f rest hs
  rw [hs] at hc ha
  cases v with
  | cons x xs =>
    rw [conf_slots_cons, Bool.and_eq_true] at hc
    rw [apiVal_slots_cons, Bool.and_eq_true] at ha
    have hcx := hc.1; have hax := ha.1
    rw [conf_slot_one] at hcx; simp only [hcard] at hcx
    rw [apiVal_slot_one, Bool.and_eq_true] at hax
    have hax2 := hax.2; simp only [hcard] at hax2
    have hsh : migShapeAt (S.slots r) = true := all_msgs_slots (P := migShapeAt) rfl hshape r
    have h1 := reps_mem (conf_reps_cons S false f) x rv hcx hrv
    have h2 := reps_mem (apiVal_reps_cons S f) x rv hax2 hrv
    rw [conf_elem_msg S false f rv r hty] at h1
    rw [apiVal_elem_msg S f rv r hty] at h2
    exact migrateRes_noop_api S _ rv hsh h1 h2
  | _ => simp [conf] at hc

theorem normLeaf_isCons (ty : Ty) (v : Val) : (normLeaf ty v).isCons = v.isCons := by
  cases ty <;> cases v <;> rfl

theorem isCons_normV (S : Schema) (mode : Mode) (v : Val) : (normV S mode v).isCons = v.isCons := by
  -- `normV` changes `num`s only
  fun_induction normV S mode v <;> first | rfl | assumption | (exact normLeaf_isCons _ _) | simp_all [Val.isCons]

theorem normNaN_lt (n : Nat) (h : n < 2 ^ 64) : normNaN n < 2 ^ 64 := by
  unfold normNaN; split
  · decide
  · exact h

theorem normNaN_ne (n : Nat) (h : n ≠ 2 ^ 63) : normNaN n ≠ 2 ^ 63 := by
  unfold normNaN; split
  · decide
  · exact h

theorem normLeaf_eq (ty : Ty) (v : Val) (h : ty ≠ .double) : normLeaf ty v = v := by
  cases ty <;> first | rfl | exact absurd rfl h

theorem leafOk_normLeaf (ty : Ty) (v : Val) (h : leafOk ty v = true) : leafOk ty (normLeaf ty v) = true := by
  by_cases hd : ty = .double
  · subst hd
    cases v <;> simp_all [normLeaf, leafOk, scalarOk]
    exact normNaN_lt _ h
  · rw [normLeaf_eq ty v hd]; exact h

theorem normLeaf_negzero (ty : Ty) (v : Val) (h : (ty == .double && v == .num (2 ^ 63)) = false) :
    (ty == .double && normLeaf ty v == .num (2 ^ 63)) = false := by
  by_cases hd : ty = .double
  · subst hd
    cases v <;> simp_all [normLeaf]
    intro hh; exact absurd hh (normNaN_ne _ h)
  · rw [normLeaf_eq ty v hd]; exact h

theorem leafOk_notMsg (ty : Ty) (v : Val) (h : leafOk ty v = true) : ∀ sub, ty ≠ .msg sub := by
  intro sub hh; subst hh; cases v <;> simp [leafOk, scalarOk] at h

theorem packedOk_normV (S : Schema) (f : Field) : ∀ v, packedOk f.ty v = true →
    packedOk f.ty (normV S (.reps f) v) = true := by
  intro v
  induction v with
  | cons h t _ iht =>
    intro hp
    cases h with
    | num n =>
      simp only [packedOk, Bool.and_eq_true] at hp
      have hl : leafOk f.ty (.num n) = true := by rw [leafOk_num]; exact hp.1
      rw [normV_reps_cons, normV_elem_leaf S f _ (leafOk_notMsg _ _ hl)]
      have := leafOk_normLeaf f.ty (.num n) hl
      cases hn : normLeaf f.ty (.num n) with
      | num k => rw [hn, leafOk_num] at this; simp [packedOk, this, iht hp.2]
      | _ => cases hft : f.ty <;> simp [hft, normLeaf] at hn
    | _ => simp [packedOk] at hp
  | nil => intro _; rw [normV_nil]; rfl
  | _ => intro hp; simp [packedOk] at hp

theorem conf_normV (S : Schema) (mode : Mode) (v : Val) :
    conf S false mode v = true → conf S false mode (normV S mode v) = true := by
  fun_induction normV S mode v
  case case1 s ss x xs ih2 ih1 =>  -- slots cons
    intro h
    rw [conf_slots_cons, Bool.and_eq_true] at h
    rw [conf_slots_cons, Bool.and_eq_true]; exact ⟨ih2 h.1, ih1 h.2⟩
  case case3 f v sub hty ih =>  -- elem msg
    intro h
    rw [conf_elem_msg S false f _ sub hty] at h ⊢; exact ih h
  case case4 f v hty =>  -- elem leaf
    intro h
    rw [conf_elem_leaf S false f v hty] at h
    rw [conf_elem_leaf S false f _ hty]; exact leafOk_normLeaf _ _ h
  case case5 f e rest ih2 ih1 =>  -- reps cons
    intro h
    rw [conf_reps_cons, Bool.and_eq_true] at h
    rw [conf_reps_cons, Bool.and_eq_true]; exact ⟨ih2 h.1, ih1 h.2⟩
  case case7 f v hc ih =>  -- rep
    intro h
    rw [conf_slot_one] at h ⊢; simp only [hc] at h ⊢; exact ih h
  case case8 f v hc ih =>  -- packed
    intro h
    rw [conf_slot_one] at h ⊢; simp only [hc] at h ⊢; exact packedOk_normV S f v h
  case case9 f v hc1 hc2 ih =>  -- opt, req
    intro h
    rw [conf_slot_one] at h ⊢
    cases hc : f.card
    · simp only [hc, Bool.and_eq_true, Bool.not_eq_true'] at h ⊢
      have hty := leafOk_notMsg f.ty v h.1
      rw [normV_elem_leaf S f v hty]
      exact ⟨leafOk_normLeaf _ _ h.1, normLeaf_negzero _ _ h.2⟩
    · simp only [hc] at h ⊢; exact ih h
    · exact (hc1 hc).elim
    · exact (hc2 hc).elim
  case case10 g alts k p a hfa ih =>  -- one-of found
    intro h
    rw [conf_slot_oneof] at h ⊢; simp only [hfa] at h ⊢; exact ih h
  all_goals (intro h; exact h)  -- the other cases: `normV` returns `v` itself

theorem apiVal_normV (S : Schema) (mode : Mode) (v : Val) :
    apiVal S mode v = true → apiVal S mode (normV S mode v) = true := by
  fun_induction normV S mode v
  case case1 s ss x xs ih2 ih1 =>  -- slots cons
    intro h
    rw [apiVal_slots_cons, Bool.and_eq_true] at h
    rw [apiVal_slots_cons, Bool.and_eq_true]; exact ⟨ih2 h.1, ih1 h.2⟩
  case case3 f v sub hty ih =>  -- elem msg
    intro h
    rw [apiVal_elem_msg S f v sub hty] at h
    rw [apiVal_elem_msg S f _ sub hty]; exact ih h
  case case4 f v hty =>  -- elem leaf
    intro h
    by_cases hd : f.ty = .double
    · rw [apiVal_elem_leaf S f _ hty, hd]; rfl
    · rw [normLeaf_eq _ _ hd]; exact h
  case case5 f e rest ih2 ih1 =>  -- reps cons
    intro h
    rw [apiVal_reps_cons, Bool.and_eq_true] at h
    rw [apiVal_reps_cons, Bool.and_eq_true]; exact ⟨ih2 h.1, ih1 h.2⟩
  case case7 f v hc ih | case8 f v hc ih =>  -- rep | packed
    intro h
    rw [apiVal_slot_one, Bool.and_eq_true] at h ⊢
    simp only [hc] at h ⊢
    exact ⟨by rw [isCons_normV]; exact h.1, ih h.2⟩
  case case9 f v hc1 hc2 ih =>  -- opt, req
    intro h
    rw [apiVal_slot_one, Bool.and_eq_true] at h ⊢
    refine ⟨by rw [isCons_normV]; exact h.1, ?_⟩
    have h2 := h.2
    cases hc : f.card <;> simp only [hc] at h2 ⊢
    · exact ih h2
    · exact ih h2
    · exact (hc1 hc).elim
    · exact (hc2 hc).elim
  case case10 g alts k p a hfa ih =>  -- one-of found
    intro h
    rw [apiVal_slot_oneof] at h ⊢; simp only [hfa] at h ⊢; exact ih h
  all_goals (intro h; exact h)

end OtelVerif.C08

import OtelVerif.Model.C20
/-! # C20 — the trace monitor: `Mon.step` as a guard `Mon.ok` and an update `Mon.next` (`Mon.step_iff`), and what an accepted run implies -/
namespace OtelVerif.C20

theorem Mon.run_cons (m : Mon) (e : TEv) (es : List TEv) :
    Mon.run m (e :: es) = match m.step e with | .ok m' => m'.run es | .error b => .error b := rfl

theorem Mon.run_append (m : Mon) (a b : List TEv) :
    Mon.run m (a ++ b) = match Mon.run m a with | .ok m' => Mon.run m' b | .error e => .error e := by
  induction a generalizing m with
  | nil => rfl
  | cons x xs ih =>
    simp only [List.cons_append, Mon.run_cons]
    cases m.step x with
    | error e => rfl
    | ok m1 => exact ih m1

theorem Mon.run_append_ok {m0 m : Mon} {a : List TEv} (h : Mon.run m0 a = .ok m) (b : List TEv) :
    Mon.run m0 (a ++ b) = Mon.run m b := by
  rw [Mon.run_append, h]

def Mon.next (m : Mon) : TEv → Mon
  | .started g c => { m with live := (g, c) :: m.live }
  | .shut g c => { m with live := m.live.filter (· ≠ (g, c)), shutOnce := (g, c) :: m.shutOnce }
  | .prov => { m with prov := m.prov + 1 }
  | .st s => { m with st := s, everRunning := m.everRunning || s == .running }
  | .call => { m with req := m.req || m.everRunning, reqSt := if m.req then m.reqSt else m.st }
  | .stop => { m with stopped := true }
  | .ret ok => { m with ret := some ok }
  | .created _ _ | .quiet => m

def Mon.ok (m : Mon) : TEv → Prop
  | .created g _ | .started g _ => ∀ p ∈ m.live, p.1 = g
  | .shut g c => (g, c) ∉ m.shutOnce
  | .prov => m.prov = 0
  | .quiet => m.req = true → m.ret.isSome = true
  | .ret _ => m.live = [] ∧ (m.stopped = true → m.st = .closed ∧ m.prov = 1)
  | _ => True

theorem Mon.step_iff {m m' : Mon} {e : TEv} : m.step e = .ok m' ↔ m.ok e ∧ m' = m.next e := by
  cases e with
  | created g c | started g c =>
    simp only [Mon.step, Mon.ok, Mon.next]
    split
    · rename_i p hp
      exact ⟨nofun, fun h => absurd (h.1 p (List.mem_of_find?_eq_some hp)) (by simpa using List.find?_some hp)⟩
    · rename_i hf
      simp only [List.find?_eq_none, decide_eq_true_eq, Decidable.not_not] at hf
      exact ⟨fun h => ⟨hf, by cases h; rfl⟩, fun h => by rw [h.2]⟩
  | shut g c =>
    simp only [Mon.step, Mon.ok, Mon.next]
    split
    · exact ⟨nofun, fun h => absurd ‹_› h.1⟩
    · exact ⟨fun h => ⟨‹_›, by cases h; rfl⟩, fun h => by rw [h.2]⟩
  | prov =>
    simp only [Mon.step, Mon.ok, Mon.next]
    split
    · exact ⟨nofun, fun h => by omega⟩
    · exact ⟨fun h => ⟨by omega, by cases h; rfl⟩, fun h => by rw [h.2]⟩
  | quiet =>
    simp only [Mon.step, Mon.ok, Mon.next]
    split
    · rename_i hq
      simp only [Bool.and_eq_true, Option.isNone_iff_eq_none] at hq
      exact ⟨nofun, fun h => by have := h.1 hq.1; rw [hq.2] at this; cases this⟩
    · rename_i hq
      refine ⟨fun h => ⟨fun hr => ?_, by cases h; rfl⟩, fun h => by rw [h.2]⟩
      cases hn : m.ret with
      | some _ => rfl
      | none => simp [hr, hn] at hq
  | ret ok =>
    simp only [Mon.step, Mon.ok, Mon.next]
    split
    · rename_i hl; exact ⟨nofun, fun h => by rw [h.1.1] at hl; cases hl⟩
    · rename_i hl
      cases hs : m.stopped
      · simp [hl]; exact eq_comm
      · by_cases h1 : m.st = .closed <;> by_cases h2 : m.prov = 1 <;> simp [hl, h1, h2] <;> exact eq_comm
  | _ => simp only [Mon.step, Mon.ok, Mon.next, true_and, Except.ok.injEq]; exact eq_comm

theorem Mon.run_cons_ok {m : Mon} {e : TEv} (h : m.ok e) (es : List TEv) : Mon.run m (e :: es) = Mon.run (m.next e) es := by
  rw [Mon.run_cons, Mon.step_iff.2 ⟨h, rfl⟩]

theorem Mon.run_one {m : Mon} {e : TEv} (h : m.ok e) : Mon.run m [e] = .ok (m.next e) := Mon.run_cons_ok h []

theorem Mon.run_ok_cons {m m' : Mon} {e : TEv} {es : List TEv} (h : Mon.run m (e :: es) = .ok m') :
    m.ok e ∧ Mon.run (m.next e) es = .ok m' := by
  rw [Mon.run_cons] at h
  cases hs : m.step e with
  | error b => rw [hs] at h; cases h
  | ok m1 =>
    obtain ⟨hok, rfl⟩ := Mon.step_iff.1 hs
    rw [hs] at h; exact ⟨hok, h⟩

theorem Mon.run_split {m m' : Mon} {a b : List TEv} {e : TEv} (h : Mon.run m (a ++ e :: b) = .ok m') :
    ∃ ma, Mon.run m a = .ok ma ∧ ma.ok e ∧ Mon.run (ma.next e) b = .ok m' := by
  rw [Mon.run_append] at h
  cases ha : Mon.run m a with
  | error x => rw [ha] at h; cases h
  | ok ma =>
    rw [ha] at h
    obtain ⟨hs, h⟩ := Mon.run_ok_cons h
    exact ⟨ma, rfl, hs, h⟩

theorem Mon.live_keeps {m m' : Mon} {p : List TEv} {x : Nat × Nat} (h : Mon.run m p = .ok m') (hx : x ∈ m.live)
    (hn : TEv.shut x.1 x.2 ∉ p) : x ∈ m'.live := by
  induction p generalizing m with
  | nil => cases h; exact hx
  | cons e es ih =>
    obtain ⟨-, h⟩ := Mon.run_ok_cons h
    refine ih h ?_ (fun hm => hn (List.mem_cons_of_mem _ hm))
    cases e with
    | started g c => exact List.mem_cons_of_mem _ hx
    | shut g c => exact List.mem_filter.2 ⟨hx, decide_eq_true (fun he => hn (he ▸ List.mem_cons_self))⟩
    | _ => exact hx

theorem Mon.started_live {m m' : Mon} {p1 p2 : List TEv} {g c : Nat} (h : Mon.run m (p1 ++ .started g c :: p2) = .ok m')
    (hn : TEv.shut g c ∉ p2) : (g, c) ∈ m'.live := by
  obtain ⟨ma, _, _, h3⟩ := Mon.run_split h
  exact Mon.live_keeps h3 List.mem_cons_self hn

/-- `he`: accepting `e` needs every live component to be of generation `g'` -/
theorem Mon.no_overlap {m0 m : Mon} {p1 p2 p3 : List TEv} {g c g' : Nat} {e : TEv}
    (hm : Mon.run m0 (p1 ++ .started g c :: (p2 ++ e :: p3)) = .ok m)
    (he : ∀ ma : Mon, ma.ok e → ∀ p ∈ ma.live, p.1 = g') (hne : g ≠ g') : TEv.shut g c ∈ p2 := by
  apply Classical.byContradiction; intro hn
  have hm' : Mon.run m0 ((p1 ++ .started g c :: p2) ++ e :: p3) = .ok m := by simpa using hm
  obtain ⟨ma, h1, h2, _⟩ := Mon.run_split hm'
  exact hne (he ma h2 (g, c) (Mon.started_live h1 hn))

theorem Mon.shut_count {m m' : Mon} {p : List TEv} (h : Mon.run m p = .ok m') (g c : Nat) :
    p.count (.shut g c) + (if (g, c) ∈ m.shutOnce then 1 else 0) = if (g, c) ∈ m'.shutOnce then 1 else 0 := by
  induction p generalizing m with
  | nil => cases h; exact Nat.zero_add _
  | cons e es ih =>
    obtain ⟨hs, h⟩ := Mon.run_ok_cons h
    rw [← ih h]
    cases e with
    | shut g' c' =>
      have hnot : (g', c') ∉ m.shutOnce := hs
      by_cases heq : (g', c') = (g, c)
      · cases heq; simp [hnot, Mon.next]
      · have hne : TEv.shut g' c' ≠ TEv.shut g c := fun hh => by cases hh; exact heq rfl
        have hne' : ¬ ((g, c) = (g', c')) := fun hh => heq hh.symm
        simp [hne, hne', Mon.next]
    | _ => simp [Mon.next] <;> rfl

theorem Mon.prov_count {m m' : Mon} {p : List TEv} (h : Mon.run m p = .ok m') (h0 : m.prov ≤ 1) :
    m'.prov = m.prov + p.count .prov ∧ m'.prov ≤ 1 := by
  induction p generalizing m with
  | nil => cases h; exact ⟨rfl, h0⟩
  | cons e es ih =>
    obtain ⟨hs, h⟩ := Mon.run_ok_cons h
    cases e with
    | prov =>
      have hz : m.prov = 0 := hs
      have := ih h (by simp only [Mon.next, hz]; exact Nat.le_refl 1)
      simp only [Mon.next, List.count_cons_self] at this ⊢; omega
    | _ => simpa [List.count_cons, Mon.next] using ih h h0

/-- the last sampled state of a trace -/
def lastSt (c : CState) : List TEv → CState
  | [] => c
  | .st s :: es => lastSt s es
  | _ :: es => lastSt c es

/-- what the flags of the monitor after an accepted run `p` say about `p` -/
structure Mon.Flags (m : Mon) (p : List TEv) (m' : Mon) : Prop where
  stopped : m.stopped = true → m'.stopped = true
  stopMem : TEv.stop ∈ p → m'.stopped = true
  ever : m.everRunning = true → m'.everRunning = true
  req : m.req = true → m'.req = true
  ret : m'.ret.isSome = true → m.ret.isSome = true ∨ ∃ ok, TEv.ret ok ∈ p
  st : m'.st = lastSt m.st p

theorem Mon.flags {m m' : Mon} {p : List TEv} (h : Mon.run m p = .ok m') : Mon.Flags m p m' := by
  induction p generalizing m with
  | nil => cases h; exact ⟨id, nofun, id, id, Or.inl, rfl⟩
  | cons e es ih =>
    obtain ⟨-, h⟩ := Mon.run_ok_cons h
    obtain ⟨i1, i2, i3, i4, i5, i6⟩ := ih h
    have one : (m.stopped = true → (m.next e).stopped = true) ∧ (e = .stop → (m.next e).stopped = true) ∧
        (m.everRunning = true → (m.next e).everRunning = true) ∧ (m.req = true → (m.next e).req = true) ∧
        ((m.next e).ret.isSome = true → m.ret.isSome = true ∨ ∃ ok, e = .ret ok) ∧
        lastSt (m.next e).st es = lastSt m.st (e :: es) := by
      cases e <;> simp +contextual [Mon.next, lastSt]
    obtain ⟨g1, g2, g3, g4, g5, g6⟩ := one
    refine ⟨fun hh => i1 (g1 hh), fun hh => ?_, fun hh => i3 (g3 hh), fun hh => i4 (g4 hh), fun hh => ?_, i6.trans g6⟩
    · rcases List.mem_cons.1 hh with hh | hh
      · exact i1 (g2 hh.symm)
      · exact i2 hh
    · rcases i5 hh with h1 | ⟨ok, h1⟩
      · exact (g5 h1).imp id (fun ⟨ok, h2⟩ => ⟨ok, h2 ▸ List.mem_cons_self⟩)
      · exact Or.inr ⟨ok, List.mem_cons_of_mem _ h1⟩

theorem check_ok {t : List TEv} (h : check t = true) : ∃ m, Mon.run {} t = .ok m := by
  simp only [check] at h
  cases hr : Mon.run {} t with
  | ok m => exact ⟨m, rfl⟩
  | error b => simp [hr] at h

end OtelVerif.C20

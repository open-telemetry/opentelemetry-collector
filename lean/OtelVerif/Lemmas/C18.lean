import OtelVerif.Model.C18Src
import OtelVerif.Lemmas.Basic
/-! # C18 — facts about the model's definitions that the property theorems share

Accepted configurations and `wsub`; one check (`check_spec`: what it does, by components); reference counting
(`RC.Inv`); the monitoring loop (`Sys.run_count`); constructing the checker, `pctOf`; ranges of `totalMemory` and `parseInt64`; the
factory's cache; the regenerated constructor. -/
namespace OtelVerif.C18

/-! ## accepted configurations; `uint64` subtraction without wrap-around -/

-- reads a chain `if g₁ then 1 else if g₂ then 2 … else 0`: the result is 0 iff every guard fails
theorem ite_succ_eq_zero {p : Prop} [Decidable p] {n m : Nat} : (if p then n + 1 else m) = 0 ↔ ¬p ∧ m = 0 := by
  split <;> simp [*]

theorem validate_ok {c : Config} (h : validate c = 0) :
    0 < c.checkInterval ∧ c.gcHard ≤ c.gcSoft ∧ (c.limitMiB ≠ 0 ∨ c.limitPct ≠ 0) ∧ c.limitPct ≤ 100 ∧ c.spikePct ≤ 100 ∧
    (0 < c.limitMiB → c.spikeMiB < c.limitMiB) ∧ (0 < c.limitPct → c.spikePct < c.limitPct) := by
  simp only [validate, ite_succ_eq_zero] at h
  omega

theorem newFixed_le (limit spike : Nat) (h : spike ≤ limit) : (newFixed limit spike).spike ≤ (newFixed limit spike).limit := by
  unfold newFixed
  split
  · exact Nat.div_le_self _ _
  · exact h

theorem newFixed_limit (limit spike : Nat) : (newFixed limit spike).limit = limit := by
  unfold newFixed; split <;> rfl

theorem wsub_eq {limit spike : Nat} (h : spike ≤ limit) (hl : limit < W) : wsub limit spike = limit - spike := by
  unfold wsub W at *
  have hs : spike % 18446744073709551616 = spike := Nat.mod_eq_of_lt (by omega)
  rw [hs, if_pos h]

theorem aboveSoft_iff (k : Checker) (h : k.spike ≤ k.limit) (hl : k.limit < W) (alloc : Nat) :
    k.aboveSoft alloc = true ↔ alloc ≥ k.limit - k.spike := by
  simp [Checker.aboveSoft, wsub_eq h hl]

/-! ## one check -/

-- the model's `if k.aboveHard …` as the property's `if alloc ≥ limit …`
theorem ite_aboveHard (k : Checker) (gs gh : Int) (alloc : Nat) :
    (if k.aboveHard alloc then gh else gs) = if alloc ≥ k.limit then gh else gs := by
  simp [Checker.aboveHard]

theorem check_below (k : Checker) (gs gh : Int) (s : LState) (r : Reading) (ha : k.aboveSoft r.alloc = false) :
    check k gs gh s r = { st := { s with mustRefuse := false }, gcRan := false, latest := r.alloc } := by
  simp [check, ha]

theorem check_gc (k : Checker) (gs gh : Int) (s : LState) (r : Reading) (ha : k.aboveSoft r.alloc = true)
    (hd : r.now - s.lastGC > (if k.aboveHard r.alloc then gh else gs)) :
    check k gs gh s r = { st := { mustRefuse := k.aboveSoft r.allocAfterGC, lastGC := r.now + r.gcDur }, gcRan := true, latest := r.allocAfterGC } := by
  simp only [check, ha, Bool.not_true, Bool.false_eq_true, if_false]
  rw [if_pos hd]

theorem check_nogc (k : Checker) (gs gh : Int) (s : LState) (r : Reading) (ha : k.aboveSoft r.alloc = true)
    (hd : ¬ r.now - s.lastGC > (if k.aboveHard r.alloc then gh else gs)) :
    check k gs gh s r = { st := { s with mustRefuse := true }, gcRan := false, latest := r.alloc } := by
  simp only [check, ha, Bool.not_true, Bool.false_eq_true, if_false]
  rw [if_neg hd]

/-- one check by components; the mode is `aboveSoft` of the reading the decision rests on -/
theorem check_spec (k : Checker) (gs gh : Int) (s : LState) (r : Reading) :
    (check k gs gh s r).gcRan = (k.aboveSoft r.alloc && decide (r.now - s.lastGC > if k.aboveHard r.alloc then gh else gs)) ∧
    (check k gs gh s r).latest = (if (check k gs gh s r).gcRan then r.allocAfterGC else r.alloc) ∧
    (check k gs gh s r).st.lastGC = (if (check k gs gh s r).gcRan then r.now + r.gcDur else s.lastGC) ∧
    (check k gs gh s r).st.mustRefuse = k.aboveSoft (check k gs gh s r).latest := by
  cases ha : k.aboveSoft r.alloc with
  | false => rw [check_below k gs gh s r ha]; exact ⟨rfl, rfl, rfl, ha.symm⟩
  | true =>
    by_cases hd : r.now - s.lastGC > (if k.aboveHard r.alloc then gh else gs)
    · rw [check_gc k gs gh s r ha hd]; exact ⟨(decide_eq_true hd).symm, rfl, rfl, rfl⟩
    · rw [check_nogc k gs gh s r ha hd]; exact ⟨(decide_eq_false hd).symm, rfl, rfl, ha.symm⟩

/-! ## reference counting -/

/-- the goroutine lives exactly while there is a user, and the ticker is armed while there is one -/
def RC.Inv (s : RC) : Prop := s.goroutine = decide (0 < s.ref) ∧ (0 < s.ref → s.ticker = true)

theorem RC.inv_init : ({} : RC).Inv := by simp [RC.Inv]

theorem RC.step_inv (s : RC) (o : RCOp) (h : s.Inv) : (s.step o).1.Inv := by
  obtain ⟨h1, h2⟩ := h
  cases o with
  | start =>
    simp only [RC.step]
    split
    · simp [RC.Inv]
    · rename_i hne
      have : 0 < s.ref := by omega
      simp [RC.Inv, h1, this, h2 this]
  | shutdown =>
    simp only [RC.step]
    split
    · rename_i h0; exact ⟨h1, h2⟩
    · simp [RC.Inv]
    · rename_i n hn
      have : 0 < s.ref := by omega
      simp [RC.Inv, h1, this, h2 this]

theorem RC.run_inv (ops : List RCOp) : ∀ s : RC, s.Inv → (s.run ops).Inv := by
  induction ops with
  | nil => intro s h; exact h
  | cons o os ih => intro s h; exact ih _ (RC.step_inv s o h)

theorem RC.step_ref (s : RC) (o : RCOp) : (s.step o).1.ref = match o with | .start => s.ref + 1 | .shutdown => s.ref - 1 := by
  cases o with
  | start => simp only [RC.step]; split <;> simp_all
  | shutdown =>
    simp only [RC.step]
    split
    · rename_i h0; simp only; omega
    · rename_i h0; simp only; omega
    · rename_i m hm; simp only; omega

theorem RC.Inv.checking {s : RC} (h : s.Inv) : s.checking = decide (0 < s.ref) := by
  obtain ⟨h1, h2⟩ := h
  unfold RC.checking
  by_cases hp : 0 < s.ref
  · simp [h1, hp, h2 hp]
  · simp [h1, hp]

theorem RC.run_ref (ops : List RCOp) (s : RC) :
    (s.run ops).ref = ops.foldl (fun n o => match o with | .start => n + 1 | .shutdown => n - 1) s.ref :=
  (List.foldl_hom RC.ref (fun s o => RC.step_ref s o ▸ rfl)).symm

/-! ## the monitoring loop -/

-- by components: the closing `rfl` of a `rw` with a record equation looks inside `check`, whose `% 2^64` does not reduce
theorem Sys.step_tick_on (k : Checker) (gs gh : Int) (s : Sys) (r : Reading) (h : s.rc.checking = true) :
    (s.step k gs gh (.tick r)).st = (check k gs gh s.st r).st ∧ (s.step k gs gh (.tick r)).checks = s.checks + 1 ∧
      (s.step k gs gh (.tick r)).rc = s.rc := by
  simp only [Sys.step, h, if_true, and_self]

theorem Sys.step_tick_off (k : Checker) (gs gh : Int) (s : Sys) (r : Reading) (h : s.rc.checking = false) :
    s.step k gs gh (.tick r) = s := by
  simp only [Sys.step, h, Bool.false_eq_true, if_false]

theorem Sys.run_cons (k : Checker) (gs gh : Int) (s : Sys) (l : Lbl) (ls : List Lbl) :
    Sys.run k gs gh s (l :: ls) = Sys.run k gs gh (s.step k gs gh l) ls := rfl

theorem Sys.run_append (k : Checker) (gs gh : Int) (s : Sys) (xs ys : List Lbl) :
    Sys.run k gs gh s (xs ++ ys) = Sys.run k gs gh (Sys.run k gs gh s xs) ys := by
  unfold Sys.run; exact List.foldl_append

theorem Sys.step_count (k : Checker) (gs gh : Int) (s : Sys) (l : Lbl) (h : s.rc.Inv) :
    (s.step k gs gh l).rc.Inv ∧
      ((s.step k gs gh l).rc.ref, (s.step k gs gh l).checks) = tickStep (s.rc.ref, s.checks) l := by
  cases l with
  | start => exact ⟨RC.step_inv s.rc .start h, by simp only [Sys.step, tickStep, RC.step_ref]⟩
  | shutdown => exact ⟨RC.step_inv s.rc .shutdown h, by simp only [Sys.step, tickStep, RC.step_ref]⟩
  | tick r =>
    have hck := h.checking
    by_cases hp : 0 < s.rc.ref
    · obtain ⟨-, h2, h3⟩ := Sys.step_tick_on k gs gh s r (by simp [hck, hp])
      rewrite [h2, h3]
      exact ⟨h, by simp only [tickStep, hp, if_true]⟩
    · rewrite [Sys.step_tick_off k gs gh s r (by simp [hck, hp])]
      exact ⟨h, by simp only [tickStep, hp, if_false]⟩

theorem Sys.run_count (k : Checker) (gs gh : Int) (ls : List Lbl) : ∀ s : Sys, s.rc.Inv →
    (Sys.run k gs gh s ls).rc.Inv ∧
      ((Sys.run k gs gh s ls).rc.ref, (Sys.run k gs gh s ls).checks) = ls.foldl tickStep (s.rc.ref, s.checks) := by
  induction ls with
  | nil => intro s h; exact ⟨h, rfl⟩
  | cons l ls ih =>
    intro s h
    obtain ⟨hi, he⟩ := Sys.step_count k gs gh s l h
    have := ih _ hi
    rw [he] at this
    exact this

theorem foldl_tickStep_fst (ls : List Lbl) (uc : Nat × Nat) : (ls.foldl tickStep uc).1 = ls.foldl usersStep uc.1 :=
  (List.foldl_hom Prod.fst (fun _ l => by cases l <;> rfl)).symm

theorem Sys.checking_iff (k : Checker) (gs gh : Int) (ls : List Lbl) :
    (Sys.run k gs gh {} ls).rc.checking = true ↔ 0 < usersL ls := by
  obtain ⟨hinv, he⟩ := Sys.run_count k gs gh ls {} RC.inv_init
  rw [hinv.checking, decide_eq_true_eq, show (Sys.run k gs gh {} ls).rc.ref = _ from congrArg Prod.fst he, foldl_tickStep_fst]
  rfl

theorem Sys.not_checking (k : Checker) (gs gh : Int) {ls : List Lbl} (h : usersL ls = 0) :
    (Sys.run k gs gh {} ls).rc.checking = false :=
  Bool.eq_false_iff.2 fun hc => by have := (Sys.checking_iff k gs gh ls).1 hc; omega

theorem Sys.run_ticks_off (k : Checker) (gs gh : Int) (rs : List Reading) : ∀ s : Sys, s.rc.checking = false →
    Sys.run k gs gh s (rs.map .tick) = s := by
  induction rs with
  | nil => intro s _; rfl
  | cons r rs ih =>
    intro s h
    rewrite [List.map_cons, Sys.run_cons, Sys.step_tick_off k gs gh s r h]
    exact ih s h

/-- ticks handled by a running checker are exactly a history of checks (ties `runChecks` / `finalState` to the loop) -/
theorem Sys.run_ticks_on (k : Checker) (gs gh : Int) (rs : List Reading) : ∀ s : Sys, s.rc.checking = true →
    (Sys.run k gs gh s (rs.map .tick)).st = finalState k gs gh s.st rs ∧
    (Sys.run k gs gh s (rs.map .tick)).checks = s.checks + rs.length ∧
    (Sys.run k gs gh s (rs.map .tick)).rc = s.rc := by
  induction rs with
  | nil => intro s _; exact ⟨rfl, rfl, rfl⟩
  | cons r rs ih =>
    intro s h
    obtain ⟨h1, h2, h3⟩ := Sys.step_tick_on k gs gh s r h
    obtain ⟨i1, i2, i3⟩ := ih (s.step k gs gh (.tick r)) (h3 ▸ h)
    rewrite [h1] at i1; rewrite [h2] at i2; rewrite [h3] at i3
    exact ⟨i1, i2.trans (by simp only [List.length_cons]; omega), i3⟩

theorem Sys.step_st_or_check (k : Checker) (gs gh : Int) (s : Sys) (l : Lbl) :
    ((s.step k gs gh l).st = s.st ∧ (s.step k gs gh l).checks = s.checks) ∨ (s.step k gs gh l).checks = s.checks + 1 := by
  cases l with
  | start => exact .inl ⟨rfl, rfl⟩
  | shutdown => exact .inl ⟨rfl, rfl⟩
  | tick r =>
    cases hc : s.rc.checking
    · rewrite [Sys.step_tick_off k gs gh s r hc]; exact .inl ⟨rfl, rfl⟩
    · exact .inr (Sys.step_tick_on k gs gh s r hc).2.1

theorem Sys.run_checks_le (k : Checker) (gs gh : Int) (ls : List Lbl) : ∀ s : Sys, s.checks ≤ (Sys.run k gs gh s ls).checks := by
  induction ls with
  | nil => intro s; exact Nat.le_refl _
  | cons l ls ih =>
    intro s
    have := ih (s.step k gs gh l)
    rcases Sys.step_st_or_check k gs gh s l with ⟨_, h⟩ | h <;> rw [Sys.run_cons] <;> omega

/-! ## constructing the checker; `pctOf` -/

theorem mkChecker_eq_G (c : Config) (total : Nat) : mkChecker c total = mkCheckerG newPct c total := rfl

theorem mkCheckerG_congr {pct pct' : Nat → Nat → Nat → Checker} (h : ∀ T pl ps, pct T pl ps = pct' T pl ps) (c : Config) (total : Nat) :
    mkCheckerG pct c total = mkCheckerG pct' c total := by
  simp only [mkCheckerG, h]

theorem mkCheckerG_fixed_total (pct : Nat → Nat → Nat → Checker) (c : Config) (h : c.limitMiB ≠ 0) (t t' : Nat) :
    mkCheckerG pct c t = mkCheckerG pct c t' := by
  simp [mkCheckerG, h]

theorem mkCheckerGE_some (pct : Nat → Nat → Nat → Checker) (c : Config) (total : Nat) :
    mkCheckerGE pct c (some total) = some (mkCheckerG pct c total) := by
  unfold mkCheckerGE
  by_cases h : c.limitMiB ≠ 0
  · simp [h, mkCheckerG_fixed_total pct c h 0 total]
  · simp [h]

theorem mkCheckerE_some (c : Config) (total : Nat) : mkCheckerE c (some total) = some (mkChecker c total) :=
  mkCheckerGE_some newPct c total

theorem pctOf_eq (total p : Nat) (hp : p ≤ 100) (ht : total < W) :
    pctOf total p = p * (total / 100) + p * (total % 100) / 100 ∧ pctOf total p ≤ total := by
  have h1 : p * (total / 100) ≤ 100 * (total / 100) := Nat.mul_le_mul_right _ hp
  have h2 : p * (total % 100) ≤ 100 * (total % 100) := Nat.mul_le_mul_right _ hp
  have h3 : p * (total % 100) / 100 ≤ total % 100 := by
    rw [Nat.div_le_iff_le_mul_add_pred (by decide)]; omega
  have h4 : 100 * (total / 100) + total % 100 = total := Nat.div_add_mod total 100
  -- of `2^64` only this much is needed; its numeral is kept out of the arithmetic
  have hW : 10000 ≤ W := by decide
  have a1 : p * (total / 100) < W := by omega
  have a2 : p * (total % 100) < W := by omega
  unfold pctOf wmul
  rw [Nat.mod_eq_of_lt a1, Nat.mod_eq_of_lt a2, Nat.mod_eq_of_lt (by omega)]
  exact ⟨rfl, by omega⟩

theorem pctOf_mono (total p q : Nat) (hpq : p ≤ q) (hq : q ≤ 100) (ht : total < W) : pctOf total p ≤ pctOf total q := by
  rw [(pctOf_eq total p (by omega) ht).1, (pctOf_eq total q hq ht).1]
  exact Nat.add_le_add (Nat.mul_le_mul_right _ hpq) (Nat.div_le_div_right (Nat.mul_le_mul_right _ hpq))

/-! ## ranges: `totalMemory`, `parseInt64` -/

theorem totalMemory_lt (q : Quota) (mi : Option Nat) (hmi : ∀ m, mi = some m → m < W) (total : Nat)
    (h : totalMemory q mi = some total) : total < W := by
  unfold totalMemory at h
  rcases q with _ | ⟨quota, d⟩
  · simp at h
  · simp only at h
    split at h
    · exact hmi total h
    · simp at h
      have h1 : (0 : Int) ≤ quota % 18446744073709551616 := Int.emod_nonneg _ (by decide)
      have h2 : quota % 18446744073709551616 < 18446744073709551616 := Int.emod_lt_of_pos _ (by decide)
      unfold W
      omega

theorem parseDigits_range (neg : Bool) (ds : List Char) (n : Int) (h : parseDigits neg ds = some n) :
    -9223372036854775808 ≤ n ∧ n < 9223372036854775808 := by
  unfold parseDigits at h
  by_cases h1 : (ds.isEmpty || !ds.all Char.isDigit) = true
  · simp [h1] at h
  · simp only [h1] at h
    cases neg
    · by_cases h2 : digitsVal ds < 9223372036854775808
      · simp [h2] at h; omega
      · simp [h2] at h
    · by_cases h2 : digitsVal ds ≤ 9223372036854775808
      · simp [h2] at h; omega
      · simp [h2] at h

theorem parseInt64_range (s : List Char) (n : Int) (h : parseInt64 s = some n) : -9223372036854775808 ≤ n ∧ n < 9223372036854775808 := by
  unfold parseInt64 at h
  split at h <;> exact parseDigits_range _ _ n h

/-! ## the factory's cache -/

theorem Factory.lookup_new (f : Factory) (k : Nat) (h : f.lookup k = none) :
    ({ cache := f.cache ++ [(k, f.cache.length)] } : Factory).lookup k = some f.cache.length := by
  unfold Factory.lookup at h ⊢
  have h' : f.cache.find? (·.1 = k) = none := by
    cases hh : f.cache.find? (·.1 = k) <;> simp_all
  simp [List.find?_append, h']

theorem Factory.lookup_mem (f : Factory) (k i : Nat) (h : f.lookup k = some i) : (k, i) ∈ f.cache := by
  unfold Factory.lookup at h
  cases hh : f.cache.find? (·.1 = k) with
  | none => simp [hh] at h
  | some p =>
    simp [hh] at h
    have hm := List.mem_of_find?_eq_some hh
    have hp := List.find?_some hh
    simp at hp
    have : p = (k, i) := by cases p; simp_all
    exact this ▸ hm

/-! ## the regenerated constructor -/

open OtelVerif.Gen in
theorem src_newFixed (l s : Nat) : MemLimiter.newFixedMemUsageChecker l s = (newFixed l s).toGo := by
  unfold MemLimiter.newFixedMemUsageChecker newFixed
  by_cases h : s = 0 <;> simp [h, Checker.toGo, MemLimiter.u64div]

end OtelVerif.C18

import OtelVerif.Model.C17
import OtelVerif.Lemmas.C04Walk
/-!
C17 split functions.  A pass driven by the shared item counter moves the first `size - t` items of the flattening to the
destination and leaves the rest (`Takes`); size, conservation and FIFO order are read off the top level.
-/
namespace OtelVerif.C17
open OtelVerif.Payload

theorem scopeCount_eq_length (r : RMeta) (s : Scope) : s.count = (Scope.flat r s).length := (List.length_map _).symm

theorem resCount_eq_length (r : Res) : r.count = (Res.flat r).length :=
  sumBy_eq_length_flatMap (scopeCount_eq_length r.rmeta) r.scopes

theorem count_eq_length (p : List Res) : count p = (flatten p).length := sumBy_eq_length_flatMap resCount_eq_length p

theorem metricCount_eq_length (r : RMeta) (sm : SMeta) (m : Metric) : m.count = (Metric.flat r sm m).length :=
  (List.length_map _).symm

theorem mscopeCount_eq_length (r : RMeta) (s : MScope) : s.count = (MScope.flat r s).length :=
  sumBy_eq_length_flatMap (metricCount_eq_length r s.smeta) s.metrics

theorem mresCount_eq_length (r : MRes) : r.count = (MRes.flat r).length :=
  sumBy_eq_length_flatMap (mscopeCount_eq_length r.rmeta) r.scopes

theorem mcount_eq_length (p : List MRes) : mcount p = (mflatten p).length := sumBy_eq_length_flatMap mresCount_eq_length p

/-- a pass over `l` entered with `t ≤ size` items already copied moved the first `size - t` items of the flattening -/
structure Takes {α β : Type} (f : α → List β) (size t : Nat) (l : List α) (w : Walk α Nat) : Prop where
  st : w.st = min size (t + (l.flatMap f).length)
  dest : w.dest.flatMap f = (l.flatMap f).take (size - t)
  rem : w.rem.flatMap f = (l.flatMap f).drop (size - t)

theorem Takes.full {α β : Type} {f : α → List β} {size t : Nat} {l : List α} {w : Walk α Nat} (h : Takes f size t l w)
    (hlt : size < t + (l.flatMap f).length) : w.st = size :=
  h.st.trans (Nat.min_eq_left (Nat.le_of_lt hlt))

theorem walk_takes {α β : Type} (size : Nat) (fits : Nat → α → Option Nat) (cut : Nat → α → Option α × Option α × Nat)
    (f : α → List β) (cnt : α → Nat) (hcnt : ∀ c, cnt c = (f c).length)
    (hfits : ∀ t c, t < size → fits t c = if t + cnt c ≤ size then some (t + cnt c) else none)
    (hcut : ∀ t c, t < size → size < t + cnt c →
      (cut t c).2.2 = size ∧ oflat f (cut t c).1 = (f c).take (size - t) ∧ oflat f (cut t c).2.1 = (f c).drop (size - t)) :
    ∀ (t : Nat) (l : List α), t ≤ size → Takes f size t l (walk (fun t => t == size) fits cut t l) := by
  have stopped : ∀ l : List α, Takes f size size l (walk (fun t => t == size) fits cut size l) := by
    intro l
    rw [walk_stopped (fun t => t == size) fits cut size (beq_self_eq_true size)]
    exact ⟨(Nat.min_eq_left (Nat.le_add_right _ _)).symm, by rw [Nat.sub_self]; rfl, by rw [Nat.sub_self]; rfl⟩
  intro t l
  induction l generalizing t with
  | nil => intro h; exact ⟨(Nat.min_eq_right h).symm, List.take_nil.symm, List.drop_nil.symm⟩
  | cons c cs ih =>
    intro h
    rcases Nat.eq_or_lt_of_le h with rfl | hlt
    · exact stopped _
    · have hne : (t == size) = false := beq_false_of_ne (Nat.ne_of_lt hlt)
      have hlen : ((c :: cs).flatMap f).length = cnt c + (cs.flatMap f).length := by
        rw [List.flatMap_cons, List.length_append, hcnt]
      by_cases hfit : t + cnt c ≤ size
      · -- the child fits: it is moved whole, the pass goes on with the rest of the budget
        rw [walk_fits _ fits cut t _ c cs hne ((hfits t c hlt).trans (if_pos hfit))]
        have w := ih (t + cnt c) hfit
        have hle : (f c).length ≤ size - t := by rw [← hcnt]; exact Nat.le_sub_of_add_le' hfit
        have hsub : size - t - (f c).length = size - (t + cnt c) := by rw [← hcnt, Nat.sub_add_eq]
        refine ⟨?_, ?_, ?_⟩
        · rw [hlen, ← Nat.add_assoc]; exact w.st
        · simp only [List.flatMap_cons]
          rw [List.take_append, List.take_of_length_le hle, hsub, w.dest]
        · simp only [List.flatMap_cons]
          rw [List.drop_append, List.drop_of_length_le hle, hsub, w.rem, List.nil_append]
      · -- the child is cut: its first `size - t` items go, the counter is full, nothing after it moves
        have hgt : size < t + cnt c := Nat.lt_of_not_le hfit
        obtain ⟨hst, hd, hr⟩ := hcut t c hlt hgt
        have hle : size - t ≤ (f c).length := by rw [← hcnt]; exact Nat.sub_le_iff_le_add'.mpr (Nat.le_of_lt hgt)
        rw [walk_cuts _ fits cut t c cs hne ((hfits t c hlt).trans (if_neg hfit)), hst,
          walk_stopped (fun t => t == size) fits cut size (beq_self_eq_true size)]
        refine ⟨?_, ?_, ?_⟩
        · rw [hlen, ← Nat.add_assoc]
          exact (Nat.min_eq_left (Nat.le_of_lt (Nat.lt_add_right _ hgt))).symm
        · simp only [List.flatMap_cons, List.append_nil]
          rw [List.take_append_of_le_length hle]; exact hd
        · simp only [List.flatMap_cons, List.flatMap_append]
          rw [List.drop_append_of_le_length hle]; exact congrArg (· ++ cs.flatMap f) hr

/-! ### logs / traces -/

theorem splitItems_take (size t : Nat) (items : List Item) (h : t ≤ size) :
    (splitItems size t items).st = min size (t + items.length) ∧
    (splitItems size t items).dest = items.take (size - t) ∧ (splitItems size t items).rem = items.drop (size - t) := by
  have w := walk_takes size (fun t _ => some (t + 1)) (fun t c => (none, some c, t)) (fun i : Item => [i]) (fun _ => 1)
    (fun _ => rfl) ?_ ?_ t items h
  · have e := w.st; have d := w.dest; have r := w.rem
    simp only [List.flatMap_singleton'] at e d r
    exact ⟨e, d, r⟩
  · intro t c ht; exact (if_pos ht).symm
  · intro t c h1 h2; exact absurd h2 (Nat.not_lt.mpr h1)

theorem fitsScope_eq (size t : Nat) (s : Scope) :
    fitsScope size t s = if t + s.count ≤ size then some (t + s.count) else none := by
  simp only [fitsScope, Scope.count, ge_iff_le, Nat.add_comm]
  rfl

theorem splitScopes_takes (r : RMeta) (size t : Nat) (scopes : List Scope) (h : t ≤ size) :
    Takes (Scope.flat r) size t scopes (splitScopes size t scopes) := by
  refine walk_takes size _ _ (Scope.flat r) Scope.count (scopeCount_eq_length r) (fun t c _ => fitsScope_eq size t c) ?_ t scopes h
  intro t c ht hc
  obtain ⟨e, d, r'⟩ := splitItems_take size t c.items (Nat.le_of_lt ht)
  simp only [cutScope, oflat_some, Scope.flat]
  exact ⟨e.trans (Nat.min_eq_left (Nat.le_of_lt hc)), by rw [d, List.map_take], by rw [r', List.map_drop]⟩

theorem ocnt_res_if (r : Res) (l : List Scope) :
    ocnt Res.count (some { rmeta := r.rmeta, scopes := l }) = sumBy Scope.count l := by
  simp [Res.count]

theorem splitRes_takes (size t : Nat) (p : List Res) (h : t ≤ size) : Takes Res.flat size t p (splitRes size t p) := by
  refine walk_takes size _ _ Res.flat Res.count resCount_eq_length (fun _ _ _ => rfl) ?_ t p h
  intro t c ht hc
  have w := splitScopes_takes c.rmeta size t c.scopes (Nat.le_of_lt ht)
  simp only [cutRes, oflat_some]
  rw [oflat_if_len' Res.flat _ (fun l => { c with scopes := l }) rfl]
  exact ⟨w.full (resCount_eq_length c ▸ hc), w.dest, w.rem⟩

theorem splitLogs_take (size : Nat) (src : List Res) (h : size < count src) :
    flatten (splitLogs size src).1 = (flatten src).take size ∧ flatten (splitLogs size src).2 = (flatten src).drop size := by
  have w := splitRes_takes size 0 src (Nat.zero_le _)
  simp only [splitLogs, Nat.not_le.mpr h, if_false]
  exact ⟨w.dest, w.rem⟩

/-- `splitLogs` returns a PREFIX of the records (in document order) and leaves the suffix -/
theorem splitLogs_eq (size : Nat) (src : List Res) (h : size < count src) :
    flatten (splitLogs size src).1 ++ flatten (splitLogs size src).2 = flatten src := by
  rw [(splitLogs_take size src h).1, (splitLogs_take size src h).2, List.take_append_drop]

/-! ### metrics -/

theorem splitPoints_aux (n : Nat) (i : Nat) (pts : List Item) :
    (walk (fun _ => false) (fun i (_ : Item) => if i < n then some (i + 1) else none) (fun i c => (none, some c, i)) i pts).dest =
      pts.take (n - i) ∧
    (walk (fun _ => false) (fun i (_ : Item) => if i < n then some (i + 1) else none) (fun i c => (none, some c, i)) i pts).rem =
      pts.drop (n - i) := by
  induction pts generalizing i with
  | nil => exact ⟨List.take_nil.symm, List.drop_nil.symm⟩
  | cons c cs ih =>
    simp only [walk, Bool.false_eq_true, if_false]
    by_cases h : i < n
    · have e : n - i = (n - (i + 1)) + 1 := (Nat.succ_pred_eq_of_pos (Nat.sub_pos_of_lt h)).symm
      simp only [h, if_true, e, List.take_succ_cons, List.drop_succ_cons, (ih (i + 1)).1, (ih (i + 1)).2, and_self]
    · have e : n - i = 0 := Nat.sub_eq_zero_of_le (Nat.le_of_not_lt h)
      have d := (ih i).1; have r := (ih i).2
      rw [e] at d r
      simp only [h, if_false, e, d, r, Option.toList, List.nil_append, List.take_zero, List.drop_zero, List.cons_append, and_self]

theorem fitsMetric_eq (size t : Nat) (m : Metric) :
    fitsMetric size t m = if t + m.count ≤ size then some (t + m.count) else none := by
  simp only [fitsMetric, Nat.add_comm]

theorem splitMetricsIn_takes (r : RMeta) (sm : SMeta) (size t : Nat) (ms : List Metric) (h : t ≤ size) :
    Takes (Metric.flat r sm) size t ms (splitMetricsIn size t ms) := by
  refine walk_takes size _ _ (Metric.flat r sm) Metric.count (metricCount_eq_length r sm) (fun t c _ => fitsMetric_eq size t c) ?_ t ms h
  intro t c ht hc
  obtain ⟨d, r'⟩ := splitPoints_aux (size - t) 0 c.points
  simp only [cutMetric, splitPoints, oflat_some, Metric.flat, fragMeta]
  exact ⟨Nat.add_sub_cancel' (Nat.le_of_lt ht), by rw [d, List.map_take]; rfl, by rw [r', List.map_drop]; rfl⟩

theorem fitsMScope_eq (size t : Nat) (s : MScope) :
    fitsMScope size t s = if t + s.count ≤ size then some (t + s.count) else none := by
  simp only [fitsMScope, Nat.add_comm]

theorem splitMScopes_takes (r : RMeta) (size t : Nat) (scopes : List MScope) (h : t ≤ size) :
    Takes (MScope.flat r) size t scopes (splitMScopes size t scopes) := by
  refine walk_takes size _ _ (MScope.flat r) MScope.count (mscopeCount_eq_length r) (fun t c _ => fitsMScope_eq size t c) ?_ t scopes h
  intro t c ht hc
  have w := splitMetricsIn_takes r c.smeta size t c.metrics (Nat.le_of_lt ht)
  simp only [cutMScope, oflat_some]
  exact ⟨w.full (mscopeCount_eq_length r c ▸ hc), w.dest, w.rem⟩

theorem splitMRes_takes (size t : Nat) (p : List MRes) (h : t ≤ size) : Takes MRes.flat size t p (splitMRes size t p) := by
  refine walk_takes size _ _ MRes.flat MRes.count mresCount_eq_length (fun _ _ _ => rfl) ?_ t p h
  intro t c ht hc
  have w := splitMScopes_takes c.rmeta size t c.scopes (Nat.le_of_lt ht)
  simp only [cutMRes, oflat_some]
  rw [oflat_if_len' MRes.flat _ (fun l => { c with scopes := l }) rfl]
  exact ⟨w.full (mresCount_eq_length c ▸ hc), w.dest, w.rem⟩

theorem splitMetrics_take (size : Nat) (src : List MRes) (h : size < mcount src) :
    mflatten (splitMetrics size src).1 = (mflatten src).take size ∧
    mflatten (splitMetrics size src).2 = (mflatten src).drop size := by
  have w := splitMRes_takes size 0 src (Nat.zero_le _)
  simp only [splitMetrics, Nat.not_le.mpr h, if_false]
  exact ⟨w.dest, w.rem⟩

theorem splitMetrics_eq (size : Nat) (src : List MRes) (h : size < mcount src) :
    mflatten (splitMetrics size src).1 ++ mflatten (splitMetrics size src).2 = mflatten src := by
  rw [(splitMetrics_take size src h).1, (splitMetrics_take size src h).2, List.take_append_drop]

end OtelVerif.C17

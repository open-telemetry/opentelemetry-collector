import OtelVerif.Lemmas.C20
import OtelVerif.Lemmas.C20Mon
/-!
# C20 — service.Start / service.Shutdown as many steps (component level), on logs

The LTS treats a service as one unit (component index 0). `expand n k` replaces each service-level event by what the
real service does at component level, with C10's facts as the shape: a service of generation `g` has `n g` components,
`service.New` creates them, `service.Start` starts them one after the other and stops at the first failure (`k g ≤ n g`
of them started), `service.Shutdown` shuts every one of the `n g` down exactly once. Accepted service-level logs stay
accepted after expansion.
-/
namespace OtelVerif.C20

/-- a service-level event: its component index is 0 -/
def TEv.idx0 : TEv → Bool
  | .created _ c | .started _ c | .shut _ c => c == 0
  | _ => true

def expand (n k : Nat → Nat) : TEv → List TEv
  | .created g _ => (List.range (n g)).map (TEv.created g)
  | .started g _ => (List.range (k g)).map (TEv.started g)
  | .shut g _ => (List.range (n g)).map (TEv.shut g)
  | e => [e]

theorem run_created_list (M : Mon) (g : Nat) (l : List Nat) (h : ∀ p ∈ M.live, p.1 = g) :
    Mon.run M (l.map (TEv.created g)) = .ok M := by
  induction l with
  | nil => rfl
  | cons c cs ih => rw [List.map_cons, Mon.run_cons_ok (e := .created g c) h]; exact ih

theorem run_started_list (M : Mon) (g : Nat) (l : List Nat) (h : ∀ p ∈ M.live, p.1 = g) :
    Mon.run M (l.map (TEv.started g)) = .ok { M with live := (l.reverse.map (fun c => (g, c))) ++ M.live } := by
  induction l generalizing M with
  | nil => rfl
  | cons c cs ih =>
    rw [List.map_cons, Mon.run_cons_ok (e := .started g c) h]
    refine (ih _ fun p hp => ?_).trans (by simp [Mon.next])
    rcases List.mem_cons.1 hp with rfl | hp
    · rfl
    · exact h p hp

theorem run_shut_list (M : Mon) (g : Nat) (l : List Nat) (hnd : l.Nodup) (h : ∀ c ∈ l, (g, c) ∉ M.shutOnce) :
    Mon.run M (l.map (TEv.shut g)) =
      .ok { M with live := M.live.filter (fun p => !(p.1 == g && l.contains p.2)),
                   shutOnce := (l.reverse.map (fun c => (g, c))) ++ M.shutOnce } := by
  induction l generalizing M with
  | nil =>
    cases M; simp only [List.map_nil, Mon.run, List.reverse_nil, List.nil_append, Except.ok.injEq]
    congr 1
    exact (List.filter_eq_self.2 (by simp)).symm
  | cons c cs ih =>
    have hnd' := List.nodup_cons.1 hnd
    rw [List.map_cons, Mon.run_cons_ok (e := .shut g c) (h c List.mem_cons_self)]
    refine (ih _ hnd'.2 fun c' hc' hmem => ?_).trans ?_
    · rcases List.mem_cons.1 hmem with hmem | hmem
      · exact hnd'.1 ((Prod.mk.inj hmem).2 ▸ hc')
      · exact h c' (List.mem_cons_of_mem _ hc') hmem
    · simp only [Mon.next, Except.ok.injEq]
      congr 1
      · simp only [List.filter_filter]
        apply List.filter_congr
        intro p _
        rcases p with ⟨a, b⟩
        by_cases h1 : a = g <;> by_cases h2 : b = c <;> simp [h1, h2]
      · simp

/-- simulation relation: the component-level monitor state `M` refines the service-level one `m` -/
structure Exp (k : Nat → Nat) (m M : Mon) : Prop where
  live : ∀ p ∈ M.live, (p.1, 0) ∈ m.live ∧ p.2 < k p.1
  shut : ∀ p ∈ M.shutOnce, (p.1, 0) ∈ m.shutOnce
  prov : M.prov = m.prov
  st : M.st = m.st
  ever : M.everRunning = m.everRunning
  req : M.req = m.req
  reqSt : M.reqSt = m.reqSt
  stopped : M.stopped = m.stopped
  ret : M.ret = m.ret

theorem exp_step {n k : Nat → Nat} (hk : ∀ g, k g ≤ n g) {m M : Mon} {e : TEv} (he : e.idx0 = true) (hE : Exp k m M)
    (hok : m.ok e) : ∃ M', Mon.run M (expand n k e) = .ok M' ∧ Exp k (m.next e) M' := by
  obtain ⟨e1, e2, e3, e4, e5, e6, e7, e8, e9⟩ := hE
  cases e with
  | prov => exact ⟨_, Mon.run_one (e := .prov) (e3.trans hok), e1, e2, by simp [Mon.next, e3], e4, e5, e6, e7, e8, e9⟩
  | st c => exact ⟨_, Mon.run_one (e := .st c) trivial, e1, e2, e3, rfl, by simp [Mon.next, e5], e6, e7, e8, e9⟩
  | call =>
    exact ⟨_, Mon.run_one (e := .call) trivial, e1, e2, e3, e4, e5, by simp [Mon.next, e5, e6], by simp [Mon.next, e4, e6, e7], e8, e9⟩
  | stop => exact ⟨_, Mon.run_one (e := .stop) trivial, e1, e2, e3, e4, e5, e6, e7, rfl, e9⟩
  | quiet => exact ⟨_, Mon.run_one (e := .quiet) (by rw [Mon.ok, e6, e9]; exact hok), e1, e2, e3, e4, e5, e6, e7, e8, e9⟩
  | ret ok =>
    refine ⟨_, Mon.run_one (e := .ret ok) ⟨?_, by rw [e8, e4, e3]; exact hok.2⟩, e1, e2, e3, e4, e5, e6, e7, e8, rfl⟩
    cases hML : M.live with
    | nil => rfl
    | cons p ps => have := (e1 p (by simp [hML])).1; rw [hok.1] at this; cases this
  | created g c =>
    exact ⟨M, run_created_list M g _ (fun p hp => hok (p.1, 0) (e1 p hp).1), e1, e2, e3, e4, e5, e6, e7, e8, e9⟩
  | started g c =>
    cases (by simpa [TEv.idx0] using he : c = 0)
    refine ⟨_, run_started_list M g _ (fun p hp => hok (p.1, 0) (e1 p hp).1), ?_, e2, e3, e4, e5, e6, e7, e8, e9⟩
    intro p hp
    simp only [List.mem_append, List.mem_map, List.mem_reverse, List.mem_range] at hp
    rcases hp with ⟨c, hc, rfl⟩ | hp
    · exact ⟨List.mem_cons_self, hc⟩
    · exact ⟨List.mem_cons_of_mem _ (e1 p hp).1, (e1 p hp).2⟩
  | shut g c =>
    cases (by simpa [TEv.idx0] using he : c = 0)
    refine ⟨_, run_shut_list M g _ List.nodup_range (fun c _ hmem => hok (e2 _ hmem)), ?_, ?_, e3, e4, e5, e6, e7, e8, e9⟩
    · intro p hp
      simp only [List.mem_filter, Bool.not_eq_true', Bool.and_eq_false_iff, beq_eq_false_iff_ne, ne_eq,
        List.contains_eq_mem, List.mem_range, decide_eq_false_iff_not, Nat.not_lt] at hp
      obtain ⟨hp1, hp2⟩ := hp
      obtain ⟨q1, q2⟩ := e1 p hp1
      refine ⟨List.mem_filter.2 ⟨q1, decide_eq_true fun hpg => ?_⟩, q2⟩
      have hpg : p.1 = g := congrArg Prod.fst hpg
      -- no started component of `g` survives the filter: its index is below `k g ≤ n g`
      rcases hp2 with hp2 | hp2
      · exact hp2 hpg
      · have := hk g; rw [hpg] at q2; omega
    · intro p hp
      simp only [List.mem_append, List.mem_map, List.mem_reverse, List.mem_range] at hp
      rcases hp with ⟨c, _, rfl⟩ | hp
      · exact List.mem_cons_self
      · exact List.mem_cons_of_mem _ (e2 p hp)

theorem exp_run {n k : Nat → Nat} (hk : ∀ g, k g ≤ n g) {m m' M : Mon} {t : List TEv} (h0 : ∀ e ∈ t, e.idx0 = true)
    (hE : Exp k m M) (h : Mon.run m t = .ok m') : ∃ M', Mon.run M (t.flatMap (expand n k)) = .ok M' ∧ Exp k m' M' := by
  induction t generalizing m M with
  | nil => simp only [Mon.run, Except.ok.injEq] at h; subst h; exact ⟨M, rfl, hE⟩
  | cons e es ih =>
    obtain ⟨hok, h⟩ := Mon.run_ok_cons h
    obtain ⟨M1, hr1, hE1⟩ := exp_step hk (h0 e List.mem_cons_self) hE hok
    obtain ⟨M2, hr2, hE2⟩ := ih (fun e he => h0 e (List.mem_cons_of_mem _ he)) hE1 h
    exact ⟨M2, by rw [List.flatMap_cons, Mon.run_append_ok hr1]; exact hr2, hE2⟩

/-- the model only ever logs service-level events (component index 0) -/
def LogIdx0 (s : S) : Prop := ∀ e ∈ s.log, e.idx0 = true

theorem Op.events_idx0 (op : Op) (gen : Nat) (svc : Option Nat) : ∀ e ∈ op.events gen svc, e.idx0 = true := by
  cases op <;> cases svc <;> intro e he <;> cases he <;> first | rfl | (rename_i h; cases h)

theorem logIdx0_fire (v : Variant) {s s' : S} {l : Label} (hl : LogIdx0 s) (h : fire v s l = some s') : LogIdx0 s' := by
  have snoc : ∀ {t : S} (es : List TEv), t.log = s.log ++ es → (∀ e ∈ es, e.idx0 = true) → LogIdx0 t := fun es ht hes e he => by
    rw [ht] at he
    exact (List.mem_append.1 he).elim (hl e) (hes e)
  rcases fire_cases v h with ⟨-, x⟩ | ⟨-, -, rfl⟩ | ⟨ok, -, hs⟩ | ⟨e, -, -, hk⟩
  · refine snoc _ x.log ?_
    split <;> simp [TEv.idx0]
  · exact hl
  · refine snoc _ ((stepRun_stepped hs).log.trans (by rw [List.append_assoc, List.append_assoc])) ?_
    intro e he
    rw [List.mem_append, List.mem_append] at he
    rcases he with he | he | he
    · cases hst : s.pc.stores <;> rw [hst] at he <;> simp at he
      subst he; rfl
    · exact Op.events_idx0 _ _ _ e he
    · split at he <;> simp at he
      subst he; rfl
  · refine snoc _ (pickEv_picked hk).log ?_
    cases e.stops <;> simp [TEv.idx0]

theorem logIdx0_reachable {v : Variant} {s : S} (h : Reachable v s) : LogIdx0 s :=
  reachable_induction (P := LogIdx0) nofun (fun _ _ _ _ hp hf => logIdx0_fire v hp hf) h

end OtelVerif.C20

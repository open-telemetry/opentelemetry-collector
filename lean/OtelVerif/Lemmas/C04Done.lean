import OtelVerif.Model.C04
/-! C04: the accounting of `Done`s (which callbacks have fired, with which outcome), independent of the batcher's state (of `BState`
only `mkDone`) -/
namespace OtelVerif.C04

/-- how often the callback of request `id` has fired -/
def firedCount (fired : List (Nat × Err)) (id : Nat) : Nat := fired.countP (fun e => e.1 == id)

theorem firedCount_nil (id : Nat) : firedCount [] id = 0 := rfl
theorem firedCount_single (t : Nat) (e : Err) (id : Nat) : firedCount [(t, e)] id = if t = id then 1 else 0 := by
  by_cases h : t = id <;> simp [firedCount, h]
theorem firedCount_append (a b : List (Nat × Err)) (id : Nat) : firedCount (a ++ b) id = firedCount a id + firedCount b id :=
  List.countP_append

theorem firedCount_pos {fired : List (Nat × Err)} {x : Nat × Err} (h : x ∈ fired) : 0 < firedCount fired x.1 :=
  List.countP_pos_iff.mpr ⟨x, h, beq_self_eq_true _⟩

/-- combined outcome recorded for request `id`: every `(id, outcome)` entry, `multierr.Append`-ed in order -/
def accId (log : List (Nat × Err)) (id : Nat) : Err := (log.filter (fun x => x.1 == id)).foldl (fun a x => a.or x.2) {}

theorem Err.or_empty_left (e : Err) : ({} : Err).or e = e := by cases e; simp [Err.or]

theorem accId_append_single (log : List (Nat × Err)) (t : Nat) (e : Err) (id : Nat) :
    accId (log ++ [(t, e)]) id = if t = id then (accId log id).or e else accId log id := by
  simp only [accId, List.filter_append, List.foldl_append]
  by_cases h : t = id
  · subst h; simp
  · have : ((t, e).1 == id) = false := by simp [h]
    simp [this, h]

theorem accId_ne (log : List (Nat × Err)) (t : Nat) (e : Err) (id : Nat) (h : t ≠ id) :
    accId (log ++ [(t, e)]) id = accId log id := by
  rw [accId_append_single, if_neg h]

theorem accId_self (log : List (Nat × Err)) (t : Nat) (e : Err) : accId (log ++ [(t, e)]) t = (accId log t).or e := by
  rw [accId_append_single, if_pos rfl]

theorem accId_nil_of_not_mem (log : List (Nat × Err)) (id : Nat) (h : ∀ x ∈ log, x.1 ≠ id) : accId log id = {} := by
  have : log.filter (fun x => x.1 == id) = [] := by
    apply List.filter_eq_nil_iff.mpr
    intro x hx; simp [h x hx]
  simp [accId, this]

theorem onDone_ref (refs : List RefCount) (err : Err) (i : Nat) (hi : i < refs.length) :
    onDone refs err (.ref i) = (refs.set i ⟨refs[i].target, refs[i].count - 1, refs[i].err.or err⟩,
      if (refs[i].count - 1 == 0) = true then [(refs[i].target, refs[i].err.or err)] else []) := by
  simp only [onDone, List.getElem?_eq_getElem hi]

theorem tgt_onDone (refs : List RefCount) (err : Err) (d0 d : DoneObj) : tgt (onDone refs err d0).1 d = tgt refs d := by
  cases d0 with
  | base id => rfl
  | ref i0 =>
    rcases Nat.lt_or_ge i0 refs.length with hi | hi
    · rw [onDone_ref refs err i0 hi]
      cases d with
      | base id => rfl
      | ref i =>
        simp only [tgt, List.getElem?_set]
        split
        · rename_i h; subst h; simp only [List.getElem?_eq_getElem hi, Option.map_some]
        · rfl
    · simp only [onDone, List.getElem?_eq_none hi]

theorem onDoneAll_acc (err : Err) (ds : List DoneObj) (refs : List RefCount) (acc : List (Nat × Err)) :
    ds.foldl (fun (a : List RefCount × List (Nat × Err)) d => ((onDone a.1 err d).1, a.2 ++ (onDone a.1 err d).2)) (refs, acc) =
      ((onDoneAll refs err ds).1, acc ++ (onDoneAll refs err ds).2) := by
  induction ds generalizing refs acc with
  | nil => simp [onDoneAll]
  | cons d ds ih =>
    simp only [onDoneAll, List.foldl_cons, List.nil_append]
    rw [ih, ih (acc := (onDone refs err d).2)]
    simp [onDoneAll, List.append_assoc]

theorem onDoneAll_cons (err : Err) (d : DoneObj) (ds : List DoneObj) (refs : List RefCount) :
    onDoneAll refs err (d :: ds) =
      ((onDoneAll (onDone refs err d).1 err ds).1, (onDone refs err d).2 ++ (onDoneAll (onDone refs err d).1 err ds).2) := by
  simp only [onDoneAll, List.foldl_cons, List.nil_append]
  exact onDoneAll_acc err ds _ _

theorem tgt_onDoneAll (err : Err) (ds : List DoneObj) : ∀ (refs : List RefCount) (d : DoneObj),
    tgt (onDoneAll refs err ds).1 d = tgt refs d := by
  induction ds with
  | nil => intro refs d; rfl
  | cons d0 ds ih =>
    intro refs d
    rw [onDoneAll_cons]
    exact (ih _ d).trans (tgt_onDone refs err d0 d)

theorem onDone_length (refs : List RefCount) (err : Err) (d : DoneObj) : (onDone refs err d).1.length = refs.length := by
  cases d with
  | base id => rfl
  | ref i =>
    rcases Nat.lt_or_ge i refs.length with hi | hi
    · rw [onDone_ref refs err i hi]; exact List.length_set
    · simp only [onDone, List.getElem?_eq_none hi]

theorem onDoneAll_length (err : Err) (ds : List DoneObj) : ∀ (refs : List RefCount), (onDoneAll refs err ds).1.length = refs.length := by
  induction ds with
  | nil => intro refs; rfl
  | cons d ds ih => intro refs; rw [onDoneAll_cons]; exact (ih _).trans (onDone_length refs err d)

/-- what one `OnDone(err)` call on `d` contributes to the record: the outcome, under the request `d` belongs to -/
def logOf (refs : List RefCount) (d : DoneObj) (err : Err) : List (Nat × Err) :=
  match tgt refs d with
  | some t => [(t, err)]
  | none => []

/-- the record of one `multiDone.OnDone(err)` call -/
def logAll (refs : List RefCount) (err : Err) (ds : List DoneObj) : List (Nat × Err) := ds.flatMap (fun d => logOf refs d err)

theorem logAll_cons (refs : List RefCount) (err : Err) (d : DoneObj) (ds : List DoneObj) :
    logAll refs err (d :: ds) = logOf refs d err ++ logAll (onDone refs err d).1 err ds := by
  simp only [logAll, logOf, tgt_onDone, List.flatMap_cons]

theorem mem_of_perm_replicate {M M' : List DoneObj} {k : Nat} {d d0 : DoneObj} (hM : M'.Perm (M ++ List.replicate k d))
    (h : d0 ∈ M') : d0 ∈ M ∨ d0 = d := by
  rcases List.mem_append.mp (hM.mem_iff.mp h) with h1 | h1
  · exact Or.inl h1
  · exact Or.inr (List.eq_of_mem_replicate h1)

theorem count_perm_replicate {M M' : List DoneObj} {k : Nat} {d : DoneObj} (hM : M'.Perm (M ++ List.replicate k d)) (d0 : DoneObj) :
    M'.count d0 = M.count d0 + if d0 = d then k else 0 := by
  rw [hM.count_eq, List.count_append, List.count_replicate]
  by_cases e : d0 = d
  · rw [if_pos e, if_pos (by rw [e]; exact beq_self_eq_true _)]
  · rw [if_neg e, if_neg (by intro x; exact e (eq_of_beq x).symm)]

/-- every `Done` is a ref-count: the request's own callback is one of count 1 that has seen no outcome yet -/
def view (refs : List RefCount) : DoneObj → Option RefCount
  | .base id => some ⟨id, 1, {}⟩
  | .ref i => refs[i]?

theorem tgt_eq_view (refs : List RefCount) (d : DoneObj) : tgt refs d = (view refs d).map (·.target) := by
  cases d <;> rfl

theorem onDone_fired (refs : List RefCount) (e : Err) (d : DoneObj) (r : RefCount) (h : view refs d = some r) :
    (onDone refs e d).2 = if (r.count - 1 == 0) = true then [(r.target, r.err.or e)] else [] := by
  cases d with
  | base id => cases h; simp only [onDone, Err.or_empty_left]; rfl
  | ref i => simp only [view] at h; simp only [onDone, h]

theorem view_lt {refs : List RefCount} {i : Nat} {r : RefCount} (h : view refs (.ref i) = some r) : i < refs.length := by
  rcases Nat.lt_or_ge i refs.length with hi | hi
  · exact hi
  · simp only [view, List.getElem?_eq_none hi] at h; cases h

theorem view_onDone_ne (refs : List RefCount) (e : Err) (d d' : DoneObj) (hne : d' ≠ d) :
    view (onDone refs e d).1 d' = view refs d' := by
  cases d with
  | base id => rfl
  | ref i =>
    cases d' with
    | base id' => rfl
    | ref j =>
      simp only [onDone]
      split
      · rfl
      · simp only [view]; exact List.getElem?_set_ne (fun x => hne (congrArg DoneObj.ref x.symm))

theorem view_onDone_self (refs : List RefCount) (e : Err) (i : Nat) (r : RefCount) (h : view refs (.ref i) = some r) :
    view (onDone refs e (.ref i)).1 (.ref i) = some ⟨r.target, r.count - 1, r.err.or e⟩ := by
  have hi := view_lt h
  simp only [view] at h
  simp only [onDone, h, view, List.getElem?_set_self hi]

theorem mkDone_le (s : BState) (id n : Nat) (h : ¬ n > 1) : s.mkDone id n = (s, .base id) := by
  simp only [BState.mkDone, if_neg h]

theorem mkDone_gt (s : BState) (id n : Nat) (h : n > 1) :
    s.mkDone id n = (({ s with refs := s.refs ++ [⟨id, n, {}⟩] } : BState), .ref s.refs.length) := by
  simp only [BState.mkDone, if_pos h]

/-- `newRefCountDone(done, k)`, or the request's own callback when `k = 1` -/
theorem mkDone_view (s : BState) (id k : Nat) (hk : 0 < k) :
    view (s.mkDone id k).1.refs (s.mkDone id k).2 = some ⟨id, k, {}⟩ ∧
    ∀ d r, view s.refs d = some r → view (s.mkDone id k).1.refs d = some r := by
  by_cases h : k > 1
  · rw [mkDone_gt s id k h]
    refine ⟨by simp only [view, List.getElem?_append_right (Nat.le_refl _), Nat.sub_self, List.getElem?_cons_zero], ?_⟩
    intro d r hv
    cases d with
    | base id' => exact hv
    | ref i => simp only [view, List.getElem?_append_left (view_lt hv)]; exact hv
  · rw [mkDone_le s id k h, Nat.le_antisymm (Nat.le_of_not_lt h) hk]
    exact ⟨rfl, fun _ _ hv => hv⟩

theorem view_of_wf {refs : List RefCount} {d : DoneObj} (h : ∀ i, d = .ref i → i < refs.length) : ∃ r, view refs d = some r := by
  cases d with
  | base id => exact ⟨_, rfl⟩
  | ref i => exact ⟨refs[i]'(h i rfl), List.getElem?_eq_getElem (h i rfl)⟩

theorem mkDone_tgt (s : BState) (id k : Nat) (hk : 0 < k) :
    tgt (s.mkDone id k).1.refs (s.mkDone id k).2 = some id ∧
    ∀ d, (∀ i, d = .ref i → i < s.refs.length) → tgt (s.mkDone id k).1.refs d = tgt s.refs d := by
  obtain ⟨hnew, hold⟩ := mkDone_view s id k hk
  refine ⟨by rw [tgt_eq_view, hnew]; rfl, fun d hd => ?_⟩
  obtain ⟨r, hv⟩ := view_of_wf hd
  rw [tgt_eq_view, tgt_eq_view, hold d r hv, hv]

/-- the ledger of `Done`s: `M` = every `Done` a pending or in-flight batch still holds,
`fired` / `log` = callbacks fired / outcomes told so far.  A request is, exclusively, not consumed, held (by one `Done` object whose
count is the number of its holders and whose error is what the log says) or fired once; nothing is said about `Done`s nobody holds,
so `OnDone` keeps every clause about another `Done` because `inj` gives it another request. -/
structure Ledger (refs : List RefCount) (M : List DoneObj) (fired log : List (Nat × Err)) (consumed : List Nat) : Prop where
  held : ∀ d ∈ M, ∃ r, view refs d = some r ∧ r.count = (M.count d : Int) ∧ r.err = accId log r.target ∧ r.target ∈ consumed
  inj : ∀ d ∈ M, ∀ d' ∈ M, tgt refs d = tgt refs d' → d = d'
  live : ∀ id ∈ consumed, 0 < firedCount fired id ∨ ∃ d ∈ M, tgt refs d = some id
  once : ∀ id, firedCount fired id ≤ 1
  excl : ∀ id, 0 < firedCount fired id → ∀ d ∈ M, tgt refs d ≠ some id
  firedErr : ∀ x ∈ fired, x.2 = accId log x.1
  sub : (∀ id, 0 < firedCount fired id → id ∈ consumed) ∧ ∀ x ∈ log, x.1 ∈ consumed

theorem onDone_ledger (refs : List RefCount) (M : List DoneObj) (fired log : List (Nat × Err)) (consumed : List Nat) (e : Err)
    (d0 : DoneObj) (h : Ledger refs (d0 :: M) fired log consumed) :
    Ledger (onDone refs e d0).1 M (fired ++ (onDone refs e d0).2) (log ++ logOf refs d0 e) consumed := by
  have hm0 : d0 ∈ d0 :: M := List.mem_cons_self ..
  obtain ⟨r0, hv0, hc0, he0, hcons0⟩ := h.held d0 hm0
  have ht0 : tgt refs d0 = some r0.target := by rw [tgt_eq_view, hv0]; rfl
  have hlog : logOf refs d0 e = [(r0.target, e)] := by simp only [logOf, ht0]
  rw [List.count_cons_self] at hc0
  -- another held `Done` belongs to another request; the request of `d0` has not fired
  have hother : ∀ d ∈ M, d ≠ d0 → tgt refs d ≠ some r0.target := fun d hd hne ht =>
    hne (h.inj d (List.mem_cons_of_mem _ hd) d0 hm0 (ht.trans ht0.symm))
  have hnf : firedCount fired r0.target = 0 := by
    rcases Nat.eq_zero_or_pos (firedCount fired r0.target) with z | p
    · exact z
    · exact absurd ht0 (h.excl _ p d0 hm0)
  have hfire : (r0.count - 1 == 0) = true ↔ d0 ∉ M := by
    rw [hc0, beq_iff_eq, ← List.count_eq_zero (a := d0)]; omega
  have hacc : r0.err.or e = accId (log ++ [(r0.target, e)]) r0.target := by rw [accId_self, ← he0]
  rw [hlog, onDone_fired refs e d0 r0 hv0]
  have hfc : ∀ id, firedCount (fired ++ if (r0.count - 1 == 0) = true then [(r0.target, r0.err.or e)] else []) id =
      firedCount fired id + if d0 ∉ M ∧ r0.target = id then 1 else 0 := by
    intro id
    rw [firedCount_append]
    by_cases hf : d0 ∉ M
    · rw [if_pos (hfire.mpr hf), firedCount_single]; simp only [hf, not_false_eq_true, true_and]
    · rw [if_neg (fun x => hf (hfire.mp x))]; simp only [hf, false_and, if_false]; rfl
  refine ⟨fun d hd => ?_, fun d hd d' hd' ht => ?_, fun id hid => ?_, fun id => ?_, fun id hp d hd ht => ?_, fun x hx => ?_,
    fun id hp => ?_, fun x hx => ?_⟩
  · by_cases hd0 : d = d0
    · subst hd0
      cases d with
      | base id =>
        -- a base callback is held once
        cases hv0
        have : 0 < M.count (DoneObj.base id) := List.count_pos_iff.mpr hd
        simp only at hc0; omega
      | ref i =>
        refine ⟨_, view_onDone_self refs e i r0 hv0, ?_, hacc, hcons0⟩
        show r0.count - 1 = _
        rw [hc0]; omega
    · obtain ⟨r, hv, hc, he, hcs⟩ := h.held d (List.mem_cons_of_mem _ hd)
      refine ⟨r, (view_onDone_ne refs e d0 d hd0).trans hv, ?_, ?_, hcs⟩
      · rw [hc, List.count_cons_of_ne (Ne.symm hd0)]
      · rw [accId_ne log _ e _ (fun x => hother d hd hd0 (by rw [tgt_eq_view, hv, x]; rfl))]; exact he
  · simp only [tgt_onDone] at ht
    exact h.inj d (List.mem_cons_of_mem _ hd) d' (List.mem_cons_of_mem _ hd') ht
  · rw [hfc]
    rcases h.live id hid with p | ⟨d, hd, ht⟩
    · exact Or.inl (Nat.lt_of_lt_of_le p (Nat.le_add_right _ _))
    · rcases List.mem_cons.mp hd with e0 | hd'
      · by_cases hf : d0 ∈ M
        · exact Or.inr ⟨d0, hf, by rw [tgt_onDone, ← e0]; exact ht⟩
        · refine Or.inl ?_
          rw [if_pos ⟨hf, Option.some.inj (ht0.symm.trans (e0 ▸ ht))⟩]; omega
      · exact Or.inr ⟨d, hd', by rw [tgt_onDone]; exact ht⟩
  · rw [hfc]
    have := h.once id
    split
    · rename_i hc; rw [← hc.2, hnf]; exact Nat.le_refl 1
    · omega
  · rw [tgt_onDone] at ht
    rw [hfc] at hp
    by_cases hc : d0 ∉ M ∧ r0.target = id
    · exact hother d hd (fun x => hc.1 (x ▸ hd)) (hc.2 ▸ ht)
    · rw [if_neg hc] at hp
      exact h.excl id hp d (List.mem_cons_of_mem _ hd) ht
  · rcases List.mem_append.mp hx with hx | hx
    · rw [accId_ne log _ e _ (fun x' => by
        have := firedCount_pos hx; rw [← x', hnf] at this; exact Nat.lt_irrefl 0 this)]
      exact h.firedErr x hx
    · split at hx
      · rw [List.mem_singleton.mp hx]; exact hacc
      · cases hx
  · rw [hfc] at hp
    by_cases hc : d0 ∉ M ∧ r0.target = id
    · exact hc.2 ▸ hcons0
    · rw [if_neg hc] at hp; exact h.sub.1 id hp
  · rcases List.mem_append.mp hx with hx | hx
    · exact h.sub.2 x hx
    · rw [List.mem_singleton.mp hx]; exact hcons0

theorem Ledger.done_once {refs : List RefCount} {M : List DoneObj} {fired log : List (Nat × Err)} {consumed : List Nat}
    (h : Ledger refs M fired log consumed) :
    (∀ id, firedCount fired id ≤ 1) ∧ (∀ id, id ∉ consumed → firedCount fired id = 0) ∧
    (∀ id, firedCount fired id = 1 → ∀ d ∈ M, tgt refs d ≠ some id) ∧
    (M = [] → ∀ id ∈ consumed, firedCount fired id = 1) := by
  refine ⟨h.once, fun id hid => ?_, fun id hf => h.excl id (hf ▸ Nat.succ_pos 0), fun hM id hid => ?_⟩
  · rcases Nat.eq_zero_or_pos (firedCount fired id) with z | p
    · exact z
    · exact absurd (h.sub.1 id p) hid
  · rcases h.live id hid with p | ⟨d, hd, _⟩
    · exact Nat.le_antisymm (h.once id) p
    · rw [hM] at hd; cases hd

theorem add_ledger {refs refs' : List RefCount} {M M' : List DoneObj} {fired log : List (Nat × Err)} {consumed : List Nat}
    {id k : Nat} {d : DoneObj} (h : Ledger refs M fired log consumed) (hid : id ∉ consumed) (hk : 0 < k)
    (hold : ∀ d' ∈ M, view refs' d' = view refs d') (hnew : view refs' d = some ⟨id, k, {}⟩) (hd : d ∉ M)
    (hM : M'.Perm (M ++ List.replicate k d)) : Ledger refs' M' fired log (id :: consumed) := by
  have hfresh : accId log id = {} := accId_nil_of_not_mem log id (fun x hx e => hid (e ▸ h.sub.2 x hx))
  have htold : ∀ d' ∈ M, tgt refs' d' = tgt refs d' := fun d' hd' => by rw [tgt_eq_view, tgt_eq_view, hold d' hd']
  have htnew : tgt refs' d = some id := by rw [tgt_eq_view, hnew]; rfl
  have hcons : ∀ d' ∈ M, tgt refs d' ≠ some id := fun d' hd' ht => by
    obtain ⟨r, hv, _, _, hc⟩ := h.held d' hd'
    rw [tgt_eq_view, hv] at ht
    exact hid (Option.some.inj ht ▸ hc)
  have hnf := h.done_once.2.1 id hid
  refine ⟨fun d' hd' => ?_, fun d1 h1 d2 h2 ht => ?_, fun id' hid' => ?_, h.once, fun id' hp d' hd' ht => ?_, h.firedErr,
    fun id' hp => List.mem_cons_of_mem _ (h.sub.1 id' hp), fun x hx => List.mem_cons_of_mem _ (h.sub.2 x hx)⟩
  · rcases mem_of_perm_replicate hM hd' with hm | rfl
    · obtain ⟨r, hv, hc, he, hcs⟩ := h.held d' hm
      refine ⟨r, (hold d' hm).trans hv, ?_, he, List.mem_cons_of_mem _ hcs⟩
      rw [count_perm_replicate hM, if_neg (fun (x : d' = d) => hd (x ▸ hm)), Nat.add_zero]; exact hc
    · refine ⟨_, hnew, ?_, hfresh.symm, List.mem_cons_self ..⟩
      rw [count_perm_replicate hM, if_pos rfl, List.count_eq_zero.mpr hd, Nat.zero_add]
  · rcases mem_of_perm_replicate hM h1 with m1 | rfl <;> rcases mem_of_perm_replicate hM h2 with m2 | rfl
    · rw [htold d1 m1, htold d2 m2] at ht; exact h.inj d1 m1 d2 m2 ht
    · rw [htold d1 m1, htnew] at ht; exact absurd ht (hcons d1 m1)
    · rw [htold d2 m2, htnew] at ht; exact absurd ht.symm (hcons d2 m2)
    · rfl
  · rcases List.mem_cons.mp hid' with rfl | hc
    · exact Or.inr ⟨d, hM.mem_iff.mpr (List.mem_append.mpr (Or.inr (List.mem_replicate.mpr ⟨Nat.ne_of_gt hk, rfl⟩))), htnew⟩
    · rcases h.live id' hc with p | ⟨d', hd', ht⟩
      · exact Or.inl p
      · exact Or.inr ⟨d', hM.mem_iff.mpr (List.mem_append.mpr (Or.inl hd')), (htold d' hd').trans ht⟩
  · rcases mem_of_perm_replicate hM hd' with hm | rfl
    · exact h.excl id' hp d' hm ((htold d' hm).symm.trans ht)
    · rw [htnew] at ht; rw [← Option.some.inj ht, hnf] at hp; exact Nat.lt_irrefl 0 hp

theorem ledger_init : Ledger [] [] [] [] [] := by
  refine ⟨?_, ?_, ?_, fun _ => Nat.zero_le _, ?_, ?_, ?_, ?_⟩
  · intro d hd; cases hd
  · intro d hd; cases hd
  · intro id hid; cases hid
  · intro id _ d hd; cases hd
  · intro x hx; cases hx
  · intro id hp; exact absurd hp (Nat.lt_irrefl 0)
  · intro x hx; cases hx

theorem Ledger.congr {refs : List RefCount} {M M' : List DoneObj} {fired log : List (Nat × Err)} {c c' : List Nat}
    (h : Ledger refs M fired log c) (hM : M'.Perm M) (hc : ∀ x, x ∈ c' ↔ x ∈ c) : Ledger refs M' fired log c' :=
  ⟨fun d hd => by
      obtain ⟨r, hv, hn, he, hcs⟩ := h.held d (hM.mem_iff.mp hd)
      exact ⟨r, hv, by rw [hM.count_eq]; exact hn, he, (hc _).mpr hcs⟩,
    fun d hd d' hd' => h.inj d (hM.mem_iff.mp hd) d' (hM.mem_iff.mp hd'),
    fun id hid => (h.live id ((hc id).mp hid)).imp_right (fun ⟨d, hd, ht⟩ => ⟨d, hM.mem_iff.mpr hd, ht⟩), h.once,
    fun id hp d hd => h.excl id hp d (hM.mem_iff.mp hd), h.firedErr,
    fun id hp => (hc _).mpr (h.sub.1 id hp), fun x hx => (hc _).mpr (h.sub.2 x hx)⟩

theorem onDoneAll_ledger (err : Err) (ds : List DoneObj) :
    ∀ (refs : List RefCount) (M : List DoneObj) (fired log : List (Nat × Err)) (consumed : List Nat),
      Ledger refs (ds ++ M) fired log consumed →
      Ledger (onDoneAll refs err ds).1 M (fired ++ (onDoneAll refs err ds).2) (log ++ logAll refs err ds) consumed := by
  induction ds with
  | nil =>
    intro refs M fired log consumed h
    show Ledger refs M (fired ++ []) (log ++ []) consumed
    rw [List.append_nil, List.append_nil]
    exact h
  | cons d ds ih =>
    intro refs M fired log consumed h
    rw [onDoneAll_cons, logAll_cons, ← List.append_assoc, ← List.append_assoc]
    exact ih _ M _ _ consumed (onDone_ledger refs (ds ++ M) fired log consumed err d h)

/-- `(p || q) || (s || t) = (p || s) || (q || t)` -/
theorem Err.any_or (a b : Err) : (a.or b).any = (a.any || b.any) := by
  cases a with
  | mk p s => cases b with
    | mk q t => cases p <;> cases s <;> cases q <;> cases t <;> rfl

theorem foldl_or_proj {α : Type} (p : Err → Bool) (hp : ∀ a b, p (a.or b) = (p a || p b)) (g : α → Err) (l : List α) :
    ∀ a : Err, p (l.foldl (fun a x => a.or (g x)) a) = (p a || l.any (fun x => p (g x))) := by
  induction l with
  | nil => intro a; exact (Bool.or_false _).symm
  | cons x xs ih => intro a; rw [List.foldl_cons, ih, hp, List.any_cons, Bool.or_assoc]

end OtelVerif.C04

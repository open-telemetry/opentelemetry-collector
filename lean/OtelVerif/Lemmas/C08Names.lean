import OtelVerif.Lemmas.C08
/-! C08: `str` is injective, so the table checkers of `Model/C08Conf` are restated on `String`s (`covered_eq`, `slotCovOk_eq`, `findKey_str`,
`jslotsOkFrom_eq`) and the prefix test on UTF-8 bytes (`isPrefixOf_toList`), for the `decide +kernel` ties of Props/C08; why: DESIGN.md §2.1a. -/
namespace OtelVerif.C08
open OtelVerif.Proto

theorem str_inj {s t : String} : str s = str t ↔ s = t := by
  simp only [str, List.map_inj_right (fun _ _ => Char.toNat_inj.1), String.toList_inj]

theorem str_beq (s t : String) : (str s == str t) = (s == t) := by
  rw [Bool.eq_iff_iff, beq_iff_eq, beq_iff_eq, str_inj]

theorem any_str_beq (ks : List String) (s : String) : ks.any (fun k => str k == str s) = ks.contains s := by
  simp only [str_beq, List.contains_eq_any_beq, Bool.beq_comm (a := s)]

theorem covered_eq (S : Schema) (m : Nat) : covered S m = fun f => (jsonKeysOf S m).contains f.json :=
  funext fun _ => any_str_beq _ _

theorem slotCovOk_eq (S : Schema) (m : Nat) : slotCovOk S m = fun s => match s with
    | .one f => (jsonKeysOf S m).contains f.json || (f.card == .rep && isDep f)
    | .oneof _ alts => alts.all (fun a => (jsonKeysOf S m).contains a.json) := by
  funext s
  cases s <;> simp only [slotCovOk, covered_eq, Bool.or_comm, Bool.and_comm]

theorem findKey_str (k : String) (ss : List Slot) (i : Nat) :
    findKey ss i (str k) = findBy (fun f => f.json == k || f.orig == k) ss i := by
  rw [findKey_eq]; simp only [str_beq]

/-- `jslotsOkFrom` with the names compared as `String`s -/
def namesOkFrom (keys : List String) (all : List Slot) : List Slot → Nat → Bool
  | [], _ => true
  | .one f :: ss, i =>
    (!keys.contains f.json || findBy (fun g => g.json == f.json || g.orig == f.json) all 0 == some ⟨i, f, false⟩) &&
    namesOkFrom keys all ss (i + 1)
  | .oneof _ alts :: ss, i =>
    alts.all (fun a => !keys.contains a.json ||
      findBy (fun g => g.json == a.json || g.orig == a.json) all 0 == some ⟨i, a, true⟩) && namesOkFrom keys all ss (i + 1)

theorem jslotsOkFrom_eq (S : Schema) (m : Nat) (all : List Slot) : ∀ (ss : List Slot) (i : Nat),
    jslotsOkFrom S m all ss i = namesOkFrom (jsonKeysOf S m) all ss i := by
  intro ss
  induction ss with
  | nil => intro i; rfl
  | cons s ss ih =>
    intro i
    cases s <;> simp only [jslotsOkFrom, namesOkFrom, covered_eq, findKey_str, ih]

theorem toList_prefix_iff_bytes (q n : String) :
    q.toList <+: n.toList ↔ q.toByteArray.data.toList <+: n.toByteArray.data.toList := by
  constructor
  · rintro ⟨t, ht⟩
    refine ⟨t.utf8Encode.data.toList, ?_⟩
    rw [← String.utf8Encode_toList (b := n), ← ht, List.utf8Encode_append, ← String.utf8Encode_toList (b := q)]
    simp
  · rintro ⟨t, ht⟩
    apply List.isPrefix_of_utf8Encode_append_eq_utf8Encode ⟨t.toArray⟩
    rw [String.utf8Encode_toList, String.utf8Encode_toList]
    apply ByteArray.ext
    apply Array.ext'
    simpa using ht

theorem isPrefixOf_toList (q n : String) :
    q.toList.isPrefixOf n.toList = q.toByteArray.data.toList.isPrefixOf n.toByteArray.data.toList := by
  rw [Bool.eq_iff_iff, List.isPrefixOf_iff_prefix, List.isPrefixOf_iff_prefix, toList_prefix_iff_bytes]

end OtelVerif.C08

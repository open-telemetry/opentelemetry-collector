import OtelVerif.Lemmas.C01GlueInv
/-!
# C01 — glue: a hand-off is reported as shutdown-interrupted only while the retry sender is shut down

Hypothesis on the environment: the export function itself never returns a shutdown-classified error (`NoShutExport`).
Then the only source of a shutdown-classified outcome is `retrySender.Send` leaving its back-off through `stopCh`.
-/
namespace OtelVerif.C01

def NoShutExport : GLabel → Prop
  | .expRet _ (.err t _) => t.isShutdown = false
  | _ => True

def CPc.stopOK (stop : Bool) : CPc → Prop
  | .backoff _ _ t => t.isShutdown = false
  | .ret _ _ e => outcomeOf e = .shutdownErr → stop = true
  | _ => True

def StopInv (g : GCfg) : Prop := ∀ (j : Nat) (p : CPc), g.cons[j]? = some p → p.stopOK g.stopCh

theorem StopInv.settle {g : GCfg} (h : StopInv g) : StopInv (settle g) :=
  settle_cases g h fun j p hp => all_set h j (by rcases hp with rfl | rfl <;> trivial)

theorem outcome_wrap (t : ErrTree) (h : t.isShutdown = false) : outcomeOf (some (.wrap t)) ≠ .shutdownErr := by
  simp [outcomeOf, ErrTree.isShutdown, h]

theorem outcome_permErr (b : Bool) (t : ErrTree) (h : t.isShutdown = false) : outcomeOf (some (permErr b t)) ≠ .shutdownErr := by
  cases b <;> simp [permErr, outcomeOf, ErrTree.isShutdown, h]

theorem StopInv.fireG {g : GCfg} (h : StopInv g) (l : GLabel) (hl : NoShutExport l) : StopInv (fireG g l) := by
  refine fireG_cases (P := fun l g' => NoShutExport l → StopInv g') g l (skip := fun _ => h)
    (crash := fun _ _ _ hj => of_replicate_idle (n := 0) trivial hj) (start := fun _ _ _ _ hj => of_replicate_idle trivial hj)
    (ret := fun _ _ _ j _ _ _ => all_set h j trivial) (env := fun l _ _ _ _ => StopInv.settle (g := qfire g l) h)
    (cRead := fun j _ _ => StopInv.settle (all_set h j trivial))
    (cDone := fun j _ _ _ _ _ _ => StopInv.settle (all_set h j trivial))
    (cInvoke := fun j _ _ _ _ => all_set h j trivial) (expOk := fun j _ _ _ _ => all_set h j nofun)
    (expPerm := fun j _ _ t _ _ ht => all_set h j fun e => absurd e (outcome_permErr _ t ht))
    (expRetry := fun j _ _ _ _ _ ht => all_set h j ht)
    (boWrap := fun j i r t _ hj _ => all_set h j fun e => absurd e (outcome_wrap t (h j (.backoff i r t) hj)))
    (boStop := fun j _ _ _ _ hs _ => all_set h j fun _ => hs) (boTimer := fun j _ _ _ _ _ => all_set h j trivial)
    (rsShutdown := ?_) hl
  intro _ j p hj
  have := h j p hj
  -- with `stopCh = true` the obligation of `.ret` ends in `true = true`; that of `.backoff` does not mention `stopCh`
  cases p with
  | ret i r e => exact fun _ => rfl
  | backoff i r t => exact this
  | _ => trivial

theorem stopInv_runG (gk : GConf) (k : Conf) (ls : List GLabel) (hl : ∀ l ∈ ls, NoShutExport l) : StopInv (runG gk k ls) :=
  List.foldlRecOn (motive := StopInv) ls fireG (fun _ _ hj => of_replicate_idle (n := 0) trivial hj) fun _ h l hm => h.fireG l (hl l hm)

end OtelVerif.C01

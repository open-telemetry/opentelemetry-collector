import OtelVerif.Model.C01Codec
/-! C01 — the index codecs round-trip (`index_codec`, `index_array_codec`) -/
namespace OtelVerif.C01.Codec

theorem length_leBytes : ∀ (n v : Nat), (leBytes n v).length = n
  | 0, _ => rfl
  | n + 1, v => by simp [leBytes, length_leBytes n]

theorem leVal_leBytes : ∀ (n v : Nat), leVal (leBytes n v) = v % 256 ^ n
  | 0, v => by simp [leBytes, leVal, Nat.mod_one]
  | n + 1, v => by
    simp only [leBytes, leVal]
    rw [leVal_leBytes n, Nat.pow_succ', Nat.mod_mul]

theorem take_leBytes_append (n v : Nat) (rest : List Nat) : (leBytes n v ++ rest).take n = leBytes n v := by
  have h := length_leBytes n v
  rw [List.take_append_of_le_length (by omega)]
  exact List.take_of_length_le (by omega)

theorem drop_leBytes_append (n v : Nat) (rest : List Nat) : (leBytes n v ++ rest).drop n = rest := by
  have h := length_leBytes n v
  rw [List.drop_append_of_le_length (by omega)]
  rw [List.drop_of_length_le (by omega)]
  rfl

theorem length_flatMap_leBytes : ∀ (xs : List Nat), (xs.flatMap (leBytes 8)).length = xs.length * 8
  | [] => rfl
  | x :: xs => by
    rw [List.flatMap_cons, List.length_append, length_leBytes, length_flatMap_leBytes xs, List.length_cons]
    omega

theorem chunks_flatMap : ∀ (xs : List Nat), (∀ x ∈ xs, x < 2 ^ 64) →
    chunks xs.length (xs.flatMap (leBytes 8)) = xs
  | [], _ => rfl
  | x :: xs, h => by
    rw [List.flatMap_cons, List.length_cons]
    simp only [chunks]
    rw [take_leBytes_append, drop_leBytes_append, leVal_leBytes, chunks_flatMap xs (fun y hy => h y (List.mem_cons_of_mem _ hy))]
    have hx := h x List.mem_cons_self
    have : (256 : Nat) ^ 8 = 2 ^ 64 := by decide
    rw [this, Nat.mod_eq_of_lt hx]

theorem index_codec (v : Nat) (h : v < 2 ^ 64) : bytesToItemIndex (some (itemIndexToBytes v)) = .ok v := by
  unfold bytesToItemIndex itemIndexToBytes
  have hl := length_leBytes 8 v
  simp only [hl, Nat.lt_irrefl, if_false]
  rw [List.take_of_length_le (by omega), leVal_leBytes]
  have : (256 : Nat) ^ 8 = 2 ^ 64 := by decide
  rw [this, Nat.mod_eq_of_lt h]

theorem index_array_codec (xs : List Nat) (hlen : xs.length < 2 ^ 32) (hx : ∀ x ∈ xs, x < 2 ^ 64) :
    bytesToItemIndexArray (itemIndexArrayToBytes xs) = .ok xs := by
  unfold bytesToItemIndexArray itemIndexArrayToBytes
  have h4 := length_leBytes 4 xs.length
  have hlenb : (leBytes 4 xs.length ++ xs.flatMap (leBytes 8)).length = 4 + xs.length * 8 := by
    rw [List.length_append, h4, length_flatMap_leBytes]
  have hsize : leVal ((leBytes 4 xs.length ++ xs.flatMap (leBytes 8)).take 4) = xs.length := by
    rw [take_leBytes_append, leVal_leBytes]
    have : (256 : Nat) ^ 4 = 2 ^ 32 := by decide
    rw [this, Nat.mod_eq_of_lt hlen]
  have hdrop : (leBytes 4 xs.length ++ xs.flatMap (leBytes 8)).drop 4 = xs.flatMap (leBytes 8) :=
    drop_leBytes_append 4 _ _
  rw [if_neg (by omega), if_neg (by omega)]
  dsimp only
  rw [hsize, hdrop]
  cases xs with
  | nil => rfl
  | cons x t =>
    rw [if_neg (by simp), if_neg (by rw [length_flatMap_leBytes]; omega)]
    rw [chunks_flatMap _ hx]

end OtelVerif.C01.Codec

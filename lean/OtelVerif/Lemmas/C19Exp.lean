import OtelVerif.Model.C19Exp
import OtelVerif.Lemmas.C03
/-!
# C19, exporter clause: queue-size gauge and `wait_for_result` counting over the shutdown LTS

* `doneItems`, `outstanding` under the flight updates; sums over the ended flights (`flights_sum_split`, `le_failedOf`).
* `QSizeInv R g` (for the configurations admitted by `g`) — `qsize` (what `obs_queue.go` observes through `Size()`) stands in relation
  `R` — `=` for the memory queue, `≤` for either queue — to the sum of the sizes of the enqueued requests whose `Done` has not fired yet (queued, in a consumer's hands,
  batched, in flight, in back-off).
* `ResInv` — a request's `Done` received an error only if a flight that ended with an error carried part of it.
* `XReachable`, `xreachable_inv` — the exporter with its `obsQueue` front: given = accepted + refused.
-/
namespace OtelVerif.C19
open OtelVerif.C03

/-! ## done items under the flight updates -/

theorem doneItems_append_new (fs : List Flight) (b : Batch) (o : Option Nat) :
    doneItems (fs ++ [Flight.new b o]) = doneItems fs := by
  simp [doneItems, Flight.new, List.flatMap_append]

theorem doneItems_set_nondone (fs : List Flight) (f : Nat) (fl v : Flight) (h : fs[f]? = some fl)
    (h1 : fl.st ≠ .done) (h2 : v.st ≠ .done) : doneItems (fs.set f v) = doneItems fs := by
  unfold doneItems
  apply flatMap_set_same _ fs f fl v h
  have e1 : (fl.st == FSt.done) = false := by simpa using h1
  have e2 : (v.st == FSt.done) = false := by simpa using h2
  simp [e1, e2]

theorem mem_doneItems {fs : List Flight} {x : Item} : x ∈ doneItems fs ↔ ∃ fl ∈ fs, fl.st = .done ∧ x ∈ fl.batch := by
  simp only [doneItems, List.mem_flatMap]
  constructor
  · rintro ⟨fl, hfl, hx⟩
    by_cases hd : fl.st = .done
    · exact ⟨fl, hfl, hd, by simpa [hd] using hx⟩
    · have : (fl.st == FSt.done) = false := by simpa using hd
      simp [this] at hx
  · rintro ⟨fl, hfl, hd, hx⟩
    exact ⟨fl, hfl, by simpa [hd] using hx⟩

theorem doneItems_mono_set {fs : List Flight} {f : Nat} {fl v : Flight} (h : fs[f]? = some fl) (h1 : fl.st ≠ .done) {x : Item}
    (hx : x ∈ doneItems fs) : x ∈ doneItems (fs.set f v) := by
  obtain ⟨gl, hgl, hd, hxb⟩ := mem_doneItems.mp hx
  exact mem_doneItems.mpr ⟨gl, mem_set_of_ne h hgl (by intro he; rw [he] at hd; exact h1 hd), hd, hxb⟩

theorem reqDone_mono {fs fs' : List Flight} (hm : ∀ x, x ∈ doneItems fs → x ∈ doneItems fs') {r : Batch}
    (h : reqDone fs r = true) : reqDone fs' r = true := by
  simp only [reqDone, List.all_eq_true, List.contains_iff_mem] at h ⊢
  intro x hx
  exact hm x (h x hx)

/-! ## sums over the outstanding requests -/

def outstanding (cfg : Cfg) (fs : List Flight) (reqs : List Batch) : Nat :=
  ((reqs.filter (fun r => !reqDone fs r)).map (reqSize cfg)).sum

theorem outstanding_split (cfg : Cfg) (fs fs' : List Flight) (reqs : List Batch)
    (hm : ∀ r, reqDone fs r = true → reqDone fs' r = true) :
    outstanding cfg fs reqs =
      outstanding cfg fs' reqs + ((reqs.filter (fun r => reqDone fs' r && !reqDone fs r)).map (reqSize cfg)).sum := by
  induction reqs with
  | nil => rfl
  | cons r rs ih =>
    simp only [outstanding] at ih ⊢
    cases h1 : reqDone fs r <;> cases h2 : reqDone fs' r
    · simp [h1, h2]; omega
    · simp [h1, h2]; omega
    · have := hm r h1; rw [h2] at this; simp at this
    · simp [h1, h2]; omega

theorem outstanding_congr (cfg : Cfg) (fs fs' : List Flight) (reqs : List Batch) (h : doneItems fs' = doneItems fs) :
    outstanding cfg fs' reqs = outstanding cfg fs reqs := by
  simp only [outstanding, reqDone, h]

theorem outstanding_append (cfg : Cfg) (fs : List Flight) (reqs : List Batch) (b : Batch) (hb : reqDone fs b = false) :
    outstanding cfg fs (reqs ++ [b]) = outstanding cfg fs reqs + reqSize cfg b := by
  simp [outstanding, List.filter_append, hb]

/-! ## ghost bookkeeping: `accepted = reqs.flatten`, done items are accepted -/

def ReqsInv (s : State) : Prop := s.accepted = s.reqs.flatten

theorem reqsInv_step {s s' : State} {l : Label} (h : ReqsInv s) (hs : Step s l s') : ReqsInv s' := by
  unfold ReqsInv at *
  cases hs with
  | offer b => simp [h, List.flatten_append]
  | _ => exact h

theorem done_sub_accepted {s : State} (hc : Conserved s) {x : Item} (hx : x ∈ doneItems s.flights) : x ∈ s.accepted := by
  obtain ⟨fl, hfl, _, hxb⟩ := mem_doneItems.mp hx
  have hmem : x ∈ flightItems s.flights := by
    simp only [flightItems, List.mem_flatMap]; exact ⟨fl, hfl, hxb⟩
  have hpos : 0 < (places s).count x := by
    apply List.count_pos_iff.mpr
    simp only [places, List.mem_append]; exact .inr hmem
  have := hc x
  exact List.count_pos_iff.mp (by omega)

/-! ## the queue-size invariant

`R` is `=` (memory queue) or `≤` (either queue: the persistent queue resets in `Read`, clamps in `onDone`).  The steps need `R` closed
under adding a size on both sides and taking a part of the right side off both, and `R 0 _` where `g` admits a reset. -/

def QSizeInv (R : Nat → Nat → Prop) (g : Cfg → Prop) (s : State) : Prop :=
  g s.cfg → s.accepted.Nodup → (∀ r ∈ s.reqs, r ≠ []) → R s.qsize (outstanding s.cfg s.flights s.reqs)

theorem qsize_finalise {R : Nat → Nat → Prop} {g : Cfg → Prop} (hsub : ∀ a b c, R a (b + c) → R (a - c) b) {s : State}
    (h : QSizeInv R g s) {f : Nat} {fl : Flight} {kept : Bool} {fail : Nat} (hfl : s.flights[f]? = some fl) (hst : fl.st ≠ .done) :
    QSizeInv R g (finalise s f fl kept fail) := by
  intro hm hu hne
  have ih := h hm hu hne
  have hmono : ∀ r, reqDone s.flights r = true →
      reqDone (s.flights.set f { fl with st := .done, failures := fl.failures + fail, kept := kept }) r = true :=
    fun r hr => reqDone_mono (fun x hx => doneItems_mono_set hfl hst hx) hr
  rw [outstanding_split s.cfg s.flights _ s.reqs hmono] at ih
  exact hsub _ _ _ ih

theorem qsize_congr {R : Nat → Nat → Prop} {g : Cfg → Prop} {s : State} (h : QSizeInv R g s) (s' : State) (h1 : s'.cfg = s.cfg)
    (h2 : s'.accepted = s.accepted) (h3 : s'.reqs = s.reqs) (h4 : s'.qsize = s.qsize)
    (h5 : doneItems s'.flights = doneItems s.flights) : QSizeInv R g s' := by
  intro hm hu hne
  rw [h4, h1, h3, outstanding_congr _ _ _ _ h5]
  exact h (h1 ▸ hm) (h2 ▸ hu) (h3 ▸ hne)

theorem qsizeInv_step {R : Nat → Nat → Prop} {g : Cfg → Prop} (hadd : ∀ a b k, R a b → R (a + k) (b + k))
    (hsub : ∀ a b c, R a (b + c) → R (a - c) b) (hread : ∀ cfg, g cfg → cfg.persistent = true → ∀ b, R 0 b)
    {s s' : State} {l : Label} (h : QSizeInv R g s) (hc : Conserved s) (hs : Step s l s') : QSizeInv R g s' := by
  cases hs with
  | offer b =>
    intro hm hu hne
    have hu' : (s.accepted ++ b).Nodup := hu
    have hne' : ∀ r ∈ s.reqs ++ [b], r ≠ [] := hne
    have ih := h hm (List.nodup_append.mp hu').1 (fun r hr => hne' r (List.mem_append_left _ hr))
    have hb : b ≠ [] := hne' b (by simp)
    have hnd : reqDone s.flights b = false := by
      cases hb' : b with
      | nil => exact absurd hb' hb
      | cons x xs =>
        have hx : x ∈ b := by simp [hb']
        have hxa : x ∉ s.accepted := fun hxa => (List.nodup_append.mp hu').2.2 x hxa x hx rfl
        have hxd : x ∉ doneItems s.flights := fun hxd => hxa (done_sub_accepted hc hxd)
        simp only [reqDone, List.all_cons, Bool.and_eq_false_iff]
        left; simpa using hxd
    show R (s.qsize + reqSize s.cfg b) (outstanding s.cfg s.flights (s.reqs ++ [b]))
    rw [outstanding_append _ _ _ _ hnd]
    exact hadd _ _ _ ih
  | read i b late rest hc' hq hg =>
    intro hm hu hne
    have ih := h hm hu hne
    show R (if (s.cfg.persistent && rest.isEmpty) = true then 0 else s.qsize) (outstanding s.cfg s.flights s.reqs)
    split
    · next hreset => exact hread _ hm (by simp only [Bool.and_eq_true] at hreset; exact hreset.1) _
    · exact ih
  | sendSync i b hc' hb | spawn i b rest hc' hw | timerSpawn b ht hw | shutSpawn b hh hp hw =>
    exact qsize_congr h _ rfl rfl rfl rfl (doneItems_append_new _ _ _)
  | expStart f fl hfl hs =>
    exact qsize_congr h _ rfl rfl rfl rfl
      (doneItems_set_nondone _ _ _ _ hfl (by cases hs with | inl h => simp [h] | inr h => simp [h]) (by simp))
  | expEndAgain f fl hfl hs hr hp0 =>
    exact qsize_congr h _ rfl rfl rfl rfl (doneItems_set_nondone _ _ _ _ hfl (by simp [hs]) (by simp))
  | expEndDrop f fl o hfl hs | expEndKeep f fl hfl hs hr hp | giveUp f fl kept hfl hs hk => exact qsize_finalise hsub h hfl (by simp [hs])
  | _ => exact qsize_congr h _ rfl rfl rfl rfl rfl

theorem qsizeInv_reachable {R : Nat → Nat → Prop} {g : Cfg → Prop} (h0 : R 0 0) (hadd : ∀ a b k, R a b → R (a + k) (b + k))
    (hsub : ∀ a b c, R a (b + c) → R (a - c) b) (hread : ∀ cfg, g cfg → cfg.persistent = true → ∀ b, R 0 b)
    {s : State} (h : Reachable s) : QSizeInv R g s := by
  induction h with
  | init cfg n w t => intro _ _ _; simpa [init, outstanding] using h0
  | step l hr hf ih => exact qsizeInv_step hadd hsub hread ih (inv_reachable hr).conserved (fire_step hf)

theorem gaugeInv_reachable {s : State} (h : Reachable s) : QSizeInv Eq (fun cfg => cfg.persistent = false) s :=
  qsizeInv_reachable rfl (fun _ _ _ e => by rw [e]) (fun a b c e => by omega)
    (fun cfg hm hp => by rw [hm] at hp; cases hp) h

/-! ## sums over the ended flights -/

theorem flights_sum_split (fs : List Flight) (hd : ∀ fl ∈ fs, fl.st = .done) :
    (fs.map (fun fl => fl.batch.length)).sum =
      ((fs.filter (fun fl => fl.st == .done && Flight.finalOk fl)).map (fun fl => fl.batch.length)).sum +
      ((fs.filter (fun fl => fl.st == .done && !Flight.finalOk fl)).map (fun fl => fl.batch.length)).sum := by
  induction fs with
  | nil => rfl
  | cons fl fs ih =>
    have h1 := hd fl List.mem_cons_self
    have ih' := ih (fun g hg => hd g (List.mem_cons_of_mem _ hg))
    cases hk : Flight.finalOk fl <;> simp only [List.filter_cons, h1, hk, beq_self_eq_true, Bool.and_true, Bool.and_false,
      Bool.not_true, Bool.not_false, if_true, Bool.false_eq_true, if_false, List.map_cons, List.sum_cons] <;> omega

theorem flights_length_split (fs : List Flight) (hd : ∀ fl ∈ fs, fl.st = .done) :
    (flightItems fs).length =
      ((fs.filter (fun fl => fl.st == .done && Flight.finalOk fl)).map (fun fl => fl.batch.length)).sum +
      ((fs.filter (fun fl => fl.st == .done && !Flight.finalOk fl)).map (fun fl => fl.batch.length)).sum := by
  rw [← flights_sum_split fs hd]
  simp [flightItems, List.length_flatMap]

theorem le_failedOf {s : State} {fl : Flight} (hfl : fl ∈ s.flights) (hd : fl.st = .done) (ha : fl.attempts ≠ fl.failures + 1) :
    fl.batch.length ≤ failedOf s := by
  have hmem : fl ∈ s.flights.filter (fun fl => fl.st == .done && !Flight.finalOk fl) := by
    simp [List.mem_filter, hfl, hd, Flight.finalOk, ha]
  exact le_sum_map (·.batch.length) _ fl hmem

/-! ## `wait_for_result`: which requests receive an error -/

def ResInv (s : State) : Prop :=
  ∀ p ∈ s.results, p.2 = true → ∃ fl ∈ s.flights, fl.st = .done ∧ fl.attempts ≠ fl.failures + 1 ∧ fl.batch ≠ []

theorem reqFailed_witness {fs : List Flight} {r : Batch} (h : reqFailed fs r = true) :
    ∃ fl ∈ fs, fl.st = .done ∧ fl.attempts ≠ fl.failures + 1 ∧ fl.batch ≠ [] := by
  simp only [reqFailed, List.any_eq_true, Bool.and_eq_true] at h
  obtain ⟨fl, hfl, ⟨hd, ha⟩, x, _, hx⟩ := h
  refine ⟨fl, hfl, by simpa using hd, by simpa using ha, ?_⟩
  intro he; simp [he] at hx

theorem resInv_step {s s' : State} {l : Label} (h : ResInv s) (hs : Step s l s') : ResInv s' := by
  have keep : ∀ p ∈ s.results, p.2 = true → ∃ fl ∈ s'.flights, fl.st = .done ∧ fl.attempts ≠ fl.failures + 1 ∧ fl.batch ≠ [] :=
    fun p hp ht => let ⟨fl, hfl, hd, ha, hb⟩ := h p hp ht; ⟨fl, done_mono hs hfl hd, hd, ha, hb⟩
  cases hs with
  | expEndDrop f fl o hfl hs | expEndKeep f fl hfl hs hr hp | giveUp f fl kept hfl hs hk =>
    intro p hp ht
    rcases List.mem_append.mp (show p ∈ s.results ++ _ from hp) with h1 | h1
    · exact keep p h1 ht
    · obtain ⟨r, _, rfl⟩ := List.mem_map.mp h1
      exact reqFailed_witness ht
  | _ => exact keep

theorem resInv_reachable {s : State} (h : Reachable s) : ResInv s := by
  induction h with
  | init cfg n w t => intro p hp; simp [init] at hp
  | step l _ hf ih => exact resInv_step ih (fire_step hf)

/-! ## the exporter with its `obsQueue` front: given items and refused offers next to the LTS state

`obs_queue.go` `Offer`: `numItems := req.ItemsCount()`; `err := Queue.Offer`; `if err != nil { enqueueFailed += numItems }`.
A refused offer (queue full, context done, queue stopped …) does not change the state of the shutdown LTS; an accepted one is
the LTS label `offer b`.  `XState` carries what the exporter was GIVEN and the items of the refused offers. -/

inductive XReachable : XState → Prop
  | init (cfg n w t) : XReachable { s := init cfg n w t }
  | step {x x'} (l : XLabel) : XReachable x → xfire x l = some x' → XReachable x'

theorem accepted_step {s s' : State} {l : Label} (hs : Step s l s') :
    s'.accepted.length = s.accepted.length + (match l with | .offer b => b.length | _ => 0) := by
  cases hs <;> simp [finalise, List.length_append]

theorem xreachable_inv {x : XState} (h : XReachable x) : Reachable x.s ∧ x.given = x.s.accepted.length + x.refused := by
  induction h with
  | init cfg n w t => exact ⟨Reachable.init _ _ _ _, by simp [init]⟩
  | step l _ hf ih =>
    obtain ⟨hr, hg⟩ := ih
    cases l with
    | refuse b =>
      simp only [xfire, Option.some.injEq] at hf; subst hf
      exact ⟨hr, by simp only []; omega⟩
    | lts l =>
      simp only [xfire] at hf
      split at hf
      · next s' hs' =>
        simp only [Option.some.injEq] at hf; subst hf
        refine ⟨Reachable.step l hr hs', ?_⟩
        have := accepted_step (fire_step hs')
        cases l <;> simp only [] at this ⊢ <;> omega
      · simp at hf

end OtelVerif.C19

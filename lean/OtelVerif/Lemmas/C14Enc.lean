import OtelVerif.Lemmas.C14Exp
/-! C14, config-map encoder: non-interference up to emptiness (`enc_ni`), typed values are arrays (`enc_typed`); what the definitions say outright (`def_*`) -/
namespace OtelVerif.C14

theorem pathText_yaml_const {td : TD} (hc : td.Const) (hT : (td.find "MarshalText" false).isSome = true) (s₁ s₂ : String) :
    pathText td "yaml" .value s₁ = pathText td "yaml" .value s₂ := by
  have h : pathConsult "yaml" .value = [some "MarshalYAML", some "MarshalText", none] := by decide +kernel
  simp only [pathText, h, resolve]
  cases h1 : td.find "MarshalYAML" false with
  | some m => simp only [eval_const (hc m (find_mem h1)) s₁ s₂]
  | none =>
    cases h2 : td.find "MarshalText" false with
    | some m => simp only [eval_const (hc m (find_mem h2)) s₁ s₂]
    | none => simp [h2] at hT

theorem yamlF_ni {td : TD} (hc : td.Const) (hT : (td.find "MarshalText" false).isSome = true) (ρ₁ ρ₂ : Nat → String) :
    ∀ fs : List (FieldInfo × GV), yamlF td ρ₁ fs = yamlF td ρ₂ fs
  | [] => rfl
  | (fi, v) :: fs => by
    simp only [yamlF, yamlF_ni hc hT ρ₁ ρ₂ fs]
    cases v with
    | opq i => simp only [pathText_yaml_const hc hT (ρ₁ i) (ρ₂ i)]
    | _ => rfl

section encNI
variable {td : TD} (hc : td.Const) (hT : (td.find "MarshalText" false).isSome = true)
variable (ρ₁ ρ₂ : Nat → String) (he : ∀ i, (ρ₁ i == "") = (ρ₂ i == ""))
set_option linter.unusedSectionVars false
include hc hT he

mutual
theorem isZero_ni : ∀ v : GV, isZero ρ₁ v = isZero ρ₂ v
  | .opq i => by simp only [isZero, he i]
  | .str _ | .num _ | .nilv | .ptr _ | .iface _ | .slice _ | .nilSlice | .map _ | .nilMap => rfl
  | .array vs => by simp only [isZero, isZeroL_ni vs]
  | .struct fs | .tm _ _ fs | .sh _ fs => by simp only [isZero, isZeroF_ni fs]
theorem isZeroL_ni : ∀ vs : List GV, isZeroL ρ₁ vs = isZeroL ρ₂ vs
  | [] => rfl
  | v :: vs => by simp only [isZeroL, isZero_ni v, isZeroL_ni vs]
theorem isZeroF_ni : ∀ fs : List (FieldInfo × GV), isZeroF ρ₁ fs = isZeroF ρ₂ fs
  | [] => rfl
  | (_, v) :: fs => by simp only [isZeroF, isZero_ni v, isZeroF_ni fs]
end

mutual
theorem enc_ni : ∀ v : GV, enc td ρ₁ v = enc td ρ₂ v
  | .opq i => by
    simp only [enc]
    cases h : td.find "MarshalText" false with
    | none => simp [h] at hT
    | some m => simp only [eval_const (hc m (find_mem h)) (ρ₁ i) (ρ₂ i)]
  | .str _ | .num _ | .nilv | .nilSlice | .array _ | .nilMap => rfl
  | .ptr v | .iface v => enc_ni v
  | .slice vs => by simp only [enc, encL_ni vs]
  | .map kvs => by simp only [enc, encKV_ni kvs []]
  | .struct fs | .sh .marshaler fs => by simp only [enc, encF_ni fs []]
  | .tm _ vv fs => by cases vv <;> simp only [enc, encF_ni fs [], if_true, Bool.false_eq_true, if_false]
  | .sh .yaml fs => by simp only [enc, yamlF_ni hc hT ρ₁ ρ₂ fs]
theorem encL_ni : ∀ vs : List GV, encL td ρ₁ vs = encL td ρ₂ vs
  | [] => rfl
  | v :: vs => by simp only [encL, enc_ni v, encL_ni vs]
theorem encKV_ni : ∀ (kvs : List (GV × GV)) (acc : List (String × Any)), encKV td ρ₁ kvs acc = encKV td ρ₂ kvs acc
  | [], _ => rfl
  | (k, v) :: kvs, acc => by simp only [encKV, enc_ni k, enc_ni v, encKV_ni kvs]
theorem encF_ni : ∀ (fs : List (FieldInfo × GV)) (acc : List (String × Any)), encF td ρ₁ fs acc = encF td ρ₂ fs acc
  | [], _ => rfl
  | (fi, v) :: fs, acc => by simp only [encF, enc_ni v, isZero_ni hc hT ρ₁ ρ₂ he v, encF_ni fs]
end

end encNI

theorem yamlF_typed (td : TD) (ρ : Nat → String) : ∀ fs : List (FieldInfo × GV), Any.typedAreArraysKV (yamlF td ρ fs) = true
  | [] => rfl
  | (fi, v) :: fs => by
    simp only [yamlF, Any.typedAreArraysKV, yamlF_typed td ρ fs, Bool.and_true]
    cases v <;> rfl

theorem typedAreArraysKV_all (m : List (String × Any)) : Any.typedAreArraysKV m = m.all (·.2.typedAreArrays) := by
  induction m with
  | nil => rfl
  | cons p ps ih => obtain ⟨k, v⟩ := p; simp only [Any.typedAreArraysKV, ih, List.all_cons]

theorem typedAreArraysKV_insertKV (m : List (String × Any)) (k : String) (v : Any)
    (hm : Any.typedAreArraysKV m = true) (hv : v.typedAreArrays = true) : Any.typedAreArraysKV (insertKV m k v) = true := by
  rw [typedAreArraysKV_all, List.all_eq_true] at hm ⊢
  unfold insertKV
  split
  · intro p hp
    obtain ⟨q, hq, rfl⟩ := List.mem_map.1 hp
    split
    · exact hv
    · exact hm q hq
  · intro p hp
    rcases List.mem_append.1 hp with hp | hp
    · exact hm p hp
    · rw [List.mem_singleton.1 hp]; exact hv

theorem typedAreArraysKV_mergeKVs (m : List (String × Any)) : ∀ (n : List (String × Any)),
    Any.typedAreArraysKV m = true → Any.typedAreArraysKV n = true → Any.typedAreArraysKV (mergeKVs m n) = true
  | [], hm, _ => by simpa [mergeKVs] using hm
  | (k, v) :: rest, hm, hn => by
    simp only [Any.typedAreArraysKV, Bool.and_eq_true] at hn
    simp only [mergeKVs]
    exact typedAreArraysKV_mergeKVs (insertKV m k v) rest (typedAreArraysKV_insertKV m k v hm hn.1) hn.2

theorem bind_ok {ε α β : Type} {x : Except ε α} {f : α → Except ε β} {b : β} (h : x >>= f = .ok b) :
    ∃ a, x = .ok a ∧ f a = .ok b := by
  cases x with
  | error e => cases h
  | ok a => exact ⟨a, rfl, h⟩

section
variable {td : TD} (hT : (td.find "MarshalText" false).isSome = true) (ρ : Nat → String)
include hT
set_option linter.unusedSectionVars false

mutual
theorem enc_typed : ∀ (v : GV) (a : Any), enc td ρ v = .ok a → a.typedAreArrays = true
  | .opq i, a, h => by
    simp only [enc] at h
    cases hf : td.find "MarshalText" false with
    | none => simp [hf] at hT
    | some m => simp only [hf, Except.ok.injEq] at h; subst h; rfl
  | .str _, _, h | .num _, _, h | .nilv, _, h | .nilSlice, _, h | .array _, _, h | .nilMap, _, h => by cases h; rfl
  | .ptr v, a, h => enc_typed v a h
  | .iface v, a, h => enc_typed v a h
  | .slice vs, a, h => by
    obtain ⟨xs, hl, h⟩ := bind_ok h
    cases h; exact encL_typed vs xs hl
  | .map kvs, a, h => by
    obtain ⟨m, hl, h⟩ := bind_ok h
    cases h; exact encKV_typed kvs [] m rfl hl
  | .struct fs, a, h | .sh .marshaler fs, a, h | .tm _ false fs, a, h => by
    obtain ⟨m, hl, h⟩ := bind_ok h
    cases h; exact encF_typed fs [] m rfl hl
  | .sh .yaml fs, a, h => by cases h; exact yamlF_typed td ρ fs
  | .tm o true fs, a, h => by cases h; rfl
theorem encL_typed : ∀ (vs : List GV) (xs : List Any), encL td ρ vs = .ok xs → Any.typedAreArraysL xs = true
  | [], xs, h => by cases h; rfl
  | v :: vs, xs, h => by
    obtain ⟨x, h1, h⟩ := bind_ok h
    obtain ⟨rest, h2, h⟩ := bind_ok h
    cases h
    simp only [Any.typedAreArraysL, enc_typed v x h1, encL_typed vs rest h2, Bool.and_self]
theorem encKV_typed : ∀ (kvs : List (GV × GV)) (acc m : List (String × Any)),
    Any.typedAreArraysKV acc = true → encKV td ρ kvs acc = .ok m → Any.typedAreArraysKV m = true
  | [], acc, m, ha, h => by cases h; exact ha
  | (k, v) :: kvs, acc, m, ha, h => by
    obtain ⟨ek, -, h⟩ := bind_ok h
    split at h
    · cases h
    · split at h
      · cases h
      · obtain ⟨ev, h2, h⟩ := bind_ok h
        refine encKV_typed kvs _ m ?_ h
        rw [typedAreArraysKV_all, List.all_append, ← typedAreArraysKV_all, ha]; simp [enc_typed v ev h2]
theorem encF_typed : ∀ (fs : List (FieldInfo × GV)) (acc m : List (String × Any)),
    Any.typedAreArraysKV acc = true → encF td ρ fs acc = .ok m → Any.typedAreArraysKV m = true
  | [], acc, m, ha, h => by cases h; exact ha
  | (fi, v) :: fs, acc, m, ha, h => by
    simp only [encF] at h
    by_cases hx : (!fi.exported) = true
    · rw [if_pos hx] at h; exact encF_typed fs acc m ha h
    · rw [if_neg hx] at h
      by_cases hz : ((fi.omitEmpty && isZero ρ v) || fi.name == "-") = true
      · rw [if_pos hz] at h; exact encF_typed fs acc m ha h
      · rw [if_neg hz] at h
        obtain ⟨e, h1, h⟩ := bind_ok h
        have he := enc_typed v e h1
        by_cases hs : fi.squash = true
        · rw [if_pos hs] at h
          split at h
          · exact encF_typed fs _ m (typedAreArraysKV_mergeKVs acc _ ha he) h
          · exact encF_typed fs acc m ha h
        · rw [if_neg hs] at h
          exact encF_typed fs _ m (typedAreArraysKV_insertKV acc fi.name e ha he) h
end
end

/-! ## `def_*`: what holds by unfolding a model definition -/

/-- `encoding/json` takes a map key of string kind from the raw string before it looks for
`TextMarshaler` (encode.go `resolveKeyName`): an opaque string used as a JSON object key is written raw,
whatever the type implements.  (No built-in configuration uses an opaque key.) -/
theorem def_json_mapkey_raw (td : TD) (s : String) : pathText td "json" .mapKey s = s := rfl

theorem def_conversion_returns_secret (td : TD) (s : String) : pathText td "conv" .value s = s := by
  have h : pathConsult "conv" .value = [none] := by decide +kernel
  simp only [pathText, h, resolve]

/-- plain positions (field, pointer, map value, slice element, nested or plainly squashed struct, a
nested struct with its own `Unmarshal`) keep the secret -/
theorem def_unmarshal_plain (s : String) : plainStored s = s := rfl

theorem def_encode_array_passthrough (td : TD) (ρ : Nat → String) (vs : List GV) :
    enc td ρ (.array vs) = .ok (.typed (.array vs)) := rfl

end OtelVerif.C14

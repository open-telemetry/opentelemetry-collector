import OtelVerif.Model.C07State
/-!
# C07 part F lemmas: state propagation along access paths and the outcome of calls, for ANY method table that passes `methOk`; then the
regenerated table: it passes (`table_decided`, one kernel evaluation; `table_ok` per method), and a 13-step access path through it (`demoPath`)
-/
namespace OtelVerif.C07.S
open OtelVerif.Gen.PdataState

theorem childOk_who {m : Meth} (h : childOk m = true) {c : Child} (hc : c ∈ m.children) :
    c.who = .recv ∨ (c.who = .param ∧ m.role = .copy) := by
  simp only [childOk, List.all_eq_true] at h
  have := h c hc
  simp only [Bool.or_eq_true, Bool.and_eq_true, beq_iff_eq] at this
  exact this

/-- along an accessor path every wrapper carries the cell of the wrapper the path started from -/
theorem follow_cell (cs : Cells) (tbl : List Meth) (hg : ∀ m ∈ tbl, childOk m = true) :
    ∀ (steps : List Step) (w : W), Valid tbl w.ty steps → NoCopy steps → (follow cs w steps).cell = w.cell := by
  intro steps
  induction steps with
  | nil => intro w _ _; rfl
  | cons s ss ih =>
    intro w hv hn
    obtain ⟨hm, _, hc, hv'⟩ := hv
    obtain ⟨hr, hn'⟩ := hn
    have hw : s.c.who = .recv := by
      rcases childOk_who (hg _ hm) hc with h | ⟨_, h⟩
      · exact h
      · exact absurd h hr
    simp only [follow]
    have := ih ⟨s.c.typ, cellOf cs w.cell s.param s.c.who⟩ hv' hn'
    rw [this, hw]
    rfl

/-- the type reached by a valid path is the type of its last child (the table is consulted, not the cells) -/
def endTy : Nat → List Step → Nat
  | t, [] => t
  | _, s :: ss => endTy s.c.typ ss

theorem follow_ty (cs : Cells) : ∀ (steps : List Step) (w : W), (follow cs w steps).ty = endTy w.ty steps := by
  intro steps
  induction steps with
  | nil => intro w; rfl
  | cons s ss ih => intro w; simp only [follow, endTy]; exact ih _

/-- in general (also through `CopyTo`): a constructed wrapper never gets a fresh or foreign state -/
theorem child_cell_mem (cs : Cells) (m : Meth) (hg : childOk m = true) (c : Child) (hc : c ∈ m.children) (recv param : Nat) :
    cellOf cs recv param c.who = recv ∨ cellOf cs recv param c.who = param := by
  rcases childOk_who hg hc with h | ⟨h, _⟩ <;> simp [h, cellOf]

theorem guarded_asserts {m : Meth} (hok : assertsOk m = true) (hg : m.cls = .guarded) :
    (m.role = .copy → m.asserts = [.param]) ∧ (m.role = .move → m.asserts = [.recv, .param]) ∧
    (m.role = .other → m.asserts = [.recv]) ∧ m.later = false := by
  simp only [assertsOk, hg] at hok
  cases hr : m.role <;> simp [hr] at hok <;> simp [hok]

/-- a guarded mutator called with a read-only cell in the role its assertions check panics at an assertion statement that is
preceded by assertion statements only (so before any write) -/
theorem guarded_panics (cs : Cells) (m : Meth) (hok : assertsOk m = true) (hg : m.cls = .guarded) (recv param : Nat) :
    (m.role ≠ .copy → cs.ro recv = true → call cs m recv param = .panicked 0) ∧
    (m.role = .copy → cs.ro param = true → call cs m recv param = .panicked 0) ∧
    (m.role = .move → cs.ro recv = false → cs.ro param = true → call cs m recv param = .panicked 1) := by
  obtain ⟨hc, hm, ho, _⟩ := guarded_asserts hok hg
  refine ⟨fun hne hro => ?_, fun he hro => ?_, fun he hr hp => ?_⟩
  · cases hr : m.role with
    | copy => exact absurd hr hne
    | move => simp [call, hm hr, runAsserts, cellOf, hro]
    | other => simp [call, ho hr, runAsserts, cellOf, hro]
  · simp [call, hc he, runAsserts, cellOf, hro]
  · simp [call, hm he, runAsserts, cellOf, hr, hp]

theorem guarded_runs (cs : Cells) (m : Meth) (hok : assertsOk m = true) (hg : m.cls = .guarded) (recv param : Nat) :
    (m.role = .copy → cs.ro param = false → call cs m recv param = .ran) ∧
    (m.role = .move → cs.ro recv = false → cs.ro param = false → call cs m recv param = .ran) ∧
    (m.role = .other → cs.ro recv = false → call cs m recv param = .ran) := by
  obtain ⟨hc, hm, ho, _⟩ := guarded_asserts hok hg
  refine ⟨fun he hp => ?_, fun he hr hp => ?_, fun he hr => ?_⟩
  · simp [call, hc he, runAsserts, cellOf, hp]
  · simp [call, hm he, runAsserts, cellOf, hr, hp]
  · simp [call, ho he, runAsserts, cellOf, hr]

theorem reader_runs (cs : Cells) (m : Meth) (hok : assertsOk m = true) (hr : m.cls = .reader) (recv param : Nat) :
    call cs m recv param = .ran ∧ m.later = false ∧ m.writes = false := by
  simp only [assertsOk, hr, Bool.and_eq_true, beq_iff_eq, Bool.not_eq_true'] at hok
  obtain ⟨⟨ha, hl⟩, hw⟩ := hok
  exact ⟨by simp [call, ha, runAsserts], hl, hw⟩

theorem callD_delegating (tbl : List Meth) (payloads : List Nat) (cs : Cells) (m : Meth) (hd : m.cls = .delegating)
    (hok : delegOk tbl payloads m = true) (recv param : Nat) :
    (cs.ro param = true → callD tbl cs m recv param = .panicked 0) ∧ (cs.ro param = false → callD tbl cs m recv param = .ran) := by
  simp only [delegOk, hd, bne_self_eq_false, Bool.false_or, Bool.and_eq_true] at hok
  obtain ⟨_, hany⟩ := hok
  cases hf : m.children.find? (fun c => c.who == .recv &&
      tbl.any (fun m' => m'.typ == c.typ && m'.role == .copy && m'.cls == .guarded && m'.asserts == [.param])) with
  | none =>
    rw [List.find?_eq_none] at hf
    rw [List.any_eq_true] at hany
    obtain ⟨c, hc, hp⟩ := hany
    exact absurd hp (hf c hc)
  | some c =>
    have hp := List.find?_some hf
    simp only [Bool.and_eq_true, beq_iff_eq] at hp
    obtain ⟨hw, hany'⟩ := hp
    cases hf' : tbl.find? (fun m' => m'.typ == c.typ && m'.role == .copy && m'.cls == .guarded && m'.asserts == [.param]) with
    | none =>
      rw [List.find?_eq_none] at hf'
      rw [List.any_eq_true] at hany'
      obtain ⟨m', hm', hq⟩ := hany'
      exact absurd hq (hf' m' hm')
    | some m' =>
      have hq := List.find?_some hf'
      simp only [Bool.and_eq_true, beq_iff_eq] at hq
      have ha : m'.asserts = [.param] := hq.2
      simp only [callD, hd, hf, hf', hw, cellOf]
      exact ⟨fun hro => by simp [call, ha, runAsserts, cellOf, hro], fun hro => by simp [call, ha, runAsserts, cellOf, hro]⟩

theorem callD_other (tbl : List Meth) (cs : Cells) (m : Meth) (hd : m.cls ≠ .delegating) (recv param : Nat) :
    callD tbl cs m recv param = call cs m recv param := by
  cases hc : m.cls <;> simp [callD, hc] at hd ⊢

theorem markRO_ro (cs : Cells) (w : W) : (markRO cs w).ro w.cell = true := by simp [markRO]

theorem markRO_other (cs : Cells) (w : W) (c : Nat) (h : c ≠ w.cell) : (markRO cs w).ro c = cs.ro c := by simp [markRO, h]

theorem newRoot_mutable (cs : Cells) (ty : Nat) : (newRoot cs ty).1.ro (newRoot cs ty).2.cell = false := by simp [newRoot]

theorem newRoot_keeps (cs : Cells) (ty c : Nat) (h : c < cs.next) : (newRoot cs ty).1.ro c = cs.ro c := by
  have : c ≠ cs.next := by omega
  simp [newRoot, this]

/-! ## the regenerated table -/

/-- decided over all methods of all wrapper types of the regenerated table -/
theorem table_decided :
    chunks.all (fun ch => ch.all (fun m => methOk m && delegOk meths payloads m && noPayloadChild payloads m)) = true := by decide +kernel

theorem table_ok {m : Meth} (hm : m ∈ meths) :
    childOk m = true ∧ assertsOk m = true ∧ delegOk meths payloads m = true ∧ noPayloadChild payloads m = true := by
  have h := table_decided
  simp only [meths, List.mem_flatten] at hm
  obtain ⟨ch, hch, hm⟩ := hm
  have := List.all_eq_true.mp (List.all_eq_true.mp h ch hch) m hm
  simp only [methOk, Bool.and_eq_true] at this
  exact ⟨this.1.1.1, this.1.1.2, this.1.2, this.2⟩

/-- build the path that calls the named methods in turn, taking the first child wrapper each constructs -/
def pathOf (tbl : List Meth) : Nat → List String → Option (List Step)
  | _, [] => some []
  | t, n :: ns =>
    match tbl.find? (fun m => m.typ == t && m.name == n) with
    | some m =>
      match m.children with
      | c :: _ => (pathOf tbl c.typ ns).map (fun ss => ⟨m, c, 0⟩ :: ss)
      | [] => none
    | none => none

theorem pathOf_valid (tbl : List Meth) : ∀ (ns : List String) (t : Nat) (ss : List Step), pathOf tbl t ns = some ss → Valid tbl t ss := by
  intro ns
  induction ns with
  | nil => intro t ss h; simp only [pathOf, Option.some.injEq] at h; subst h; trivial
  | cons n ns ih =>
    intro t ss h
    simp only [pathOf] at h
    cases hf : tbl.find? (fun m => m.typ == t && m.name == n) with
    | none => simp [hf] at h
    | some m =>
      simp only [hf] at h
      cases hc : m.children with
      | nil => simp [hc] at h
      | cons c cs =>
        simp only [hc, Option.map_eq_some_iff] at h
        obtain ⟨ss', hs', rfl⟩ := h
        have hp := List.find?_some hf
        simp only [Bool.and_eq_true, beq_iff_eq] at hp
        exact ⟨List.mem_of_find?_eq_some hf, hp.1, by simp [hc], ih _ _ hs'⟩

def tyOf (n : String) : Nat := types.idxOf n

/-- Logs → ResourceLogs() → At → ScopeLogs() → At → LogRecords() → At → Attributes() → Get → Map() → Get → Slice() → At → Map(): 13 accessor steps -/
def demoPath : Option (List Step) :=
  pathOf meths (tyOf "plog.Logs") ["Logs.ResourceLogs", "ResourceLogsSlice.At", "ResourceLogs.ScopeLogs", "ScopeLogsSlice.At",
    "ScopeLogs.LogRecords", "LogRecordSlice.At", "LogRecord.Attributes", "Map.Get", "Value.Map", "Map.Get", "Value.Slice", "Slice.At", "Value.Map"]

end OtelVerif.C07.S

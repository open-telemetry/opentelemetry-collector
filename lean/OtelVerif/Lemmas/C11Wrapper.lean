import OtelVerif.Lemmas.C11Run
/-!
# C11 — `Wrapper` / `WrapperE` of `Model/C11.lean`

The ring holds the last `cap` reports, and a source that attached after the reports `pre` and has since seen `post` has been shown
`lastN cap pre ++ post` (`Tracks`); so while the history fits the ring every source, whenever it attached, has been shown all of it.
After the last attachment the sources advance together.  `Wrapper` is `WrapperE` with the events forgotten (`WrapperE.forget`).
-/
namespace OtelVerif.C11

def reportsOf : List WOp → List St
  | [] => []
  | .report e :: r => e :: reportsOf r
  | .attach :: r => reportsOf r

def noAttach : List WOp → Bool
  | [] => true
  | .report _ :: r => noAttach r
  | .attach :: _ => false

theorem reportsOf_append (a b : List WOp) : reportsOf (a ++ b) = reportsOf a ++ reportsOf b := by
  induction a with
  | nil => rfl
  | cons op r ih => cases op <;> simp [reportsOf, ih]

/-- a source (status, events shown) after the reports `R` -/
def adv (R : List Report) (s : St × List St) : St × List St := (runState s.1 R, s.2 ++ run s.1 R)

theorem adv_nil (s : St × List St) : adv [] s = s := by simp [adv, runState, run]

theorem adv_append (A B : List Report) (s : St × List St) : adv (A ++ B) s = adv B (adv A s) := by
  simp only [adv, runState_append, run_events_append, List.append_assoc]

theorem WrapperE.report_sources (cap : Nat) (w : WrapperE) (e : St) :
    (w.report cap e).sources = w.sources.map (adv [Report.status e]) := by
  simp only [WrapperE.report]
  exact List.map_congr_left fun s _ => by rw [adv, run_single]; rfl

theorem WrapperE.runOps_cons (cap : Nat) (w : WrapperE) (op : WOp) (ops : List WOp) :
    WrapperE.runOps cap w (op :: ops) = WrapperE.runOps cap (w.apply cap op) ops := rfl

theorem WrapperE.runOps_append (cap : Nat) (w : WrapperE) (a b : List WOp) :
    WrapperE.runOps cap w (a ++ b) = WrapperE.runOps cap (WrapperE.runOps cap w a) b := List.foldl_append

theorem WrapperE.runOps_noAttach (cap : Nat) (post : List WOp) (w : WrapperE) (hpost : noAttach post = true) :
    (WrapperE.runOps cap w post).sources = w.sources.map (adv ((reportsOf post).map Report.status)) := by
  induction post generalizing w with
  | nil => exact (List.map_id'' adv_nil _).symm
  | cons op rest ih =>
    cases op with
    | attach => cases hpost
    | report e =>
      rw [WrapperE.runOps_cons, ih _ hpost]
      simp only [WrapperE.apply, WrapperE.report_sources, List.map_map, reportsOf, List.map_cons]
      exact List.map_congr_left fun s _ => (adv_append [Report.status e] _ s).symm

structure Tracks (cap : Nat) (w : WrapperE) (hist : List St) : Prop where
  nonempty : w.sources ≠ []
  ring : w.ring = lastN cap hist
  shown : ∀ s ∈ w.sources, ∃ pre post, hist = pre ++ post ∧ s = adv ((lastN cap pre ++ post).map Report.status) (.starting, [])

theorem Tracks.first (cap : Nat) : Tracks cap ({} : WrapperE).addSource [] :=
  ⟨by simp [WrapperE.addSource], by simp [WrapperE.addSource, lastN], fun s hs => ⟨[], [], rfl, by simpa [WrapperE.addSource, adv, runState, run, lastN] using hs⟩⟩

theorem Tracks.report {cap : Nat} {w : WrapperE} {hist : List St} (h : Tracks cap w hist) (e : St) :
    Tracks cap (w.report cap e) (hist ++ [e]) := by
  obtain ⟨hne, hring, hsrc⟩ := h
  have hemp : w.sources.isEmpty = false := by simpa using hne
  refine ⟨by rw [WrapperE.report_sources]; simpa using hne, by simp [WrapperE.report, hemp, hring, pushRing_lastN], fun s hs => ?_⟩
  rw [WrapperE.report_sources] at hs
  obtain ⟨s0, hs0, rfl⟩ := List.mem_map.mp hs
  obtain ⟨pre, post, rfl, rfl⟩ := hsrc s0 hs0
  exact ⟨pre, post ++ [e], List.append_assoc .., by simp only [← List.append_assoc, List.map_append, adv_append]; rfl⟩

theorem Tracks.attach {cap : Nat} {w : WrapperE} {hist : List St} (h : Tracks cap w hist) : Tracks cap w.addSource hist := by
  refine ⟨by simp [WrapperE.addSource], h.ring, fun s hs => ?_⟩
  rcases List.mem_append.mp hs with hs | hs
  · exact h.shown s hs
  · exact ⟨hist, [], by simp, by rw [List.mem_singleton.mp hs, h.ring]; simp [adv]⟩

theorem Tracks.runOps {cap : Nat} (ops : List WOp) {w : WrapperE} {hist : List St} (h : Tracks cap w hist) :
    Tracks cap (WrapperE.runOps cap w ops) (hist ++ reportsOf ops) := by
  induction ops generalizing w hist with
  | nil => simpa [WrapperE.runOps, reportsOf] using h
  | cons op rest ih =>
    cases op with
    | report e => simpa [reportsOf, WrapperE.runOps_cons, WrapperE.apply] using ih (h.report e)
    | attach => exact ih h.attach

theorem Tracks.fit {cap : Nat} {w : WrapperE} {hist : List St} (h : Tracks cap w hist) (hfit : hist.length ≤ cap) :
    ∀ s ∈ w.sources, s = adv (hist.map Report.status) (.starting, []) := by
  intro s hs
  obtain ⟨pre, post, rfl, rfl⟩ := h.shown s hs
  rw [lastN_of_length_le (by simp at hfit; omega)]

def WrapperE.forget (w : WrapperE) : Wrapper := ⟨w.sources.map (·.1), w.ring⟩

theorem WrapperE.forget_apply (cap : Nat) (w : WrapperE) (op : WOp) : (w.apply cap op).forget = w.forget.apply cap op := by
  cases op with
  | report e => simp [WrapperE.apply, Wrapper.apply, WrapperE.report, Wrapper.report, WrapperE.forget, Function.comp_def]
  | attach => simp [WrapperE.apply, Wrapper.apply, WrapperE.addSource, Wrapper.addSource, WrapperE.forget]

theorem WrapperE.forget_runOps (cap : Nat) (ops : List WOp) (w : WrapperE) :
    (WrapperE.runOps cap w ops).forget = Wrapper.runOps cap w.forget ops := by
  induction ops generalizing w with
  | nil => rfl
  | cons op rest ih => rw [WrapperE.runOps_cons, ih, WrapperE.forget_apply]; rfl

end OtelVerif.C11

import OtelVerif.Lemmas.C02Live
/-!
# C02: infinite runs of the memory-queue LTS and explicit fairness hypotheses

Definitions (`IsRun`, `SchedFair`, `ConsFair`, `OnlyFrom`) that the liveness theorems `C02_fair_run_comes_to_rest` /
`C02_fair_run_releases_all` (`Props/C02.lean`) are stated with (their argument is `fair_drain` with the step lemma `proto_drain`,
`Lemmas/C02Live.lean`), runs that play a finite schedule, per-producer liveness.
-/
namespace OtelVerif.C02

/-- one instant of a run: nothing happens (`none`, a stutter) or one label fires -/
def Step (k : Cfg) (s : St) (ol : Option Label) (s' : St) : Prop :=
  (ol = none ∧ s' = s) ∨ (∃ l, ol = some l ∧ fire k s l = some s')

/-- an infinite run of the queue LTS from a reachable state -/
def IsRun (k : Cfg) (ρ : Nat → St) (lab : Nat → Option Label) : Prop :=
  Reachable k (ρ 0) ∧ ∀ n, Step k (ρ n) (lab n) (ρ (n+1))

/-- fairness of the Go scheduler and of `sync.Mutex` in its weakest form (minimal progress): whenever some goroutine
can take a step of its own, eventually some goroutine does take one -/
def SchedFair (k : Cfg) (ρ : Nat → St) (lab : Nat → Option Label) : Prop :=
  ∀ n, ¬ Quiescent k (ρ n) → ∃ m, n ≤ m ∧ ∃ l, lab m = some l ∧ l.internal = true

/-- the consumers keep working: whenever a request is queued or in flight, eventually a request is taken or completed -/
def ConsFair (ρ : Nat → St) : Prop :=
  ∀ n, (ρ n).items ++ (ρ n).inflight ≠ [] → ∃ m, n ≤ m ∧ served (ρ m) < served (ρ (m+1))

/-- from instant `n0` on every label of the run satisfies `ok` -/
def OnlyFrom (lab : Nat → Option Label) (n0 : Nat) (ok : Label → Bool) : Prop :=
  ∀ m, n0 ≤ m → ∀ l, lab m = some l → ok l = true

/-- what `omega_mono` carries along a drain -/
structure DrainInv (k : Cfg) (L : List Nat) (s : St) : Prop where
  reach : Reachable k s
  cov : Covers L s

variable {k : Cfg} {ρ : Nat → St} {lab : Nat → Option Label}

theorem omega_mono (hk : 0 ≤ k.cap) (hr : IsRun k ρ lab) {n0 : Nat} (hq : OnlyFrom lab n0 Label.drain) {L : List Nat}
    (h0 : DrainInv k L (ρ n0)) (n : Nat) (hn : n0 ≤ n) : ∀ d, Omega L (ρ (n + d)) ≤ Omega L (ρ n) := by
  have step : ∀ m, n0 ≤ m → DrainInv k L (ρ m) → DrainInv k L (ρ (m+1)) ∧ Omega L (ρ (m+1)) ≤ Omega L (ρ m) := fun m hm hi => by
    rcases hr.2 m with ⟨_, e⟩ | ⟨l, e1, hf⟩
    · rw [e]; exact ⟨hi, Nat.le_refl _⟩
    · exact ⟨⟨(mem k).reach_step hi.reach hf, hi.cov.drain (hq m hm l e1) (fire_proto hf)⟩,
        (proto_drain (Inv.reachable hk hi.reach).C hi.cov (hq m hm l e1) (fire_proto hf)).1⟩
  have inv : ∀ m, n0 ≤ m → DrainInv k L (ρ m) := from_on h0 (fun m hm ih => (step m hm ih).1)
  exact fun d => seq_mono (a := fun i => Omega L (ρ i)) (fun m hm => (step m hm (inv m hm)).2) n hn (n + d) (Nat.le_add_right _ _)

/-! ## the run that plays a finite schedule and then stutters for ever (for non-vacuity examples), for any step function -/

def playLabs (ls : List Label) (n : Nat) : Option Label := ls[n]?

section
variable {f : St → Label → Option St} {run : St → List Label → Option St} {play : St → List Label → Nat → St}
  (run_cons : ∀ s l ls, run s (l :: ls) = (f s l).bind (fun s' => run s' ls))
  (play_zero : ∀ s ls, play s ls 0 = s) (play_nil : ∀ s n, play s [] n = s)
  (play_cons : ∀ s s1 l ls n, f s l = some s1 → play s (l :: ls) (n+1) = play s1 ls n)
include run_cons play_zero play_nil play_cons

theorem play_step_of (ls : List Label) : ∀ (s : St) (n : Nat), (run s ls).isSome = true →
    (playLabs ls n = none ∧ play s ls (n+1) = play s ls n) ∨
      ∃ l, playLabs ls n = some l ∧ f (play s ls n) l = some (play s ls (n+1)) := by
  induction ls with
  | nil => intro s n _; exact Or.inl ⟨rfl, by rw [play_nil, play_nil]⟩
  | cons l ls ih =>
    intro s n h
    rw [run_cons] at h
    cases hf : f s l with
    | none => rw [hf] at h; cases h
    | some s1 =>
      rw [hf] at h
      cases n with
      | zero => exact Or.inr ⟨l, rfl, by rw [play_cons s s1 l ls 0 hf, play_zero, play_zero]; exact hf⟩
      | succ n =>
        rw [play_cons s s1 l ls n hf, play_cons s s1 l ls (n+1) hf]
        exact ih s1 n h

theorem play_take_of (run_nil : ∀ s, run s [] = some s) (ls : List Label) : ∀ (s : St) (n : Nat), (run s ls).isSome = true →
    run s (ls.take n) = some (play s ls n) := by
  induction ls with
  | nil => intro s n _; rw [play_nil, List.take_nil]; exact run_nil s
  | cons l ls ih =>
    intro s n h
    cases n with
    | zero => rw [play_zero]; exact run_nil s
    | succ n =>
      rw [run_cons] at h
      cases hf : f s l with
      | none => rw [hf] at h; cases h
      | some s1 =>
        rw [hf] at h
        rw [play_cons s s1 l ls n hf, List.take_succ_cons, run_cons, hf]
        exact ih s1 n h

end

def playStates (k : Cfg) : St → List Label → Nat → St
  | s, _, 0 => s
  | s, [], _+1 => s
  | s, l :: ls, n+1 => match fire k s l with
    | some s1 => playStates k s1 ls n
    | none => s

theorem playStates_zero (k : Cfg) (s : St) (ls : List Label) : playStates k s ls 0 = s := by cases ls <;> rfl

theorem playStates_nil (k : Cfg) (s : St) (n : Nat) : playStates k s [] n = s := by cases n <;> rfl

theorem playStates_cons (k : Cfg) (s s1 : St) (l : Label) (ls : List Label) (n : Nat) (hf : fire k s l = some s1) :
    playStates k s (l :: ls) (n+1) = playStates k s1 ls n := by
  rw [playStates, hf]

theorem play_step (k : Cfg) (ls : List Label) : ∀ (s : St) (n : Nat), (runSched k s ls).isSome = true →
    Step k (playStates k s ls n) (playLabs ls n) (playStates k s ls (n+1)) :=
  play_step_of (runSched_cons k) (playStates_zero k) (playStates_nil k) (playStates_cons k) ls

theorem play_isRun {k : Cfg} {s : St} {ls : List Label} (hr : Reachable k s) (h : (runSched k s ls).isSome = true) :
    IsRun k (playStates k s ls) (playLabs ls) :=
  ⟨by rw [playStates_zero]; exact hr, fun n => play_step k ls s n h⟩

theorem play_take (k : Cfg) (ls : List Label) : ∀ (s : St) (n : Nat), (runSched k s ls).isSome = true →
    runSched k s (ls.take n) = some (playStates k s ls n) :=
  play_take_of (runSched_cons k) (playStates_zero k) (playStates_nil k) (playStates_cons k) (fun _ => rfl) ls

theorem play_after {k : Cfg} {s s' : St} {ls : List Label} (h : runSched k s ls = some s') (n : Nat) (hn : ls.length ≤ n) :
    playStates k s ls n = s' := by
  have h1 := play_take k ls s n (by rw [h]; rfl)
  rw [List.take_of_length_le hn, h] at h1
  exact (Option.some.inj h1).symm

theorem play_labs_after (ls : List Label) (n : Nat) (hn : ls.length ≤ n) : playLabs ls n = none := by
  simp [playLabs, hn]

theorem onlyFrom_play (ls : List Label) (n0 : Nat) (ok : Label → Bool) (h : ∀ l ∈ ls.drop n0, ok l = true) :
    OnlyFrom (playLabs ls) n0 ok := by
  intro m hm l hl
  apply h
  simp only [playLabs] at hl
  have : (ls.drop n0)[m - n0]? = some l := by
    rw [List.getElem?_drop, Nat.add_sub_cancel' hm]; exact hl
  exact List.mem_of_getElem? this

/-! ## per-producer liveness under weak fairness of the producer's own goroutine -/

/-- producer `p` has been signalled or cancelled and has not re-taken the lock yet -/
def Pending (s : St) (p : Nat) : Prop :=
  ((s.ps p).ph = .sel ∧ ((s.ps p).sig = true ∨ (s.ps p).canc = true)) ∨ (s.ps p).ph = .wokenTok ∨ (s.ps p).ph = .wokenCtx

/-- some step of producer `p`'s own goroutine is enabled -/
def OwnEnabled (k : Cfg) (s : St) (p : Nat) : Prop := ∃ l, l.tid = some p ∧ l.internal = true ∧ (fire k s l).isSome = true

/-- weak fairness for the goroutine of producer `p`: a step of its own that stays enabled is eventually taken -/
def ProdFair (k : Cfg) (ρ : Nat → St) (lab : Nat → Option Label) (p : Nat) : Prop :=
  ∀ n, (∀ m, n ≤ m → OwnEnabled k (ρ m) p) → ∃ m, n ≤ m ∧ ∃ l, lab m = some l ∧ l.tid = some p ∧ l.internal = true

theorem pending_enabled (k : Cfg) (s : St) (p : Nat) (h : Pending s p) : OwnEnabled k s p := by
  rcases h with ⟨a, b | b⟩ | a | a
  · exact ⟨.wakeTok p, rfl, rfl, (wakeTok_isSome k a b).1⟩
  · exact ⟨.wakeCtx p, rfl, rfl, (wakeCtx_isSome k a b).1⟩
  · exact ⟨.relockTok p, rfl, rfl, (relockTok_isSome k a).1⟩
  · exact ⟨.relockCtx p, rfl, rfl, (relockCtx_isSome k a).1⟩

theorem Pending.not_idle {s : St} {p : Nat} (h : Pending s p) : (s.ps p).ph ≠ .idle := by
  rcases h with ⟨a, _⟩ | a | a <;> rw [a] <;> exact Ph.noConfusion

theorem Pending.of {s t : St} {p : Nat} (h : Pending s p) (e1 : (t.ps p).ph = (s.ps p).ph)
    (e2 : (s.ps p).sig = true → (t.ps p).sig = true) (e3 : (s.ps p).canc = true → (t.ps p).canc = true) : Pending t p := by
  unfold Pending
  rw [e1]
  exact h.imp (fun x => ⟨x.1, x.2.imp e2 e3⟩) id

theorem pending_step {k : Cfg} {s s' : St} {l : Label} (hf : Proto k s l s') (p : Nat)
    (hl : ¬ (l.tid = some p ∧ l.internal = true)) (h : Pending s p) : Pending s' p := by
  by_cases ht : l.tid = some p
  · cases hi : l.internal with
    | true => exact absurd ⟨ht, hi⟩ hl
    | false =>
      rcases ext_step hf ht hi with ⟨_, _, a⟩ | ⟨_, e⟩
      · exact absurd a h.not_idle
      · exact h.of (by rw [e]) (fun x => by rw [e]; exact x) (fun _ => by rw [e])
  · obtain ⟨e1, e2, e3⟩ := (frame_step hf).2 p ht
    exact h.of e1 e3 (fun x => e2.trans x)

end OtelVerif.C02

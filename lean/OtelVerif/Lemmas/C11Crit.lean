/-!
# C11 — goroutines running calls under one lock

`Crit` reads a state type that way (`crit` of C11Mutex, C11WLock; `sim`: their `fire` refines `Crit.Step`): a call takes the lock, reads
and writes the shared data in sub-steps (`Crit.body`) and releases the lock.  `Crit.Inv.step`: nobody but the holder is inside a call;
the shared data reads as the atomic model's for the calls in `Lock` order, given `Crit.Atomic` (each instance's duty).
`Crit.OrderInv.step`: program order, given `Crit.Busy` (no sub-step returns to `idle`, so `taken` counts a call once).
-/
namespace OtelVerif.C11

structure Crit (σ Call Ph Sh : Type) where
  idle : Ph
  locked : Ph
  /-- `none`: only the deferred `Unlock` is left -/
  body : Call → Ph → Sh → Option (Ph × Sh)
  useLock : σ → Bool
  threads : σ → List (List Call × Ph)
  holder : σ → Option Nat
  sh : σ → Sh
  /-- ghost: the calls in `Lock` order -/
  hist : σ → List (Nat × Call)

variable {σ Call Ph Sh : Type}

def Crit.calls (K : Crit σ Call Ph Sh) (s : σ) : List Call := (K.hist s).map (·.2)

def Crit.taken (K : Crit σ Call Ph Sh) (s : σ) (t : Nat) : List Call := ((K.hist s).filter (fun p => p.1 == t)).map (·.2)

/-- goroutine `t` takes the lock (unless blocked), moves inside the body, or, the body done, releases the lock -/
def Crit.Step (K : Crit σ Call Ph Sh) (s : σ) (t : Nat) (s' : σ) : Prop :=
  K.useLock s' = K.useLock s ∧ ∃ c rest ph, (K.threads s)[t]? = some (c :: rest, ph) ∧
    ((ph = K.idle ∧ (K.useLock s && (K.holder s).isSome) = false ∧ K.threads s' = (K.threads s).set t (c :: rest, K.locked) ∧
        K.holder s' = (if K.useLock s then some t else K.holder s) ∧ K.hist s' = K.hist s ++ [(t, c)] ∧ K.sh s' = K.sh s) ∨
     (ph ≠ K.idle ∧ ∃ ph', K.body c ph (K.sh s) = some (ph', K.sh s') ∧ K.threads s' = (K.threads s).set t (c :: rest, ph') ∧
        K.holder s' = K.holder s ∧ K.hist s' = K.hist s) ∨
     (ph ≠ K.idle ∧ K.body c ph (K.sh s) = none ∧ K.threads s' = (K.threads s).set t (rest, K.idle) ∧
        K.holder s' = (if K.useLock s then none else K.holder s) ∧ K.hist s' = K.hist s ∧ K.sh s' = K.sh s))

/-- `free cs sh`: with the lock free and the calls `cs` taken, the shared data is the atomic model's; `ok cs c ph sh`: the same inside
call `c` in phase `ph`, `cs` taken before it; `pre cs sh`: what has been let out is a prefix of the atomic model's output for `cs` -/
structure Crit.Atomic (K : Crit σ Call Ph Sh) where
  free : List Call → Sh → Prop
  ok : List Call → Call → Ph → Sh → Prop
  not_idle : ∀ cs c sh, ¬ ok cs c K.idle sh
  enter : ∀ cs c sh, free cs sh → ok cs c K.locked sh
  step : ∀ cs c ph sh ph' sh', ok cs c ph sh → K.body c ph sh = some (ph', sh') → ok cs c ph' sh'
  exit : ∀ cs c ph sh, ok cs c ph sh → K.body c ph sh = none → free (cs ++ [c]) sh
  pre : List Call → Sh → Prop
  pre_free : ∀ cs sh, free cs sh → pre cs sh
  pre_ok : ∀ cs c ph sh, ok cs c ph sh → pre (cs ++ [c]) sh

def Crit.Inv (K : Crit σ Call Ph Sh) (S : K.Atomic) (s : σ) : Prop :=
  K.useLock s = true ∧ match K.holder s with
    | none => (∀ (t : Nat) (th : List Call × Ph), (K.threads s)[t]? = some th → th.2 = K.idle) ∧ S.free (K.calls s) (K.sh s)
    | some t => ∃ c rest ph cs0, (K.threads s)[t]? = some (c :: rest, ph) ∧
        (∀ (t' : Nat) (th' : List Call × Ph), t' ≠ t → (K.threads s)[t']? = some th' → th'.2 = K.idle) ∧
        K.calls s = cs0 ++ [c] ∧ S.ok cs0 c ph (K.sh s)

theorem Crit.Inv_init (K : Crit σ Call Ph Sh) (S : K.Atomic) (s : σ) (progs : List (List Call)) (hl : K.useLock s = true)
    (hh : K.holder s = none) (hth : K.threads s = progs.map (fun p => (p, K.idle))) (hhist : K.hist s = [])
    (h0 : S.free [] (K.sh s)) : K.Inv S s := by
  refine ⟨hl, ?_⟩
  rw [hh]
  refine ⟨fun t th h => ?_, by rw [Crit.calls, hhist]; exact h0⟩
  rw [hth, List.getElem?_map] at h
  cases hp : progs[t]? with
  | none => simp [hp] at h
  | some p => simp [hp] at h; rw [← h]

theorem Crit.Inv.step {K : Crit σ Call Ph Sh} {S : K.Atomic} {s s' : σ} {t : Nat} (hinv : K.Inv S s)
    (hf : K.Step s t s') : K.Inv S s' := by
  obtain ⟨hlock, hm⟩ := hinv
  obtain ⟨hul, c, rest, ph, hth, hcases⟩ := hf
  refine ⟨hul.trans hlock, ?_⟩
  cases hh : K.holder s with
  | none =>
    -- the lock is free: everybody is idle, so the step takes the lock
    rw [hh] at hm
    obtain ⟨hidle, hfree⟩ := hm
    have hph : ph = K.idle := hidle t _ hth
    rcases hcases with ⟨_, _, e1, e2, e3, e4⟩ | ⟨h1, _⟩ | ⟨h1, _⟩
    · rw [e2, hlock, if_pos rfl]
      exact ⟨c, rest, K.locked, K.calls s, by rw [e1, List.getElem?_set_self', hth]; rfl,
        fun t' th' hne h' => hidle t' th' (by rwa [e1, List.getElem?_set_ne (Ne.symm hne)] at h'), by simp [Crit.calls, e3],
        e4 ▸ S.enter _ _ _ hfree⟩
    all_goals exact absurd hph h1
  | some hd =>
    rw [hh] at hm
    obtain ⟨c0, rest0, ph0, cs0, hthd, hothers, hcalls, hok⟩ := hm
    -- only the holder can move: the others are idle and blocked in `Lock`
    obtain rfl : t = hd := by
      apply Classical.byContradiction
      intro hne
      have hph : ph = K.idle := hothers t _ hne hth
      rcases hcases with ⟨_, hb, _⟩ | ⟨h1, _⟩ | ⟨h1, _⟩
      · simp [hlock, hh] at hb
      all_goals exact h1 hph
    obtain ⟨⟨rfl, rfl⟩, rfl⟩ : (c = c0 ∧ rest = rest0) ∧ ph = ph0 := by simpa [hth] using hthd
    rcases hcases with ⟨rfl, _, _⟩ | ⟨_, ph', hb, e1, e2, e3⟩ | ⟨_, hb, e1, e2, e3, e4⟩
    · exact (S.not_idle _ _ _ hok).elim
    · rw [e2, hh]
      exact ⟨c, rest, ph', cs0, by rw [e1, List.getElem?_set_self', hth]; rfl,
        fun t' th' hne h' => hothers t' th' hne (by rwa [e1, List.getElem?_set_ne (Ne.symm hne)] at h'),
        by rw [Crit.calls, e3]; exact hcalls, S.step _ _ _ _ _ _ hok hb⟩
    · rw [e2, hlock, if_pos rfl]
      refine ⟨fun t' th' h' => ?_, by
        rw [e4, show K.calls s' = cs0 ++ [c] by rw [Crit.calls, e3]; exact hcalls]; exact S.exit _ _ _ _ hok hb⟩
      rw [e1] at h'
      by_cases hne : t' = t
      · subst hne
        rw [List.getElem?_set_self', hth] at h'
        rw [← Option.some.inj h']; rfl
      · exact hothers t' th' hne (List.getElem?_set_ne (Ne.symm hne) ▸ h')

theorem Crit.Inv.free {K : Crit σ Call Ph Sh} {S : K.Atomic} {s : σ} (h : K.Inv S s) (hh : K.holder s = none) :
    S.free (K.calls s) (K.sh s) := by
  have hm := h.2
  rw [hh] at hm
  exact hm.2

theorem Crit.Inv.pre {K : Crit σ Call Ph Sh} {S : K.Atomic} {s : σ} (h : K.Inv S s) : S.pre (K.calls s) (K.sh s) := by
  cases hh : K.holder s with
  | none => exact S.pre_free _ _ (h.free hh)
  | some t =>
    have hm := h.2
    rw [hh] at hm
    obtain ⟨c, _, ph, cs0, _, _, hc, hok⟩ := hm
    exact hc ▸ S.pre_ok _ _ _ _ hok

variable [DecidableEq Ph]

/-- every goroutine's calls are taken in its program order, whatever the body, with or without the lock -/
def Crit.OrderInv (K : Crit σ Call Ph Sh) (progs : List (List Call)) (s : σ) : Prop :=
  ∀ (t : Nat) (th : List Call × Ph), (K.threads s)[t]? = some th → ∃ done, progs[t]? = some (done ++ th.1) ∧
    K.taken s t = done ++ (if th.2 = K.idle then [] else th.1.take 1)

theorem Crit.OrderInv_init (K : Crit σ Call Ph Sh) (s : σ) (progs : List (List Call))
    (hth : K.threads s = progs.map (fun p => (p, K.idle))) (hhist : K.hist s = []) : K.OrderInv progs s := by
  intro t th h
  rw [hth, List.getElem?_map] at h
  cases hp : progs[t]? with
  | none => simp [hp] at h
  | some p =>
    simp only [hp, Option.map_some, Option.some.injEq] at h
    subst h
    exact ⟨[], by simp, by simp [Crit.taken, hhist]⟩

theorem Crit.OrderInv.update {K : Crit σ Call Ph Sh} {progs : List (List Call)} {s s1 : σ} {t : Nat}
    {th th1 : List Call × Ph} (hinv : K.OrderInv progs s) (hth : (K.threads s)[t]? = some th) (ht : K.threads s1 = (K.threads s).set t th1)
    (hothers : ∀ t', t' ≠ t → K.taken s1 t' = K.taken s t')
    (hself : ∃ done, progs[t]? = some (done ++ th1.1) ∧ K.taken s1 t = done ++ (if th1.2 = K.idle then [] else th1.1.take 1)) :
    K.OrderInv progs s1 := by
  intro t' th' h'
  rw [ht] at h'
  by_cases hne : t' = t
  · subst hne
    rw [List.getElem?_set_self', hth] at h'
    exact Option.some.inj h' ▸ hself
  · rw [List.getElem?_set_ne (Ne.symm hne)] at h'
    rw [hothers t' hne]; exact hinv t' th' h'

structure Crit.Busy (K : Crit σ Call Ph Sh) : Prop where
  locked : K.locked ≠ K.idle
  body : ∀ c ph sh ph' sh', K.body c ph sh = some (ph', sh') → ph' ≠ K.idle

theorem Crit.OrderInv.step {K : Crit σ Call Ph Sh} (B : K.Busy) {progs : List (List Call)} {s s' : σ} {t : Nat}
    (hinv : K.OrderInv progs s) (hf : K.Step s t s') : K.OrderInv progs s' := by
  obtain ⟨_, c, rest, ph, hth, hcases⟩ := hf
  obtain ⟨done, hprog, htaken⟩ := hinv t _ hth
  -- the calls taken depend on the history alone, which grows only when `t` takes the lock
  have same : K.hist s' = K.hist s → ∀ t', K.taken s' t' = K.taken s t' := fun e t' => by rw [Crit.taken, e]; rfl
  rcases hcases with ⟨h1, _, e1, _, e3, _⟩ | ⟨h1, ph', hbody, e1, _, e3⟩ | ⟨h1, _, e1, _, e3, _⟩
  · refine hinv.update hth e1 (fun t' hne => ?_) ⟨done, hprog, ?_⟩
    · have hb : (t == t') = false := by simpa using Ne.symm hne
      simp [Crit.taken, e3, List.filter_append, hb]
    · subst h1
      simp [Crit.taken, e3, List.filter_append, B.locked] at htaken ⊢
      exact htaken
  · exact hinv.update hth e1 (fun t' _ => same e3 t') ⟨done, hprog, by
      rw [same e3, htaken]; simp [h1, B.body _ _ _ _ _ hbody]⟩
  · exact hinv.update hth e1 (fun t' _ => same e3 t') ⟨done ++ [c], by rw [hprog]; simp, by
      rw [same e3, htaken]; simp [h1]⟩

end OtelVerif.C11

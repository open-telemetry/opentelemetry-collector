import OtelVerif.Lemmas.C02P
import OtelVerif.Lemmas.C02Live
/-! consumer side (`hasMoreElements`): every queued request has a notified consumer on its way, or nobody is parked (`InvK`); what rest means
for a producer inside `cond.Wait` (`asleep_or_enabled`, `Quiescent.asleep`, `PQuiescent.asleep`: asleep and registered); the drain (`drain_aux`) -/
namespace OtelVerif.C02

/-- the consumer-side counterpart of signal conservation: as long as somebody is parked in `Read`, at least as many
consumers have been notified (and have not re-taken the lock yet) as there are queued requests; after `Shutdown`
nobody is parked -/
structure InvK (s : St) : Prop where
  woken : s.cwait = [] ∨ s.items.length ≤ s.cwoken.length
  stop : s.stopped = true → s.cwait = []

theorem InvK.mono {s s' : St} (h : InvK s) (e2 : s'.cwait = s.cwait) (e4 : s'.stopped = s.stopped)
    (hle : s'.items.length + s.cwoken.length ≤ s.items.length + s'.cwoken.length) : InvK s' := by
  refine ⟨?_, by rw [e2, e4]; exact h.stop⟩
  rw [e2]
  rcases h.woken with w | w
  · exact Or.inl w
  · exact Or.inr (by omega)

theorem InvK.congr {s s' : St} (h : InvK s) (e1 : s'.items = s.items) (e2 : s'.cwait = s.cwait)
    (e3 : s'.cwoken = s.cwoken) (e4 : s'.stopped = s.stopped) : InvK s' :=
  h.mono e2 e4 (by rw [e1, e3]; exact Nat.le_refl _)

theorem InvK.of_unparked {s : St} (hw : s.cwait = []) : InvK s := ⟨Or.inl hw, fun _ => hw⟩

theorem InvK.of_empty {s : St} (hi : s.items = []) (hs : s.stopped = false) : InvK s :=
  ⟨Or.inr (by rw [hi]; exact Nat.zero_le _), fun h => by rw [hs] at h; cases h⟩

/-- what taking the head of the queue does on the consumer side (`pop`, and `ppop` with its reset) -/
structure Popped (s s' : St) : Prop where
  cwait : s'.cwait = s.cwait
  cwoken : s'.cwoken = s.cwoken
  stopped : s'.stopped = s.stopped
  items : s'.items.length + 1 = s.items.length
  handed : ∃ x, s'.handed = s.handed ++ [x]

theorem pop_popped {s s' : St} (hp : pop s = some s') : Popped s s' := by
  obtain ⟨id, el, t, hi, rfl⟩ := pop_some hp
  exact ⟨rfl, rfl, rfl, by rw [hi]; rfl, ⟨id, rfl⟩⟩

theorem took_popped {s t : St} (ht : Took s t) : Popped s t := by
  cases ht with
  | pop s1 hp => exact pop_popped hp
  | reset s1 hp => have h := pop_popped hp; exact ⟨h.cwait, h.cwoken, h.stopped, h.items, h.handed⟩

theorem InvK.condSignal {s : St} (h : InvK s) : InvK (condSignal s) := by
  obtain ⟨a, b, c, d⟩ := condSignal_cons s
  exact h.congr a b c d

theorem InvK.ctxCleanup {s : St} (h : InvK s) (p : Nat) : InvK (ctxCleanup s p) := by
  obtain ⟨a, b, c, d⟩ := ctxCleanup_cons s p
  exact h.congr a b c d

theorem InvK.accept {k : Cfg} {s : St} {p : Nat} {el : Int} (h : InvK s) : InvK (accept k s p el) := by
  refine ⟨?_, fun hs => by show s.cwait.drop 1 = []; rw [h.stop hs]; rfl⟩
  show s.cwait.drop 1 = [] ∨ (s.items ++ [(p, el)]).length ≤ (s.cwoken ++ s.cwait.take 1).length
  cases hc : s.cwait with
  | nil => exact Or.inl rfl
  | cons c cs =>
    rcases h.woken with a | a
    · rw [hc] at a; cases a
    · right
      simp only [List.length_append, List.length_cons, List.length_nil, List.take_succ_cons, List.take_zero]
      omega

theorem InvK.popped {s s1 : St} (h : InvK s) (hp : Popped s s1) :
    InvK s1 ∧ ∀ c ∈ s.cwoken, InvK { s1 with cwoken := s1.cwoken.erase c } := by
  refine ⟨h.mono hp.cwait hp.stopped (by rw [hp.cwoken, ← hp.items]; exact Nat.add_le_add_right (Nat.le_succ _) _),
    fun c hc => h.mono hp.cwait hp.stopped ?_⟩
  show s1.items.length + s.cwoken.length ≤ s.items.length + (s1.cwoken.erase c).length
  have d := hp.items
  rw [hp.cwoken, List.length_erase_of_mem hc]
  have := List.length_pos_of_mem hc
  omega

theorem InvK.exit {k : Cfg} {s t : St} {p : Nat} {el : Int} (h : InvK s) (he : Exit k s p el t) : InvK t := by
  cases he with
  | refuse r | register => exact h.congr rfl rfl rfl rfl
  | accept k' => exact h.accept

theorem InvK.proto {k : Cfg} {s s' : St} {l : Label} (h : InvK s) (hp : Proto k s l s') : InvK s' := by
  induction hp with
  | offerOk | cancel | wakeTok | wakeCtx | resCtx | getRes | complete => exact h.congr rfl rfl rfl rfl
  | offer _ _ _ _ he | relockTok _ _ _ he => exact h.exit he
  | relockCtx p => exact (h.ctxCleanup p).congr rfl rfl rfl rfl
  | readTook c t _ ht => exact (h.popped (took_popped ht)).1
  | readStopped => exact h
  | readPark c _ hi hs | recheckPark c _ hi hs => exact .of_empty hi hs
  | recheckTook c t hc ht => exact (h.popped (took_popped ht)).2 c hc
  | recheckStopped c _ hs => exact .of_unparked (h.stop hs)
  | shutdown | shutdownAll => exact .of_unparked rfl

theorem InvK.init : InvK {} := ⟨Or.inl rfl, fun _ => rfl⟩

theorem Machine.invK {k : Cfg} (M : Machine k) {s : St} (hr : M.Reach s) : InvK s :=
  M.reach_induction InvK InvK.init (fun _ _ _ h hf => h.proto (M.proto hf)) s hr

theorem InvK.reachable {k : Cfg} {s : St} (hr : Reachable k s) : InvK s := (mem k).invK hr

/-- asleep in the select and registered, or able to take a step of its own; the three labels have the same guards in `fire` and `pfire` -/
theorem asleep_or_enabled {k : Cfg} {s : St} (hC : InvC k s) {p : Nat} (hp : (s.ps p).ph.inCond) :
    ((s.ps p).ph = .sel ∧ (s.ps p).sig = false ∧ p ∈ s.waiters) ∨
    ∃ l, l.internal = true ∧ (fire k s l).isSome = true ∧ (pfire k s l).isSome = true := by
  rcases hp with a | a | a
  · cases hs : (s.ps p).sig with
    | false => exact Or.inl ⟨a, rfl, (hC.wIff p).mpr ⟨Or.inl a, hs⟩⟩
    | true => exact Or.inr ⟨.wakeTok p, rfl, wakeTok_isSome k a hs⟩
  · exact Or.inr ⟨.relockTok p, rfl, relockTok_isSome k a⟩
  · exact Or.inr ⟨.relockCtx p, rfl, relockCtx_isSome k a⟩

theorem InvK.at_rest {s : St} (h : InvK s) (hw : s.cwoken = []) : s.cwait = [] ∨ s.items = [] :=
  h.woken.imp_right (fun a => List.length_eq_zero_iff.mp (Nat.le_zero.mp (by rwa [hw] at a)))

theorem Quiescent.asleep {k : Cfg} {s : St} (hq : Quiescent k s) (hC : InvC k s) {p : Nat} (hp : (s.ps p).ph.inCond) :
    (s.ps p).ph = .sel ∧ (s.ps p).sig = false ∧ p ∈ s.waiters :=
  (asleep_or_enabled hC hp).resolve_right (fun ⟨l, hl, h, _⟩ => by rw [hq l hl] at h; cases h)

theorem PQuiescent.asleep {k : Cfg} {s : St} (hq : PQuiescent k s) (hC : InvC k s) {p : Nat} (hp : (s.ps p).ph.inCond) :
    (s.ps p).ph = .sel ∧ (s.ps p).sig = false ∧ p ∈ s.waiters :=
  (asleep_or_enabled hC hp).resolve_right (fun ⟨l, hl, _, h⟩ => by rw [hq l hl] at h; cases h)

/-- the drain, by induction on `Omega`: let the goroutines come to rest, then complete a request in flight or let a consumer read -/
theorem drain_aux {k : Cfg} (hk : 0 ≤ k.cap) (L : List Nat) (n : Nat) (s : St) (hr : Reachable k s) (hc : Covers L s)
    (hn : Omega L s < n) :
    ∃ ls s', (∀ l ∈ ls, Label.drain l = true) ∧ runSched k s ls = some s' ∧ ∀ p, ¬ (s'.ps p).ph.inCond := by
  induction n generalizing s with
  | zero => exact absurd hn (Nat.not_lt_zero _)
  | succ n ih =>
    obtain ⟨ls, s1, h1, (h2 : runSched k s ls = some s1), (h3 : Quiescent k s1), h4, h5⟩ := (mem k).exists_quiesce (fun _ h => (Inv.reachable hk h).C) s hr hc
    have hr1 := (mem k).reach_run ls hr h2
    have hd1 : ∀ l ∈ ls, Label.drain l = true := fun l hl => internal_drain l (h1 l hl)
    -- one environment step that makes the potential drop, then the induction hypothesis
    have next : ∀ (l : Label) (s2 : St), l.drain = true → fire k s1 l = some s2 → Omega L s2 < Omega L s1 →
        ∃ ls s', (∀ l ∈ ls, Label.drain l = true) ∧ runSched k s ls = some s' ∧ ∀ p, ¬ (s'.ps p).ph.inCond := by
      intro l s2 hl hf hlt
      obtain ⟨ls2, s', g1, g2, g3⟩ := ih s2 ((mem k).reach_step hr1 hf) (h4.drain hl (fire_proto hf)) (by omega)
      refine ⟨ls ++ l :: ls2, s', ?_, ?_, g3⟩
      · intro l' hl'
        rcases List.mem_append.mp hl' with e | e
        · exact hd1 l' e
        · rcases List.mem_cons.mp e with e | e
          · exact e ▸ hl
          · exact g1 l' e
      · rw [run_append (fun _ => rfl) (runSched_cons k), h2]
        simp [runSched, hf, g2]
    cases hfl : s1.inflight with
    | cons x t =>
      obtain ⟨id, el⟩ := x
      have hl : s1.inflight.lookup id = some el := by simp [hfl]
      exact next (.complete id 0) _ rfl (by simp [fire, hl]) (finish_eq k s1 id el 0 ▸ settle_measure L hl 0 _ _)
    | nil =>
      cases hit : s1.items with
      | nil =>
        -- nothing unfinished: the size is 0, so nobody is registered (`InvF.size_pos`), and at rest whoever waits is registered
        obtain ⟨hI, hF, _⟩ := Inv.all_reachable hk hr1
        have hz : s1.size = 0 := by rw [hI.Z.sizeEq, hit, hfl]; rfl
        exact ⟨ls, s1, hd1, h2, fun p hp => by
          have := hF.size_pos hI.C (List.ne_nil_of_mem (h3.asleep hI.C hp).2.2)
          omega⟩
      | cons x t =>
        -- at rest with a queued item no consumer is parked; let consumer 0 read
        have hwk := h3.cwoken_nil
        have hcw' := (InvK.reachable hr1).at_rest hwk
        have hcw : s1.cwait = [] := hcw'.resolve_right (by rw [hit]; exact List.cons_ne_nil _ _)
        obtain ⟨a, b⟩ := x
        have hp : pop s1 = some { s1 with items := t, inflight := s1.inflight ++ [(a, b)], handed := s1.handed ++ [a] } := by
          simp [pop, hit]
        exact next (.read 0) _ rfl (by simp [fire, hcw, hwk, hp]) (pop_measure L hp)

end OtelVerif.C02

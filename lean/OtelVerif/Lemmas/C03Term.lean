import OtelVerif.Lemmas.C03
/-!
# C03 — termination of the shutdown protocol

Once shutdown has been requested (`1 ≤ phase`) and as long as the environment offers nothing more, every schedule of the
LTS `Model/C03.lean` is finite (`drain_wellFounded`: a lexicographic measure `mu` decreases at every non-offer step), no
reachable state before the return is stuck (`not_stuck`: needs the worker pool of the default batcher to have at least one
slot, free or in use), hence `Shutdown` returns (`shutdown_terminates`).
-/
namespace OtelVerif.C03

def wsum {α : Type} (w : α → Nat) : List α → Nat
  | [] => 0
  | a :: l => w a + wsum w l

theorem wsum_eq_sum {α : Type} (w : α → Nat) : ∀ (l : List α), wsum w l = (l.map w).sum
  | [] => rfl
  | a :: l => by simp [wsum, wsum_eq_sum w l]

theorem wsum_append {α : Type} (w : α → Nat) (l m : List α) : wsum w (l ++ m) = wsum w l + wsum w m := by
  simp [wsum_eq_sum]

theorem wsum_singleton {α : Type} (w : α → Nat) (a : α) : wsum w [a] = w a := by simp [wsum]

theorem wsum_set {α : Type} (w : α → Nat) (l : List α) (i : Nat) (old v : α) (h : l[i]? = some old) :
    wsum w (l.set i v) + w old = wsum w l + w v := by
  simpa only [wsum_eq_sum] using sum_map_set w v h

theorem length_filter_eq_wsum {α : Type} (p : α → Bool) :
    ∀ (l : List α), (l.filter p).length = wsum (fun a => if p a then 1 else 0) l
  | [] => by simp [wsum]
  | a :: l => by
    have := length_filter_eq_wsum p l
    by_cases ha : p a = true
    · simp [wsum, ha, this]; omega
    · simp [wsum, ha, this]

/-- the environment's label; every other label is a step of a helper goroutine, of the retry loop, of the backend returning,
or of the shutdown goroutine -/
def isOffer : Label → Bool
  | .offer _ => true
  | _ => false

/-- flights of flush goroutines (no owner) that have not ended -/
def liveUnowned (s : State) : Nat := (s.flights.filter (fun fl => fl.owner.isNone && fl.st != .done)).length

/-- the worker pool of the default batcher has at least one slot (free or in use) -/
def PoolOK (s : State) : Prop := s.cfg.batching = true → 0 < s.workers + liveUnowned s

def luW (fl : Flight) : Nat := if (fl.owner.isNone && fl.st != .done) = true then 1 else 0

theorem liveUnowned_eq (s : State) : liveUnowned s = wsum luW s.flights :=
  length_filter_eq_wsum _ s.flights

theorem luW_new_none (b : Batch) : luW (Flight.new b none) = 1 := by simp [luW, Flight.new]
theorem luW_new_some (b : Batch) (i : Nat) : luW (Flight.new b (some i)) = 0 := by simp [luW, Flight.new]

theorem luW_finalised (fl : Flight) (kept : Bool) (fail : Nat) :
    luW { fl with st := .done, failures := fl.failures + fail, kept := kept } = 0 := by simp [luW]

theorem luW_live {fl : Flight} (hst : fl.st ≠ .done) : luW fl = if fl.owner.isNone = true then 1 else 0 := by
  simp [luW, hst]

theorem pool_finalise {s : State} {f : Nat} {fl : Flight} {kept : Bool} {fail : Nat}
    (hfl : s.flights[f]? = some fl) (hst : fl.st ≠ .done) :
    (finalise s f fl kept fail).workers + liveUnowned (finalise s f fl kept fail) = s.workers + liveUnowned s := by
  have h1 := wsum_set luW s.flights f fl { fl with st := .done, failures := fl.failures + fail, kept := kept } hfl
  rw [luW_finalised, luW_live hst] at h1
  rw [liveUnowned_eq, liveUnowned_eq]
  simp only [finalise]
  cases ho : fl.owner with
  | none => simp only [ho, Option.isNone_none, if_true] at h1 ⊢; omega
  | some i => simp [ho] at h1 ⊢; omega

theorem pool_flight_set {s s' : State} {f : Nat} {fl v : Flight} (hf : s'.flights = s.flights.set f v)
    (hw : s'.workers = s.workers) (hfl : s.flights[f]? = some fl) (hst : fl.st ≠ .done) (hv : v.st ≠ .done)
    (ho : v.owner = fl.owner) :
    s'.workers + liveUnowned s' = s.workers + liveUnowned s := by
  have h1 := wsum_set luW s.flights f fl v hfl
  rw [luW_live hst, luW_live hv, ho] at h1
  rw [liveUnowned_eq, liveUnowned_eq, hf, hw]
  omega

theorem pool_new {s s' : State} {b : Batch} {o : Option Nat} (hf : s'.flights = s.flights ++ [Flight.new b o])
    (hw : s'.workers + luW (Flight.new b o) = s.workers) : s'.workers + liveUnowned s' = s.workers + liveUnowned s := by
  rw [liveUnowned_eq, liveUnowned_eq, hf, wsum_append, wsum_singleton]
  omega

/-- the size of the worker pool, `workers + liveUnowned`, is constant: `spawn`/`timerSpawn`/`shutSpawn` take a slot and start a
flush goroutine, the end of a flush goroutine gives the slot back -/
theorem pool_const {s s' : State} {l : Label} (hs : Step s l s') : s'.workers + liveUnowned s' = s.workers + liveUnowned s := by
  cases hs with
  | sendSync i b hc hb => exact pool_new rfl (by rw [luW_new_some]; rfl)
  | spawn i b rest hc hw | timerSpawn b ht hw | shutSpawn b hh hp hw =>
    exact pool_new rfl (by rw [luW_new_none]; show s.workers - 1 + 1 = s.workers; omega)
  | expStart f fl hfl hs =>
    exact pool_flight_set rfl rfl hfl (by cases hs with | inl h => simp [h] | inr h => simp [h]) (by simp) rfl
  | expEndAgain f fl hfl hs hr hp0 => exact pool_flight_set rfl rfl hfl (by simp [hs]) (by simp) rfl
  | expEndDrop f fl o hfl hs => exact pool_finalise hfl (by simp [hs])
  | expEndKeep f fl hfl hs hr hp => exact pool_finalise hfl (by simp [hs])
  | giveUp f fl kept hfl hs hk => exact pool_finalise hfl (by simp [hs])
  | _ => rfl

theorem poolOK_step {s s' : State} {l : Label} (h : PoolOK s) (hf : fire s l = some s') : PoolOK s' := by
  have hs := fire_step hf
  intro hb
  rw [cfg_step hs] at hb
  rw [pool_const hs]
  exact h hb

theorem live_flight_step {s : State} {f : Nat} {fl : Flight} (hfl : s.flights[f]? = some fl) (hst : fl.st ≠ .done) :
    ∃ l s', isOffer l = false ∧ fire s l = some s' := by
  cases h : fl.st with
  | pending => exact ⟨.expStart f, _, rfl, step_fire (.expStart s f fl hfl (.inl h))⟩
  | backoff => exact ⟨.expStart f, _, rfl, step_fire (.expStart s f fl hfl (.inr h))⟩
  | calling => exact ⟨.expEnd f .ok .drop, _, rfl, step_fire (.expEndDrop s f fl .ok hfl h)⟩
  | done => exact absurd h hst

theorem pool_step {s : State} (hpool : PoolOK s) (hb : s.cfg.batching = true) (hw : ¬ 0 < s.workers) :
    ∃ l s', isOffer l = false ∧ fire s l = some s' := by
  have h := hpool hb
  rw [liveUnowned_eq, wsum_eq_sum] at h
  obtain ⟨n, hn, hpos⟩ := List.sum_pos_iff_exists_pos_nat.mp (by omega : 0 < (s.flights.map luW).sum)
  obtain ⟨fl, hmem, rfl⟩ := List.mem_map.mp hn
  obtain ⟨f, hfl⟩ := List.mem_iff_getElem?.mp hmem
  refine live_flight_step hfl ?_
  intro hd
  simp [luW, hd] at hpos

theorem not_stuck_consumer {s : State} (g : Good s) (hpool : PoolOK s) (hp : s.phase = 2)
    {i : Nat} {c : CSt} (hc : s.cons[i]? = some c) (hne : c ≠ .exited) :
    ∃ l s', isOffer l = false ∧ fire s l = some s' := by
  cases c with
  | exited => exact absurd rfl hne
  | idle =>
    by_cases hq : s.cfg.persistent = true ∨ s.queue = []
    · exact ⟨.exit i, _, rfl, step_fire (.exit s i hc (by omega) hq)⟩
    · cases hqq : s.queue with
      | nil => exact absurd (.inr hqq) hq
      | cons p rest =>
        obtain ⟨b, late⟩ := p
        exact ⟨.read i, _, rfl, step_fire (.read s i b late rest hc hqq (fun hg => hq (.inl hg.1)))⟩
  | holding b =>
    cases hb : s.cfg.batching with
    | false => exact ⟨.sendSync i, _, rfl, step_fire (.sendSync s i b hc hb)⟩
    | true =>
      refine ⟨.consume i [] (some (s.cur.getD [] ++ b)), _, rfl, step_fire (.consume s i b [] _ hc hb ?_)⟩
      simp
  | flushing pend =>
    cases pend with
    | nil => exact absurd rfl (g.nef _ (List.mem_of_getElem? hc))
    | cons b rest =>
      by_cases hw : 0 < s.workers
      · exact ⟨.spawn i, _, rfl, step_fire (.spawn s i b rest hc hw)⟩
      · cases hb : s.cfg.batching with
        | false => exact absurd rfl (g.wf.nb_flush hb _ (List.mem_of_getElem? hc) (b :: rest))
        | true => exact pool_step hpool hb hw
  | busy f =>
    obtain ⟨fl, hfl, hst, _⟩ := (g.owns i f).mp hc
    exact live_flight_step hfl hst

theorem not_stuck_batcher {s : State} (hpool : PoolOK s) (hp : s.phase = 4) :
    ∃ l s', isOffer l = false ∧ fire s l = some s' := by
  cases hb : s.cfg.batching with
  | false => exact ⟨.shutWait, _, rfl, step_fire (.shutWait s hp (fun h => by rw [hb] at h; cases h))⟩
  | true =>
    cases hh : s.shutHand with
    | some b =>
      by_cases hw : 0 < s.workers
      · exact ⟨.shutSpawn, _, rfl, step_fire (.shutSpawn s b hh hp hw)⟩
      · exact pool_step hpool hb hw
    | none =>
      cases ht : s.timer with
      | holding b =>
        by_cases hw : 0 < s.workers
        · exact ⟨.timerSpawn, _, rfl, step_fire (.timerSpawn s b ht hw)⟩
        · exact pool_step hpool hb hw
      | idle => exact ⟨.timerExit, _, rfl, step_fire (.timerExit s ht (by omega))⟩
      | dead =>
        by_cases hall : ∀ fl ∈ s.flights, fl.owner.isSome = true ∨ fl.st = .done
        · exact ⟨.shutWait, _, rfl, step_fire (.shutWait s hp (fun _ => ⟨hh, ht, hall⟩))⟩
        · obtain ⟨f, fl, hfl, hst⟩ := exists_getElem?_of_not_forall hall
          exact live_flight_step hfl (fun hd => hst (.inr hd))

theorem not_stuck {s : State} (h : Reachable s) (hpool : PoolOK s) (hp : s.phase < 5) :
    ∃ l s', isOffer l = false ∧ fire s l = some s' := by
  have g := good_reachable h
  have hcases : s.phase = 0 ∨ s.phase = 1 ∨ s.phase = 2 ∨ s.phase = 3 ∨ s.phase = 4 := by omega
  rcases hcases with h0 | h1 | h2 | h3 | h4
  · exact ⟨.shutRetry, _, rfl, step_fire (.shutRetry s h0)⟩
  · exact ⟨.shutQueue, _, rfl, step_fire (.shutQueue s h1)⟩
  · by_cases hall : ∀ c ∈ s.cons, c = .exited
    · exact ⟨.join, _, rfl, step_fire (.join s h2 hall)⟩
    · obtain ⟨i, c, hc, hne⟩ := exists_getElem?_of_not_forall hall
      exact not_stuck_consumer g hpool h2 hc hne
  · exact ⟨.shutBatcher, _, rfl, step_fire (.shutBatcher s h3 (g.wf.hand3 (by omega)))⟩
  · exact not_stuck_batcher hpool h4

def cA : CSt → Nat
  | .exited => 0
  | .holding _ => 2
  | _ => 1

def cB : CSt → Nat
  | .flushing pend => 3 * pend.length
  | _ => 0

def tW : TSt → Nat
  | .idle => 1
  | .holding _ => 4
  | .dead => 0

def oW (k : Nat) : Option Batch → Nat
  | some _ => k
  | none => 0

def fW (fl : Flight) : Nat :=
  match fl.st with
  | .pending => 2
  | .calling => 1
  | .backoff => 2
  | .done => 0

/-- first component: progress of the shutdown goroutine, of the queue and of the consumers' loops -/
def muA (s : State) : Nat := 10 * (5 - s.phase) + 2 * s.queue.length + wsum cA s.cons

/-- second component: pending flushes, the partial batch, the timer goroutine, the final flush, the flights.  The weights are chosen
so that each step that keeps `muA` lowers the sum: `spawn` 3 → new flight 2, `timerTake` cur 5 + idle 1 → holding 4, `timerSpawn` 4 → idle 1 +
flight 2, `shutSpawn` hand 3 → flight 2, `timerExit` 1 → 0, a flight pending/backoff 2 → calling 1 → done 0; `consume` may raise it
(a new `cur`, new pending flushes) but lowers `muA` (holding 2 → 1), as do `read`, `exit`, `sendSync` and every phase step. -/
def muB (s : State) : Nat := wsum cB s.cons + oW 5 s.cur + tW s.timer + oW 3 s.shutHand + wsum fW s.flights

def mu (s : State) : Nat × Nat := (muA s, muB s)

theorem cA_afterFlush (l : List Batch) : cA (afterFlush l) = 1 := by cases l <;> rfl
theorem cB_afterFlush (l : List Batch) : cB (afterFlush l) = 3 * l.length := by cases l <;> simp [afterFlush, cB]

theorem wsum_release (g : CSt → Nat) (hg : ∀ f, g (.busy f) = g .idle) (cs : List CSt) (f : Nat) (o : Option Nat) :
    wsum g (releaseOwner cs f o) = wsum g cs := by
  cases o with
  | none => rfl
  | some i =>
    simp only [releaseOwner]
    split
    · next h => have := wsum_set g cs i _ .idle h; rw [hg] at this; omega
    · rfl

theorem muA_finalise (s : State) (f : Nat) (fl : Flight) (kept : Bool) (fail : Nat) : muA (finalise s f fl kept fail) = muA s := by
  simp only [muA, finalise, wsum_release cA (fun _ => rfl)]

theorem muB_finalise {s : State} {f : Nat} {fl : Flight} {kept : Bool} {fail : Nat} (hfl : s.flights[f]? = some fl)
    (hst : fl.st ≠ .done) : muB (finalise s f fl kept fail) < muB s := by
  have h1 := wsum_set fW s.flights f fl { fl with st := .done, failures := fl.failures + fail, kept := kept } hfl
  have h2 : fW { fl with st := .done, failures := fl.failures + fail, kept := kept } = 0 := rfl
  have h3 : 0 < fW fl := by
    simp only [fW]
    cases h : fl.st <;> simp_all
  simp only [muB, finalise, wsum_release cB (fun _ => rfl)]
  omega

theorem lex_right {a a' b b' : Nat} (ha : a' = a) (hb : b' < b) : Prod.Lex (· < ·) (· < ·) (a', b') (a, b) := by
  subst ha; exact Prod.Lex.right _ hb

theorem mu_decreases_step {s s' : State} {l : Label} (hp : 1 ≤ s.phase) (hl : isOffer l = false) (hs : Step s l s') :
    Prod.Lex (· < ·) (· < ·) (mu s') (mu s) := by
  cases hs with
  | offer b => simp [isOffer] at hl
  | read i b late rest hc hq hg =>
    apply Prod.Lex.left
    have := wsum_set cA s.cons i _ (.holding b) hc
    simp only [cA] at this
    simp only [muA, hq, List.length_cons]
    omega
  | exit i hc hp2 hq =>
    apply Prod.Lex.left
    have := wsum_set cA s.cons i _ .exited hc
    simp only [cA] at this
    simp only [muA]
    omega
  | sendSync i b hc hb =>
    apply Prod.Lex.left
    have := wsum_set cA s.cons i _ (.busy s.flights.length) hc
    simp only [cA] at this
    simp only [muA]
    omega
  | consume i b flush keep hc hb hperm =>
    apply Prod.Lex.left
    have := wsum_set cA s.cons i _ (afterFlush flush) hc
    rw [cA_afterFlush] at this
    simp only [cA] at this
    simp only [muA]
    omega
  | spawn i b rest hc hw =>
    apply lex_right
    · have := wsum_set cA s.cons i _ (afterFlush rest) hc
      rw [cA_afterFlush] at this
      simp only [cA] at this
      simp only [muA]
      omega
    · have := wsum_set cB s.cons i _ (afterFlush rest) hc
      rw [cB_afterFlush] at this
      simp only [cB, List.length_cons] at this
      have h2 : fW (Flight.new b none) = 2 := rfl
      simp only [muB, wsum_append, wsum_singleton, h2]
      omega
  | timerTake b ht hc =>
    apply lex_right rfl
    simp only [muB, ht, hc, oW, tW]
    omega
  | timerSpawn b ht hw =>
    apply lex_right rfl
    have h2 : fW (Flight.new b none) = 2 := rfl
    simp only [muB, ht, tW, wsum_append, wsum_singleton, h2]
    omega
  | timerExit ht hp4 =>
    apply lex_right rfl
    simp only [muB, ht, tW]
    omega
  | expStart f fl hfl hst =>
    apply lex_right rfl
    have h1 := wsum_set fW s.flights f fl { fl with st := .calling, attempts := fl.attempts + 1 } hfl
    have h2 : fW { fl with st := .calling, attempts := fl.attempts + 1 } = 1 := rfl
    have h3 : fW fl = 2 := by
      simp only [fW]
      cases hst with
      | inl h => rw [h]
      | inr h => rw [h]
    simp only [muB]
    omega
  | expEndDrop f fl o hfl hst | expEndKeep f fl hfl hst hr hp1 | giveUp f fl kept hfl hst hk =>
    exact lex_right (muA_finalise _ _ _ _ _) (muB_finalise hfl (by simp [hst]))
  | expEndAgain f fl hfl hst hr hp0 => exact absurd hp (by omega)  -- no retry is scheduled once shutdown is requested
  | shutRetry hp0 => exact absurd hp (by omega)
  | shutQueue hp1 => apply Prod.Lex.left; simp only [muA, hp1]; omega
  | join hp2 hall => apply Prod.Lex.left; simp only [muA, hp2]; omega
  | shutBatcher hp3 hh => apply Prod.Lex.left; simp only [muA, hp3]; omega
  | shutSpawn b hh hp4 hw =>
    apply lex_right rfl
    have h2 : fW (Flight.new b none) = 2 := rfl
    simp only [muB, hh, oW, wsum_append, wsum_singleton, h2]
    omega
  | shutWait hp4 hb => apply Prod.Lex.left; simp only [muA, hp4]; omega

theorem drain_wellFounded :
    WellFounded (fun s' s : State => 1 ≤ s.phase ∧ ∃ l, isOffer l = false ∧ fire s l = some s') := by
  refine Subrelation.wf ?_ (InvImage.wf mu (Prod.lex ⟨_, Nat.lt_wfRel.wf⟩ ⟨_, Nat.lt_wfRel.wf⟩).wf)
  intro s' s h
  obtain ⟨hp, l, hl, hf⟩ := h
  exact mu_decreases_step hp hl (fire_step hf)

theorem shutdown_terminates {s : State} (h : Reachable s) (hp : 1 ≤ s.phase)
    (hpool : PoolOK s) : ∃ ls s', (∀ l ∈ ls, isOffer l = false) ∧ runFrom s ls = some s' ∧ s'.phase = 5 := by
  induction s using drain_wellFounded.induction with
  | _ s ih =>
    by_cases h5 : s.phase = 5
    · exact ⟨[], s, by simp, rfl, h5⟩
    · have hlt : s.phase < 5 := by have := (good_reachable h).le5; omega
      obtain ⟨l, s1, hl, hf⟩ := not_stuck h hpool hlt
      have hmono := phase_mono (fire_step hf)
      obtain ⟨ls, s2, hls, hrun, hfin⟩ :=
        ih s1 ⟨hp, l, hl, hf⟩ (Reachable.step l h hf) (by omega) (poolOK_step hpool hf)
      refine ⟨l :: ls, s2, ?_, by rw [runFrom_step, hf]; exact hrun, hfin⟩
      intro l' hl'
      cases List.mem_cons.mp hl' with
      | inl h1 => exact h1 ▸ hl
      | inr h1 => exact hls l' h1

/-! ## non-vacuity -/

/-- a concrete state meeting the hypotheses of `shutdown_terminates` in the middle of a drain: memory queue, default batcher,
one worker slot, which is taken by a flush goroutine inside the export function while a second batch waits for the slot, the
partial batch `[4]` is pending, one request still queued, shutdown requested -/
def termDemo : Option State :=
  runFrom (init { persistent := false, batching := true, retry := true } 1 1 true)
    [.offer [1], .offer [2, 3, 4], .offer [5], .read 0, .consume 0 [] (some [1]), .read 0, .consume 0 [[1, 2], [3]] (some [4]),
     .spawn 0, .expStart 0, .shutRetry, .shutQueue]

example : termDemo.map (fun s => (s.phase, s.queue.length, s.cons, s.cur, s.workers, liveUnowned s)) =
    some (2, 1, [.flushing [[3]]], some [4], 0, 1) := rfl

example (s : State) (hs : termDemo = some s) : Reachable s ∧ 1 ≤ s.phase ∧ s.phase < 5 ∧ PoolOK s := by
  have h1 : termDemo.map (fun s => (s.phase, s.workers, liveUnowned s)) = some (2, 0, 1) := rfl
  rw [hs] at h1
  simp only [Option.map_some, Option.some.injEq, Prod.mk.injEq] at h1
  exact ⟨reachable_of_runFrom _ (Reachable.init _ _ _ _) hs, by omega, by omega, fun _ => by omega⟩

/-- the pool hypothesis cannot be dropped: with an empty worker pool (`workers = 0`, no flush goroutine) a consumer that has a
batch to flush blocks for ever and `Shutdown` never returns -/
def stuckDemo : State :=
  { cfg := { persistent := false, batching := true, retry := true }, phase := 2, queue := [], cons := [.flushing [[1]]],
    cur := none, workers := 0, timer := .dead, shutHand := none, flights := [], early := [1], accepted := [1], stored := [],
    reqs := [[1]], qsize := 1, results := [] }

theorem stuckDemo_reachable : Reachable stuckDemo :=
  reachable_of_runFrom [.offer [1], .read 0, .consume 0 [[1]] none, .shutRetry, .shutQueue]
    (Reachable.init { persistent := false, batching := true, retry := true } 1 0 false) rfl

theorem stuckDemo_stuck (l : Label) (hl : isOffer l = false) : fire stuckDemo l = none := by
  cases l with
  | offer b => simp [isOffer] at hl
  | read i => cases i <;> simp [fire, stuckDemo]
  | exit i => cases i <;> simp [fire, stuckDemo]
  | sendSync i => cases i <;> simp [fire, stuckDemo]
  | consume i fl k => cases i <;> simp [fire, stuckDemo]
  | spawn i => cases i <;> simp [fire, stuckDemo]
  | _ => simp [fire, stuckDemo]

example : ¬ PoolOK stuckDemo := by simp [PoolOK, stuckDemo, liveUnowned]

end OtelVerif.C03

import OtelVerif.Lemmas.C04Slots
import OtelVerif.Lemmas.C04Done
/-! C04: a batch holds a `Done` of a request exactly when it contains part of that request (all histories) -/
namespace OtelVerif.C04

/-- every unit that holds anything is covered by a `Done` of the request it came from -/
def Covered (refs : List RefCount) (b : Parts × List DoneObj) : Prop :=
  ∀ u ∈ b.1, 0 < u.2 → ∃ d ∈ b.2, tgt refs d = some u.1

/-- every `Done` a batch holds belongs to a request that has a unit in the batch -/
def Conv (refs : List RefCount) (b : Parts × List DoneObj) : Prop :=
  ∀ d ∈ b.2, ∀ id, tgt refs d = some id → ∃ u ∈ b.1, u.1 = id

theorem Covered.mono {refs refs' : List RefCount} {b : Parts × List DoneObj} (h : Covered refs b)
    (ht : ∀ d ∈ b.2, tgt refs' d = tgt refs d) : Covered refs' b := by
  intro u hu hp
  obtain ⟨d, hd, hdt⟩ := h u hu hp
  exact ⟨d, hd, (ht d hd).trans hdt⟩

theorem Conv.mono {refs refs' : List RefCount} {b : Parts × List DoneObj} (h : Conv refs b)
    (ht : ∀ d ∈ b.2, tgt refs' d = tgt refs d) : Conv refs' b :=
  fun d hd id hid => h d hd id ((ht d hd).symm.trans hid)

/-- what holds in every reachable state, whatever the request ids: flight ids are distinct, every ref-counted `Done` a batch
holds exists, the pending batch is below `min_size` -/
structure Reach (c : BCfg) (s : BState) : Prop where
  fok : FOK s
  wf : ∀ i, DoneObj.ref i ∈ s.dones → i < s.refs.length
  small : ∀ b, s.cur = some b → b.1.items < c.min

theorem reach_init (c : BCfg) : Reach c {} := ⟨fok_init, fun _ hi => (nomatch hi), fun _ hb => (nomatch hb)⟩

theorem bstep_reach (c : BCfg) (s : BState) (l : BLabel) (h : Reach c s) : Reach c (bstep c s l).1 := by
  cases l with
  | consume id units =>
    show Reach c ((s.consume c id units).1.start (s.consume c id units).2)
    obtain ⟨k, first, chs, ds, hs⟩ := consume_step c s id units
    refine ⟨hs.fok h.fok, fun i hi => ?_, hs.small⟩
    rw [hs.refs]
    obtain ⟨hnew, hold⟩ := mkDone_view s id k hs.kpos
    rcases List.mem_append.mp (hs.dones.mem_iff.mp hi) with h1 | h1
    · exact view_lt (hold _ _ (List.getElem?_eq_getElem (h.wf i h1)))
    · exact view_lt ((List.eq_of_mem_replicate h1) ▸ hnew)
  | flush =>
    show Reach c (s.flushCur.1.start s.flushCur.2)
    have hf := flush_step s
    refine ⟨hf.fok h.fok, fun i hi => ?_, fun b hb => by rw [hf.cur] at hb; cases hb⟩
    rw [hf.refs]
    rw [dones_eq_slots] at hi
    exact h.wf i (by rw [dones_eq_slots]; exact (hf.slots.flatMap_right _).mem_iff.mp hi)
  | finish fid err =>
    show Reach c (s.finish fid err).1
    rcases finish_step s fid err h.fok with ⟨_, e⟩ | ⟨f, hf⟩
    · rw [e]; exact h
    · refine ⟨hf.fok, fun i hi => ?_, fun b hb => h.small b (hf.cur ▸ hb)⟩
      rw [hf.refs, onDoneAll_length]
      rw [dones_eq_slots] at hi
      refine h.wf i ?_
      rw [dones_eq_slots]
      exact (hf.slots.flatMap_right _).mem_iff.mpr (List.mem_append.mpr (Or.inr hi))

/-- every pending or in-flight batch is `Covered` -/
def CInv (s : BState) : Prop := ∀ b ∈ s.slots, Covered s.refs b
/-- every pending or in-flight batch is `Conv` -/
def VInv (s : BState) : Prop := ∀ b ∈ s.slots, Conv s.refs b

theorem cinv_init : CInv {} := fun _ hb => nomatch hb
theorem vinv_init : VInv {} := fun _ hb => nomatch hb

/-- every `consume` label carries units tagged with its own request id -/
def Tagged : List BLabel → Prop
  | [] => True
  | .consume id units :: ls => (∀ u ∈ units, u.1 = id) ∧ Tagged ls
  | _ :: ls => Tagged ls

/-- every `consume` label carries at least one unit (a request without items = one unit of size 0), all tagged with its id -/
def TaggedNE : List BLabel → Prop
  | [] => True
  | .consume id units :: ls => (units ≠ [] ∧ ∀ u ∈ units, u.1 = id) ∧ TaggedNE ls
  | _ :: ls => TaggedNE ls

theorem TaggedNE.tagged (ls : List BLabel) (h : TaggedNE ls) : Tagged ls := by
  induction ls with
  | nil => trivial
  | cons l ls ih =>
    cases l with
    | consume id units => exact ⟨h.1.2, ih h.2⟩
    | flush => exact ih h
    | finish fid err => exact ih h

theorem slots_flush {P : List RefCount → Parts × List DoneObj → Prop} (s : BState) (h : ∀ b ∈ s.slots, P s.refs b) :
    ∀ b ∈ (s.flushCur.1.start s.flushCur.2).slots, P (s.flushCur.1.start s.flushCur.2).refs b := by
  intro b hb
  rw [(flush_step s).refs]
  exact h b ((flush_step s).slots.mem_iff.mp hb)

theorem slots_finish {P : List RefCount → Parts × List DoneObj → Prop}
    (hP : ∀ refs refs' b, (∀ d, tgt refs' d = tgt refs d) → P refs b → P refs' b)
    (s : BState) (fid : Nat) (err : Err) (hok : FOK s) (h : ∀ b ∈ s.slots, P s.refs b) :
    ∀ b ∈ (s.finish fid err).1.slots, P (s.finish fid err).1.refs b := by
  rcases finish_step s fid err hok with ⟨_, e⟩ | ⟨f, hf⟩
  · rw [e]; exact h
  · intro b hb
    rw [hf.refs]
    exact hP _ _ b (tgt_onDoneAll err f.dones s.refs) (h b (hf.slots.mem_iff.mpr (List.mem_cons_of_mem _ hb)))

theorem slots_consume_old {P : List RefCount → Parts × List DoneObj → Prop}
    (hP : ∀ refs refs' b, (∀ d ∈ b.2, tgt refs' d = tgt refs d) → P refs b → P refs' b)
    {c : BCfg} {s : BState} (hr : Reach c s) (id : Nat) {k : Nat} (hk : 0 < k) {b : Parts × List DoneObj} (hb : b ∈ s.slots)
    (h : P s.refs b) : P (s.mkDone id k).1.refs b :=
  hP _ _ b (fun d hd => (mkDone_tgt s id k hk).2 d (fun i e => hr.wf i (e ▸ slots_dones_mem s b hb d hd))) h

theorem slots_cur {P : Parts × List DoneObj → Prop} (s : BState) (h : ∀ b ∈ s.slots, P b) (h0 : P ([], [])) :
    P (s.curParts, s.curDones) := by
  cases hc : s.cur with
  | none => rw [curParts_none hc, curDones_none hc]; exact h0
  | some b => rw [curParts_some hc, curDones_some hc]; exact h b (cur_mem_slots hc)

theorem consume_cover (c : BCfg) (hv : c.max = 0 ∨ c.min ≤ c.max) (s : BState) (id : Nat) (units : Parts)
    (hu : ∀ u ∈ units, u.1 = id) (hr : Reach c s) (hc : CInv s) :
    CInv ((s.consume c id units).1.start (s.consume c id units).2) := by
  obtain ⟨k, first, chs, ds, hs⟩ := consume_step c s id units
  obtain ⟨pre, hun, hfirst, hnone, _⟩ := hs.prefix hv hr.small
  have hnew := (mkDone_tgt s id k hs.kpos).1
  have hold : ∀ b ∈ s.slots, Covered (s.mkDone id k).1.refs b := fun b hb =>
    slots_consume_old (P := Covered) (fun _ _ _ ht h => h.mono ht) hr id hs.kpos hb (hc b hb)
  intro b hb
  rw [hs.refs]
  rcases hs.mem_slots hb with e | hb' | ⟨ch, hch, e⟩
  · -- the pending batch extended by `pre`: a counted unit of `pre` means the `Done` was handed to it
    rw [e, hfirst]
    intro u hu' hp
    rcases List.mem_append.mp hu' with h | h
    · obtain ⟨d, hd, hdt⟩ := slots_cur s hold (fun _ h => nomatch h) u h hp
      exact ⟨d, List.mem_append.mpr (Or.inl hd), hdt⟩
    · rcases hs.handed with e0 | e0
      · exact absurd hp (Parts.count_zero_no_pos pre (hnone e0) u h)
      · refine ⟨_, List.mem_append.mpr (Or.inr (e0 ▸ List.mem_singleton.mpr rfl)), ?_⟩
        rw [hnew, hu u (hun ▸ List.mem_append.mpr (Or.inl h))]
  · exact hold b hb'
  · rw [e]
    intro u hu' _
    refine ⟨_, List.mem_singleton.mpr rfl, ?_⟩
    rw [hnew, hu u (hun ▸ List.mem_append.mpr (Or.inr (List.mem_flatten.mpr ⟨ch, hch, hu'⟩)))]

theorem consume_conv (c : BCfg) (hv : c.max = 0 ∨ c.min ≤ c.max) (s : BState) (id : Nat) (units : Parts)
    (hne : units ≠ []) (hu : ∀ u ∈ units, u.1 = id) (hr : Reach c s) (hvi : VInv s) :
    VInv ((s.consume c id units).1.start (s.consume c id units).2) := by
  obtain ⟨k, first, chs, ds, hs⟩ := consume_step c s id units
  obtain ⟨pre, hun, hfirst, _, hsome⟩ := hs.prefix hv hr.small
  have hnew := (mkDone_tgt s id k hs.kpos).1
  have hold : ∀ b ∈ s.slots, Conv (s.mkDone id k).1.refs b := fun b hb =>
    slots_consume_old (P := Conv) (fun _ _ _ ht h => h.mono ht) hr id hs.kpos hb (hvi b hb)
  have hwit : ∀ (l : Parts), l ≠ [] → (∀ u ∈ l, u ∈ units) → ∀ id', some id = some id' → ∃ u ∈ l, u.1 = id' := by
    intro l hl hsub id' e
    cases l with
    | nil => exact absurd rfl hl
    | cons u us => exact ⟨u, List.mem_cons_self .., (hu u (hsub u (List.mem_cons_self ..))).trans (Option.some.inj e)⟩
  intro b hb
  rw [hs.refs]
  rcases hs.mem_slots hb with e | hb' | ⟨ch, hch, e⟩
  · rw [e, hfirst]
    intro d hd id' hid'
    rcases List.mem_append.mp hd with h | h
    · obtain ⟨u, hu1, hu2⟩ := slots_cur s hold (fun _ h => nomatch h) d h id' hid'
      exact ⟨u, List.mem_append.mpr (Or.inl hu1), hu2⟩
    · rcases hs.handed with e0 | e0
      · rw [e0] at h; cases h
      · rw [e0] at h
        rw [List.mem_singleton.mp h, hnew] at hid'
        obtain ⟨u, hu1, hu2⟩ := hwit pre (hsome (by rw [e0]; exact List.cons_ne_nil _ _) hne)
          (fun u hu' => hun ▸ List.mem_append.mpr (Or.inl hu')) id' hid'
        exact ⟨u, List.mem_append.mpr (Or.inr hu1), hu2⟩
  · exact hold b hb'
  · rw [e]
    intro d hd id' hid'
    rw [List.mem_singleton.mp hd, hnew] at hid'
    exact hwit ch (hs.chunks hne ch (List.mem_cons_of_mem _ hch))
      (fun u hu' => hun ▸ List.mem_append.mpr (Or.inr (List.mem_flatten.mpr ⟨ch, hch, hu'⟩))) id' hid'

theorem brun_cover (c : BCfg) (hv : c.max = 0 ∨ c.min ≤ c.max) :
    ∀ (ls : List BLabel) (s : BState), Reach c s → CInv s → Tagged ls → CInv (brun c s ls).1 := by
  intro ls
  induction ls with
  | nil => intro s _ hc _; exact hc
  | cons l ls ih =>
    intro s hr hc ht
    have hr' := bstep_reach c s l hr
    cases l with
    | consume id units => exact ih _ hr' (consume_cover c hv s id units ht.1 hr hc) ht.2
    | flush => exact ih _ hr' (slots_flush (P := Covered) s hc) ht
    | finish fid err =>
      exact ih _ hr' (slots_finish (P := Covered) (fun _ _ _ ht h => h.mono (fun d _ => ht d)) s fid err hr.fok hc) ht

theorem brun_conv (c : BCfg) (hv : c.max = 0 ∨ c.min ≤ c.max) :
    ∀ (ls : List BLabel) (s : BState), Reach c s → VInv s → TaggedNE ls → VInv (brun c s ls).1 := by
  intro ls
  induction ls with
  | nil => intro s _ hc _; exact hc
  | cons l ls ih =>
    intro s hr hc ht
    have hr' := bstep_reach c s l hr
    cases l with
    | consume id units => exact ih _ hr' (consume_conv c hv s id units ht.1.1 ht.1.2 hr hc) ht.2
    | flush => exact ih _ hr' (slots_flush (P := Conv) s hc) ht
    | finish fid err =>
      exact ih _ hr' (slots_finish (P := Conv) (fun _ _ _ ht h => h.mono (fun d _ => ht d)) s fid err hr.fok hc) ht

end OtelVerif.C04

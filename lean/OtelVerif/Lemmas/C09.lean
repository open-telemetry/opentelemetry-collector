import OtelVerif.Model.C09
import OtelVerif.Lemmas.C09Peel
/-!
# C09: everything that does not need the shape of `edges cfg` (that is `Lemmas/C09Graph.lean`)

Defines `IsRouteWalk`, `Path`, `PairsOk`, `ChainFrom`.
-/
namespace OtelVerif.C09

/-! ## signals, `dedup`, `succOf` -/

theorem Sig.mem_all (s : Sig) : s ∈ Sig.all := by cases s <;> decide

theorem Sig.ofNat?_toNat (s : Sig) : Sig.ofNat? s.toNat = some s := by cases s <;> rfl

theorem Sig.forall_of_all {P : Sig → Prop} (h : ∀ s ∈ Sig.all, P s) (s : Sig) : P s := h s s.mem_all

theorem Sig.forall₂_of_all {P : Sig → Sig → Prop} (h : ∀ e ∈ Sig.all, ∀ r ∈ Sig.all, P e r) (e r : Sig) : P e r :=
  h e e.mem_all r r.mem_all

theorem mem_dedup {α : Type} [DecidableEq α] {a : α} {l : List α} : a ∈ dedup l ↔ a ∈ l := by
  induction l with
  | nil => simp [dedup]
  | cons b l ih =>
    by_cases h : b ∈ l
    · simp only [dedup, h, if_true, ih, List.mem_cons]
      exact ⟨Or.inr, fun h' => h'.elim (fun hab => hab ▸ h) id⟩
    · simp only [dedup, h, if_false, List.mem_cons, ih]

theorem dedup_eq_nil {α : Type} [DecidableEq α] {l : List α} : dedup l = [] ↔ l = [] := by
  cases l with
  | nil => simp [dedup]
  | cons a l =>
    have : a ∈ dedup (a :: l) := mem_dedup.mpr List.mem_cons_self
    constructor
    · intro h; rw [h] at this; cases this
    · intro h; cases h

theorem nodup_dedup {α : Type} [DecidableEq α] (l : List α) : (dedup l).Nodup := by
  induction l with
  | nil => simp [dedup]
  | cons b l ih =>
    by_cases h : b ∈ l
    · simpa only [dedup, h, if_true] using ih
    · simp only [dedup, h, if_false, List.nodup_cons]
      exact ⟨fun h' => h (mem_dedup.mp h'), ih⟩

theorem mem_succOf {E : List (Node × Node)} {n m : Node} : m ∈ succOf E n ↔ (n, m) ∈ E := by
  simp only [succOf, mem_dedup, List.mem_filterMap]
  constructor
  · rintro ⟨⟨a, b⟩, he, h⟩
    by_cases hab : a = n
    · simp only [hab, if_true, Option.some.injEq] at h
      subst hab; subst h; exact he
    · simp [hab] at h
  · intro h
    exact ⟨(n, m), h, by simp⟩

theorem succ_eq (cfg : Cfg) : succ cfg = succOf (edges cfg) := rfl

/-! ## walks, paths, chains -/

/-- `n`, then the nodes of the list in order, is a directed walk that stops at the first exporter it meets -/
def IsRouteWalk (E : List (Node × Node)) : Node → List Node → Prop
  | n, [] => n.isExp = true
  | n, m :: w => n.isExp = false ∧ (n, m) ∈ E ∧ IsRouteWalk E m w

theorem isRouteWalk_nil {E : List (Node × Node)} {n : Node} : IsRouteWalk E n [] ↔ n.isExp = true := Iff.rfl

theorem isRouteWalk_cons {E : List (Node × Node)} {n m : Node} {w : List Node} :
    IsRouteWalk E n (m :: w) ↔ n.isExp = false ∧ (n, m) ∈ E ∧ IsRouteWalk E m w := Iff.rfl

/-- one or more edges -/
inductive Path (E : List (Node × Node)) : Node → Node → Prop
  | single {a b : Node} : (a, b) ∈ E → Path E a b
  | cons {a b c : Node} : (a, b) ∈ E → Path E b c → Path E a c

theorem Path.trans {E : List (Node × Node)} {a b c : Node} (h1 : Path E a b) (h2 : Path E b c) : Path E a c := by
  induction h1 with
  | single h => exact Path.cons h h2
  | cons h _ ih => exact Path.cons h (ih h2)

theorem path_rotate {E : List (Node × Node)} {x : Node} (h : Path E x x) : ∃ b, (x, b) ∈ E ∧ Path E b b := by
  cases h with
  | single h => exact ⟨x, h, Path.single h⟩
  | cons h rest => exact ⟨_, h, rest.trans (Path.single h)⟩

/-- every element of a chain is reached from its head through the transitive `T`; the chain notion `C` is a parameter -/
theorem chain_reaches {α : Type} {T : α → α → Prop} {C : α → List α → Prop} (htr : ∀ {a b c}, T a b → T b c → T a c)
    (hC : ∀ {a b l}, C a (b :: l) → T a b ∧ C b l) : ∀ (l : List α) (a : α), C a l → ∀ x, x ∈ l → T a x := by
  intro l
  induction l with
  | nil => intro a _ x hx; cases hx
  | cons b l ih =>
    intro a h x hx
    rcases List.mem_cons.mp hx with rfl | hx'
    · exact (hC h).1
    · exact htr (hC h).1 (ih b (hC h).2 x hx')

theorem mem_expandNC {E : List (Node × Node)} {l : List Node} {a : Node} (h : a ∈ expandNC E l) :
    a ∈ l ∨ ∃ n, n ∈ l ∧ (n, a) ∈ E := by
  simp only [expandNC, List.mem_flatMap] at h
  obtain ⟨n, hn, ha⟩ := h
  by_cases hc : n.isComp = true
  · simp only [hc, if_true, List.mem_singleton] at ha
    subst ha; exact Or.inl hn
  · simp only [hc] at ha
    exact Or.inr ⟨n, hn, mem_succOf.mp ha⟩

theorem compNext_path {E : List (Node × Node)} {a b : Node} (h : a ∈ compNext E b) : Path E b a := by
  simp only [compNext, List.mem_filter] at h
  have reach1 : ∀ x, x ∈ succOf E b → Path E b x := fun x hx => Path.single (mem_succOf.mp hx)
  have reach2 : ∀ x, x ∈ expandNC E (succOf E b) → Path E b x := by
    intro x hx
    rcases mem_expandNC hx with h1 | ⟨n, hn, hE⟩
    · exact reach1 x h1
    · exact (reach1 n hn).trans (Path.single hE)
  rcases mem_expandNC h.1 with h1 | ⟨n, hn, hE⟩
  · exact reach2 a h1
  · exact (reach2 n hn).trans (Path.single hE)

theorem linkedChain_path {E : List (Node × Node)} : ∀ (l : List Node) (a : Node), linkedChain E a l = true →
    ∀ x, x ∈ l → Path E a x :=
  chain_reaches (C := fun a l => linkedChain E a l = true) Path.trans fun h => by
    simp only [linkedChain, Bool.and_eq_true, decide_eq_true_eq] at h
    exact ⟨compNext_path h.1, h.2⟩

/-! ## `collect` / `deliver` -/

theorem collect_eq_some {f : Node → Option (List (List Node))} {l : List Node} {ws : List (List Node)} :
    collect f l = some ws ↔
      (∀ m, m ∈ l → ∃ a, f m = some a) ∧ ws = l.flatMap (fun m => ((f m).getD []).map (m :: ·)) := by
  induction l generalizing ws with
  | nil => simp [collect, eq_comm]
  | cons m ms ih =>
    simp only [collect, List.forall_mem_cons, List.flatMap_cons]
    cases hfm : f m with
    | none => simp
    | some a =>
      cases hc : collect f ms with
      | none => exact ⟨nofun, fun h => by rw [ih.mpr ⟨h.1.2, rfl⟩] at hc; cases hc⟩
      | some b =>
        obtain ⟨hall, rfl⟩ := ih.mp hc
        simp only [Option.some.injEq, Option.getD_some, exists_eq', true_and, eq_comm]
        exact (and_iff_right hall).symm

/-- monotone in `f`: used for the fuel -/
theorem collect_mono {f g : Node → Option (List (List Node))} {l : List Node} {ws : List (List Node)}
    (h : collect f l = some ws) (hfg : ∀ m ∈ l, ∀ a, f m = some a → g m = some a) : collect g l = some ws := by
  obtain ⟨hall, rfl⟩ := collect_eq_some.mp h
  refine collect_eq_some.mpr ⟨fun m hm => (hall m hm).imp fun a ha => hfg m hm a ha, ?_⟩
  rw [List.flatMap_def, List.flatMap_def, List.map_congr_left fun m hm => ?_]
  obtain ⟨a, ha⟩ := hall m hm
  rw [ha, hfg m hm a ha]

theorem deliver_mono_succ (sc : Node → List Node) : ∀ (k : Nat) (n : Node) (ws : List (List Node)),
    deliver sc k n = some ws → deliver sc (k + 1) n = some ws := by
  intro k
  induction k with
  | zero => intro n ws h; simp [deliver] at h
  | succ k ih =>
    intro n ws h
    simp only [deliver] at h ⊢
    by_cases he : n.isExp = true
    · simpa only [he, if_true] using h
    · simp only [he] at h ⊢
      exact collect_mono h (fun m _ a ha => by simpa only [deliver] using ih m a ha)

theorem deliver_mono (sc : Node → List Node) {k k' : Nat} {n : Node} {ws : List (List Node)}
    (h : deliver sc k n = some ws) (hk : k ≤ k') : deliver sc k' n = some ws := by
  induction hk with
  | refl => exact h
  | step _ ih => exact deliver_mono_succ sc _ n ws ih

theorem deliver_det (sc : Node → List Node) {k k' : Nat} {n : Node} {a b : List (List Node)}
    (h1 : deliver sc k n = some a) (h2 : deliver sc k' n = some b) : a = b := by
  have := deliver_mono sc h1 (Nat.le_max_left k k')
  rw [deliver_mono sc h2 (Nat.le_max_right k k')] at this
  exact (Option.some.inj this).symm

theorem deliver_spec (E : List (Node × Node)) : ∀ (k : Nat) (n : Node) (ws : List (List Node)),
    deliver (succOf E) k n = some ws → ws.Nodup ∧ ∀ w, w ∈ ws ↔ IsRouteWalk E n w := by
  intro k
  induction k with
  | zero => intro n ws h; simp [deliver] at h
  | succ k ih =>
    intro n ws h
    simp only [deliver] at h
    cases he : n.isExp with
    | true =>
      simp only [he, if_true, Option.some.injEq] at h
      subst h
      exact ⟨by simp, fun w => by cases w <;> simp [IsRouteWalk, he]⟩
    | false =>
      simp only [he, Bool.false_eq_true, if_false] at h
      obtain ⟨hall, rfl⟩ := collect_eq_some.mp h
      have hrec : ∀ m, m ∈ succOf E n → ((deliver (succOf E) k m).getD []).Nodup ∧
          ∀ w, w ∈ (deliver (succOf E) k m).getD [] ↔ IsRouteWalk E m w := fun m hm => by
        obtain ⟨a, ha⟩ := hall m hm
        rw [ha]; exact ih m a ha
      -- routes through different successors differ in their first node
      refine ⟨List.pairwise_flatMap.mpr ⟨fun m hm => (hrec m hm).1.map _ fun _ _ hne h => hne (List.cons.inj h).2,
        (nodup_dedup _).imp fun hne x hx y hy hxy => ?_⟩, fun w => ?_⟩
      · obtain ⟨_, _, rfl⟩ := List.mem_map.mp hx
        obtain ⟨_, _, rfl⟩ := List.mem_map.mp hy
        exact hne (List.cons.inj hxy).1
      · simp only [List.mem_flatMap, List.mem_map]
        cases w with
        | nil => simp [IsRouteWalk, he]
        | cons m w =>
          simp only [IsRouteWalk, he, true_and, List.cons.injEq]
          constructor
          · rintro ⟨_, hm, _, hw, rfl, rfl⟩; exact ⟨mem_succOf.mp hm, ((hrec _ hm).2 _).mp hw⟩
          · rintro ⟨hE, hw⟩; exact ⟨m, mem_succOf.mpr hE, w, ((hrec m (mem_succOf.mpr hE)).2 w).mpr hw, rfl, rfl⟩

/-! ## `peel` -/

theorem peel_eq (sc : Node → List Node) (ns : List Node) (k : Nat) : peel sc ns k = gpeel id sc ns k := by
  induction k with
  | zero => rfl
  | succ k ih => simp only [peel, peelStep, gpeel, gpeelStep, ih, List.map_id, id]

theorem mem_peel_succ {sc : Node → List Node} {ns : List Node} {k : Nat} {n : Node} :
    n ∈ peel sc ns (k + 1) ↔ n ∈ peel sc ns k ∨ (n ∈ ns ∧ ∀ m ∈ sc n, m ∈ peel sc ns k) := by
  rw [peel_eq, peel_eq, mem_gpeel_succ]
  exact or_congr_right ⟨fun ⟨_, he, rfl, hd⟩ => ⟨he, hd⟩, fun ⟨he, hd⟩ => ⟨n, he, rfl, hd⟩⟩

theorem peel_mono {sc : Node → List Node} {ns : List Node} {k k' : Nat} {n : Node}
    (h : n ∈ peel sc ns k) (hk : k ≤ k') : n ∈ peel sc ns k' := by
  rw [peel_eq] at h ⊢
  exact gpeel_mono h hk

theorem peel_induction {sc : Node → List Node} {ns : List Node} {P : Node → Prop}
    (step : ∀ n, n ∈ ns → (∀ m, m ∈ sc n → P m) → P n) : ∀ (k : Nat) (n : Node), n ∈ peel sc ns k → P n := by
  intro k
  induction k with
  | zero => intro n h; simp [peel] at h
  | succ k ih =>
    intro n h
    rcases mem_peel_succ.mp h with h' | ⟨hn, h'⟩
    · exact ih n h'
    · exact step n hn fun m hm => ih m (h' m hm)

theorem peel_acyclic {E : List (Node × Node)} {ns : List Node} : ∀ (k : Nat) (n : Node),
    n ∈ peel (succOf E) ns k → ¬ Path E n n :=
  peel_induction fun _ _ ih hp =>
    let ⟨b, hE, hb⟩ := path_rotate hp
    ih b (mem_succOf.mpr hE) hb

theorem sortable_mem {sc : Node → List Node} {ns : List Node} (h : sortable sc ns = true) {n : Node} (hn : n ∈ ns) :
    n ∈ peel sc ns ns.length := by
  simp only [sortable, List.all_eq_true, decide_eq_true_eq] at h
  exact h n hn

/-- consecutive nodes are edges (used for `sortable_iff_acyclic` only) -/
def ChainFrom (E : List (Node × Node)) : Node → List Node → Prop
  | _, [] => True
  | n, m :: l => (n, m) ∈ E ∧ ChainFrom E m l

theorem chainFrom_dup {E : List (Node × Node)} : ∀ (l : List Node) (n : Node), ChainFrom E n l → ¬ (n :: l).Nodup →
    ∃ x, x ∈ n :: l ∧ Path E x x := by
  intro l
  induction l with
  | nil => intro n _ h; exact absurd (by simp) h
  | cons m l ih =>
    intro n hc hnd
    by_cases hn : n ∈ m :: l
    · exact ⟨n, List.mem_cons_self,
        chain_reaches (T := Path E) (C := ChainFrom E) Path.trans (fun h => ⟨Path.single h.1, h.2⟩) _ n hc n hn⟩
    · have : ¬ (m :: l).Nodup := fun h => hnd (List.nodup_cons.mpr ⟨hn, h⟩)
      obtain ⟨x, hx, hp⟩ := ih m hc.2 this
      exact ⟨x, List.mem_cons_of_mem _ hx, hp⟩

theorem unmarked_chain {E : List (Node × Node)} {ns : List Node} (hcl : ∀ a b, (a, b) ∈ E → b ∈ ns) : ∀ (k : Nat) (n : Node),
    n ∈ ns → n ∉ peel (succOf E) ns k → ∃ l, l.length = k ∧ ChainFrom E n l ∧ ∀ x, x ∈ l → x ∈ ns := by
  intro k
  induction k with
  | zero => intro n _ _; exact ⟨[], rfl, trivial, fun x hx => by cases hx⟩
  | succ k ih =>
    intro n hn hnot
    have : ¬ ∀ m, m ∈ succOf E n → m ∈ peel (succOf E) ns k :=
      fun hall => hnot (mem_peel_succ.mpr (Or.inr ⟨hn, hall⟩))
    obtain ⟨m, hm'⟩ := Classical.not_forall.mp this
    obtain ⟨hm, hmnot⟩ := Classical.not_imp.mp hm'
    have hE : (n, m) ∈ E := mem_succOf.mp hm
    obtain ⟨l, hl, hc, hmem⟩ := ih m (hcl _ _ hE) hmnot
    exact ⟨m :: l, by simp [hl], ⟨hE, hc⟩, List.forall_mem_cons.mpr ⟨hcl _ _ hE, hmem⟩⟩

/-- `←`: a node unmarked after `|ns|` rounds starts a walk of `|ns|` edges inside `ns`, which repeats a node -/
theorem sortable_iff_acyclic {E : List (Node × Node)} {ns : List Node} (hcl : ∀ a b, (a, b) ∈ E → b ∈ ns) :
    sortable (succOf E) ns = true ↔ ∀ n, n ∈ ns → ¬ Path E n n := by
  refine ⟨fun h n hn => peel_acyclic _ _ (sortable_mem h hn), fun hac => ?_⟩
  simp only [sortable, List.all_eq_true, decide_eq_true_eq]
  intro n hn
  refine Classical.byContradiction fun hnot => ?_
  obtain ⟨l, hl, hc, hmem⟩ := unmarked_chain hcl _ n hn hnot
  have hsub : ∀ x, x ∈ n :: l → x ∈ ns := List.forall_mem_cons.mpr ⟨hn, hmem⟩
  have hnd : ¬ (n :: l).Nodup := fun hnd => by
    have := hnd.length_le_of_subset hsub
    simp only [List.length_cons, hl] at this
    omega
  obtain ⟨x, hx, hp⟩ := chainFrom_dup l n hc hnd
  exact hac x (hsub x hx) hp

/-- termination of `deliver`, with fuel = the round of the marking, also over fewer edges -/
theorem peel_deliver_sub {sc sc' : Node → List Node} {ns : List Node} (hsub : ∀ n m, m ∈ sc' n → m ∈ sc n) :
    ∀ (k : Nat) (n : Node), n ∈ peel sc ns k → ∃ ws, deliver sc' k n = some ws := by
  intro k
  induction k with
  | zero => intro n h; simp [peel] at h
  | succ k ih =>
    intro n h
    rcases mem_peel_succ.mp h with h' | ⟨_, h'⟩
    · obtain ⟨ws, hws⟩ := ih n h'
      exact ⟨ws, deliver_mono_succ sc' k n ws hws⟩
    · simp only [deliver]
      by_cases he : n.isExp = true
      · exact ⟨[[]], by simp [he]⟩
      · simp only [he]
        exact ⟨_, collect_eq_some.mpr ⟨fun m hm => ih m (h' m (hsub n m hm)), rfl⟩⟩

/-! ## walks under an edge filter -/

/-- every step of the walk `n, w` passes the filter -/
def PairsOk (f : Node × Node → Bool) : Node → List Node → Prop
  | _, [] => True
  | n, m :: w => f (n, m) = true ∧ PairsOk f m w

theorem pairsOk_true : ∀ (w : List Node) (n : Node), PairsOk (fun _ => true) n w
  | [], _ => trivial
  | _ :: w, _ => ⟨rfl, pairsOk_true w _⟩

theorem isRouteWalk_filter {E : List (Node × Node)} {f : Node × Node → Bool} : ∀ (w : List Node) (n : Node),
    IsRouteWalk (E.filter f) n w ↔ IsRouteWalk E n w ∧ PairsOk f n w := by
  intro w
  induction w with
  | nil => intro n; simp [IsRouteWalk, PairsOk]
  | cons m w ih =>
    intro n
    simp only [IsRouteWalk, PairsOk, List.mem_filter, ih m]
    constructor
    · rintro ⟨h1, ⟨h2, h3⟩, h4, h5⟩; exact ⟨⟨h1, h2, h4⟩, h3, h5⟩
    · rintro ⟨⟨h1, h2, h4⟩, h3, h5⟩; exact ⟨h1, ⟨h2, h3⟩, h4, h5⟩

/-! ## configuration-level functions, case by case -/

theorem build_eq_connector {cfg : Cfg} : build cfg = some .connector ↔ createNodesOk cfg = false := by
  simp only [build]
  cases createNodesOk cfg <;> cases sortable (succOf (edges cfg)) (nodes cfg) <;> simp

theorem build_eq_cycle {cfg : Cfg} :
    build cfg = some .cycle ↔ createNodesOk cfg = true ∧ sortable (succ cfg) (nodes cfg) = false := by
  simp only [build, succ_eq]
  cases createNodesOk cfg <;> cases sortable (succOf (edges cfg)) (nodes cfg) <;> simp

theorem build_eq_none {cfg : Cfg} :
    build cfg = none ↔ createNodesOk cfg = true ∧ sortable (succ cfg) (nodes cfg) = true := by
  simp only [build, succ_eq]
  cases createNodesOk cfg <;> cases sortable (succOf (edges cfg)) (nodes cfg) <;> simp

theorem mem_asExp {cfg : Cfg} {c : CompId} {p : Pipeline} : p ∈ asExp cfg c ↔ p ∈ cfg.pipes ∧ c ∈ p.exps := by
  simp only [asExp, List.mem_filter, decide_eq_true_eq]

theorem mem_asRecv {cfg : Cfg} {c : CompId} {q : Pipeline} : q ∈ asRecv cfg c ↔ q ∈ cfg.pipes ∧ c ∈ q.recv := by
  simp only [asRecv, List.mem_filter, decide_eq_true_eq]

theorem mem_usedConns {cfg : Cfg} {c : CompId} :
    c ∈ usedConns cfg ↔ cfg.isConn c = true ∧ ∃ p, p ∈ cfg.pipes ∧ (c ∈ p.recv ∨ c ∈ p.exps) := by
  simp only [usedConns, mem_dedup, List.mem_flatMap, List.mem_filter, List.mem_append]
  constructor
  · rintro ⟨p, hp, h, hc⟩; exact ⟨hc, p, hp, h⟩
  · rintro ⟨hc, p, hp, h⟩; exact ⟨p, hp, h, hc⟩

theorem connValid_eq_false {cfg : Cfg} {c : CompId} : connValid cfg c = false ↔
    (∃ p, p ∈ cfg.pipes ∧ c ∈ p.exps ∧ ∀ q, q ∈ cfg.pipes → c ∈ q.recv → cfg.supp c p.id.sig q.id.sig = false) ∨
    (∃ q, q ∈ cfg.pipes ∧ c ∈ q.recv ∧ ∀ p, p ∈ cfg.pipes → c ∈ p.exps → cfg.supp c p.id.sig q.id.sig = false) := by
  simp only [connValid, Bool.and_eq_false_iff, List.all_eq_false, mem_asExp, mem_asRecv, expOk, recvOk,
    List.any_eq_true, not_exists, not_and, Bool.not_eq_true, and_assoc]

theorem sameBag_mem {α : Type} [DecidableEq α] {a b : List α} (h : sameBag a b = true) (x : α) : x ∈ a ↔ x ∈ b := by
  simp only [sameBag, Bool.and_eq_true, List.all_eq_true, beq_iff_eq] at h
  constructor
  · intro hx
    have := h.1 x hx
    exact List.count_pos_iff.mp (this ▸ List.count_pos_iff.mpr hx)
  · intro hx
    have := h.2 x hx
    exact List.count_pos_iff.mp (this ▸ List.count_pos_iff.mpr hx)

theorem sameBag_refl {α : Type} [DecidableEq α] (a : List α) : sameBag a a = true := by
  simp [sameBag]

theorem mem_usesOf {cfg : Cfg} {role : Role} {c : CompId} {s : Sig} {pid : PipeId} :
    pid ∈ usesOf cfg role c s ↔ ∃ p, p ∈ cfg.pipes ∧ p.id = pid ∧ p.id.sig = s ∧ c ∈ role.list p := by
  simp only [usesOf, List.mem_flatMap]
  constructor
  · rintro ⟨p, hp, h⟩
    by_cases hs : p.id.sig = s
    · simp only [hs, if_true, List.mem_map, List.mem_filter, beq_iff_eq] at h
      obtain ⟨x, ⟨hx, rfl⟩, rfl⟩ := h
      exact ⟨p, hp, rfl, hs, hx⟩
    · simp [hs] at h
  · rintro ⟨p, hp, rfl, hs, hc⟩
    refine ⟨p, hp, ?_⟩
    simp only [hs, if_true, List.mem_map, List.mem_filter, beq_iff_eq]
    exact ⟨c, ⟨hc, rfl⟩, trivial⟩

/-- used right to left: folds the existential into a `Bool` the proofs can split on -/
theorem nodes_any_failing {cfg : Cfg} {f : Node → Bool} :
    (nodes cfg).any (fun n => n.isComp && f n) = true ↔ ∃ n, n ∈ nodes cfg ∧ n.isComp = true ∧ f n = true := by
  simp only [List.any_eq_true, Bool.and_eq_true]

theorem nodup_of_hasDup_false : ∀ l : List CompId, hasDup l = false → l.Nodup := by
  intro l
  induction l with
  | nil => intro _; simp
  | cons a l ih =>
    intro h
    simp only [hasDup, Bool.or_eq_false_iff, decide_eq_false_iff_not] at h
    exact List.nodup_cons.mpr ⟨h.1, ih h.2⟩

theorem validatePipe_eq_none {p : Pipeline} :
    validatePipe p = none ↔ p.recv ≠ [] ∧ p.exps ≠ [] ∧ hasDup p.procs = false := by
  simp only [validatePipe]
  cases p.recv <;> cases p.exps <;> cases hasDup p.procs <;> simp

theorem validate_eq_nil {cfg : Cfg} : validate cfg = [] ↔ ∀ p, p ∈ cfg.pipes → validatePipe p = none := by
  simp only [validate, dedup_eq_nil, List.filterMap_eq_nil_iff]

/-- when no connector is selective the data flows along all edges of the graph -/
theorem flowEdges_eq_edges (cfg : Cfg) (h : ∀ k, k ∈ cfg.conns → k.sel = none) : flowEdges cfg = edges cfg := by
  simp only [flowEdges, List.filter_eq_self]
  intro e _
  obtain ⟨a, b⟩ := e
  cases a <;> cases b <;> simp only [flowAllowed]
  simp only [Cfg.selects, List.all_eq_true, Bool.or_eq_true]
  intro k hk
  rw [h k hk]
  exact Or.inr rfl

end OtelVerif.C09

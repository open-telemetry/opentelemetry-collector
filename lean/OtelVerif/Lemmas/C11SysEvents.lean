import OtelVerif.Lemmas.C11Sys
/-! # C11 — what `service.Shutdown` sends an instance begins with `Stopping`, so the events before it are decided earlier -/
namespace OtelVerif.C11

def HeadOrNil (r : Report) (l : List Report) : Prop := l = [] ∨ ∃ t, l = r :: t

theorem HeadOrNil.append {r : Report} {a b : List Report} (ha : HeadOrNil r a) (hb : HeadOrNil r b) : HeadOrNil r (a ++ b) := by
  rcases ha with rfl | ⟨t, rfl⟩
  · simpa using hb
  · exact Or.inr ⟨t ++ b, rfl⟩

theorem pr_map_head (x : Inst) (l : List Inst) (r : Report) : HeadOrNil r (pr x (l.map (fun i => (i, r)))) := by
  rw [pr_fan]
  cases l.count x with
  | zero => exact Or.inl rfl
  | succ n => exact Or.inr ⟨_, rfl⟩

theorem fanned_head (m : Nat) (e : St) (es : List St) : HeadOrNil (Report.status e) (fanned m (e :: es)) := by
  cases m with
  | zero => exact Or.inl (fanned_zero _)
  | succ n => exact Or.inr ⟨_, rfl⟩

theorem SC.shutdown_head (cap : Nat) (x : Inst) (c : SC) : HeadOrNil (Report.status .stopping) (pr x (c.shutdown cap).2.1) := by
  rw [SC.shutdown_pr]
  split
  · exact Or.inl rfl
  · exact fanned_head _ _ _

theorem stopAll_head (cap : Nat) (x : Inst) (hr : Bool) (l : List Node) (g : GState) :
    HeadOrNil (Report.status .stopping) (pr x (stopAll cap hr g l).2) := by
  induction l generalizing g with
  | nil => exact Or.inl rfl
  | cons n rest ih =>
    rw [stopAll_cons]
    by_cases hn : n.inst = x
    · rw [List.append_assoc, List.append_assoc, List.singleton_append, hn, pr_cons_self]; exact Or.inr ⟨_, rfl⟩
    · rw [List.append_assoc, List.append_assoc, List.singleton_append, pr_cons_ne _ _ _ _ hn, pr_append, pr_append,
        pr_single_ne _ _ _ hn, List.nil_append]
      apply HeadOrNil.append _ (ih _)
      obtain ⟨ni, kind⟩ := n
      cases kind with
      | plain sc =>
        simp only [GState.stopNode]
        left
        split
        · exact pr_own_ne x _ hr _ hn
        · rfl
      | shared k => simp only [GState.stopNode]; exact SC.shutdown_head cap x _

theorem takeWhile_append_stop {α} (p : α → Bool) (A B : List α) (b : α) (hb : p b = false) :
    (A ++ b :: B).takeWhile p = A.takeWhile p := by
  induction A with
  | nil => simp [List.takeWhile, hb]
  | cons a A ih => simp only [List.cons_append, List.takeWhile_cons, ih]

theorem takeWhile_append_mem {α} (p : α → Bool) (A T : List α) (h : ∃ a ∈ A, p a = false) :
    (A ++ T).takeWhile p = A.takeWhile p := by
  obtain ⟨a, ha, hp⟩ := h
  obtain ⟨A1, A2, rfl⟩ := List.append_of_mem ha
  rw [List.append_assoc, List.cons_append, takeWhile_append_stop _ _ _ _ hp, takeWhile_append_stop _ _ _ _ hp]

theorem beforeStopping_run (R' D : List Report) (hD : HeadOrNil (Report.status .stopping) D) :
    beforeStopping (run .none ((Report.status .starting :: R') ++ D)) = beforeStopping (run .none (Report.status .starting :: R')) := by
  rw [run_events_append]
  rcases hD with rfl | ⟨t, rfl⟩
  · simp [run]
  · have hq : runState .none (Report.status .starting :: R') ≠ .none := by
      have h0 : allowed .none .starting = true := by decide
      simp only [runState, step, transition, h0, if_true]
      exact runState_ne_none _ _ (by decide)
    rcases stopping_cases (runState .none (Report.status .starting :: R')) with ha | h | h | h | h
    -- `Stopping` is accepted: `takeWhile` ends there
    · simp only [run, step, transition, ha, if_true]
      exact takeWhile_append_stop _ _ _ _ (by decide)
    · exact absurd h hq
    -- refused: the status is `Stopping` already, so a `Stopping` event came before; or it is final, so nothing follows
    · rcases runState_mem .none (Report.status .starting :: R') with h' | h'
      · rw [h] at h'; cases h'
      · exact takeWhile_append_mem _ _ _ ⟨_, h ▸ h', by decide⟩
    · rw [run_terminal _ (Or.inl h)]; simp
    · rw [run_terminal _ (Or.inr h)]; simp

theorem sys_shared_same_events (cap : Nat) (s : Sys) (k : Nat) (x : Inst) (a b : List Node)
    (hS : s.startOrder = a ++ ⟨x, .shared k⟩ :: b) (ha : ∀ n ∈ a, n.inst ≠ x) (hb : ∀ n ∈ b, n.inst ≠ x)
    (he : ∀ n ∈ s.exts, n.inst ≠ x ∧ n.kind ≠ .shared k) (hk : k < s.shared.length)
    (hfit : (s.shared.getD k {}).startHistory.length ≤ cap) (hup : s.startedUp cap = true) :
    beforeStopping (run .none (pr x (s.opsDoc cap))) =
      beforeStopping (run .none (Report.status .starting :: ((s.shared.getD k {}).startHistory.map Report.status ++
        Report.okIfStarting :: (s.shared.getD k {}).running.map Report.status))) := by
  have hup' := sys_shared_up_reports cap s k x a b hS ha hb he hk hfit hup
  have hdown : HeadOrNil (Report.status .stopping) (pr x (s.downOpsDoc cap)) := by
    simp only [Sys.downOpsDoc, pr_append]
    exact HeadOrNil.append (stopAll_head cap x true _ _) (stopAll_head cap x false _ _)
  rw [Sys.opsDoc_split, pr_append, hup']
  exact beforeStopping_run _ _ hdown

end OtelVerif.C11

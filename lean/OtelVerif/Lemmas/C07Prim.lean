import OtelVerif.Model.C07Prim
import OtelVerif.Lemmas.C07
/-! C07 part D: primitive slices refine lists step by step (no invariant: elements are held by value) -/
namespace OtelVerif.C07

theorem P.abs_upd (s : P.St) (a : Nat) (h' : P.Hdr) :
    P.abs { s with hd := upd s.hd a h' } = { P.abs s with val := upd (P.abs s).val a h'.live } :=
  congrArg (P.PSt.mk · s.ro) (upd_comp P.Hdr.live s.hd a h')

theorem P.appendH_live (h : P.Hdr) (xs : List Nat) (c : Nat) : (P.appendH h xs c).live = h.live ++ xs := by
  unfold P.appendH; split <;> rfl

theorem P.step_spec (s : P.St) (op : P.Op) :
    P.abs (P.step s op).1 = (P.pstep (P.abs s) op).1 ∧ (P.step s op).2 = (P.pstep (P.abs s) op).2 := by
  have g : ∀ (g : Bool) (s' : P.St) (p' : P.PSt), P.abs s' = p' →
      P.abs (if g = true then (s, true) else (s', false)).1 = (if g = true then (P.abs s, true) else (p', false)).1 ∧
      (if g = true then (s, true) else (s', false)).2 = (if g = true then (P.abs s, true) else (p', false)).2 :=
    fun g s' p' h => (guarded (inv := fun _ => True) g s' p' trivial (fun _ => ⟨trivial, h⟩)).2
  cases op with
  | append a xs c => exact g (s.ro a) _ _ ((P.abs_upd s a _).trans (by rw [P.appendH_live]; rfl))
  | fromRaw a xs c => exact g (s.ro a) _ _ ((P.abs_upd s a _).trans (by rw [P.overwrite, P.appendH_live]; rfl))
  | copyTo a b c => exact g (s.ro b) _ _ ((P.abs_upd s b _).trans (by rw [P.overwrite, P.appendH_live]; rfl))
  | moveTo a b => exact g (s.ro a || s.ro b) _ _ (congrArg (P.PSt.mk · s.ro) (upd_comp₂ P.Hdr.live s.hd b a (s.hd a) {}))
  | markRO a => exact ⟨rfl, rfl⟩
  | setAt a i v =>
    simp only [P.step, P.pstep]
    by_cases hi : i < (s.hd a).live.length
    · have hi' : i < ((P.abs s).val a).length := hi
      simp only [hi, hi', if_true]
      exact g (s.ro a) _ _ (P.abs_upd s a _)
    · have hi' : ¬ i < ((P.abs s).val a).length := hi
      simp only [hi, hi', if_false, ite_self]
      exact ⟨trivial, trivial⟩
  | ensureCap a n =>
    simp only [P.step, P.pstep]
    by_cases hn : n ≤ (s.hd a).cap
    · simp only [hn, if_true]; exact g (s.ro a) s _ rfl
    · simp only [hn, if_false]
      exact g (s.ro a) _ _ ((P.abs_upd s a _).trans (congrArg (P.PSt.mk · s.ro) (upd_self (P.abs s).val a)))

theorem P.pstep_frame (p : P.PSt) (op : P.Op) (c : Nat) (hc : c ∉ P.targets op) : (P.pstep p op).1.val c = p.val c := by
  cases op with
  | ensureCap a n => exact guarded_same (fun t : P.PSt => t.val c) _ _ rfl
  | moveTo a b =>
    exact guarded_same (fun t : P.PSt => t.val c) _ _ ((upd_other _ _ _ _ (not_mem_pair hc).1).trans (upd_other _ _ _ _ (not_mem_pair hc).2))
  | markRO a => rfl
  | setAt a i v =>
    simp only [P.pstep]; split
    · rfl
    · split
      · exact upd_other _ _ _ _ (List.ne_of_not_mem_cons hc)
      · rfl
  | _ => exact guarded_same (fun t : P.PSt => t.val c) _ _ (upd_other _ _ _ _ (List.ne_of_not_mem_cons hc))

end OtelVerif.C07

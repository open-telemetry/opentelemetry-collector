import OtelVerif.Lemmas.C08Dec
import OtelVerif.Lemmas.C08Mig
/-! C08: `otlp.Migrate*` keeps decoder-shaped values decoder-shaped, and the API observation of a migrated
decoder result is a fixed point of migration (root-level fixed point). Core Lean only. -/
namespace OtelVerif.C08
open OtelVerif.Proto

theorem confD_reps_congr (S : Schema) (f g : Field) (hty : f.ty = g.ty) : ∀ x, confD S (.reps f) x = confD S (.reps g) x := by
  intro x
  induction x with
  | cons h t _ iht =>
    rw [confD_reps_cons, confD_reps_cons, iht]
    congr 1
    rw [confD.eq_def, confD.eq_def]; simp only [hty]
  | nil => rw [confD_reps_nil, confD_reps_nil]
  | _ => simp [confD]

theorem confD_migrateRes (S : Schema) (ss : List Slot) (rv : Val) (hsh : migShape2At ss = true)
    (hc : confD S (.slots ss) rv = true) : confD S (.slots ss) (migrateRes ss rv) = true := by
  rcases migrateRes_cases ss with hid | ⟨i, d, hi, hd, he⟩
  · rw [hid]; exact hc
  · obtain ⟨_, fd, fi, hsd, hsi, hcd, hci, hty⟩ := migShape2At_spec hsh hi hd
    have hgd := confD_get S ss rv d _ hc hsd
    rw [confD_slot_one] at hgd; simp only [hcd] at hgd
    have h1 : confD S (.slots ss) (if (Val.get rv i).isCons = true then rv else Val.set rv i (Val.get rv d)) = true := by
      split
      · exact hc
      · apply confD_set S ss rv i _ _ hc hsi
        rw [confD_slot_one]; simp only [hci]
        rw [← confD_reps_congr S fd fi hty]; exact hgd
    rw [he]
    apply confD_set S ss _ d _ _ h1 hsd
    rw [confD_slot_one]; simp only [hcd]; exact confD_reps_nil S fd

theorem confD_reps_mapChain (S : Schema) (f : Field) (g : Val → Val)
    (hg : ∀ x, confD S (.elem f) x = true → confD S (.elem f) (g x) = true) :
    ∀ l, confD S (.reps f) l = true → confD S (.reps f) (mapChain g l) = true := by
  intro l
  induction l with
  | cons h t _ iht =>
    intro hc
    rw [confD_reps_cons, Bool.and_eq_true] at hc
    simp only [mapChain]; rw [confD_reps_cons, Bool.and_eq_true]; exact ⟨hg h hc.1, iht hc.2⟩
  | nil => intro h; exact h
  | _ => intro h; simp [confD] at h

theorem confD_migrate (S : Schema) (hsh : migShape2Ok S = true) (m : Nat) (v : Val)
    (hfirst : ∀ f rest, S.slots m = .one f :: rest → f.card = .rep)
    (hc : confD S (.slots (S.slots m)) v = true) : confD S (.slots (S.slots m)) (migrate S m v) = true := by
  rcases migrate_cases S m with hid | ⟨f, rest, r, hs, hty⟩
  · rw [hid]; exact hc
  · have hcard := hfirst f rest hs
    rw [migrate_eq hs hty]
    rw [hs] at hc ⊢
    have hs0 : (Slot.one f :: rest)[0]? = some (.one f) := rfl
    have hg0 := confD_get S _ v 0 _ hc hs0
    apply confD_set S _ v 0 _ _ hc hs0
    rw [confD_slot_one] at hg0 ⊢; simp only [hcard] at hg0 ⊢
    apply confD_reps_mapChain S f _ _ _ hg0
    intro x hx
    rw [confD_elem_msg S f _ r hty] at hx ⊢
    exact confD_migrateRes S _ x (migShape2_slots hsh r) hx

theorem get_canon (S : Schema) : ∀ (ss : List Slot) (y : Val) (j : Nat) (s : Slot),
    confD S (.slots ss) y = true → ss[j]? = some s →
    Val.get (canon S (.slots ss) y) j = canon S (.slot s) (Val.get y j) := by
  intro ss
  induction ss with
  | nil => intro y j s _ h; simp at h
  | cons s0 ss ih =>
    intro y j s hc hj
    cases y with
    | cons x xs =>
      rw [confD_slots_cons, Bool.and_eq_true] at hc
      rw [canon_slots_cons]
      cases j with
      | zero => simp at hj; subst hj; simp [Val.get]
      | succ j => simp at hj; simp only [Val.get]; exact ih xs j s hc.2 hj
    | _ => simp [confD] at hc

theorem canon_reps_chainy (S : Schema) (f : Field) (x : Val) (h : chainy x) : chainy (canon S (.reps f) x) := by
  rcases h with h | h
  · subst h; rw [canon_reps_nil]; exact Or.inl rfl
  · cases x with
    | cons a b => rw [canon_reps_cons]; exact Or.inr rfl
    | _ => simp [Val.isCons] at h

theorem migrateRes_canon_migrateRes (S : Schema) (ss : List Slot) (rv : Val) (hsh : migShape2At ss = true)
    (hc : confD S (.slots ss) rv = true) :
    migrateRes ss (canon S (.slots ss) (migrateRes ss rv)) = canon S (.slots ss) (migrateRes ss rv) := by
  have hy := confD_migrateRes S ss rv hsh hc
  rcases migrateRes_cases ss with hid | ⟨i, d, hi, hd, he⟩
  · rw [hid, hid]
  · obtain ⟨_, fd, fi, hsd, hsi, hcd, hci, _⟩ := migShape2At_spec hsh hi hd
    apply migrateRes_noop
    intro d' hd'
    rw [hd] at hd'; cases hd'
    refine ⟨?_, fun i' hi' => ?_⟩
    · rw [get_canon S ss _ d _ hy hsd, canon_slot_one]; simp only [hcd]
      rw [he rv, get_set_nil, canon_reps_nil]
    · rw [hi] at hi'; cases hi'
      rw [get_canon S ss _ i _ hy hsi, canon_slot_one]; simp only [hci]
      apply canon_reps_chainy
      have := confD_get S ss _ i _ hy hsi
      rw [confD_slot_one] at this; simp only [hci] at this
      exact confD_reps_chainy S fi _ this

/-- **stationarity through `otlp.Migrate*`**: what the API observes of a migrated decoder result is a fixed point of migration -/
theorem migrate_canon_migrate (S : Schema) (hsh : migShape2Ok S = true) (m : Nat) (v : Val)
    (hfirst : ∀ f rest, S.slots m = .one f :: rest → f.card = .rep)
    (hc : confD S (.slots (S.slots m)) v = true) :
    migrate S m (canon S (.slots (S.slots m)) (migrate S m v)) = canon S (.slots (S.slots m)) (migrate S m v) := by
  have hw := confD_migrate S hsh m v hfirst hc
  apply migrate_noop_of_res
  intro f rest r hs hty rv'' hrv
  have hcard := hfirst f rest hs
  have hs0 : (S.slots m)[0]? = some (.one f) := by rw [hs]; rfl
  rw [get_canon S _ _ 0 _ hw hs0, canon_slot_one] at hrv
  simp only [hcard] at hrv
  rw [canon_reps_mapChain] at hrv
  obtain ⟨y, hy, he⟩ := mem_mapChain _ _ _ hrv
  -- y is an element of the migrated resource list
  have hget : Val.get (migrate S m v) 0 = mapChain (migrateRes (S.slots r)) (Val.get v 0) := by
    rw [migrate_eq hs hty]
    rw [hs] at hc
    cases v with
    | cons x xs => simp [Val.set, Val.get]
    | _ => simp [confD] at hc
  rw [hget] at hy
  obtain ⟨rv, hrvm, hye⟩ := mem_mapChain _ _ _ hy
  have hg0 := confD_get S _ v 0 _ hc hs0
  rw [confD_slot_one] at hg0; simp only [hcard] at hg0
  have hrvc := reps_mem (confD_reps_cons S f) _ rv hg0 hrvm
  rw [confD_elem_msg S f _ r hty] at hrvc
  rw [he, canon_elem_msg S f y r hty, hye]
  exact migrateRes_canon_migrateRes S _ rv (migShape2_slots hsh r) hrvc

end OtelVerif.C08

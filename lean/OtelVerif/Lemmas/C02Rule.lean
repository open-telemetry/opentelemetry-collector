import OtelVerif.Model.C02P
import OtelVerif.Lemmas.Basic
/-!
# C02: the two queue LTSs in rule form, and the protocol both implement

`Rule` / `PRule` list the branches of `fire` / `pfire` that return `some`, one constructor per branch, guards as premises, the
successor written with the model's own state transformers; `fire_rule` / `pfire_rule` take an enabled label to its rule, and an
invariant is shown rule by rule (`induction fire_rule hf with …` where label and successor are variables: the recursor then
applies as it stands, without the index equations `cases` would solve).  `tryAdd_cases` / `ptryAdd_cases`: the overflow loops.  Conversely a
goroutine's own step is enabled as soon as its guard holds (`wakeTok_isSome` … `recheck_isSome`).

`Proto` is what the two queues have in common: who moves through `cond.Wait`, what is pushed, popped and completed, who is woken.
It leaves open which exit of the overflow loop is taken and why (`Exit`), the size arithmetic (`Took.reset`, the new size in
`settle`) and the result channel.  Every step of `fire` and of `pfire` is a step of `Proto` (`fire_proto`, `pfire_proto`); what
does not depend on the open parts (histories, the cond, consumer wake-ups, the release clause, the rankings, frames) is shown once,
about `Proto`; size accounting, `InvFs` and result routing (`Lemmas/C02.lean`) need the exact guards and stay with `Rule` / `PRule`.
-/
namespace OtelVerif.C02

@[simp] theorem setP_ps (s : St) (p : Nat) (x : P) : (setP s p x).ps = upd s.ps p x := rfl

theorem pop_some {s s' : St} (h : pop s = some s') :
    ∃ id el t, s.items = (id, el) :: t ∧
      s' = { s with items := t, inflight := s.inflight ++ [(id, el)], handed := s.handed ++ [id] } := by
  unfold pop at h
  cases hi : s.items with
  | nil => simp [hi] at h
  | cons x t =>
    obtain ⟨id, el⟩ := x
    simp [hi] at h
    exact ⟨id, el, t, rfl, h.symm⟩

theorem pop_none {s : St} (h : pop s = none) : s.items = [] := by
  unfold pop at h
  cases hi : s.items with
  | nil => rfl
  | cons x t => obtain ⟨id, el⟩ := x; simp [hi] at h

theorem ppop_some {s s' : St} (h : ppop s = some s') :
    ∃ s1, pop s = some s1 ∧ ((s1.items ≠ [] ∧ s' = s1) ∨ (s1.items = [] ∧ s' = condBroadcast { s1 with size := 0 })) := by
  unfold ppop at h
  cases hp : pop s with
  | none => simp [hp] at h
  | some s1 =>
    simp only [hp, Option.some.injEq] at h
    refine ⟨s1, rfl, ?_⟩
    by_cases he : s1.items.isEmpty = true
    · right; rw [if_pos he] at h; exact ⟨List.isEmpty_iff.mp he, h.symm⟩
    · left; rw [if_neg he] at h; exact ⟨fun e => he (List.isEmpty_iff.mpr e), h.symm⟩

theorem ppop_none {s : St} (h : ppop s = none) : s.items = [] := by
  unfold ppop at h
  cases hp : pop s with
  | none => exact pop_none hp
  | some s1 => simp [hp] at h

@[elab_as_elim] theorem tryAdd_cases {motive : St → Prop} (k : Cfg) (s : St) (p : Nat) (el : Int)
    (stopped : s.stopped = true → (s.size + el ≤ k.cap ∨ k.block = true) → motive (refuse s p .stopped))
    (full : s.size + el > k.cap → k.block = false → motive (refuse s p .full))
    (register : s.size + el > k.cap → k.block = true → s.stopped = false → motive (register s p el))
    (accept : s.size + el ≤ k.cap → s.stopped = false → motive (accept k s p el)) : motive (tryAdd k s p el) := by
  by_cases h : s.size + el > k.cap
  · rw [tryAdd, if_pos h]
    by_cases hb : k.block = true
    · rw [if_pos hb]
      by_cases hs : s.stopped = true
      · rw [if_pos hs]; exact stopped hs (Or.inr hb)
      · rw [if_neg hs]; exact register h hb (Bool.eq_false_iff.mpr hs)
    · rw [if_neg hb]; exact full h (Bool.eq_false_iff.mpr hb)
  · rw [tryAdd, if_neg h]
    by_cases hs : s.stopped = true
    · rw [if_pos hs]; exact stopped hs (Or.inl (by omega))
    · rw [if_neg hs]; exact accept (by omega) (Bool.eq_false_iff.mpr hs)

@[elab_as_elim] theorem ptryAdd_cases {motive : St → Prop} (k : Cfg) (s : St) (p : Nat) (el : Int)
    (tooLarge : s.size + el > k.cap → k.block = true → el > k.cap → motive (refuse s p .tooLarge))
    (full : s.size + el > k.cap → k.block = false → motive (refuse s p .full))
    (register : s.size + el > k.cap → k.block = true → el ≤ k.cap → motive (register s p el))
    (accept : s.size + el ≤ k.cap → motive (paccept s p el)) : motive (ptryAdd k s p el) := by
  by_cases h : s.size + el > k.cap
  · rw [ptryAdd, if_pos h]
    by_cases hb : k.block = true
    · rw [if_pos hb]
      by_cases hl : el > k.cap
      · rw [if_pos hl]; exact tooLarge h hb hl
      · rw [if_neg hl]; exact register h hb (by omega)
    · rw [if_neg hb]; exact full h (Bool.eq_false_iff.mpr hb)
  · rw [ptryAdd, if_neg h]; exact accept (by omega)

/-- `onDone` up to the new size `v` and the contents `r` of the result channel -/
def settle (s : St) (id : Nat) (e : Nat) (v : Int) (r : List (Nat × Nat)) : St :=
  { condBroadcast { s with size := v, inflight := s.inflight.filter (fun x => x.1 != id),
                           finished := s.finished ++ [id], outcomes := s.outcomes ++ [(id, e)] } with results := r }

theorem settle_ps (s : St) (id e : Nat) (v : Int) (r : List (Nat × Nat)) : (settle s id e v r).ps = (condBroadcast s).ps := rfl

theorem pfinish_eq (s : St) (id : Nat) (el : Int) (e : Nat) :
    pfinish s id el e = settle s id e (if s.size - el < 0 then 0 else s.size - el) s.results := rfl

theorem finish_eq (k : Cfg) (s : St) (id : Nat) (el : Int) (e : Nat) :
    finish k s id el e = settle s id e (s.size - el) (if k.wfr then s.results ++ [(id, e)] else s.results) := by
  unfold finish
  cases k.wfr <;> rfl

/-- `Shutdown` on the consumer side -/
def halted (s : St) : St := { s with stopped := true, cwait := [], cwoken := s.cwoken ++ s.cwait }

theorem paccept_eq_accept (k : Cfg) (hw : k.wfr = false) (s : St) (p : Nat) (el : Int) : paccept s p el = accept k s p el := by
  simp only [paccept, accept, hw, Bool.false_eq_true, if_false]

inductive Rule (k : Cfg) (s : St) : Label → St → Prop
  | offerZero (p : Nat) : (s.ps p).ph = .idle → Rule k s (.offer p 0) (setP s p { s.ps p with ph := .done .ok })
  | offerInvalid (p : Nat) (el : Int) : (s.ps p).ph = .idle → el < 0 → Rule k s (.offer p el) (refuse s p .invalid)
  | offerTooLarge (p : Nat) (el : Int) : (s.ps p).ph = .idle → 0 < el → k.cap < el → Rule k s (.offer p el) (refuse s p .tooLarge)
  | offer (p : Nat) (el : Int) : (s.ps p).ph = .idle → 0 < el → el ≤ k.cap → Rule k s (.offer p el) (tryAdd k s p el)
  | cancel (p : Nat) : Rule k s (.cancel p) (setP s p { s.ps p with canc := true })
  | wakeTok (p : Nat) : (s.ps p).ph = .sel → (s.ps p).sig = true → Rule k s (.wakeTok p) (setP s p { s.ps p with ph := .wokenTok })
  | wakeCtx (p : Nat) : (s.ps p).ph = .sel → (s.ps p).canc = true → Rule k s (.wakeCtx p) (setP s p { s.ps p with ph := .wokenCtx })
  | relockTok (p : Nat) : (s.ps p).ph = .wokenTok → Rule k s (.relockTok p) (tryAdd k s p (s.ps p).el)
  | relockCtx (p : Nat) : (s.ps p).ph = .wokenCtx → Rule k s (.relockCtx p) (refuse (ctxCleanup s p) p .ctxErr)
  | getRes (p e : Nat) : (s.ps p).ph = .waitRes → s.results.lookup p = some e →
      Rule k s (.getRes p) { s with results := s.results.filter (fun x => x.1 != p),
                                    ps := upd s.ps p { s.ps p with ph := .done (.result e) } }
  | resCtx (p : Nat) : (s.ps p).ph = .waitRes → (s.ps p).canc = true → Rule k s (.resCtx p) (setP s p { s.ps p with ph := .done .ctxErr })
  | readPop (c : Nat) (s1 : St) : c ∉ s.cwait ++ s.cwoken → pop s = some s1 → Rule k s (.read c) s1
  | readStopped (c : Nat) : c ∉ s.cwait ++ s.cwoken → pop s = none → s.stopped = true → Rule k s (.read c) s
  | readPark (c : Nat) : c ∉ s.cwait ++ s.cwoken → pop s = none → s.stopped = false →
      Rule k s (.read c) { s with cwait := s.cwait ++ [c] }
  | recheckPop (c : Nat) (s1 : St) : c ∈ s.cwoken → pop s = some s1 → Rule k s (.recheck c) { s1 with cwoken := s1.cwoken.erase c }
  | recheckStopped (c : Nat) : c ∈ s.cwoken → pop s = none → s.stopped = true →
      Rule k s (.recheck c) { s with cwoken := s.cwoken.erase c }
  | recheckPark (c : Nat) : c ∈ s.cwoken → pop s = none → s.stopped = false →
      Rule k s (.recheck c) { s with cwoken := s.cwoken.erase c, cwait := s.cwait ++ [c] }
  | complete (id : Nat) (el : Int) (e : Nat) : s.inflight.lookup id = some el → Rule k s (.complete id e) (finish k s id el e)
  | shutdown : Rule k s .shutdown (condBroadcast { s with stopped := true, cwait := [], cwoken := s.cwoken ++ s.cwait })

theorem fire_rule {k : Cfg} {s s' : St} {l : Label} (hf : fire k s l = some s') : Rule k s l s' := by
  cases l with
  | offer p el =>
    by_cases hi : (s.ps p).ph = .idle
    · rw [fire, if_pos hi] at hf
      by_cases h0 : el = 0
      · rw [if_pos h0] at hf; cases hf; subst h0; exact .offerZero p hi
      · rw [if_neg h0] at hf
        by_cases h1 : el < 0
        · rw [if_pos h1] at hf; cases hf; exact .offerInvalid p el hi h1
        · rw [if_neg h1] at hf
          by_cases h2 : el > k.cap
          · rw [if_pos h2] at hf; cases hf; exact .offerTooLarge p el hi (by omega) h2
          · rw [if_neg h2] at hf; cases hf; exact .offer p el hi (by omega) (by omega)
    · rw [fire, if_neg hi] at hf; cases hf
  | cancel p => cases hf; exact .cancel p
  | wakeTok p =>
    by_cases h : (s.ps p).ph = .sel ∧ (s.ps p).sig = true
    · rw [fire, if_pos h] at hf; cases hf; exact .wakeTok p h.1 h.2
    · rw [fire, if_neg h] at hf; cases hf
  | wakeCtx p =>
    by_cases h : (s.ps p).ph = .sel ∧ (s.ps p).canc = true
    · rw [fire, if_pos h] at hf; cases hf; exact .wakeCtx p h.1 h.2
    · rw [fire, if_neg h] at hf; cases hf
  | relockTok p =>
    by_cases h : (s.ps p).ph = .wokenTok
    · rw [fire, if_pos h] at hf; cases hf; exact .relockTok p h
    · rw [fire, if_neg h] at hf; cases hf
  | relockCtx p =>
    by_cases h : (s.ps p).ph = .wokenCtx
    · rw [fire, if_pos h] at hf; cases hf; exact .relockCtx p h
    · rw [fire, if_neg h] at hf; cases hf
  | getRes p =>
    by_cases h : (s.ps p).ph = .waitRes
    · rw [fire, if_pos h] at hf
      cases he : s.results.lookup p with
      | none => rw [he] at hf; cases hf
      | some e => rw [he] at hf; cases hf; exact .getRes p e h he
    · rw [fire, if_neg h] at hf; cases hf
  | resCtx p =>
    by_cases h : (s.ps p).ph = .waitRes ∧ (s.ps p).canc = true
    · rw [fire, if_pos h] at hf; cases hf; exact .resCtx p h.1 h.2
    · rw [fire, if_neg h] at hf; cases hf
  | read c =>
    by_cases hc : c ∈ s.cwait ++ s.cwoken
    · rw [fire, if_pos hc] at hf; cases hf
    · rw [fire, if_neg hc] at hf
      cases hp : pop s with
      | some s1 => rw [hp] at hf; cases hf; exact .readPop c _ hc hp
      | none =>
        rw [hp] at hf
        by_cases hs : s.stopped = true
        · rw [if_pos hs] at hf; cases hf; exact .readStopped c hc hp hs
        · rw [if_neg hs] at hf; cases hf; exact .readPark c hc hp (Bool.eq_false_iff.mpr hs)
  | recheck c =>
    by_cases hc : c ∈ s.cwoken
    · rw [fire, if_pos hc] at hf
      cases hp : pop s with
      | some s1 => rw [hp] at hf; cases hf; exact .recheckPop c s1 hc hp
      | none =>
        rw [hp] at hf
        by_cases hs : s.stopped = true
        · rw [if_pos hs] at hf; cases hf; exact .recheckStopped c hc hp hs
        · rw [if_neg hs] at hf; cases hf; exact .recheckPark c hc hp (Bool.eq_false_iff.mpr hs)
    · rw [fire, if_neg hc] at hf; cases hf
  | complete id e =>
    rw [fire] at hf
    cases hl : s.inflight.lookup id with
    | none => rw [hl] at hf; cases hf
    | some el => rw [hl] at hf; cases hf; exact .complete id el e hl
  | shutdown => cases hf; exact .shutdown

inductive PRule (k : Cfg) (s : St) : Label → St → Prop
  | offer (p : Nat) (el : Int) : (s.ps p).ph = .idle → 0 ≤ el → s.stopped = false → PRule k s (.offer p el) (ptryAdd k s p el)
  | cancel (p : Nat) : PRule k s (.cancel p) (setP s p { s.ps p with canc := true })
  | wakeTok (p : Nat) : (s.ps p).ph = .sel → (s.ps p).sig = true → PRule k s (.wakeTok p) (setP s p { s.ps p with ph := .wokenTok })
  | wakeCtx (p : Nat) : (s.ps p).ph = .sel → (s.ps p).canc = true → PRule k s (.wakeCtx p) (setP s p { s.ps p with ph := .wokenCtx })
  | relockTok (p : Nat) : (s.ps p).ph = .wokenTok → PRule k s (.relockTok p) (ptryAdd k s p (s.ps p).el)
  | relockCtx (p : Nat) : (s.ps p).ph = .wokenCtx → PRule k s (.relockCtx p) (refuse (ctxCleanup s p) p .ctxErr)
  | readStopped (c : Nat) : c ∉ s.cwait ++ s.cwoken → s.stopped = true → PRule k s (.read c) s
  | readPop (c : Nat) (s1 : St) : c ∉ s.cwait ++ s.cwoken → s.stopped = false → ppop s = some s1 → PRule k s (.read c) s1
  | readPark (c : Nat) : c ∉ s.cwait ++ s.cwoken → s.stopped = false → ppop s = none →
      PRule k s (.read c) { s with cwait := s.cwait ++ [c] }
  | recheckStopped (c : Nat) : c ∈ s.cwoken → s.stopped = true → PRule k s (.recheck c) { s with cwoken := s.cwoken.erase c }
  | recheckPop (c : Nat) (s1 : St) : c ∈ s.cwoken → s.stopped = false → ppop s = some s1 →
      PRule k s (.recheck c) { s1 with cwoken := s1.cwoken.erase c }
  | recheckPark (c : Nat) : c ∈ s.cwoken → s.stopped = false → ppop s = none →
      PRule k s (.recheck c) { s with cwoken := s.cwoken.erase c, cwait := s.cwait ++ [c] }
  | complete (id : Nat) (el : Int) (e : Nat) : s.inflight.lookup id = some el → PRule k s (.complete id e) (pfinish s id el e)
  | shutdown : PRule k s .shutdown { s with stopped := true, cwait := [], cwoken := s.cwoken ++ s.cwait }

theorem pfire_rule {k : Cfg} {s s' : St} {l : Label} (hf : pfire k s l = some s') : PRule k s l s' := by
  cases l with
  | offer p el =>
    by_cases h : (s.ps p).ph = .idle ∧ 0 ≤ el ∧ s.stopped = false
    · rw [pfire, if_pos h] at hf; cases hf; exact .offer p el h.1 h.2.1 h.2.2
    · rw [pfire, if_neg h] at hf; cases hf
  | cancel p => cases hf; exact .cancel p
  | wakeTok p =>
    by_cases h : (s.ps p).ph = .sel ∧ (s.ps p).sig = true
    · rw [pfire, if_pos h] at hf; cases hf; exact .wakeTok p h.1 h.2
    · rw [pfire, if_neg h] at hf; cases hf
  | wakeCtx p =>
    by_cases h : (s.ps p).ph = .sel ∧ (s.ps p).canc = true
    · rw [pfire, if_pos h] at hf; cases hf; exact .wakeCtx p h.1 h.2
    · rw [pfire, if_neg h] at hf; cases hf
  | relockTok p =>
    by_cases h : (s.ps p).ph = .wokenTok
    · rw [pfire, if_pos h] at hf; cases hf; exact .relockTok p h
    · rw [pfire, if_neg h] at hf; cases hf
  | relockCtx p =>
    by_cases h : (s.ps p).ph = .wokenCtx
    · rw [pfire, if_pos h] at hf; cases hf; exact .relockCtx p h
    · rw [pfire, if_neg h] at hf; cases hf
  | getRes p => cases hf
  | resCtx p => cases hf
  | read c =>
    by_cases hc : c ∈ s.cwait ++ s.cwoken
    · rw [pfire, if_pos hc] at hf; cases hf
    · rw [pfire, if_neg hc] at hf
      by_cases hs : s.stopped = true
      · rw [if_pos hs] at hf; cases hf; exact .readStopped c hc hs
      · rw [if_neg hs] at hf
        cases hp : ppop s with
        | some s1 => rw [hp] at hf; cases hf; exact .readPop c _ hc (Bool.eq_false_iff.mpr hs) hp
        | none => rw [hp] at hf; cases hf; exact .readPark c hc (Bool.eq_false_iff.mpr hs) hp
  | recheck c =>
    by_cases hc : c ∈ s.cwoken
    · rw [pfire, if_pos hc] at hf
      by_cases hs : s.stopped = true
      · rw [if_pos hs] at hf; cases hf; exact .recheckStopped c hc hs
      · rw [if_neg hs] at hf
        cases hp : ppop s with
        | some s1 => rw [hp] at hf; cases hf; exact .recheckPop c s1 hc (Bool.eq_false_iff.mpr hs) hp
        | none => rw [hp] at hf; cases hf; exact .recheckPark c hc (Bool.eq_false_iff.mpr hs) hp
    · rw [pfire, if_neg hc] at hf; cases hf
  | complete id e =>
    rw [pfire] at hf
    cases hl : s.inflight.lookup id with
    | none => rw [hl] at hf; cases hf
    | some el => rw [hl] at hf; cases hf; exact .complete id el e hl
  | shutdown => cases hf; exact .shutdown

theorem runSched_cons (k : Cfg) (s : St) (l : Label) (ls : List Label) :
    runSched k s (l :: ls) = (fire k s l).bind (fun s' => runSched k s' ls) := by
  simp only [runSched]; cases fire k s l <;> rfl

theorem prunSched_cons (k : Cfg) (s : St) (l : Label) (ls : List Label) :
    prunSched k s (l :: ls) = (pfire k s l).bind (fun s' => prunSched k s' ls) := by
  simp only [prunSched]; cases pfire k s l <;> rfl

/-! ## enabledness of a goroutine's own steps (the same guards in both queues; the persistent queue has no result channel) -/

theorem wakeTok_isSome (k : Cfg) {s : St} {p : Nat} (h : (s.ps p).ph = .sel) (hs : (s.ps p).sig = true) :
    (fire k s (.wakeTok p)).isSome = true ∧ (pfire k s (.wakeTok p)).isSome = true :=
  ⟨congrArg Option.isSome (if_pos ⟨h, hs⟩), congrArg Option.isSome (if_pos ⟨h, hs⟩)⟩

theorem wakeCtx_isSome (k : Cfg) {s : St} {p : Nat} (h : (s.ps p).ph = .sel) (hc : (s.ps p).canc = true) :
    (fire k s (.wakeCtx p)).isSome = true ∧ (pfire k s (.wakeCtx p)).isSome = true :=
  ⟨congrArg Option.isSome (if_pos ⟨h, hc⟩), congrArg Option.isSome (if_pos ⟨h, hc⟩)⟩

theorem relockTok_isSome (k : Cfg) {s : St} {p : Nat} (h : (s.ps p).ph = .wokenTok) :
    (fire k s (.relockTok p)).isSome = true ∧ (pfire k s (.relockTok p)).isSome = true :=
  ⟨congrArg Option.isSome (if_pos h), congrArg Option.isSome (if_pos h)⟩

theorem relockCtx_isSome (k : Cfg) {s : St} {p : Nat} (h : (s.ps p).ph = .wokenCtx) :
    (fire k s (.relockCtx p)).isSome = true ∧ (pfire k s (.relockCtx p)).isSome = true :=
  ⟨congrArg Option.isSome (if_pos h), congrArg Option.isSome (if_pos h)⟩

theorem getRes_isSome (k : Cfg) {s : St} {p e : Nat} (h : (s.ps p).ph = .waitRes) (hl : s.results.lookup p = some e) :
    (fire k s (.getRes p)).isSome = true := by
  simp only [fire, h, hl, if_true, Option.isSome_some]

theorem resCtx_isSome (k : Cfg) {s : St} {p : Nat} (h : (s.ps p).ph = .waitRes) (hc : (s.ps p).canc = true) :
    (fire k s (.resCtx p)).isSome = true :=
  congrArg Option.isSome (if_pos ⟨h, hc⟩)

theorem recheck_isSome (k : Cfg) (s : St) {c : Nat} (hc : c ∈ s.cwoken) :
    (fire k s (.recheck c)).isSome = true ∧ (pfire k s (.recheck c)).isSome = true := by
  constructor
  · simp only [fire, hc, if_true]
    cases pop s with
    | some s1 => rfl
    | none => cases s.stopped <;> rfl
  · simp only [pfire, hc, if_true]
    split
    · rfl
    · cases ppop s <;> rfl

/-! ## the protocol -/

/-- how a producer (fresh, or woken through its channel) leaves one evaluation of the overflow loop; the bounds on a fresh
request's size are premises, those of a woken one are known from `InvC.elOk` (`Lemmas/C02.lean`).  `accept` is an exit under any
configuration `k'`: the persistent queue's `paccept` is `accept` without `wait_for_result` (`ptryAdd_exit`) -/
inductive Exit (k : Cfg) (s : St) (p : Nat) (el : Int) : St → Prop
  | refuse (r : Res) : Exit k s p el (refuse s p r)
  | register : s.size + el > k.cap → k.block = true → ((s.ps p).ph = .idle → el ≤ k.cap) → Exit k s p el (register s p el)
  | accept (k' : Cfg) : ((s.ps p).ph = .idle → 0 ≤ el) → Exit k s p el (accept k' s p el)

/-- `Read` took the head of the queue; the persistent queue resets the size and wakes the producers when it took the last one -/
inductive Took (s : St) : St → Prop
  | pop (s1 : St) : pop s = some s1 → Took s s1
  | reset (s1 : St) : pop s = some s1 → Took s (condBroadcast { s1 with size := 0 })

inductive Proto (k : Cfg) (s : St) : Label → St → Prop
  | offerOk (p : Nat) (el : Int) : (s.ps p).ph = .idle → Proto k s (.offer p el) (setP s p { s.ps p with ph := .done .ok })
  | offer (p : Nat) (el : Int) (t : St) : (s.ps p).ph = .idle → Exit k s p el t → Proto k s (.offer p el) t
  | cancel (p : Nat) : Proto k s (.cancel p) (setP s p { s.ps p with canc := true })
  | wakeTok (p : Nat) : (s.ps p).ph = .sel → (s.ps p).sig = true → Proto k s (.wakeTok p) (setP s p { s.ps p with ph := .wokenTok })
  | wakeCtx (p : Nat) : (s.ps p).ph = .sel → (s.ps p).canc = true → Proto k s (.wakeCtx p) (setP s p { s.ps p with ph := .wokenCtx })
  | relockTok (p : Nat) (t : St) : (s.ps p).ph = .wokenTok → Exit k s p (s.ps p).el t → Proto k s (.relockTok p) t
  | relockCtx (p : Nat) : (s.ps p).ph = .wokenCtx → Proto k s (.relockCtx p) (refuse (ctxCleanup s p) p .ctxErr)
  | getRes (p e : Nat) : (s.ps p).ph = .waitRes → s.results.lookup p = some e →
      Proto k s (.getRes p) { s with results := s.results.filter (fun x => x.1 != p),
                                     ps := upd s.ps p { s.ps p with ph := .done (.result e) } }
  | resCtx (p : Nat) : (s.ps p).ph = .waitRes → (s.ps p).canc = true → Proto k s (.resCtx p) (setP s p { s.ps p with ph := .done .ctxErr })
  | readTook (c : Nat) (t : St) : c ∉ s.cwait ++ s.cwoken → Took s t → Proto k s (.read c) t
  | readStopped (c : Nat) : c ∉ s.cwait ++ s.cwoken → s.stopped = true → Proto k s (.read c) s
  | readPark (c : Nat) : c ∉ s.cwait ++ s.cwoken → s.items = [] → s.stopped = false →
      Proto k s (.read c) { s with cwait := s.cwait ++ [c] }
  | recheckTook (c : Nat) (t : St) : c ∈ s.cwoken → Took s t → Proto k s (.recheck c) { t with cwoken := t.cwoken.erase c }
  | recheckStopped (c : Nat) : c ∈ s.cwoken → s.stopped = true → Proto k s (.recheck c) { s with cwoken := s.cwoken.erase c }
  | recheckPark (c : Nat) : c ∈ s.cwoken → s.items = [] → s.stopped = false →
      Proto k s (.recheck c) { s with cwoken := s.cwoken.erase c, cwait := s.cwait ++ [c] }
  | complete (id : Nat) (el : Int) (e : Nat) (v : Int) (r : List (Nat × Nat)) : s.inflight.lookup id = some el →
      Proto k s (.complete id e) (settle s id e v r)
  | shutdown : Proto k s .shutdown (halted s)
  | shutdownAll : Proto k s .shutdown (condBroadcast (halted s))

theorem tryAdd_exit (k : Cfg) (s : St) (p : Nat) (el : Int) (hel : (s.ps p).ph = .idle → 0 ≤ el ∧ el ≤ k.cap) :
    Exit k s p el (tryAdd k s p el) :=
  tryAdd_cases k s p el (fun _ _ => .refuse _) (fun _ _ => .refuse _) (fun h hb _ => .register h hb (fun a => (hel a).2))
    (fun _ _ => .accept k (fun a => (hel a).1))

theorem ptryAdd_exit (k : Cfg) (s : St) (p : Nat) (el : Int) (hel : (s.ps p).ph = .idle → 0 ≤ el) : Exit k s p el (ptryAdd k s p el) :=
  ptryAdd_cases k s p el (fun _ _ _ => .refuse _) (fun _ _ => .refuse _) (fun h hb h1 => .register h hb (fun _ => h1))
    (fun _ => paccept_eq_accept ⟨0, false, false⟩ rfl s p el ▸ .accept _ hel)

theorem ppop_took {s t : St} (h : ppop s = some t) : Took s t := by
  obtain ⟨s1, h1, ⟨_, e⟩ | ⟨_, e⟩⟩ := ppop_some h
  · exact e ▸ .pop s1 h1
  · exact e ▸ .reset s1 h1

theorem fire_proto {k : Cfg} {s s' : St} {l : Label} (hf : fire k s l = some s') : Proto k s l s' := by
  induction fire_rule hf with
  | offerZero p hi => exact .offerOk p 0 hi
  | offerInvalid p el hi | offerTooLarge p el hi => exact .offer p el _ hi (.refuse _)
  | offer p el hi h0 h1 => exact .offer p el _ hi (tryAdd_exit k s p el (fun _ => ⟨Int.le_of_lt h0, h1⟩))
  | cancel p => exact .cancel p
  | wakeTok p h hs => exact .wakeTok p h hs
  | wakeCtx p h hc => exact .wakeCtx p h hc
  | relockTok p h => exact .relockTok p _ h (tryAdd_exit k s p _ (fun a => nomatch h.symm.trans a))
  | relockCtx p h => exact .relockCtx p h
  | getRes p e h hl => exact .getRes p e h hl
  | resCtx p h hc => exact .resCtx p h hc
  | readPop c s1 hc hp => exact .readTook c s1 hc (.pop s1 hp)
  | readStopped c hc _ hs => exact .readStopped c hc hs
  | readPark c hc hp hs => exact .readPark c hc (pop_none hp) hs
  | recheckPop c s1 hc hp => exact .recheckTook c s1 hc (.pop s1 hp)
  | recheckStopped c hc _ hs => exact .recheckStopped c hc hs
  | recheckPark c hc hp hs => exact .recheckPark c hc (pop_none hp) hs
  | complete id el e hl => rw [finish_eq]; exact .complete id el e _ _ hl
  | shutdown => exact .shutdownAll

theorem pfire_proto {k : Cfg} {s s' : St} {l : Label} (hf : pfire k s l = some s') : Proto k s l s' := by
  induction pfire_rule hf with
  | offer p el hi h0 => exact .offer p el _ hi (ptryAdd_exit k s p el (fun _ => h0))
  | cancel p => exact .cancel p
  | wakeTok p h hs => exact .wakeTok p h hs
  | wakeCtx p h hc => exact .wakeCtx p h hc
  | relockTok p h => exact .relockTok p _ h (ptryAdd_exit k s p _ (fun a => nomatch h.symm.trans a))
  | relockCtx p h => exact .relockCtx p h
  | readStopped c hc hs => exact .readStopped c hc hs
  | readPop c s1 hc _ hp => exact .readTook c s1 hc (ppop_took hp)
  | readPark c hc hs hp => exact .readPark c hc (ppop_none hp) hs
  | recheckStopped c hc hs => exact .recheckStopped c hc hs
  | recheckPop c s1 hc _ hp => exact .recheckTook c s1 hc (ppop_took hp)
  | recheckPark c hc hs hp => exact .recheckPark c hc (ppop_none hp) hs
  | complete id el e hl => exact .complete id el e _ s.results hl
  | shutdown => exact .shutdown

end OtelVerif.C02

import OtelVerif.Model.C02P
import OtelVerif.Model.C02Check
/-! C02: what the oracle's clause functions (`Model/C02Check.lean`) and `itemKey` compute -/
namespace OtelVerif.C02

theorem itemKey_ne_of_nondigit (radix i : Nat) (h0 : 0 < radix) (h : radix ≤ 10) (key : String) (c : Char) (cs : List Char)
    (hk : key.toList = c :: cs) (hc : c.isDigit = false) : itemKey radix i ≠ key := by
  intro e
  have hl : (itemKey radix i).toList = Nat.toDigits radix i := by simp [itemKey]
  rw [e, hk] at hl
  have := Nat.isDigit_of_mem_toDigits h0 h (c := c) (by rw [← hl]; simp)
  rw [hc] at this; cases this

theorem fifoStep_sound (q h q' a : List Nat) (hs : Check.fifoStep q h q' = some a) : q ++ a = h ++ q' := by
  unfold Check.fifoStep at hs
  simp only [] at hs
  split at hs
  · rename_i hp
    cases hs
    exact List.prefix_iff_eq_append.mp (List.isPrefixOf_iff_prefix.mp hp)
  · cases hs

theorem refusalClause_iff {pers block stopped : Bool} {cap sb el : Int} {st : String}
    (h : Check.refusalClause pers block stopped cap sb el st = true) {r : String}
    (hr : r = "full" ∨ r = "inv" ∨ r = "big" ∨ r = "stopped") :
    st = r ↔ Check.expectedRefusal pers block stopped cap sb el = r := by
  unfold Check.refusalClause at h
  generalize Check.expectedRefusal pers block stopped cap sb el = want at h ⊢
  by_cases hw : want = ""
  · subst hw
    simp only [beq_self_eq_true, if_true, Bool.not_eq_true', Bool.or_eq_false_iff, beq_eq_false_iff_ne, ne_eq] at h
    rcases hr with rfl | rfl | rfl | rfl
    · exact iff_of_false h.1.1.1 (by decide)
    · exact iff_of_false h.1.1.2 (by decide)
    · exact iff_of_false h.1.2 (by decide)
    · exact iff_of_false h.2 (by decide)
  · have : (want == "") = false := by simpa using hw
    simp only [this, Bool.false_eq_true, if_false, beq_iff_eq] at h
    rw [h]

theorem nodupB_sound (l : List Nat) (h : Check.nodupB l = true) : l.Nodup := by
  induction l with
  | nil => simp
  | cons a t ih =>
    simp only [Check.nodupB, Bool.and_eq_true, Bool.not_eq_true', List.contains_eq_mem, decide_eq_false_iff_not] at h
    exact List.nodup_cons.mpr ⟨h.1, ih h.2⟩

end OtelVerif.C02

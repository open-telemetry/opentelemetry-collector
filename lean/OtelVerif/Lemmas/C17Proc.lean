import OtelVerif.Lemmas.C17Timeout
/-!
C17: the whole processor.  `Proc.arrive` and the timer loop of `Proc.advance` both let ONE shard make a `ShardStep` and put it
back with `replaceShard`; the invariants are per-shard properties carried through `arrive_cases` / `go_induct`.
-/
namespace OtelVerif.C17
open OtelVerif.Payload

def dataFlat {P β : Type} (flat : P → List β) (shards : List (Shard P)) : List β := shards.flatMap (fun s => flat s.data)

/-- the processor-level invariant: every shard is consistent and idle, groups are distinct -/
def PInv {P : Type} (o : BatchOps P) (c : Cfg) (shards : List (Shard P)) : Prop :=
  (∀ s ∈ shards, s.ok o ∧ due c s = false) ∧ (shards.map (·.key)).Nodup

theorem mem_replaceShard {P : Type} (s' : Shard P) :
    ∀ (shards : List (Shard P)) (t : Shard P), t ∈ replaceShard s' shards → t = s' ∨ t ∈ shards := by
  intro shards
  induction shards with
  | nil => intro t ht; exact Or.inr ht
  | cons a l ih =>
    intro t ht
    unfold replaceShard at ht
    split at ht
    · rcases List.mem_cons.mp ht with h | h
      · exact Or.inl h
      · exact Or.inr (List.mem_cons_of_mem _ h)
    · rcases List.mem_cons.mp ht with h | h
      · exact Or.inr (h ▸ List.mem_cons_self ..)
      · exact (ih t h).imp_right (List.mem_cons_of_mem _)

theorem replaceShard_mid {P : Type} (s' s0 : Shard P) (hk : s0.key = s'.key) (l2 : List (Shard P)) :
    ∀ (l1 : List (Shard P)), (∀ t ∈ l1, t.key ≠ s'.key) → replaceShard s' (l1 ++ s0 :: l2) = l1 ++ s' :: l2 := by
  intro l1
  induction l1 with
  | nil => intro _; simp only [List.nil_append, replaceShard, hk, if_true]
  | cons a l ih =>
    intro h
    rw [List.cons_append, replaceShard, if_neg (h a (List.mem_cons_self ..)), ih fun t ht => h t (List.mem_cons_of_mem _ ht)]
    rfl

theorem replaceShard_split {P : Type} (s' : Shard P) (shards : List (Shard P)) (s : Shard P) (hs : s ∈ shards)
    (hk : s'.key = s.key) (hnd : (shards.map (·.key)).Nodup) :
    ∃ l1 l2, shards = l1 ++ s :: l2 ∧ replaceShard s' shards = l1 ++ s' :: l2 := by
  obtain ⟨l1, l2, rfl⟩ := List.append_of_mem hs
  refine ⟨l1, l2, rfl, replaceShard_mid s' s hk.symm l2 l1 fun t ht e => ?_⟩
  rw [List.map_append, List.map_cons] at hnd
  exact (List.nodup_append.mp hnd).2.2 t.key (List.mem_map_of_mem ht) s.key (List.mem_cons_self ..) (e.trans hk)

theorem dataFlat_mid {P β : Type} (flat : P → List β) (l1 l2 : List (Shard P)) (s : Shard P) :
    (dataFlat flat (l1 ++ s :: l2)).Perm (flat s.data ++ dataFlat flat (l1 ++ l2)) := by
  simp only [dataFlat, List.flatMap_append, List.flatMap_cons]
  exact List.perm_append_comm_assoc _ _ _

theorem sum_replace {P : Type} (g : Shard P → Nat) (s' : Shard P) (shards : List (Shard P)) (s : Shard P) (hs : s ∈ shards)
    (hk : s'.key = s.key) (hnd : (shards.map (·.key)).Nodup) :
    sumBy g (replaceShard s' shards) + g s = sumBy g shards + g s' := by
  obtain ⟨l1, l2, e1, e2⟩ := replaceShard_split s' shards s hs hk hnd
  rw [e2, e1, sumBy_append, sumBy_append, sumBy_cons, sumBy_cons]
  omega

theorem lift_step {P β : Type} (o : BatchOps P) (c : Cfg) (flat : P → List β) (shards : List (Shard P)) (s s' : Shard P)
    (es : List (Emit P)) (extra : List β) (hp : PInv o c shards) (hs : s ∈ shards) (st : ShardStep o c flat s s' es extra) :
    PInv o c (replaceShard s' shards) ∧
    (flatEmits flat es ++ dataFlat flat (replaceShard s' shards)).Perm (dataFlat flat shards ++ extra) := by
  obtain ⟨l1, l2, e1, e2⟩ := replaceShard_split s' shards s hs st.key hp.2
  refine ⟨⟨fun t ht => ?_, ?_⟩, ?_⟩
  · rcases mem_replaceShard s' shards t ht with h | h
    · exact h ▸ st.inv
    · exact hp.1 t h
  · have := hp.2
    rw [e1, List.map_append, List.map_cons] at this
    rw [e2, List.map_append, List.map_cons, st.key]
    exact this
  · -- E ++ (l1 ++ s' :: l2) ~ (E ++ s') ++ (l1 ++ l2) ~ … ~ (l1 ++ s :: l2) ++ extra
    rw [e2, e1]
    refine (List.Perm.append_left _ (dataFlat_mid flat l1 l2 s')).trans ?_
    rw [← List.append_assoc]
    refine (List.Perm.append_right _ st.perm).trans ?_
    rw [List.append_assoc]
    refine (List.Perm.append_left _ List.perm_append_comm).trans ?_
    rw [← List.append_assoc]
    exact List.Perm.append_right _ (dataFlat_mid flat l1 l2 s).symm

theorem pinv_snoc {P β : Type} {o : BatchOps P} {flat : P → List β} (hl : BatchLaws o flat) (c : Cfg) (shards : List (Shard P))
    (key : Key) (d : Nat) (hp : PInv o c shards) (hnew : ∀ t ∈ shards, t.key ≠ key) :
    PInv o c (shards ++ [{ key := key, data := o.empty, cnt := 0, deadline := d }]) ∧
    dataFlat flat (shards ++ [{ key := key, data := o.empty, cnt := 0, deadline := d }]) = dataFlat flat shards := by
  refine ⟨⟨fun t ht => ?_, ?_⟩, ?_⟩
  · rcases List.mem_append.mp ht with h | h
    · exact hp.1 t h
    · rw [List.mem_singleton.mp h]; exact inv_empty hl c key d
  · rw [List.map_append, List.nodup_append]
    refine ⟨hp.2, List.nodup_cons.mpr ⟨List.not_mem_nil, List.nodup_nil⟩, fun a ha b hb => ?_⟩
    obtain ⟨t, ht, rfl⟩ := List.mem_map.mp ha
    rw [List.mem_singleton.mp hb]
    exact hnew t ht
  · simp only [dataFlat, List.flatMap_append, List.flatMap_cons, List.flatMap_nil, hl.empty, List.append_nil]

theorem arrive_cases {P : Type} (o : BatchOps P) (c : Cfg) (pr pr' : Proc P) (key : Key) (p : P) (es : List (Emit P))
    (h : pr.arrive o c key p = some (pr', es)) :
    ∃ (s : Shard P) (ss : List (Shard P)), s.key = key ∧ s ∈ ss ∧
      (ss = pr.shards ∨
        (ss = pr.shards ++ [s] ∧ s = { key := key, data := o.empty, cnt := 0, deadline := pr.now + c.timeout } ∧
          ∀ t ∈ pr.shards, t.key ≠ key)) ∧
      pr'.now = pr.now ∧ pr'.shards = replaceShard (s.process o c pr.now p).1 ss ∧ es = (s.process o c pr.now p).2 := by
  unfold Proc.arrive at h
  split at h
  · next s hf =>
    obtain ⟨rfl, rfl⟩ := Prod.mk.inj (Option.some.inj h)
    exact ⟨s, pr.shards, of_decide_eq_true (List.find?_some hf :), List.mem_of_find?_eq_some hf, Or.inl rfl, rfl, rfl, rfl⟩
  · next hf =>
    split at h
    · exact nomatch h
    · obtain ⟨rfl, rfl⟩ := Prod.mk.inj (Option.some.inj h)
      have hnew : ∀ t ∈ pr.shards, t.key ≠ key := fun t ht => of_decide_eq_false (by simpa using List.find?_eq_none.mp hf t ht)
      refine ⟨_, _, rfl, List.mem_append.mpr (Or.inr (List.mem_singleton.mpr rfl)), Or.inr ⟨rfl, rfl, hnew⟩, rfl, ?_, rfl⟩
      exact (replaceShard_mid _ _ (process_key o c pr.now _ p).symm [] pr.shards
        (by rw [process_key]; exact hnew)).symm

theorem go_cases {P : Type} (o : BatchOps P) (c : Cfg) (target fuel : Nat) (ss : List (Shard P)) (acc : List (Emit P)) :
    (Proc.advance.go o c target (fuel + 1) ss acc = (ss, acc) ∧ ∀ s ∈ ss, target < s.deadline) ∨
    ∃ s ∈ ss, s.deadline ≤ target ∧ Proc.advance.go o c target (fuel + 1) ss acc =
      Proc.advance.go o c target fuel (replaceShard (s.tick o c).1 ss) (acc ++ (s.tick o c).2) := by
  rw [Proc.advance.go]
  split
  · next hf =>
    exact Or.inl ⟨rfl, fun s hs => Nat.lt_of_not_le (of_decide_eq_false (by simpa using List.find?_eq_none.mp hf s hs))⟩
  · next s hf => exact Or.inr ⟨s, List.mem_of_find?_eq_some hf, of_decide_eq_true (List.find?_some hf :), rfl⟩

theorem go_induct {P β : Type} {o : BatchOps P} {flat : P → List β} (hl : BatchLaws o flat) (c : Cfg)
    (hv : c.valid) (target : Nat) (I : List (Shard P) → List (Emit P) → Prop)
    (hstep : ∀ ss acc s, PInv o c ss → I ss acc → s ∈ ss → s.deadline ≤ target →
      I (replaceShard (s.tick o c).1 ss) (acc ++ (s.tick o c).2)) :
    ∀ (fuel : Nat) (ss : List (Shard P)) (acc : List (Emit P)), PInv o c ss → I ss acc →
      PInv o c (Proc.advance.go o c target fuel ss acc).1 ∧
      I (Proc.advance.go o c target fuel ss acc).1 (Proc.advance.go o c target fuel ss acc).2 := by
  intro fuel
  induction fuel with
  | zero => intro ss acc hp hi; exact ⟨hp, hi⟩
  | succ n ih =>
    intro ss acc hp hi
    rcases go_cases o c target n ss acc with ⟨e, _⟩ | ⟨s, hm, hdue, e⟩ <;> rw [e]
    · exact ⟨hp, hi⟩
    · exact ih _ _ (lift_step o c flat ss s _ _ [] hp hm (tick_step hl c hv s (hp.1 s hm)).1).1 (hstep ss acc s hp hi hm hdue)

theorem advance_timer {P : Type} (o : BatchOps P) (c : Cfg) (pr : Proc P) (dt : Nat) (ht : hasTimer c = true) :
    pr.advance o c dt =
      ({ shards := (Proc.advance.go o c (pr.now + dt) ((dt / c.timeout + 2) * (pr.shards.length + 1)) pr.shards []).1,
         now := pr.now + dt },
       (Proc.advance.go o c (pr.now + dt) ((dt / c.timeout + 2) * (pr.shards.length + 1)) pr.shards []).2) := by
  unfold Proc.advance
  exact if_neg (by rw [ht]; exact Bool.false_ne_true)

theorem advance_induct {P β : Type} {o : BatchOps P} {flat : P → List β} (hl : BatchLaws o flat) (c : Cfg)
    (hv : c.valid) (pr : Proc P) (dt : Nat) (I : List (Shard P) → List (Emit P) → Prop)
    (hstep : ∀ ss acc s, PInv o c ss → I ss acc → s ∈ ss → s.deadline ≤ pr.now + dt →
      I (replaceShard (s.tick o c).1 ss) (acc ++ (s.tick o c).2))
    (hp : PInv o c pr.shards) (hi : I pr.shards []) :
    PInv o c (pr.advance o c dt).1.shards ∧ I (pr.advance o c dt).1.shards (pr.advance o c dt).2 := by
  unfold Proc.advance
  split
  · exact ⟨hp, hi⟩
  · exact go_induct hl c hv (pr.now + dt) I hstep _ pr.shards [] hp hi

theorem arrive_forall {P : Type} (o : BatchOps P) (c : Cfg) (pr pr' : Proc P) (key : Key) (p : P) (es : List (Emit P))
    (h : pr.arrive o c key p = some (pr', es)) (Q : Shard P → Prop) (hq : ∀ t ∈ pr.shards, Q t)
    (hfresh : Q { key := key, data := o.empty, cnt := 0, deadline := pr.now + c.timeout }) :
    ∃ s : Shard P, s.key = key ∧ Q s ∧ es = (s.process o c pr.now p).2 ∧
      ∀ t ∈ pr'.shards, t = (s.process o c pr.now p).1 ∨ Q t := by
  obtain ⟨s, ss, hk, hm, hss, _, e1, e2⟩ := arrive_cases o c pr pr' key p es h
  have hall : ∀ t ∈ ss, Q t := by
    rcases hss with rfl | ⟨rfl, rfl, _⟩
    · exact hq
    · exact fun t ht => (List.mem_append.mp ht).elim (hq t) (fun h' => List.mem_singleton.mp h' ▸ hfresh)
  exact ⟨s, hk, hall s hm, e2, fun t ht => (mem_replaceShard _ ss t (e1 ▸ ht)).imp_right (hall t)⟩

theorem arrive_proc {P β : Type} {o : BatchOps P} {flat : P → List β} (hl : BatchLaws o flat) (c : Cfg) (pr pr' : Proc P)
    (key : Key) (p : P) (es : List (Emit P)) (h : pr.arrive o c key p = some (pr', es)) (hp : PInv o c pr.shards) :
    PInv o c pr'.shards ∧ (flatEmits flat es ++ dataFlat flat pr'.shards).Perm (dataFlat flat pr.shards ++ flat p) ∧
    (c.max > 0 → ∀ e ∈ es, o.count e.p ≤ c.max) := by
  obtain ⟨s, ss, _, hm, hss, _, e1, rfl⟩ := arrive_cases o c pr pr' key p es h
  have hp' : PInv o c ss ∧ dataFlat flat ss = dataFlat flat pr.shards := by
    rcases hss with rfl | ⟨rfl, rfl, hnew⟩
    · exact ⟨hp, rfl⟩
    · exact pinv_snoc hl c pr.shards key _ hp hnew
  have st := process_step hl c pr.now s p (hp'.1.1 s hm).1
  have lf := lift_step o c flat ss s _ _ (flat p) hp'.1 hm st
  rw [e1, ← hp'.2]
  exact ⟨lf.1, lf.2, st.bound⟩

theorem advance_proc {P β : Type} {o : BatchOps P} {flat : P → List β} (hl : BatchLaws o flat) (c : Cfg)
    (hv : c.valid) (pr : Proc P) (dt : Nat) (hp : PInv o c pr.shards) :
    PInv o c (pr.advance o c dt).1.shards ∧
    (flatEmits flat (pr.advance o c dt).2 ++ dataFlat flat (pr.advance o c dt).1.shards).Perm (dataFlat flat pr.shards) ∧
    (c.max > 0 → ∀ e ∈ (pr.advance o c dt).2, o.count e.p ≤ c.max) := by
  refine advance_induct hl c hv pr dt (fun ss acc => (flatEmits flat acc ++ dataFlat flat ss).Perm (dataFlat flat pr.shards) ∧
    (c.max > 0 → ∀ e ∈ acc, o.count e.p ≤ c.max)) ?_ hp ⟨List.Perm.refl _, fun _ e he => nomatch he⟩
  intro ss acc s hp' hi hm _
  have st := (tick_step hl c hv s (hp'.1 s hm)).1
  have lf := (lift_step o c flat ss s _ _ [] hp' hm st).2
  rw [List.append_nil] at lf
  refine ⟨?_, fun hmx e he => (List.mem_append.mp he).elim (hi.2 hmx e) (st.bound hmx e)⟩
  rw [flatEmits_append, List.append_assoc]
  exact (List.Perm.append_left _ lf).trans hi.1

theorem mem_shutdown {P : Type} {o : BatchOps P} {c : Cfg} {pr : Proc P} {e : Emit P} (h : e ∈ (pr.shutdown o c).2) :
    ∃ s ∈ pr.shards, e ∈ (s.shutdown o c pr.now).2 := by
  obtain ⟨_, hr, he⟩ := List.mem_flatMap.mp h
  obtain ⟨s, hs, rfl⟩ := List.mem_map.mp hr
  exact ⟨s, hs, he⟩

theorem shutdown_proc {P β : Type} {o : BatchOps P} {flat : P → List β} (hl : BatchLaws o flat) (c : Cfg)
    (hv : c.valid) (pr : Proc P) (hp : PInv o c pr.shards) :
    (flatEmits flat (pr.shutdown o c).2).Perm (dataFlat flat pr.shards) ∧
    (c.max > 0 → ∀ e ∈ (pr.shutdown o c).2, o.count e.p ≤ c.max) := by
  refine ⟨?_, fun hm e he => ?_⟩
  · have : ∀ shards : List (Shard P), (∀ s ∈ shards, s.inv o c) →
        (flatEmits flat ((shards.map (fun s => s.shutdown o c pr.now)).flatMap (·.2))).Perm (dataFlat flat shards) := by
      intro shards
      induction shards with
      | nil => intro _; exact List.Perm.refl _
      | cons a l ih =>
        intro h
        rw [List.map_cons, List.flatMap_cons, flatEmits_append]
        exact List.Perm.append (shutdown_spec hl c hv pr.now a (h a (List.mem_cons_self ..))).1
          (ih fun s hs => h s (List.mem_cons_of_mem _ hs))
    exact this pr.shards hp.1
  · obtain ⟨s, hs, he'⟩ := mem_shutdown he
    exact (shutdown_spec hl c hv pr.now s (hp.1 s hs)).2.1 hm e he'

theorem init_forall {P : Type} (o : BatchOps P) (c : Cfg) (Q : Shard P → Prop)
    (h : Q { key := [], data := o.empty, cnt := 0, deadline := c.timeout }) : ∀ s ∈ (Proc.init o c).shards, Q s := by
  unfold Proc.init
  intro s hs
  split at hs
  · exact List.mem_singleton.mp hs ▸ h
  · exact nomatch hs

theorem pinv_init {P β : Type} {o : BatchOps P} {flat : P → List β} (hl : BatchLaws o flat) (c : Cfg) :
    PInv o c (Proc.init o c).shards ∧ dataFlat flat (Proc.init o c).shards = [] := by
  refine ⟨⟨init_forall o c _ (inv_empty hl c _ _), ?_⟩, ?_⟩ <;> unfold Proc.init <;> split
  · exact List.nodup_cons.mpr ⟨List.not_mem_nil, List.nodup_nil⟩
  · exact List.nodup_nil
  · simp only [dataFlat, List.flatMap_cons, List.flatMap_nil, hl.empty, List.append_nil]
  · rfl

/-- everything pending in a shard arrived with that shard's group -/
def KInv {P β : Type} (flat : P → List β) (akey : β → Key) (shards : List (Shard P)) : Prop :=
  ∀ s ∈ shards, ∀ x ∈ flat s.data, akey x = s.key

theorem step_isolated {P β : Type} {o : BatchOps P} {c : Cfg} {flat : P → List β} (akey : β → Key) {s s' : Shard P}
    {es : List (Emit P)} {extra : List β} (st : ShardStep o c flat s s' es extra)
    (hold : ∀ x ∈ flat s.data, akey x = s.key) (hex : ∀ x ∈ extra, akey x = s.key) :
    (∀ x ∈ flat s'.data, akey x = s'.key) ∧ (∀ e ∈ es, ∀ x ∈ flat e.p, akey x = e.key) := by
  have hall : ∀ x ∈ flatEmits flat es ++ flat s'.data, akey x = s.key := fun x hx => (st.mem hx).elim (hold x) (hex x)
  exact ⟨fun x hx => st.key ▸ hall x (List.mem_append.mpr (Or.inr hx)),
    fun e he x hx => st.ekey e he ▸ hall x (List.mem_append.mpr (Or.inl (mem_flatEmits he hx)))⟩

theorem arrive_isolated {P β : Type} {o : BatchOps P} {flat : P → List β} (hl : BatchLaws o flat) (c : Cfg) (akey : β → Key)
    (pr pr' : Proc P) (key : Key) (p : P) (es : List (Emit P)) (h : pr.arrive o c key p = some (pr', es))
    (hp : PInv o c pr.shards) (hki : KInv flat akey pr.shards) (htag : ∀ x ∈ flat p, akey x = key) :
    KInv flat akey pr'.shards ∧ ∀ e ∈ es, ∀ x ∈ flat e.p, akey x = e.key := by
  obtain ⟨s, hk, ⟨hok, hK⟩, rfl, hmem⟩ := arrive_forall o c pr pr' key p es h
    (fun t => t.ok o ∧ ∀ x ∈ flat t.data, akey x = t.key) (fun t ht => ⟨(hp.1 t ht).1, hki t ht⟩)
    ⟨ok_empty hl _ _, fun x hx => absurd hx (not_mem_flat_empty hl x)⟩
  have si := step_isolated akey (process_step hl c pr.now s p hok) hK (fun x hx => (htag x hx).trans hk.symm)
  exact ⟨fun t ht => (hmem t ht).elim (fun e => e ▸ si.1) (·.2), si.2⟩

theorem advance_isolated {P β : Type} {o : BatchOps P} {flat : P → List β} (hl : BatchLaws o flat) (c : Cfg)
    (hv : c.valid) (akey : β → Key) (pr : Proc P) (dt : Nat) (hp : PInv o c pr.shards)
    (hki : KInv flat akey pr.shards) :
    KInv flat akey (pr.advance o c dt).1.shards ∧ ∀ e ∈ (pr.advance o c dt).2, ∀ x ∈ flat e.p, akey x = e.key := by
  refine (advance_induct hl c hv pr dt (fun ss acc => KInv flat akey ss ∧ ∀ e ∈ acc, ∀ x ∈ flat e.p, akey x = e.key) ?_ hp
    ⟨hki, fun e he => nomatch he⟩).2
  intro ss acc s hp' hi hm _
  have si := step_isolated akey (tick_step hl c hv s (hp'.1 s hm)).1 (hi.1 s hm) (fun x hx => nomatch hx)
  exact ⟨fun t ht => (mem_replaceShard _ ss t ht).elim (fun e => e ▸ si.1) (hi.1 t),
    fun e he => (List.mem_append.mp he).elim (hi.2 e) (si.2 e)⟩

/-- the armed deadline is within `timeout` of every pending item's arrival and of `hi`, and not before `lo`; between two labels
`lo = hi` = the processor's clock, during a time step `lo` = the old, `hi` = the new -/
structure Timely {P β : Type} (flat : P → List β) (c : Cfg) (arr : β → Nat) (lo hi : Nat) (s : Shard P) : Prop where
  items : ∀ x ∈ flat s.data, s.deadline ≤ arr x + c.timeout
  le_hi : s.deadline ≤ hi + c.timeout
  lo_le : lo ≤ s.deadline

theorem arrive_timed {P β : Type} {o : BatchOps P} {flat : P → List β} (hl : BatchLaws o flat) (hf : Fifo o flat) (c : Cfg)
    (hv : c.valid) (arr : β → Nat) (pr pr' : Proc P) (key : Key) (p : P) (es : List (Emit P))
    (h : pr.arrive o c key p = some (pr', es)) (hp : PInv o c pr.shards) (hti : ∀ s ∈ pr.shards, Timely flat c arr pr.now pr.now s)
    (htag : ∀ x ∈ flat p, arr x = pr.now) :
    (∀ s ∈ pr'.shards, Timely flat c arr pr.now pr.now s) ∧ ∀ e ∈ es, ∀ x ∈ flat e.p, e.t ≤ arr x + c.timeout := by
  obtain ⟨s, _, ⟨hinv, hT⟩, rfl, hmem⟩ := arrive_forall o c pr pr' key p es h
    (fun t => t.inv o c ∧ Timely flat c arr pr.now pr.now t) (fun t ht => ⟨hp.1 t ht, hti t ht⟩)
    ⟨inv_empty hl c _ _, fun x hx => absurd hx (not_mem_flat_empty hl x),
      Nat.le_refl _, Nat.le_add_right _ _⟩
  have pt := process_timed_late o flat hl hf c hv arr pr.now s p hinv hT.items hT.le_hi 0 hT.lo_le htag
  have hd : pr.now ≤ (s.process o c pr.now p).1.deadline :=
    (process_deadline o c pr.now s p).elim (fun e => e ▸ hT.lo_le) (fun e => e ▸ Nat.le_add_right _ _)
  exact ⟨fun t ht => (hmem t ht).elim (fun e => e ▸ ⟨pt.2.1, pt.2.2, hd⟩) (·.2), pt.1⟩

theorem go_timed {P β : Type} {o : BatchOps P} {flat : P → List β} (hl : BatchLaws o flat) (c : Cfg)
    (hv : c.valid) (arr : β → Nat) (now0 target fuel : Nat) (ss : List (Shard P)) (hp : PInv o c ss)
    (h : ∀ s ∈ ss, Timely flat c arr now0 target s) :
    (∀ s ∈ (Proc.advance.go o c target fuel ss []).1, Timely flat c arr now0 target s) ∧
    ∀ e ∈ (Proc.advance.go o c target fuel ss []).2, ∀ x ∈ flat e.p, e.t ≤ arr x + c.timeout := by
  refine (go_induct hl c hv target (fun ss acc =>
    (∀ s ∈ ss, Timely flat c arr now0 target s) ∧ ∀ e ∈ acc, ∀ x ∈ flat e.p, e.t ≤ arr x + c.timeout) ?_ fuel ss [] hp
    ⟨h, fun e he => nomatch he⟩).2
  intro ss acc s hp' hi hm hdue
  obtain ⟨st, h0, hst⟩ := tick_step hl c hv s (hp'.1 s hm)
  have hs := hi.1 s hm
  refine ⟨fun t ht => (mem_replaceShard _ ss t ht).elim (fun e => e ▸ ⟨fun x hx => ?_, ?_, ?_⟩) (hi.1 t),
    fun e he => (List.mem_append.mp he).elim (hi.2 e) (fun he' x hx => ?_)⟩
  · rw [flat_nil_of_cnt o flat hl _ st.inv.1 h0] at hx; exact nomatch hx
  · rw [tick_deadline]; exact Nat.add_le_add_right hdue _
  · rw [tick_deadline]; exact Nat.le_trans hs.lo_le (Nat.le_add_right _ _)
  · rw [hst e he']
    exact (st.mem (List.mem_append.mpr (Or.inl (mem_flatEmits he' hx)))).elim (hs.items x) (fun h' => nomatch h')

end OtelVerif.C17

import OtelVerif.Model.C14Exp
/-! C14: the method table (`TD.Const`: no method reads the receiver; `find`), then the shape classes: plain ⊆ exported-only, plain has
no unexported field; no opaque string ⇒ no leaf printed; `ptrSafe_spec` -/
namespace OtelVerif.C14

/-- every method returns an expression that does not mention the receiver -/
def TD.Const (td : TD) : Prop := ∀ m ∈ td, m.result.usesRecv = false

instance (td : TD) : Decidable td.Const := by unfold TD.Const; infer_instance

theorem eval_const {e : MExpr} (h : e.usesRecv = false) (s₁ s₂ : String) : e.eval s₁ = e.eval s₂ := by
  induction e with
  | recv => simp [MExpr.usesRecv] at h
  | lit c => rfl
  | goQuote e ih => simp only [MExpr.usesRecv] at h; simp only [MExpr.eval, ih h]
  | cat a b iha ihb =>
    simp only [MExpr.usesRecv, Bool.or_eq_false_iff] at h
    simp only [MExpr.eval, iha h.1, ihb h.2]

theorem find_mono {td : TD} {n : String} (h : (td.find n false).isSome = true) : (td.find n true).isSome = true := by
  unfold TD.find at *
  rw [List.find?_isSome] at h ⊢
  obtain ⟨x, hx, hp⟩ := h
  refine ⟨x, hx, ?_⟩
  simp only [Bool.or_false, Bool.and_eq_true] at hp
  simp [hp.1]

theorem find_mem {td : TD} {n : String} {p : Bool} {m : Method} (h : td.find n p = some m) : m ∈ td := by
  unfold TD.find at h
  exact List.mem_of_find?_eq_some h

theorem isOpq_some {v : GV} (h : v.isOpq.isSome = true) : ∃ i, v = .opq i := by
  cases v <;> simp [GV.isOpq] at h ⊢

mutual
theorem plainIn_expIn : ∀ v : GV, v.plainIn = true → v.expIn = true
  | .opq _, _ | .str _, _ | .num _, _ | .nilv, _ | .nilSlice, _ | .nilMap, _ => rfl
  | .ptr v, h => by
    obtain ⟨i, rfl⟩ := isOpq_some h
    rfl
  | .iface v, h => plainIn_expIn v h
  | .slice vs, h | .array vs, h => plainInL_expInL vs h
  | .map kvs, h => by
    simp only [GV.plainIn, Bool.and_eq_true] at h
    simp only [GV.expIn, Bool.and_eq_true]; exact ⟨h.1, plainInKV_expInKV kvs h.2⟩
  | .struct fs, h | .tm _ _ fs, h | .sh _ fs, h => plainInF_expInF fs h
theorem plainInL_expInL : ∀ vs : List GV, GV.plainInL vs = true → GV.expInL vs = true
  | [], _ => rfl
  | v :: vs, h => by
    simp only [GV.plainInL, Bool.and_eq_true] at h
    simp only [GV.expInL, Bool.and_eq_true]; exact ⟨plainIn_expIn v h.1, plainInL_expInL vs h.2⟩
theorem plainInKV_expInKV : ∀ kvs : List (GV × GV), GV.plainInKV kvs = true → GV.expInKV kvs = true
  | [], _ => rfl
  | (k, v) :: kvs, h => by
    simp only [GV.plainInKV, Bool.and_eq_true] at h
    simp only [GV.expInKV, Bool.and_eq_true]; exact ⟨⟨plainIn_expIn k h.1.1, plainIn_expIn v h.1.2⟩, plainInKV_expInKV kvs h.2⟩
theorem plainInF_expInF : ∀ fs : List (FieldInfo × GV), GV.plainInF fs = true → GV.expInF fs = true
  | [], _ => rfl
  | (fi, v) :: fs, h => by
    simp only [GV.plainInF, Bool.and_eq_true] at h
    simp only [GV.expInF, Bool.and_eq_true, Bool.or_eq_true]; exact ⟨Or.inl ⟨h.1.1, plainIn_expIn v h.1.2⟩, plainInF_expInF fs h.2⟩
end
mutual
theorem plainIn_no_unexported : ∀ v : GV, v.plainIn = true → v.hasUnexported = false
  | .opq _, _ | .str _, _ | .num _, _ | .nilv, _ | .nilSlice, _ | .nilMap, _ => rfl
  | .ptr v, h => by
    obtain ⟨i, rfl⟩ := isOpq_some h
    rfl
  | .iface v, h => plainIn_no_unexported v h
  | .slice vs, h | .array vs, h => plainInL_no_unexported vs h
  | .map kvs, h => by
    simp only [GV.plainIn, Bool.and_eq_true] at h; exact plainInKV_no_unexported kvs h.2
  | .struct fs, h | .tm _ _ fs, h | .sh _ fs, h => plainInF_no_unexported fs h
theorem plainInL_no_unexported : ∀ vs : List GV, GV.plainInL vs = true → GV.hasUnexportedL vs = false
  | [], _ => rfl
  | v :: vs, h => by
    simp only [GV.plainInL, Bool.and_eq_true] at h
    simp only [GV.hasUnexportedL, plainIn_no_unexported v h.1, plainInL_no_unexported vs h.2, Bool.or_self]
theorem plainInKV_no_unexported : ∀ kvs : List (GV × GV), GV.plainInKV kvs = true → GV.hasUnexportedKV kvs = false
  | [], _ => rfl
  | (k, v) :: kvs, h => by
    simp only [GV.plainInKV, Bool.and_eq_true] at h
    simp only [GV.hasUnexportedKV, plainIn_no_unexported k h.1.1, plainIn_no_unexported v h.1.2, plainInKV_no_unexported kvs h.2, Bool.or_self]
theorem plainInF_no_unexported : ∀ fs : List (FieldInfo × GV), GV.plainInF fs = true → GV.hasUnexportedF fs = false
  | [], _ => rfl
  | (fi, v) :: fs, h => by
    simp only [GV.plainInF, Bool.and_eq_true] at h
    simp only [GV.hasUnexportedF, h.1.1, plainIn_no_unexported v h.1.2, plainInF_no_unexported fs h.2, Bool.not_true, Bool.or_self]
end

mutual
theorem rawLeaves_nil (ρ : Nat → String) : ∀ (v : GV) (top : Bool), v.noOpq = true → rawLeaves ρ top v = []
  | .opq _, _, h => by cases h
  | .str _, _, _ | .num _, _, _ | .nilv, _, _ | .nilSlice, _, _ | .nilMap, _, _ => rfl
  | .ptr v, top, h => by simp only [rawLeaves, rawLeaves_nil ρ v false h, ite_self]
  | .iface v, _, h => rawLeaves_nil ρ v false h
  | .slice vs, _, h | .array vs, _, h => rawLeavesL_nil ρ vs h
  | .map kvs, _, h => rawLeavesKV_nil ρ kvs h
  | .struct fs, _, h | .tm _ _ fs, _, h | .sh _ fs, _, h => rawLeavesF_nil ρ fs h
theorem rawLeavesL_nil (ρ : Nat → String) : ∀ vs : List GV, GV.noOpqL vs = true → rawLeavesL ρ vs = []
  | [], _ => rfl
  | v :: vs, h => by
    simp only [GV.noOpqL, Bool.and_eq_true] at h
    simp only [rawLeavesL, rawLeaves_nil ρ v false h.1, rawLeavesL_nil ρ vs h.2, List.append_nil]
theorem rawLeavesKV_nil (ρ : Nat → String) : ∀ kvs : List (GV × GV), GV.noOpqKV kvs = true → rawLeavesKV ρ kvs = []
  | [], _ => rfl
  | (k, v) :: kvs, h => by
    simp only [GV.noOpqKV, Bool.and_eq_true] at h
    simp only [rawLeavesKV, rawLeaves_nil ρ k false h.1.1, rawLeaves_nil ρ v false h.1.2, rawLeavesKV_nil ρ kvs h.2, List.append_nil]
theorem rawLeavesF_nil (ρ : Nat → String) : ∀ fs : List (FieldInfo × GV), GV.noOpqF fs = true → rawLeavesF ρ fs = []
  | [], _ => rfl
  | (_, v) :: fs, h => by
    simp only [GV.noOpqF, Bool.and_eq_true] at h
    simp only [rawLeavesF, rawLeaves_nil ρ v false h.1, rawLeavesF_nil ρ fs h.2, List.append_nil]
end

theorem noOpq_isOpq {v : GV} (h : v.noOpq = true) : v.isOpq = none := by
  cases v <;> first | rfl | cases h

mutual
theorem pv_nil (td : TD) (c : FmtCtx) (ρ : Nat → String) : ∀ (v : GV) (top ci : Bool), v.noOpq = true → pv td c ρ top ci v = []
  | .opq _, _, _, h => by cases h
  | .str _, _, _, _ | .num _, _, _, _ | .nilv, _, _, _ | .nilSlice, _, _, _ | .nilMap, _, _, _ => rfl
  | .ptr v, top, ci, h => by
    simp only [pv, noOpq_isOpq (show v.noOpq = true from h), rawLeaves_nil ρ (.ptr v) true h, pv_nil td c ρ v false ci h, ite_self]
  | .iface v, _, ci, h => pv_nil td c ρ v false ci h
  | .slice vs, _, ci, h | .array vs, _, ci, h => by
    simp only [pv, rawLeavesL_nil ρ vs h, pvL_nil td c ρ vs ci h, ite_self]
  | .map kvs, _, ci, h => by simp only [pv, rawLeavesKV_nil ρ kvs h, pvKV_nil td c ρ kvs ci h, ite_self]
  | .struct fs, _, ci, h | .tm _ _ fs, _, ci, h | .sh _ fs, _, ci, h => by
    simp only [pv, rawLeavesF_nil ρ fs h, pvF_nil td c ρ fs ci h, ite_self]
theorem pvL_nil (td : TD) (c : FmtCtx) (ρ : Nat → String) : ∀ (vs : List GV) (ci : Bool), GV.noOpqL vs = true → pvL td c ρ ci vs = []
  | [], _, _ => rfl
  | v :: vs, ci, h => by
    simp only [GV.noOpqL, Bool.and_eq_true] at h
    simp only [pvL, pv_nil td c ρ v false ci h.1, pvL_nil td c ρ vs ci h.2, List.append_nil]
theorem pvKV_nil (td : TD) (c : FmtCtx) (ρ : Nat → String) :
    ∀ (kvs : List (GV × GV)) (ci : Bool), GV.noOpqKV kvs = true → pvKV td c ρ ci kvs = []
  | [], _, _ => rfl
  | (k, v) :: kvs, ci, h => by
    simp only [GV.noOpqKV, Bool.and_eq_true] at h
    simp only [pvKV, pv_nil td c ρ k false ci h.1.1, pv_nil td c ρ v false ci h.1.2, pvKV_nil td c ρ kvs ci h.2, List.append_nil]
theorem pvF_nil (td : TD) (c : FmtCtx) (ρ : Nat → String) :
    ∀ (fs : List (FieldInfo × GV)) (ci : Bool), GV.noOpqF fs = true → pvF td c ρ ci fs = []
  | [], _, _ => rfl
  | (fi, v) :: fs, ci, h => by
    simp only [GV.noOpqF, Bool.and_eq_true] at h
    simp only [pvF, pv_nil td c ρ v false (ci && fi.exported) h.1, pvF_nil td c ρ fs ci h.2, List.append_nil]
end

theorem pvL_noOpq (td : TD) (c : FmtCtx) (ρ₁ ρ₂ : Nat → String) :
    ∀ (vs : List GV) (ci : Bool), GV.noOpqL vs = true → pvL td c ρ₁ ci vs = pvL td c ρ₂ ci vs :=
  fun vs ci h => by rw [pvL_nil td c ρ₁ vs ci h, pvL_nil td c ρ₂ vs ci h]
theorem pvKV_noOpq (td : TD) (c : FmtCtx) (ρ₁ ρ₂ : Nat → String) :
    ∀ (kvs : List (GV × GV)) (ci : Bool), GV.noOpqKV kvs = true → pvKV td c ρ₁ ci kvs = pvKV td c ρ₂ ci kvs :=
  fun kvs ci h => by rw [pvKV_nil td c ρ₁ kvs ci h, pvKV_nil td c ρ₂ kvs ci h]
theorem pvF_noOpq (td : TD) (c : FmtCtx) (ρ₁ ρ₂ : Nat → String) :
    ∀ (fs : List (FieldInfo × GV)) (ci : Bool), GV.noOpqF fs = true → pvF td c ρ₁ ci fs = pvF td c ρ₂ ci fs :=
  fun fs ci h => by rw [pvF_nil td c ρ₁ fs ci h, pvF_nil td c ρ₂ fs ci h]

theorem ptrSafe_spec : ∀ x ∈ ptrSafeVerbs, pointerVerbs.contains x = true ∧ (x == 'w') = false ∧ (x == 'p') = false := by
  decide

end OtelVerif.C14

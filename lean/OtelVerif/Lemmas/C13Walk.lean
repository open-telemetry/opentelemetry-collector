import OtelVerif.Model.C13Walk
/-! # C13 — lemmas about the validation walk: `validate` reports exactly the failing nodes; the regenerated clause table is `validate` -/
namespace OtelVerif.C13
open OtelVerif.Gen

theorem mem_pre {seg : String} {l : List (Path × Nat)} {p : Path} {n : Nat} :
    (p, n) ∈ pre seg l ↔ ∃ q, p = seg :: q ∧ (q, n) ∈ l := by
  unfold pre
  simp only [List.mem_map, Prod.mk.injEq]
  constructor
  · rintro ⟨⟨q, m⟩, hm, rfl, rfl⟩; exact ⟨q, rfl, hm⟩
  · rintro ⟨q, rfl, hm⟩; exact ⟨(q, n), hm, rfl, rfl⟩

theorem mem_own {e : Option Nat} {p : Path} {n : Nat} : (p, n) ∈ own e ↔ p = [] ∧ e = some n := by
  cases e with
  | none => simp [own]
  | some m => simp [own, eq_comm]

/-- functional induction of `validate`: cases 1–6 the tree, 7–8 fields (4th conjunct), 9–10 elements (3rd), 11–12 map entries (2nd) -/
theorem validate_iff_all :
    (∀ (t : VT) (p : Path) (n : Nat), (p, n) ∈ validate t ↔ Fails t p n) ∧
    (∀ (kvs : List (String × VT × VT)) (p : Path) (n : Nat),
      (p, n) ∈ validateKV kvs ↔ ∃ k kv v q, (k, kv, v) ∈ kvs ∧ p = k :: q ∧ (Fails kv q n ∨ Fails v q n)) ∧
    (∀ (i : Nat) (vs : List VT) (p : Path) (n : Nat),
      (p, n) ∈ validateL i vs ↔ ∃ (j : Nat) (v : VT) (q : Path), vs[j]? = some v ∧ p = toString (i + j) :: q ∧ Fails v q n) ∧
    (∀ (fs : List (String × Bool × VT)) (p : Path) (n : Nat),
      (p, n) ∈ validateF fs ↔ ∃ name v q, (name, true, v) ∈ fs ∧ p = name :: q ∧ Fails v q n) := by
  apply validate.mutual_induct
  case case1 =>
    intro e p n
    simp only [validate, mem_own]
    constructor
    · rintro ⟨rfl, rfl⟩; exact .leaf
    · intro h; cases h; exact ⟨rfl, rfl⟩
  case case2 =>
    intro p n
    simp only [validate, List.not_mem_nil, false_iff]
    intro h; cases h
  case case3 =>
    intro v ih p n
    simp only [validate, ih p n]
    constructor
    · exact .ptr
    · intro h; cases h; assumption
  case case4 =>
    intro e fs ih p n
    simp only [validate, List.mem_append, mem_own, ih p n]
    constructor
    · rintro (⟨rfl, rfl⟩ | ⟨name, v, q, hm, rfl, hf⟩)
      · exact .structOwn
      · exact .structField hm hf
    · intro h
      cases h with
      | structOwn => exact .inl ⟨rfl, rfl⟩
      | structField hm hf => exact .inr ⟨_, _, _, hm, rfl, hf⟩
  case case5 =>
    intro e vs ih p n
    simp only [validate, List.mem_append, mem_own, ih p n]
    constructor
    · rintro (⟨rfl, rfl⟩ | ⟨j, v, q, hm, rfl, hf⟩)
      · exact .seqOwn
      · rw [Nat.zero_add]; exact .seqElem hm hf
    · intro h
      cases h with
      | seqOwn => exact .inl ⟨rfl, rfl⟩
      | seqElem hm hf => exact .inr ⟨_, _, _, hm, by rw [Nat.zero_add], hf⟩
  case case6 =>
    intro e kvs ih p n
    simp only [validate, List.mem_append, mem_own, ih p n]
    constructor
    · rintro (⟨rfl, rfl⟩ | ⟨k, kv, v, q, hm, rfl, hf | hf⟩)
      · exact .mapOwn
      · exact .mapKey hm hf
      · exact .mapVal hm hf
    · intro h
      cases h with
      | mapOwn => exact .inl ⟨rfl, rfl⟩
      | mapKey hm hf => exact .inr ⟨_, _, _, _, hm, rfl, .inl hf⟩
      | mapVal hm hf => exact .inr ⟨_, _, _, _, hm, rfl, .inr hf⟩
  case case7 => intro p n; simp [validateF]
  case case8 =>
    intro name exported v fs ihv ih p n
    simp only [validateF, List.mem_append, ih p n]
    constructor
    · rintro (h | ⟨nm, w, q, hm, rfl, hf⟩)
      · cases exported with
        | false => simp at h
        | true =>
          simp only [if_true, mem_pre] at h
          obtain ⟨q, rfl, hq⟩ := h
          exact ⟨name, v, q, List.mem_cons_self .., rfl, (ihv q n).mp hq⟩
      · exact ⟨nm, w, q, List.mem_cons_of_mem _ hm, rfl, hf⟩
    · rintro ⟨nm, w, q, hm, rfl, hf⟩
      cases hm with
      | head => exact .inl (by simp only [if_true, mem_pre]; exact ⟨q, rfl, (ihv q n).mpr hf⟩)
      | tail _ hm' => exact .inr ⟨nm, w, q, hm', rfl, hf⟩
  case case9 => intro i p n; simp [validateL]
  case case10 =>
    intro i v vs ihv ih p n
    simp only [validateL, List.mem_append, mem_pre, ih p n]
    have hidx : ∀ j, i + 1 + j = i + (j + 1) := fun j => by rw [Nat.add_assoc, Nat.add_comm 1 j]
    constructor
    · rintro (⟨q, rfl, hq⟩ | ⟨j, w, q, hm, rfl, hf⟩)
      · exact ⟨0, v, q, rfl, rfl, (ihv q n).mp hq⟩
      · exact ⟨j + 1, w, q, List.getElem?_cons_succ.trans hm, by rw [hidx], hf⟩
    · rintro ⟨j, w, q, hm, rfl, hf⟩
      cases j with
      | zero =>
        cases Option.some.inj (List.getElem?_cons_zero.symm.trans hm)
        exact .inl ⟨q, rfl, (ihv q n).mpr hf⟩
      | succ j => exact .inr ⟨j, w, q, List.getElem?_cons_succ.symm.trans hm, by rw [hidx], hf⟩
  case case11 => intro p n; simp [validateKV]
  case case12 =>
    intro k kv v kvs ihk ihv ih p n
    simp only [validateKV, List.mem_append, mem_pre, ih p n]
    constructor
    · rintro ((⟨q, rfl, hq⟩ | ⟨q, rfl, hq⟩) | ⟨k', kv', v', q, hm, rfl, hf⟩)
      · exact ⟨k, kv, v, q, List.mem_cons_self .., rfl, .inl ((ihk q n).mp hq)⟩
      · exact ⟨k, kv, v, q, List.mem_cons_self .., rfl, .inr ((ihv q n).mp hq)⟩
      · exact ⟨k', kv', v', q, List.mem_cons_of_mem _ hm, rfl, hf⟩
    · rintro ⟨k', kv', v', q, hm, rfl, hf⟩
      cases hm with
      | head =>
        rcases hf with hf | hf
        · exact .inl (.inl ⟨q, rfl, (ihk q n).mpr hf⟩)
        · exact .inl (.inr ⟨q, rfl, (ihv q n).mpr hf⟩)
      | tail _ hm' => exact .inr ⟨k', kv', v', q, hm', rfl, hf⟩

theorem validateL_iff : ∀ (vs : List VT) (i : Nat) (p : Path) (n : Nat),
    (p, n) ∈ validateL i vs ↔ ∃ (j : Nat) (v : VT) (q : Path), vs[j]? = some v ∧ p = toString (i + j) :: q ∧ Fails v q n :=
  fun vs i => validate_iff_all.2.2.1 i vs

theorem validateKV_iff : ∀ (kvs : List (String × VT × VT)) (p : Path) (n : Nat),
    (p, n) ∈ validateKV kvs ↔ ∃ k kv v q, (k, kv, v) ∈ kvs ∧ p = k :: q ∧ (Fails kv q n ∨ Fails v q n) :=
  validate_iff_all.2.1

theorem case_string : caseOf ValidateWalk.cases "String" = ⟨["default"], true, .none⟩ := by decide +kernel
theorem case_ptr : caseOf ValidateWalk.cases "Ptr" = ⟨["Ptr", "Interface"], false, .elem⟩ := by decide +kernel
theorem case_struct : caseOf ValidateWalk.cases "Struct" = ⟨["Struct"], true, .fields true⟩ := by decide +kernel
theorem case_slice : caseOf ValidateWalk.cases "Slice" = ⟨["Slice", "Array"], true, .elems⟩ := by decide +kernel
theorem case_map : caseOf ValidateWalk.cases "Map" = ⟨["Map"], true, .keysVals true⟩ := by decide +kernel

theorem walkG_eq_all :
    (∀ t : VT, walkG ValidateWalk.cases t = validate t) ∧
    (∀ kvs : List (String × VT × VT), walkGKV ValidateWalk.cases true kvs = validateKV kvs) ∧
    (∀ (i : Nat) (vs : List VT), walkGL ValidateWalk.cases i vs = validateL i vs) ∧
    (∀ fs : List (String × Bool × VT), walkGF ValidateWalk.cases true fs = validateF fs) := by
  apply validate.mutual_induct
  case case1 => intro e; simp only [walkG, case_string, validate, if_true]
  case case2 => rfl
  case case3 => intro v ih; simp only [walkG, case_ptr, validate]; exact ih
  case case4 => intro e fs ih; simp only [walkG, case_struct, validate, if_true, ih]
  case case5 => intro e vs ih; simp only [walkG, case_slice, validate, if_true, ih]
  case case6 => intro e kvs ih; simp only [walkG, case_map, validate, if_true, ih]
  case case7 => rfl
  case case8 => intro name exported v fs ihv ih; simp only [walkGF, validateF, ihv, ih, Bool.not_true, Bool.or_false]
  case case9 => intro i; rfl
  case case10 => intro i v vs ihv ih; simp only [walkGL, validateL, ihv, ih]
  case case11 => rfl
  case case12 => intro k kv v kvs ihk ihv ih; simp only [walkGKV, validateKV, ihk, ihv, ih, if_true, List.append_assoc]

theorem walkGF_eq : ∀ fs : List (String × Bool × VT), walkGF ValidateWalk.cases true fs = validateF fs := walkG_eq_all.2.2.2

theorem walkGL_eq : ∀ (i : Nat) (vs : List VT), walkGL ValidateWalk.cases i vs = validateL i vs := walkG_eq_all.2.2.1

theorem walkGKV_eq : ∀ kvs : List (String × VT × VT), walkGKV ValidateWalk.cases true kvs = validateKV kvs := walkG_eq_all.2.1
end OtelVerif.C13

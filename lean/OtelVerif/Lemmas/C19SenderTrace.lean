import OtelVerif.Model.C19SenderTrace
import OtelVerif.Lemmas.C19Sender
/-! # C19: the sums over the sender events of a recorded trace; `predict` field by field -/
namespace OtelVerif.C19

theorem sums_finals (l : List (Nat × Bool)) :
    sentSum (l.map (fun p => Sender.Ev.flightEnd p.1 p.2)) = ((l.filter (fun p => !p.2)).map (·.1)).sum ∧
    failedSum (l.map (fun p => Sender.Ev.flightEnd p.1 p.2)) = ((l.filter (fun p => p.2)).map (·.1)).sum ∧
    enqSum (l.map (fun p => Sender.Ev.flightEnd p.1 p.2)) = 0 := by
  simp only [sentSum, failedSum, enqSum]
  induction l with
  | nil => simp [sumBy]
  | cons p ps ih =>
    obtain ⟨n, f⟩ := p
    obtain ⟨i1, i2, i3⟩ := ih
    cases f <;> simp [sumBy, sentInc, failedInc, enqInc, i1, i2, i3]

theorem sums_offers (t : List XEv) :
    sentSum (offersOf t) = 0 ∧ failedSum (offersOf t) = 0 ∧
    enqSum (offersOf t) = (t.map (fun e => match e with | .rej is => is.length | _ => 0)).sum := by
  simp only [sentSum, failedSum, enqSum, offersOf]
  induction t with
  | nil => simp [sumBy]
  | cons e es ih =>
    obtain ⟨i1, i2, i3⟩ := ih
    cases e <;> simp [sumBy, sentInc, failedInc, enqInc, i1, i2, i3]

theorem predict_sent (t : List XEv) : (predict t).sent = (((finalsOf t).filter (fun p => !p.2)).map (·.1)).sum := rfl
theorem predict_failed (t : List XEv) : (predict t).failed = (((finalsOf t).filter (fun p => p.2)).map (·.1)).sum := rfl
theorem predict_enq (t : List XEv) : (predict t).enqFailed = (t.map (fun e => match e with | .rej is => is.length | _ => 0)).sum := rfl

end OtelVerif.C19

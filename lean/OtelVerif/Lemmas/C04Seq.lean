import OtelVerif.Lemmas.C04Walk
/-!
Order-preserving conservation through one `RemoveIf` pass: the passes of C04 stop right after the child they cut, or cut
children that hold nothing.  `Seq R` is what the argument uses of equality of flattenings; its instances are `Eq`, `List.Perm`
(C17's sends) and `Each F` (metrics, whose split-off fragments lose the metric identity in /repo).
-/
namespace OtelVerif.Payload

structure Seq {β : Type} (R : List β → List β → Prop) : Prop where
  refl : ∀ l, R l l
  trans : ∀ {a b c}, R a b → R b c → R a c
  append : ∀ {a a' b b'}, R a a' → R b b' → R (a ++ b) (a' ++ b')
  nil_right : ∀ {l}, R l [] → l = []

theorem Seq.eq {β : Type} : Seq (@Eq (List β)) :=
  ⟨fun _ => rfl, Eq.trans, fun h₁ h₂ => h₁ ▸ h₂ ▸ rfl, id⟩

theorem Seq.perm {β : Type} : Seq (@List.Perm β) :=
  ⟨List.Perm.refl, List.Perm.trans, List.Perm.append, List.Perm.eq_nil⟩

theorem Seq.of_eq {β : Type} {R : List β → List β → Prop} (m : Seq R) {a b : List β} (h : a = b) : R a b := h ▸ m.refl a

inductive Each {β : Type} (F : β → β → Prop) : List β → List β → Prop
  | nil : Each F [] []
  | cons {a b : β} {l l' : List β} : F a b → Each F l l' → Each F (a :: l) (b :: l')

namespace Each
variable {β : Type} {F : β → β → Prop}

theorem refl (hF : ∀ a, F a a) : ∀ l : List β, Each F l l
  | [] => .nil
  | a :: l => .cons (hF a) (refl hF l)

theorem trans (hT : ∀ a b c, F a b → F b c → F a c) {l₁ l₂ l₃ : List β} (h₁ : Each F l₁ l₂) (h₂ : Each F l₂ l₃) :
    Each F l₁ l₃ := by
  induction h₁ generalizing l₃ with
  | nil => exact h₂
  | cons hab _ ih =>
    cases h₂ with
    | cons hbc h₂ => exact .cons (hT _ _ _ hab hbc) (ih h₂)

theorem append {a a' b b' : List β} (h₁ : Each F a a') (h₂ : Each F b b') : Each F (a ++ b) (a' ++ b') := by
  induction h₁ with
  | nil => exact h₂
  | cons hab _ ih => exact .cons hab ih

theorem seq (hF : ∀ a, F a a) (hT : ∀ a b c, F a b → F b c → F a c) : Seq (Each F) :=
  ⟨refl hF, trans hT, append, fun h => by cases h; rfl⟩

theorem map_eq {γ : Type} (g : β → γ) (hg : ∀ a b, F a b → g a = g b) {l l' : List β} (h : Each F l l') :
    l.map g = l'.map g := by
  induction h with
  | nil => rfl
  | cons hab _ ih => rw [List.map_cons, List.map_cons, hg _ _ hab, ih]

theorem mem {l l' : List β} (h : Each F l l') : ∀ c ∈ l, ∃ c' ∈ l', F c c' := by
  induction h with
  | nil => intro c hc; cases hc
  | cons hab _ ih =>
    intro c hc
    rcases List.mem_cons.mp hc with rfl | hc
    · exact ⟨_, List.mem_cons_self, hab⟩
    · obtain ⟨c', hc', hF'⟩ := ih c hc
      exact ⟨c', List.mem_cons_of_mem _ hc', hF'⟩

theorem map₂ {ι : Type} (g h : ι → β) (l : List ι) (hgh : ∀ a, F (g a) (h a)) : Each F (l.map g) (l.map h) := by
  induction l with
  | nil => exact .nil
  | cons a l ih => exact .cons (hgh a) ih

end Each

/-- a pass whose cuts either stop it or concern a child without items splits the flattening into prefix and suffix -/
theorem walk_seq {α σ β : Type} {R : List β → List β → Prop} (m : Seq R) (stop : σ → Bool) (fits : σ → α → Option σ)
    (cut : σ → α → Option α × Option α × σ) (f : α → List β)
    (hcut : ∀ s c, R (oflat f (cut s c).1 ++ oflat f (cut s c).2.1) (f c) ∧ (stop (cut s c).2.2 = true ∨ f c = [])) :
    ∀ (s : σ) (l : List α),
      R ((walk stop fits cut s l).dest.flatMap f ++ (walk stop fits cut s l).rem.flatMap f) (l.flatMap f) := by
  intro s l
  induction l generalizing s with
  | nil => exact m.refl _
  | cons c cs ih =>
    by_cases hs : stop s = true
    · rw [walk_stopped stop fits cut s hs]; exact m.refl _
    · have hs' : stop s = false := by simpa using hs
      cases hf : fits s c with
      | some s1 =>
        rw [walk_fits stop fits cut s s1 c cs hs' hf]
        simp only [List.flatMap_cons, List.append_assoc]
        exact m.append (m.refl _) (ih s1)
      | none =>
        have hc := hcut s c
        have e1 : (cut s c).1.toList.flatMap f = oflat f (cut s c).1 := rfl
        have e2 : (cut s c).2.1.toList.flatMap f = oflat f (cut s c).2.1 := rfl
        rw [walk_cuts stop fits cut s c cs hs' hf]
        simp only [List.flatMap_append, List.flatMap_cons, e1, e2]
        rcases hc.2 with h | h
        · rw [walk_stopped stop fits cut _ h]
          simp only [List.flatMap_nil, List.append_nil, ← List.append_assoc]
          exact m.append hc.1 (m.refl _)
        · have h12 := hc.1
          rw [h] at h12
          have hnil := List.append_eq_nil_iff.mp (m.nil_right h12)
          rw [hnil.1, hnil.2, h]
          exact ih _

end OtelVerif.Payload

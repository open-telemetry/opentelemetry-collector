import OtelVerif.Model.C17Key
import OtelVerif.Lemmas.C17Proc
/-!
C17: the label sequences the theorems of `Props/C17` quantify over (one shard: `Shard.run`, `Shard.lrun`; the whole processor:
`Proc.runOps`), their schedule predicates, and the inductions over them; fuel sufficiency of `advance` (`need`, `go_complete`);
the lemmas about `Model/C17Key` (`attrOf_injective`, `runRules_validate`).
-/
namespace OtelVerif.C17
open OtelVerif.Payload

/-- what the loop does between two `select`s -/
inductive Label (P : Type) where
  | arrive (now : Nat) (p : P)
  | tick

def Shard.step {P : Type} (o : BatchOps P) (c : Cfg) (s : Shard P) : Label P → Shard P × List (Emit P)
  | .arrive now p => s.process o c now p
  | .tick => s.tick o c

def Shard.run {P : Type} (o : BatchOps P) (c : Cfg) : Shard P → List (Label P) → Shard P × List (Emit P)
  | s, [] => (s, [])
  | s, l :: ls =>
    let r := s.step o c l
    let r' := Shard.run o c r.1 ls
    (r'.1, r.2 ++ r'.2)

def arrivedFlat {P β : Type} (flat : P → List β) : List (Label P) → List β
  | [] => []
  | .arrive _ p :: ls => flat p ++ arrivedFlat flat ls
  | .tick :: ls => arrivedFlat flat ls

theorem run_step {P β : Type} {o : BatchOps P} {flat : P → List β} (hl : BatchLaws o flat) (c : Cfg) (hv : c.valid) :
    ∀ (ls : List (Label P)) (s : Shard P), s.inv o c →
      ShardStep o c flat s (Shard.run o c s ls).1 (Shard.run o c s ls).2 (arrivedFlat flat ls) := by
  intro ls
  induction ls with
  | nil => intro s hi; exact ShardStep.refl hi
  | cons l ls ih =>
    intro s hi
    cases l with
    | arrive now p =>
      have st := process_step hl c now s p hi.1
      exact st.trans (ih _ st.inv)
    | tick =>
      have st := (tick_step hl c hv s hi).1
      exact st.trans (ih _ st.inv)

/-- a history with its clock (`arr x` = the time item `x` arrived, `tEnd` = when shutdown drains the shard): an arrival
never happens before the previous label and — with a timer — never after the pending deadline, a timer firing happens at
its deadline: the shard goroutine takes the `select` case that is due before virtual time moves on.  (Real scheduling and
timer latency are outside; everything else, in particular size-triggered partial sends, is inside.) -/
def WellTimed {P β : Type} (o : BatchOps P) (c : Cfg) (flat : P → List β) (arr : β → Nat) (tEnd : Nat) :
    Nat → Shard P → List (Label P) → Prop
  | T, s, [] => T ≤ tEnd ∧ (hasTimer c = true → tEnd ≤ s.deadline)
  | T, s, .arrive now p :: ls =>
    T ≤ now ∧ (hasTimer c = true → now ≤ s.deadline) ∧ (∀ x ∈ flat p, arr x = now) ∧
      WellTimed o c flat arr tEnd now (s.process o c now p).1 ls
  | T, s, .tick :: ls => hasTimer c = true ∧ T ≤ s.deadline ∧ WellTimed o c flat arr tEnd s.deadline (s.tick o c).1 ls

/-- a label with its own clock: the timer case may be taken late -/
inductive LLabel (P : Type) where
  | arrive (now : Nat) (p : P)
  | tickAt (now : Nat)

/-- `case <-timerCh:` handled at `now ≥ deadline`: `sendItems` stamps the batch with `now`, `resetTimer` re-arms from `now` -/
def Shard.tickAt {P : Type} (o : BatchOps P) (c : Cfg) (now : Nat) (s : Shard P) : Shard P × List (Emit P) :=
  ({ s with deadline := now } : Shard P).tick o c

def Shard.lstep {P : Type} (o : BatchOps P) (c : Cfg) (s : Shard P) : LLabel P → Shard P × List (Emit P)
  | .arrive now p => s.process o c now p
  | .tickAt now => s.tickAt o c now

def Shard.lrun {P : Type} (o : BatchOps P) (c : Cfg) : Shard P → List (LLabel P) → Shard P × List (Emit P)
  | s, [] => (s, [])
  | s, l :: ls =>
    let r := s.lstep o c l
    let r' := Shard.lrun o c r.1 ls
    (r'.1, r.2 ++ r'.2)

/-- the latency hypothesis: clocks are monotone, every arrival carries its arrival time, and nothing is handled more than
`δ` after the pending deadline (with a timer) -/
def LateTimed {P β : Type} (o : BatchOps P) (c : Cfg) (flat : P → List β) (arr : β → Nat) (tEnd δ : Nat) :
    Nat → Shard P → List (LLabel P) → Prop
  | T, s, [] => T ≤ tEnd ∧ (hasTimer c = true → tEnd ≤ s.deadline + δ)
  | T, s, .arrive now p :: ls =>
    T ≤ now ∧ (hasTimer c = true → now ≤ s.deadline + δ) ∧ (∀ x ∈ flat p, arr x = now) ∧
      LateTimed o c flat arr tEnd δ now (s.process o c now p).1 ls
  | T, s, .tickAt now :: ls =>
    hasTimer c = true ∧ T ≤ now ∧ s.deadline ≤ now ∧ now ≤ s.deadline + δ ∧
      LateTimed o c flat arr tEnd δ now (s.tickAt o c now).1 ls

theorem pending_le {P β : Type} {o : BatchOps P} {flat : P → List β} (hl : BatchLaws o flat) (c : Cfg) (arr : β → Nat) (δ T t : Nat)
    (s : Shard P) (hi : s.inv o c)
    (hti : hasTimer c = true → (∀ x ∈ flat s.data, s.deadline ≤ arr x + c.timeout) ∧ s.deadline ≤ T + c.timeout)
    (ht : hasTimer c = true → t ≤ s.deadline + δ) (x : β) (hx : x ∈ flat s.data) : t ≤ arr x + c.timeout + δ := by
  rcases idle_cases hi.2 with h0 | ⟨h, _⟩
  · rw [flat_nil_of_cnt o flat hl s hi.1 h0] at hx; exact nomatch hx
  · exact Nat.le_trans (ht h) (Nat.add_le_add_right ((hti h).1 x hx) _)

theorem timeout_run_late {P β : Type} (o : BatchOps P) (flat : P → List β) (hl : BatchLaws o flat) (hf : Fifo o flat) (c : Cfg)
    (hv : c.valid) (arr : β → Nat) (tEnd δ : Nat) :
    ∀ (ls : List (LLabel P)) (s : Shard P) (T : Nat), s.inv o c →
      (hasTimer c = true → (∀ x ∈ flat s.data, s.deadline ≤ arr x + c.timeout) ∧ s.deadline ≤ T + c.timeout) →
      LateTimed o c flat arr tEnd δ T s ls →
      ∀ e ∈ (Shard.lrun o c s ls).2 ++ ((Shard.lrun o c s ls).1.shutdown o c tEnd).2, ∀ x ∈ flat e.p,
        e.t ≤ arr x + c.timeout + δ := by
  intro ls
  induction ls with
  | nil =>
    intro s T hi hti hw e he x hx
    obtain ⟨hp, _, hk⟩ := shutdown_spec hl c hv tEnd s hi
    rw [(hk e he).2]
    exact pending_le hl c arr δ T tEnd s hi hti hw.2 x (hp.subset (mem_flatEmits he hx))
  | cons l ls ih =>
    intro s T hi hti hw e he x hx
    cases l with
    | arrive now p =>
      obtain ⟨hT, hnow, hnew, hrest⟩ := hw
      have st := process_step hl c now s p hi.1
      have hpt : hasTimer c = true → _ :=
        fun ht => process_timed_late o flat hl hf c hv arr now s p hi (hti ht).1
          (Nat.le_trans (hti ht).2 (Nat.add_le_add_right hT _)) δ (hnow ht) hnew
      have he' : e ∈ (s.process o c now p).2 ++ (Shard.lrun o c (s.process o c now p).1 ls).2 ++
          ((Shard.lrun o c (s.process o c now p).1 ls).1.shutdown o c tEnd).2 := he
      rw [List.append_assoc] at he'
      rcases List.mem_append.mp he' with h | h
      · by_cases ht : hasTimer c = true
        · exact (hpt ht).1 e h x hx
        · -- no timer: sent at once, at its arrival time
          rw [(process_stamp o c now s p e h).2]
          rcases st.mem (List.mem_append.mpr (Or.inl (mem_flatEmits h hx))) with h' | h'
          · exact pending_le hl c arr δ T now s hi hti (fun h'' => absurd h'' ht) x h'
          · rw [hnew x h', Nat.add_assoc]; exact Nat.le_add_right _ _
      · exact ih _ now st.inv (fun ht => (hpt ht).2) hrest e h x hx
    | tickAt now =>
      obtain ⟨ht, hT, hge, hle, hrest⟩ := hw
      obtain ⟨st, h0, hst⟩ := tick_step hl c hv ({ s with deadline := now } : Shard P) hi
      have he' : e ∈ (s.tickAt o c now).2 ++ (Shard.lrun o c (s.tickAt o c now).1 ls).2 ++
          ((Shard.lrun o c (s.tickAt o c now).1 ls).1.shutdown o c tEnd).2 := he
      rw [List.append_assoc] at he'
      rcases List.mem_append.mp he' with h | h
      · rw [hst e h]
        rcases st.mem (List.mem_append.mpr (Or.inl (mem_flatEmits h hx))) with h' | h'
        · exact pending_le hl c arr δ T now s hi hti (fun _ => hle) x h'
        · exact nomatch h'
      · refine ih _ now st.inv (fun _ => ⟨fun y hy => ?_, ?_⟩) hrest e h x hx
        · rw [flat_nil_of_cnt o flat hl _ st.inv.1 h0] at hy; exact nomatch hy
        · exact Nat.le_of_eq (tick_deadline o c _)

/-- a firing exactly at its deadline, as a late label -/
def toLate {P : Type} (o : BatchOps P) (c : Cfg) : Shard P → List (Label P) → List (LLabel P)
  | _, [] => []
  | s, .arrive now p :: ls => .arrive now p :: toLate o c (s.process o c now p).1 ls
  | s, .tick :: ls => .tickAt s.deadline :: toLate o c (s.tick o c).1 ls

theorem lrun_toLate {P : Type} (o : BatchOps P) (c : Cfg) :
    ∀ (ls : List (Label P)) (s : Shard P), Shard.lrun o c s (toLate o c s ls) = Shard.run o c s ls := by
  intro ls
  induction ls with
  | nil => intro s; rfl
  | cons l ls ih =>
    intro s
    cases l with
    | arrive now p => simp only [toLate, Shard.lrun, Shard.run, Shard.lstep, Shard.step, ih]
    | tick =>
      have e : s.tickAt o c s.deadline = s.tick o c := rfl
      simp only [toLate, Shard.lrun, Shard.run, Shard.lstep, Shard.step, e, ih]

theorem lateTimed_toLate {P β : Type} (o : BatchOps P) (c : Cfg) (flat : P → List β) (arr : β → Nat) (tEnd : Nat) :
    ∀ (ls : List (Label P)) (s : Shard P) (T : Nat), WellTimed o c flat arr tEnd T s ls →
      LateTimed o c flat arr tEnd 0 T s (toLate o c s ls) := by
  intro ls
  induction ls with
  | nil => intro s T hw; exact hw
  | cons l ls ih =>
    intro s T hw
    cases l with
    | arrive now p => exact ⟨hw.1, hw.2.1, hw.2.2.1, ih _ _ hw.2.2.2⟩
    | tick => exact ⟨hw.1, hw.2.1, Nat.le_refl _, Nat.le_refl _, ih _ _ hw.2.2⟩

/-- an operation on the processor: a `Consume` call with its client-metadata group, or virtual time passing (every timer
that comes due fires) -/
inductive POp (P : Type) where
  | arrive (key : Key) (p : P)
  | advance (dt : Nat)

/-- final processor, everything emitted, and the flattening of everything that was ACCEPTED (a refused arrival is not) -/
def Proc.runOps {P β : Type} (o : BatchOps P) (c : Cfg) (flat : P → List β) : Proc P → List (POp P) → Proc P × List (Emit P) × List β
  | pr, [] => (pr, [], [])
  | pr, .arrive key p :: ops =>
    match pr.arrive o c key p with
    | some (pr', es) =>
      let r := Proc.runOps o c flat pr' ops
      (r.1, es ++ r.2.1, flat p ++ r.2.2)
    | none => Proc.runOps o c flat pr ops
  | pr, .advance dt :: ops =>
    let a := pr.advance o c dt
    let r := Proc.runOps o c flat a.1 ops
    (r.1, a.2 ++ r.2.1, r.2.2)

theorem runOps_spec {P β : Type} {o : BatchOps P} {flat : P → List β} (hl : BatchLaws o flat) (c : Cfg) (hv : c.valid) :
    ∀ (ops : List (POp P)) (pr : Proc P), PInv o c pr.shards →
      PInv o c (Proc.runOps o c flat pr ops).1.shards ∧
      (flatEmits flat (Proc.runOps o c flat pr ops).2.1 ++ dataFlat flat (Proc.runOps o c flat pr ops).1.shards).Perm
        (dataFlat flat pr.shards ++ (Proc.runOps o c flat pr ops).2.2) ∧
      (c.max > 0 → ∀ e ∈ (Proc.runOps o c flat pr ops).2.1, o.count e.p ≤ c.max) := by
  intro ops
  induction ops with
  | nil => intro pr hp; exact ⟨hp, (List.append_nil _).symm ▸ List.Perm.refl _, fun _ e he => nomatch he⟩
  | cons op ops ih =>
    intro pr hp
    cases op with
    | arrive key p =>
      simp only [Proc.runOps]
      cases ha : pr.arrive o c key p with
      | none => exact ih pr hp
      | some x =>
        obtain ⟨pr', es⟩ := x
        obtain ⟨hp', a, ab⟩ := arrive_proc hl c pr pr' key p es ha hp
        obtain ⟨rp, r, rb⟩ := ih pr' hp'
        refine ⟨rp, ?_, fun hm e he => (List.mem_append.mp he).elim (ab hm e) (rb hm e)⟩
        rw [flatEmits_append, List.append_assoc, ← List.append_assoc (dataFlat flat pr.shards)]
        exact (List.Perm.append_left _ r).trans (by rw [← List.append_assoc]; exact List.Perm.append_right _ a)
    | advance dt =>
      simp only [Proc.runOps]
      obtain ⟨hp', a, ab⟩ := advance_proc hl c hv pr dt hp
      obtain ⟨rp, r, rb⟩ := ih _ hp'
      refine ⟨rp, ?_, fun hm e he => (List.mem_append.mp he).elim (ab hm e) (rb hm e)⟩
      rw [flatEmits_append, List.append_assoc]
      exact (List.Perm.append_left _ r).trans (by rw [← List.append_assoc]; exact List.Perm.append_right _ a)

/-- `akey x` = the metadata group item `x` arrived with: every `Consume` call's items carry that call's group -/
def OpsTagged {P β : Type} (flat : P → List β) (akey : β → Key) : List (POp P) → Prop
  | [] => True
  | .arrive key p :: ops => (∀ x ∈ flat p, akey x = key) ∧ OpsTagged flat akey ops
  | .advance _ :: ops => OpsTagged flat akey ops

theorem runOps_isolated {P β : Type} {o : BatchOps P} {flat : P → List β} (hl : BatchLaws o flat) (c : Cfg) (hv : c.valid)
    (akey : β → Key) :
    ∀ (ops : List (POp P)) (pr : Proc P), PInv o c pr.shards → KInv flat akey pr.shards → OpsTagged flat akey ops →
      PInv o c (Proc.runOps o c flat pr ops).1.shards ∧ KInv flat akey (Proc.runOps o c flat pr ops).1.shards ∧
      ∀ e ∈ (Proc.runOps o c flat pr ops).2.1, ∀ x ∈ flat e.p, akey x = e.key := by
  intro ops
  induction ops with
  | nil => intro pr hp hk _; exact ⟨hp, hk, fun e he => nomatch he⟩
  | cons op ops ih =>
    intro pr hp hk ht
    cases op with
    | arrive key p =>
      simp only [Proc.runOps]
      cases ha : pr.arrive o c key p with
      | none => exact ih pr hp hk ht.2
      | some x =>
        obtain ⟨pr', es⟩ := x
        obtain ⟨hk', ai⟩ := arrive_isolated hl c akey pr pr' key p es ha hp hk ht.1
        obtain ⟨rp, rk, r⟩ := ih pr' (arrive_proc hl c pr pr' key p es ha hp).1 hk' ht.2
        exact ⟨rp, rk, fun e he => (List.mem_append.mp he).elim (ai e) (r e)⟩
    | advance dt =>
      simp only [Proc.runOps]
      obtain ⟨hk', ai⟩ := advance_isolated hl c hv akey pr dt hp hk
      obtain ⟨rp, rk, r⟩ := ih _ (advance_proc hl c hv pr dt hp).1 hk' ht
      exact ⟨rp, rk, fun e he => (List.mem_append.mp he).elim (ai e) (r e)⟩

/-- firings a shard still owes before virtual time `target` -/
def need {P : Type} (c : Cfg) (target : Nat) (s : Shard P) : Nat :=
  if s.deadline ≤ target then (target - s.deadline) / c.timeout + 1 else 0

theorem need_of_due {P : Type} {c : Cfg} {target : Nat} {s : Shard P} (h : s.deadline ≤ target) :
    need c target s = (target - s.deadline) / c.timeout + 1 := if_pos h

theorem need_of_not_due {P : Type} {c : Cfg} {target : Nat} {s : Shard P} (h : ¬ s.deadline ≤ target) : need c target s = 0 :=
  if_neg h

theorem need_tick {P : Type} (o : BatchOps P) (c : Cfg) (hT : 0 < c.timeout) (target : Nat) (s : Shard P)
    (h : s.deadline ≤ target) : need c target (s.tick o c).1 + 1 = need c target s := by
  rw [need_of_due h]
  by_cases h2 : s.deadline + c.timeout ≤ target
  · have e : target - s.deadline = target - (s.deadline + c.timeout) + c.timeout := by
      rw [Nat.sub_add_eq, Nat.sub_add_cancel (Nat.le_sub_of_add_le' h2)]
    rw [need_of_due (by rw [tick_deadline]; exact h2), tick_deadline, e, Nat.add_div_right _ hT]
  · rw [need_of_not_due (by rw [tick_deadline]; exact h2), Nat.div_eq_of_lt (Nat.sub_lt_left_of_lt_add h (Nat.lt_of_not_le h2))]

theorem need_le_fuel {P : Type} (c : Cfg) (now dt : Nat) :
    ∀ (l : List (Shard P)), (∀ s ∈ l, now ≤ s.deadline) → sumBy (need c (now + dt)) l ≤ (dt / c.timeout + 2) * l.length := by
  intro l
  induction l with
  | nil => intro _; exact Nat.zero_le _
  | cons a l ih =>
    intro hall
    have h1 := ih fun s hs => hall s (List.mem_cons_of_mem _ hs)
    have h2 : need c (now + dt) a ≤ dt / c.timeout + 2 := by
      have ha := hall a (List.mem_cons_self ..)
      by_cases hd : a.deadline ≤ now + dt
      · have : (now + dt - a.deadline) / c.timeout ≤ dt / c.timeout := Nat.div_le_div_right (by omega)
        rw [need_of_due hd]
        omega
      · rw [need_of_not_due hd]; exact Nat.zero_le _
    rw [sumBy_cons, List.length_cons, Nat.mul_succ]
    omega

/-- the timer loop of `advance` runs to completion: afterwards no timer is due before `target` -/
theorem go_complete {P β : Type} (o : BatchOps P) (flat : P → List β) (hl : BatchLaws o flat) (c : Cfg) (hv : c.valid)
    (hT : 0 < c.timeout) (target : Nat) :
    ∀ (fuel : Nat) (ss : List (Shard P)) (acc : List (Emit P)), PInv o c ss → sumBy (need c target) ss ≤ fuel →
      ∀ s ∈ (Proc.advance.go o c target fuel ss acc).1, target < s.deadline := by
  intro fuel
  induction fuel with
  | zero =>
    intro ss acc _ hmu s hs
    have h0 : ∀ (l : List (Shard P)), sumBy (need c target) l = 0 → ∀ t ∈ l, need c target t = 0 := by
      intro l
      induction l with
      | nil => intro _ t ht; exact nomatch ht
      | cons a l ih =>
        intro h t ht
        rw [sumBy_cons] at h
        rcases List.mem_cons.mp ht with rfl | h'
        · exact Nat.eq_zero_of_add_eq_zero_right h
        · exact ih (Nat.eq_zero_of_add_eq_zero_left h) t h'
    have := h0 ss (Nat.eq_zero_of_le_zero hmu) s hs
    exact Nat.lt_of_not_le fun hd => Nat.succ_ne_zero _ ((need_of_due hd).symm.trans this)
  | succ n ih =>
    intro ss acc hp hmu s hs
    rcases go_cases o c target n ss acc with ⟨e, hnone⟩ | ⟨t, hm, hdue, e⟩ <;> rw [e] at hs
    · exact hnone s hs
    · have st := (tick_step hl c hv t (hp.1 t hm)).1
      have hsum := sum_replace (need c target) (t.tick o c).1 ss t hm st.key hp.2
      have hn := need_tick o c hT target t hdue
      exact ih _ _ (lift_step o c flat ss t _ _ [] hp hm st).1 (by omega) s hs

/-- arrival stamps are the processor's clock at the `Consume` call -/
def ArrTagged {P β : Type} (o : BatchOps P) (c : Cfg) (flat : P → List β) (arr : β → Nat) : Proc P → List (POp P) → Prop
  | _, [] => True
  | pr, .arrive key p :: ops =>
    (∀ x ∈ flat p, arr x = pr.now) ∧
      (match pr.arrive o c key p with
       | some (pr', _) => ArrTagged o c flat arr pr' ops
       | none => ArrTagged o c flat arr pr ops)
  | pr, .advance dt :: ops => ArrTagged o c flat arr (pr.advance o c dt).1 ops

theorem advance_timed {P β : Type} {o : BatchOps P} {flat : P → List β} (hl : BatchLaws o flat) (c : Cfg) (hv : c.valid)
    (ht : hasTimer c = true) (arr : β → Nat) (pr : Proc P) (dt : Nat) (hp : PInv o c pr.shards)
    (hti : ∀ s ∈ pr.shards, Timely flat c arr pr.now pr.now s) :
    (∀ s ∈ (pr.advance o c dt).1.shards, Timely flat c arr (pr.advance o c dt).1.now (pr.advance o c dt).1.now s) ∧
    ∀ e ∈ (pr.advance o c dt).2, ∀ x ∈ flat e.p, e.t ≤ arr x + c.timeout := by
  have hT : 0 < c.timeout := by
    simp only [hasTimer, Bool.and_eq_true, bne_iff_ne] at ht; exact Nat.pos_of_ne_zero ht.1
  have hmu : sumBy (need c (pr.now + dt)) pr.shards ≤ (dt / c.timeout + 2) * (pr.shards.length + 1) :=
    Nat.le_trans (need_le_fuel c pr.now dt pr.shards fun s hs => (hti s hs).lo_le) (Nat.mul_le_mul_left _ (Nat.le_succ _))
  have hc := go_complete o flat hl c hv hT (pr.now + dt) _ pr.shards [] hp hmu
  obtain ⟨hg, hge⟩ := go_timed hl c hv arr pr.now (pr.now + dt) ((dt / c.timeout + 2) * (pr.shards.length + 1)) pr.shards hp
    fun s hs => ⟨(hti s hs).items, Nat.le_trans (hti s hs).le_hi (Nat.add_le_add_right (Nat.le_add_right _ _) _), (hti s hs).lo_le⟩
  rw [advance_timer o c pr dt ht]
  exact ⟨fun s hs => ⟨(hg s hs).items, (hg s hs).le_hi, Nat.le_of_lt (hc s hs)⟩, hge⟩

theorem runOps_timed {P β : Type} {o : BatchOps P} {flat : P → List β} (hl : BatchLaws o flat) (hf : Fifo o flat) (c : Cfg)
    (hv : c.valid) (ht : hasTimer c = true) (arr : β → Nat) :
    ∀ (ops : List (POp P)) (pr : Proc P), PInv o c pr.shards → (∀ s ∈ pr.shards, Timely flat c arr pr.now pr.now s) →
      ArrTagged o c flat arr pr ops →
      PInv o c (Proc.runOps o c flat pr ops).1.shards ∧
      (∀ s ∈ (Proc.runOps o c flat pr ops).1.shards, Timely flat c arr (Proc.runOps o c flat pr ops).1.now (Proc.runOps o c flat pr ops).1.now s) ∧
      ∀ e ∈ (Proc.runOps o c flat pr ops).2.1, ∀ x ∈ flat e.p, e.t ≤ arr x + c.timeout := by
  intro ops
  induction ops with
  | nil => intro pr hp hti _; exact ⟨hp, hti, fun e he => nomatch he⟩
  | cons op ops ih =>
    intro pr hp hti htag
    cases op with
    | arrive key p =>
      simp only [ArrTagged] at htag
      simp only [Proc.runOps]
      cases ha : pr.arrive o c key p with
      | none => rw [ha] at htag; exact ih pr hp hti htag.2
      | some x =>
        obtain ⟨pr', es⟩ := x
        rw [ha] at htag
        obtain ⟨hti', at'⟩ := arrive_timed hl hf c hv arr pr pr' key p es ha hp hti htag.1
        obtain ⟨_, _, _, _, _, hn, _, _⟩ := arrive_cases o c pr pr' key p es ha
        rw [← hn] at hti'
        obtain ⟨rp, rt, r⟩ := ih pr' (arrive_proc hl c pr pr' key p es ha hp).1 hti' htag.2
        exact ⟨rp, rt, fun e he => (List.mem_append.mp he).elim (at' e) (r e)⟩
    | advance dt =>
      simp only [Proc.runOps]
      obtain ⟨hti', ad⟩ := advance_timed hl c hv ht arr pr dt hp hti
      obtain ⟨rp, rt, r⟩ := ih _ (advance_proc hl c hv pr dt hp).1 hti' htag
      exact ⟨rp, rt, fun e he => (List.mem_append.mp he).elim (ad e) (r e)⟩

/-! ## `Model/C17Key` -/

/-- the value list an attribute was made from -/
def AttrVal.vals : AttrVal → List Nat
  | .str v => [v]
  | .slice vs => vs

theorem vals_attrOf : ∀ a : List Nat, (attrOf a).vals = a
  | [] => rfl
  | [_] => rfl
  | _ :: _ :: _ => rfl

theorem attrOf_injective (a b : List Nat) (h : attrOf a = attrOf b) : a = b := by
  rw [← vals_attrOf a, h, vals_attrOf]

theorem env_sbs (r : RawCfg) : r.env "SendBatchSize" = r.sbs := by simp [RawCfg.env]
theorem env_max (r : RawCfg) : r.env "SendBatchMaxSize" = r.max := by simp [RawCfg.env]
theorem env_timeout (r : RawCfg) : r.env "Timeout" = r.timeout := by simp [RawCfg.env]

theorem runRules_validate (r : RawCfg) :
    OtelVerif.C04.Config.runRules r.env OtelVerif.Gen.C17Config.validateRules =
      (!(decide (r.max > 0) && decide (r.max < r.sbs)) && decide (r.timeout ≥ 0)) := by
  have e1 : decide ((r.max : Int) > 0) = decide (r.max > 0) := decide_eq_decide.mpr Int.natCast_pos
  have e2 : decide ((r.max : Int) < r.sbs) = decide (r.max < r.sbs) := decide_eq_decide.mpr Int.ofNat_lt
  have e3 : decide (r.timeout < 0) = !decide (r.timeout ≥ 0) := by
    rw [← decide_not]; exact decide_eq_decide.mpr Int.not_le.symm
  simp only [OtelVerif.Gen.C17Config.validateRules, OtelVerif.C04.Config.runRules, OtelVerif.C04.Config.VCond.eval,
    OtelVerif.C04.Config.VExpr.eval, OtelVerif.C04.Config.VOp.eval, env_sbs, env_max, env_timeout, e1, e2, e3]
  cases decide (r.max > 0) && decide (r.max < r.sbs) <;> cases decide (r.timeout ≥ 0) <;> rfl

end OtelVerif.C17

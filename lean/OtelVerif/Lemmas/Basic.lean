/-!
# Facts about core `List`, `Option` and `if` with users in at least two properties; nothing here mentions a model

Runs: the `Option`-valued transition systems each define their own `run`, most by the same two equations; `run_induction` and
`run_append` take those equations as hypotheses (`rfl`, or `by simp only [run]; cases fire s l <;> rfl`).
-/
namespace OtelVerif

/-! ### runs of a partial step function -/
section Run
variable {σ ι : Type} {f : σ → ι → Option σ} {run : σ → List ι → Option σ}

theorem run_induction (hnil : ∀ s, run s [] = some s) (hcons : ∀ s l ls, run s (l :: ls) = (f s l).bind (fun s' => run s' ls))
    {I : σ → Prop} {ok : ι → Prop} (hstep : ∀ s l s', I s → ok l → f s l = some s' → I s') :
    ∀ (ls : List ι) (s s' : σ), I s → (∀ l ∈ ls, ok l) → run s ls = some s' → I s' := by
  intro ls
  induction ls with
  | nil => intro s s' h0 _ hr; rw [hnil] at hr; exact Option.some.inj hr ▸ h0
  | cons l ls ih =>
    intro s s' h0 hok hr
    rw [hcons] at hr
    cases hf : f s l with
    | none => rw [hf] at hr; cases hr
    | some s1 =>
      rw [hf] at hr
      exact ih s1 s' (hstep s l s1 h0 (hok l (List.mem_cons_self ..)) hf) (fun l' hl' => hok l' (List.mem_cons_of_mem _ hl')) hr

theorem run_append (hnil : ∀ s, run s [] = some s) (hcons : ∀ s l ls, run s (l :: ls) = (f s l).bind (fun s' => run s' ls))
    (s : σ) (a b : List ι) : run s (a ++ b) = (run s a).bind (fun s' => run s' b) := by
  induction a generalizing s with
  | nil => rw [List.nil_append, hnil]; rfl
  | cons l ls ih =>
    rw [List.cons_append, hcons, hcons]
    cases f s l with
    | none => rfl
    | some s' => exact ih s'
end Run

/-! ### lists with distinct keys; association lists -/
theorem eq_of_nodup_map {α γ : Type} {f : α → γ} {l : List α} (hnd : (l.map f).Nodup) {a b : α} (ha : a ∈ l) (hb : b ∈ l)
    (h : f a = f b) : a = b := by
  induction l with
  | nil => cases ha
  | cons x xs ih =>
    obtain ⟨hx, hxs⟩ := List.nodup_cons.mp hnd
    rcases List.mem_cons.mp ha with rfl | ha' <;> rcases List.mem_cons.mp hb with rfl | hb'
    · rfl
    · exact absurd (h ▸ List.mem_map_of_mem hb') hx
    · exact absurd (h ▸ List.mem_map_of_mem ha') hx
    · exact ih hxs ha' hb'

section AList
variable {α β : Type} [BEq α] [LawfulBEq α]

theorem mem_of_lookup {l : List (α × β)} {k : α} {v : β} (h : l.lookup k = some v) : (k, v) ∈ l := by
  obtain ⟨l₁, l₂, rfl, _⟩ := List.lookup_eq_some_iff.mp h; simp

theorem lookup_filter_ne (l : List (α × β)) {k q : α} (h : k ≠ q) : (l.filter (fun x => x.1 != q)).lookup k = l.lookup k := by
  induction l with
  | nil => rfl
  | cons a t ih =>
    rw [List.filter_cons]
    split
    · rw [List.lookup_cons, List.lookup_cons, ih]
    · next ha =>
      have hk : (k == a.1) = false := by
        have : a.1 = q := by simpa using ha
        rw [this]; exact beq_false_of_ne h
      rw [List.lookup_cons, hk, ih]

end AList

/-! ### replacing one element of a list -/
theorem set_split {α : Type} {l : List α} {i : Nat} {a : α} (b : α) (h : l[i]? = some a) :
    ∃ s t, l = s ++ a :: t ∧ l.set i b = s ++ b :: t := by
  obtain ⟨hi, rfl⟩ := List.getElem?_eq_some_iff.mp h
  refine ⟨l.take i, l.drop (i + 1), ?_, List.set_eq_take_append_cons_drop.trans (if_pos hi)⟩
  rw [List.getElem_cons_drop, List.take_append_drop]

theorem getElem?_set_cases {α : Type} {l : List α} {f g : Nat} {v a : α} (h : (l.set f v)[g]? = some a) :
    (g = f ∧ a = v) ∨ (g ≠ f ∧ l[g]? = some a) := by
  rw [List.getElem?_set] at h
  by_cases hfg : f = g
  · subst hfg
    by_cases hlt : f < l.length
    · simp [hlt] at h; exact .inl ⟨rfl, h.symm⟩
    · simp [hlt] at h
  · simp [hfg] at h; exact .inr ⟨fun e => hfg e.symm, h⟩

/-! ### conditionals -/
theorem ite_eq_nil {α : Type} {b : Prop} [Decidable b] {a : α} {l : List α} : (if b then [a] else l) = [] ↔ ¬ b ∧ l = [] := by
  split <;> simp [*]

theorem ite_sing_nil {α : Type} {p : Prop} [Decidable p] {x : α} : (if p then [x] else []) = [] ↔ ¬p :=
  ite_eq_nil.trans (and_iff_left rfl)

/-- two conditionals on one condition are related when their branches are -/
theorem ite_rel {α β : Type} {p : Prop} [Decidable p] (R : α → β → Prop) {a a' : α} {b b' : β} (h : R a b) (h' : R a' b') :
    R (if p then a else a') (if p then b else b') := by
  split <;> assumption

end OtelVerif

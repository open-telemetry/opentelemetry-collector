import OtelVerif.Model.C07Map
import OtelVerif.Lemmas.C07
/-! helper lemmas for the `pcommon.Map` heap model (C07 part B): separation invariant `M.Inv` on the bytes
wrappers reachable from live slots (`bids`, `vid`), the hypothesis `M.WfOp`, the specification of each operation (the copy loop through
`copyV`) and of programs (`run_spec`), the frame of the specification (`pstep_frame`) -/
namespace OtelVerif.C07.M

/-- the bytes wrapper a slot points to -/
def bid : KV → Option Nat
  | ⟨_, .bytes i⟩ => some i
  | _ => none

def bids (l : List KV) : List Nat := l.filterMap bid

@[simp] theorem bids_nil : bids [] = [] := rfl
@[simp] theorem bids_cons_bytes (k i : Nat) (l : List KV) : bids (⟨k, .bytes i⟩ :: l) = i :: bids l := rfl
@[simp] theorem bids_cons_nil (k : Nat) (l : List KV) : bids (⟨k, .nil⟩ :: l) = bids l := rfl
@[simp] theorem bids_cons_scalar (k a b : Nat) (l : List KV) : bids (⟨k, .scalar a b⟩ :: l) = bids l := rfl
theorem bids_append (l₁ l₂ : List KV) : bids (l₁ ++ l₂) = bids l₁ ++ bids l₂ := by simp [bids]
theorem bids_replicate_zero (n : Nat) : bids (List.replicate n KV.zero) = [] := by
  induction n with
  | zero => rfl
  | succ n ih => rw [List.replicate_succ]; exact ih
theorem bids_sublist {l₁ l₂ : List KV} (h : l₁.Sublist l₂) : (bids l₁).Sublist (bids l₂) := h.filterMap bid

theorem mem_bids_of_getElem? {l : List KV} {i k id : Nat} (h : l[i]? = some ⟨k, .bytes id⟩) : id ∈ bids l := by
  have := List.mem_of_getElem? h
  simp only [bids, List.mem_filterMap]
  exact ⟨_, this, rfl⟩

theorem absKV_congr (w w' : Nat → List Nat) (kv : KV) (h : ∀ i, bid kv = some i → w' i = w i) : absKV w' kv = absKV w kv := by
  obtain ⟨k, v⟩ := kv
  cases v with
  | nil => rfl
  | scalar a b => rfl
  | bytes i => simp [absKV, absV, h i rfl]

theorem map_absKV_congr (w w' : Nat → List Nat) (l : List KV) (h : ∀ i ∈ bids l, w' i = w i) :
    l.map (absKV w') = l.map (absKV w) := by
  apply List.map_congr_left
  intro kv hkv
  apply absKV_congr
  intro i hi
  exact h i (by simp only [bids, List.mem_filterMap]; exact ⟨kv, hkv, hi⟩)

theorem find_map (w : Nat → List Nat) (l : List KV) (k : Nat) : pfind (l.map (absKV w)) k = find l k := by
  simp only [pfind, find]
  induction l with
  | nil => rfl
  | cons x xs ih => simp [List.findIdx?_cons, absKV, ih]

theorem map_absKV_upd (w : Nat → List Nat) (l : List KV) (i k id : Nat) (v : List Nat) (hn : (bids l).Nodup)
    (hi : l[i]? = some ⟨k, .bytes id⟩) :
    l.map (absKV (upd w id v)) = (l.map (absKV w)).set i (k, .bytes v) := by
  induction l generalizing i with
  | nil => simp at hi
  | cons x xs ih =>
    cases i with
    | zero =>
      -- slot 0 is the edited one; the ids of the other slots differ from `id`, so they read the same
      simp at hi; subst hi
      simp only [bids_cons_bytes, List.nodup_cons] at hn
      simp only [List.map_cons, List.set_cons_zero]
      rw [map_absKV_congr w (upd w id v) xs (fun j hj => upd_other _ _ _ _ (fun e => hn.1 (e ▸ hj)))]
      simp [absKV, absV, upd_same]
    | succ j =>
      -- the edited slot is further on: if the head held `id` too, `id` would occur twice among the ids
      simp at hi
      have hmem : id ∈ bids xs := mem_bids_of_getElem? hi
      have hsub : (bids xs).Sublist (bids (x :: xs)) := bids_sublist (List.sublist_cons_self x xs)
      simp only [List.map_cons, List.set_cons_succ]
      rw [ih j (hn.sublist hsub) hi]
      congr 1
      apply absKV_congr
      intro o ho
      apply upd_other
      intro e; subst e
      obtain ⟨xk, xv⟩ := x
      cases xv <;> simp [bid] at ho
      subst ho
      simp only [bids_cons_bytes, List.nodup_cons] at hn
      exact hn.1 hmem

/-- the footprint of one value (its bytes wrapper, if any): `bids` in the list form the `Foot` lemmas need (`bids_cons`) -/
def vid : V → List Nat
  | .bytes i => [i]
  | _ => []

theorem bids_cons (kv : KV) (l : List KV) : bids (kv :: l) = vid kv.val ++ bids l := by
  obtain ⟨k, v⟩ := kv; cases v <;> rfl

theorem vid_nodup (v : V) : (vid v).Nodup := by
  cases v <;> first | exact List.nodup_nil | exact List.nodup_cons.mpr ⟨List.not_mem_nil, List.nodup_nil⟩

theorem bids_split (s t : List KV) (a : KV) : bids (s ++ a :: t) = bids s ++ vid a.val ++ bids t := by
  rw [bids_append, bids_cons, List.append_assoc]

/-- distinct maps reach disjoint bytes wrappers through their live slots; nothing is assumed of the slots beyond `len` -/
structure Inv (s : St) : Prop where
  lt : ∀ a, ∀ o ∈ bids (s.hd a).live, o < s.next
  nodup : ∀ a, (bids (s.hd a).live).Nodup
  disj : ∀ a b, a ≠ b → ∀ o ∈ bids (s.hd a).live, o ∉ bids (s.hd b).live

/-- copy and move are between distinct maps -/
def WfOp : Op → Prop
  | .copyTo a b => a ≠ b
  | .moveTo a b => a ≠ b
  | _ => True

instance (op : Op) : Decidable (WfOp op) := by cases op <;> simp only [WfOp] <;> infer_instance

theorem inv_init : Inv St.init := ⟨by simp [St.init], by simp [St.init], by simp [St.init]⟩

theorem Inv.sep {s : St} (hi : Inv s) : Sep s.next (fun a => bids (s.hd a).live) := ⟨hi.lt, hi.nodup, hi.disj⟩

theorem Inv.of_sep {s : St} {f : Nat → List Nat} (hf : (fun a => bids (s.hd a).live) = f) (h : Sep s.next f) : Inv s := by
  subst hf; exact ⟨h.lt, h.nodup, h.disj⟩

theorem inv_update {s : St} (hi : Inv s) (a : Nat) (l t : List KV) (w' : Nat → List Nat)
    (next' : Nat) (ro' : Nat → Bool) (hnext : s.next ≤ next') (ft : Foot s.next (bids (s.hd a).live) next' (bids l)) :
    Inv { w := w', next := next', hd := upd s.hd a ⟨l, t⟩, ro := ro' } :=
  Inv.of_sep (upd_comp (fun h : Hdr => bids h.live) s.hd a ⟨l, t⟩) (hi.sep.update a hnext ft (hi.sep.own a))

theorem inv_update_sub {s : St} (hi : Inv s) (a : Nat) {l l' : List KV} (t : List KV) (hp : l.Perm l') (hs : l'.Sublist (s.hd a).live) :
    Inv { s with hd := upd s.hd a ⟨l, t⟩ } :=
  have hperm : (bids l).Perm (bids l') := hp.filterMap bid
  inv_update hi a l t s.w s.next s.ro (Nat.le_refl _)
    (Foot.sub (hperm.nodup_iff.mpr ((hi.nodup a).sublist (bids_sublist hs))) (fun _ ho => (bids_sublist hs).subset (hperm.subset ho)) (hi.lt a))

theorem abs_update (s : St) (a : Nat) (h' : Hdr) (w' : Nat → List Nat) (next' : Nat) (v : List Entry)
    (ha : h'.live.map (absKV w') = v)
    (hframe : ∀ c, c ≠ a → ∀ o ∈ bids (s.hd c).live, w' o = s.w o) :
    abs { w := w', next := next', hd := upd s.hd a h', ro := s.ro } = { abs s with val := upd (abs s).val a v } :=
  congrArg (PSt.mk · s.ro) (eq_upd ((congrArg (fun h : Hdr => h.live.map (absKV w')) (upd_same _ _ _)).trans ha)
    (fun c hc => (congrArg (fun h : Hdr => h.live.map (absKV w')) (upd_other _ _ _ _ hc)).trans (map_absKV_congr _ _ _ (hframe c hc))))

theorem abs_update_hd (s : St) (a : Nat) (h' : Hdr) (v : List Entry) (ha : h'.live.map (absKV s.w) = v) :
    abs { s with hd := upd s.hd a h' } = { abs s with val := upd (abs s).val a v } :=
  abs_update s a h' s.w s.next v ha (fun _ _ _ _ => rfl)

theorem absV_congr (w w' : Nat → List Nat) (v : V) (h : ∀ i ∈ vid v, w' i = w i) : absV w' v = absV w v := by
  cases v with
  | bytes i => exact congrArg AV.bytes (h i (List.mem_singleton_self i))
  | _ => rfl

/-- `Value.CopyTo` for one element (the body of the loop `copyElems`) -/
def copyV (w : Nat → List Nat) (next : Nat) : V → V → (Nat → List Nat) × Nat × V
  | .bytes sid, .bytes did => (upd w did (w sid), next, .bytes did)
  | .bytes sid, _ => (upd w next (w sid), next + 1, .bytes next)
  | v, _ => (w, next, v)

theorem copyElems_cons (w : Nat → List Nat) (next : Nat) (s d : KV) (ss ds : List KV) :
    copyElems w next (s :: ss) (d :: ds) =
      ((copyElems (copyV w next s.val d.val).1 (copyV w next s.val d.val).2.1 ss ds).1,
       (copyElems (copyV w next s.val d.val).1 (copyV w next s.val d.val).2.1 ss ds).2.1,
       ⟨s.key, (copyV w next s.val d.val).2.2⟩ :: (copyElems (copyV w next s.val d.val).1 (copyV w next s.val d.val).2.1 ss ds).2.2) := by
  obtain ⟨sk, sv⟩ := s; obtain ⟨dk, dv⟩ := d
  cases sv <;> cases dv <;> rfl

theorem copyV_spec (w : Nat → List Nat) (next : Nat) (sv dv : V) (hd : ∀ i ∈ vid dv, i < next) :
    next ≤ (copyV w next sv dv).2.1 ∧
    (∀ x, x < next → x ∉ vid dv → (copyV w next sv dv).1 x = w x) ∧
    absV (copyV w next sv dv).1 (copyV w next sv dv).2.2 = absV w sv ∧
    Foot next (vid dv) (copyV w next sv dv).2.1 (vid (copyV w next sv dv).2.2) := by
  have plain : ∀ v, vid v = [] → next ≤ next ∧ (∀ x, x < next → x ∉ vid dv → w x = w x) ∧ absV w v = absV w v ∧
      Foot next (vid dv) next (vid v) :=
    fun v hv => ⟨Nat.le_refl _, fun _ _ _ => rfl, rfl, hv ▸ Foot.nil _ _ _⟩
  have fresh : ∀ sid, next ≤ next + 1 ∧ (∀ x, x < next → x ∉ vid dv → upd w next (w sid) x = w x) ∧
      AV.bytes (upd w next (w sid) next) = AV.bytes (w sid) ∧ Foot next (vid dv) (next + 1) [next] :=
    fun sid => ⟨Nat.le_succ _, fun x hx _ => upd_other _ _ _ _ (Nat.ne_of_lt hx), congrArg AV.bytes (upd_same _ _ _),
      Foot.range next 1 _⟩
  cases sv with
  | nil => cases dv <;> exact plain .nil rfl
  | scalar a b => cases dv <;> exact plain (.scalar a b) rfl
  | bytes sid =>
    cases dv with
    | nil => exact fresh sid
    | scalar a b => exact fresh sid
    | bytes did =>
      exact ⟨Nat.le_refl _, fun x _ hx => upd_other _ _ _ _ (fun e => hx (e ▸ List.mem_singleton_self did)),
        congrArg AV.bytes (upd_same _ _ _), Foot.sub (vid_nodup (.bytes did)) (fun _ h => h) hd⟩

theorem copyElems_spec (ss : List KV) : ∀ (w : Nat → List Nat) (next : Nat) (ds : List KV),
    ss.length = ds.length →
    (∀ i ∈ bids ss, i < next) → (∀ i ∈ bids ds, i < next) → (bids ds).Nodup → (∀ i ∈ bids ss, i ∉ bids ds) →
    next ≤ (copyElems w next ss ds).2.1 ∧
    (∀ x, x < next → x ∉ bids ds → (copyElems w next ss ds).1 x = w x) ∧
    (copyElems w next ss ds).2.2.map (absKV (copyElems w next ss ds).1) = ss.map (absKV w) ∧
    Foot next (bids ds) (copyElems w next ss ds).2.1 (bids (copyElems w next ss ds).2.2) := by
  induction ss with
  | nil =>
    intro w next ds _ _ _ _ _
    have : copyElems w next [] ds = (w, next, []) := by cases ds <;> rfl
    rw [this]
    exact ⟨Nat.le_refl _, fun _ _ _ => rfl, rfl, Foot.nil _ _ _⟩
  | cons s ss ih =>
    intro w next ds hlen hs hd hnd hdis
    cases ds with
    | nil => exact nomatch hlen
    | cons d ds =>
      rw [bids_cons] at hs hd hnd hdis
      rw [bids_cons] at hdis
      obtain ⟨hnd1, hnd2, hnd3⟩ := List.nodup_append.mp hnd
      obtain ⟨a1, a2, a3, a4⟩ := copyV_spec w next s.val d.val (fun i hi => hd i (List.mem_append_left _ hi))
      obtain ⟨i1, i2, i3, i4⟩ := ih (copyV w next s.val d.val).1 (copyV w next s.val d.val).2.1 ds (Nat.succ.inj hlen)
        (fun i hi => Nat.lt_of_lt_of_le (hs i (List.mem_append_right _ hi)) a1)
        (fun i hi => Nat.lt_of_lt_of_le (hd i (List.mem_append_right _ hi)) a1) hnd2
        (fun i hi hm => hdis i (List.mem_append_right _ hi) (List.mem_append_right _ hm))
      rw [copyElems_cons]
      generalize copyV w next s.val d.val = r1 at a1 a2 a3 a4 i1 i2 i3 i4
      generalize copyElems r1.1 r1.2.1 ss ds = r at i1 i2 i3 i4
      -- the rest of the loop does not write the first result's wrapper
      have hv1 : ∀ o ∈ vid r1.2.2, o ∉ bids ds :=
        a4.avoid (fun o h1 hm => hnd3 o h1 o hm rfl) (fun o hm => hd o (List.mem_append_right _ hm))
      refine ⟨Nat.le_trans a1 i1, ?_, ?_, ?_⟩
      · intro x hx hxn
        rw [bids_cons, List.mem_append, not_or] at hxn
        exact (i2 x (Nat.lt_of_lt_of_le hx a1) hxn.2).trans (a2 x hx hxn.1)
      · show (s.key, absV r.1 r1.2.2) :: r.2.2.map (absKV r.1) = (s.key, absV w s.val) :: ss.map (absKV w)
        rw [absV_congr r1.1 r.1 r1.2.2 (fun o ho => i2 o (a4.mem o ho).2 (hv1 o ho)), a3, i3,
          map_absKV_congr w r1.1 ss (fun i hi => a2 i (hs i (List.mem_append_right _ hi))
            (fun hm => hdis i (List.mem_append_right _ hi) (List.mem_append_left _ hm)))]
      · rw [bids_cons, bids_cons]
        exact a4.append i4 a1 i1 (fun o h1 h3 => hnd3 o h1 o h3 rfl) (fun o ho => hd o (List.mem_append_right _ ho))

/-- `Put*`: the slot's one-id footprint is replaced (existing key) or a slot is added -/
theorem putVal_foot {n n' : Nat} (h : Hdr) (k : Nat) (x : V) (c : Nat) (hle : n ≤ n') (hn : (bids h.live).Nodup)
    (hlt : ∀ o ∈ bids h.live, o < n) (hx : ∀ o ∈ vid x, n ≤ o ∧ o < n') : Foot n (bids h.live) n' (bids (putVal h k x c).live) := by
  have fx : ∀ G, Foot n G n' (vid x) := fun G => ⟨vid_nodup x, fun o ho => ⟨Or.inr (hx o ho).1, (hx o ho).2⟩⟩
  unfold putVal
  cases hf : find h.live k with
  | some i =>
    obtain ⟨a, ha⟩ : ∃ a, h.live[i]? = some a :=
      ⟨_, List.getElem?_eq_getElem (List.findIdx?_eq_some_iff_getElem.mp hf).1⟩
    obtain ⟨s, t, hL, hset⟩ := set_split ⟨k, x⟩ ha
    show Foot n (bids h.live) n' (bids (h.live.set i ⟨k, x⟩))
    rw [hset, hL, bids_split, bids_split]
    rw [hL, bids_split] at hn hlt
    exact (fx _).segment hle _ _ hn hlt (fun _ h => Or.inl h)
  | none =>
    show Foot n (bids h.live) n' (bids (h.live ++ [⟨k, x⟩]))
    have := (fx []).segment hle (bids h.live) [] (by simpa using hn) (by simpa using hlt) (fun _ h => Or.inl h)
    simpa [bids_append, bids_cons] using this

theorem putVal_abs (h : Hdr) (k : Nat) (x : V) (c : Nat) (w w' : Nat → List Nat)
    (hw : ∀ i ∈ bids h.live, w' i = w i) :
    (putVal h k x c).live.map (absKV w') = pput (h.live.map (absKV w)) k (absV w' x) := by
  have hm := map_absKV_congr w w' h.live hw
  unfold putVal pput
  rw [find_map]
  cases hf : find h.live k with
  | some i => simp only [List.map_set, hm]; rfl
  | none => simp only [List.map_append, hm]; rfl

theorem removeKey_abs (h : Hdr) (k : Nat) (w : Nat → List Nat) :
    (removeKey h k).live.map (absKV w) = premove (h.live.map (absKV w)) k := by
  unfold removeKey premove
  rw [find_map, List.getLast?_map]
  cases hf : find h.live k with
  | none => rfl
  | some i =>
    cases hl : h.live.getLast? with
    | none => rfl
    | some last => simp [List.map_set, List.map_dropLast]

theorem put_spec {s : St} (hi : Inv s) (a k : Nat) (x : V) (c : Nat) (w' : Nat → List Nat) (next' : Nat)
    (hnext : s.next ≤ next') (hw : ∀ i, i < s.next → w' i = s.w i)
    (hx : ∀ o ∈ vid x, s.next ≤ o ∧ o < next') :
    Inv { s with w := w', next := next', hd := upd s.hd a (putVal (s.hd a) k x c) } ∧
    abs { s with w := w', next := next', hd := upd s.hd a (putVal (s.hd a) k x c) } =
      { abs s with val := upd (abs s).val a (pput ((abs s).val a) k (absV w' x)) } := by
  have hold : ∀ d, ∀ o ∈ bids (s.hd d).live, w' o = s.w o := fun d o ho => hw o (hi.lt d o ho)
  exact ⟨inv_update hi a _ _ _ _ _ hnext (putVal_foot _ k x c hnext (hi.nodup a) (hi.lt a) hx),
    abs_update s a _ _ _ _ (putVal_abs _ _ _ _ s.w w' (hold a)) (fun d _ => hold d)⟩

theorem remove_spec {s : St} (hi : Inv s) (a k : Nat) :
    Inv { s with hd := upd s.hd a (removeKey (s.hd a) k) } ∧
    abs { s with hd := upd s.hd a (removeKey (s.hd a) k) } = { abs s with val := upd (abs s).val a (premove ((abs s).val a) k) } := by
  refine ⟨?_, abs_update_hd s a _ _ (removeKey_abs _ _ _)⟩
  unfold removeKey
  cases find (s.hd a).live k with
  | none => exact inv_update_sub hi a _ (.refl _) (.refl _)
  | some i =>
    cases hl : (s.hd a).live.getLast? with
    | none => exact inv_update_sub hi a _ (.refl _) (.refl _)
    | some last =>
      obtain ⟨l', hp, hs⟩ := set_last_perm_sub (s.hd a).live i last hl
      exact inv_update_sub hi a _ hp hs

theorem removeIf_spec {s : St} (hi : Inv s) (a : Nat) (m : List Bool) :
    Inv { s with hd := upd s.hd a (removeIfH (s.hd a) m) } ∧
    abs { s with hd := upd s.hd a (removeIfH (s.hd a) m) } = { abs s with val := upd (abs s).val a (keep ((abs s).val a) m) } :=
  ⟨inv_update_sub hi a _ (.refl _) (keep_sublist _ m), abs_update_hd s a _ _ (map_keep _ _ _)⟩

theorem same_live_spec {s : St} (hi : Inv s) (a : Nat) (t : List KV) :
    Inv { s with hd := upd s.hd a ⟨(s.hd a).live, t⟩ } ∧ abs { s with hd := upd s.hd a ⟨(s.hd a).live, t⟩ } = abs s := by
  refine ⟨inv_update_sub hi a _ (.refl _) (.refl _), ?_⟩
  rw [abs_update_hd s a _ _ rfl]
  exact congrArg (PSt.mk · s.ro) (upd_self (abs s).val a)

theorem clear_spec {s : St} (hi : Inv s) (a : Nat) :
    Inv { s with hd := upd s.hd a {} } ∧ abs { s with hd := upd s.hd a {} } = { abs s with val := upd (abs s).val a [] } :=
  ⟨inv_update_sub hi a [] (.refl _) (List.nil_sublist _), abs_update_hd s a _ _ rfl⟩

theorem copyTo_spec {s : St} (hi : Inv s) (a b : Nat) (hab : a ≠ b) :
    Inv (copyTo s a b) ∧ abs (copyTo s a b) = { abs s with val := upd (abs s).val b ((abs s).val a) } := by
  -- both branches: destination slots = some of b's own live slots followed by zero slots
  have core : ∀ (pre : List KV) (n : Nat) (t : List KV), (s.hd a).live.length = pre.length + n → pre.Sublist (s.hd b).live →
      let r := copyElems s.w s.next (s.hd a).live (pre ++ List.replicate n KV.zero)
      Inv { s with w := r.1, next := r.2.1, hd := upd s.hd b ⟨r.2.2, t⟩ } ∧
      abs { s with w := r.1, next := r.2.1, hd := upd s.hd b ⟨r.2.2, t⟩ } = { abs s with val := upd (abs s).val b ((abs s).val a) } := by
    intro pre n t hlen hpre r
    have hb : bids (pre ++ List.replicate n KV.zero) = bids pre := by rw [bids_append, bids_replicate_zero, List.append_nil]
    have hsub : ∀ o ∈ bids (pre ++ List.replicate n KV.zero), o ∈ bids (s.hd b).live := fun o ho =>
      (bids_sublist hpre).subset (hb ▸ ho)
    obtain ⟨i1, i2, i3, i4⟩ := copyElems_spec (s.hd a).live s.w s.next _ (by simp [hlen]) (hi.lt a)
      (fun o ho => hi.lt b o (hsub o ho)) (hb ▸ (hi.nodup b).sublist (bids_sublist hpre))
      (fun o ho hm => hi.disj a b hab o ho (hsub o hm))
    exact ⟨inv_update hi b _ _ _ _ _ i1 (i4.mono hsub),
      abs_update s b _ _ _ _ i3 (fun c hc o ho => i2 o (hi.lt c o ho) (fun hm => hi.disj c b hc o ho (hsub o hm)))⟩
  simp only [copyTo]
  split
  · next hn => exact core _ _ _ (by simp only [List.length_take, Hdr.cap] at hn ⊢; omega) (List.take_sublist _ _)
  · exact core [] _ [] (Nat.zero_add _).symm (List.nil_sublist _)

theorem moveTo_spec {s : St} (hi : Inv s) (a b : Nat) (hab : a ≠ b) :
    Inv { s with hd := upd (upd s.hd b (s.hd a)) a {} } ∧
    abs { s with hd := upd (upd s.hd b (s.hd a)) a {} } = { abs s with val := upd (upd (abs s).val b ((abs s).val a)) a [] } :=
  ⟨Inv.of_sep (upd_comp₂ (fun h : Hdr => bids h.live) s.hd b a (s.hd a) {})
      (hi.sep.move hab _ (hi.nodup a) (fun _ ho => Or.inl ho)),
    congrArg (PSt.mk · s.ro) (upd_comp₂ (fun h : Hdr => h.live.map (absKV s.w)) s.hd b a (s.hd a) {})⟩

theorem bytes_edit_spec {s : St} (hi : Inv s) (a i k id : Nat) (v : List Nat) (hg : (s.hd a).live[i]? = some ⟨k, .bytes id⟩) :
    abs { s with w := upd s.w id v } = { abs s with val := upd (abs s).val a (((abs s).val a).set i (k, .bytes v)) } := by
  have hmem : id ∈ bids (s.hd a).live := mem_bids_of_getElem? hg
  rw [← upd_self s.hd a]
  refine abs_update s a (s.hd a) _ s.next _ (map_absKV_upd _ _ _ _ _ _ (hi.nodup a) hg) ?_
  exact fun c hc o ho => upd_other _ _ _ _ (fun e => hi.disj a c (fun e' => hc e'.symm) id hmem (e ▸ ho))

theorem step_spec {s : St} (hi : Inv s) (op : Op) (hw : WfOp op) :
    Inv (step s op).1 ∧ abs (step s op).1 = (pstep (abs s) op).1 ∧ (step s op).2 = (pstep (abs s) op).2 := by
  cases op with
  | putScalar a k kind v c =>
    exact guarded (s.ro a) _ _ hi (fun _ =>
      put_spec hi a k (.scalar kind v) c s.w s.next (Nat.le_refl _) (fun _ _ => rfl) (fun _ ho => nomatch ho))
  | putEmpty a k c =>
    exact guarded (s.ro a) _ _ hi (fun _ =>
      put_spec hi a k .nil c s.w s.next (Nat.le_refl _) (fun _ _ => rfl) (fun _ ho => nomatch ho))
  | putBytes a k bs c =>
    refine guarded (s.ro a) _ _ hi (fun _ => ?_)
    have h := put_spec hi a k (.bytes s.next) c (upd s.w s.next bs) (s.next + 1) (Nat.le_succ _)
      (fun i hi' => upd_other _ _ _ _ (Nat.ne_of_lt hi'))
      (fun o ho => List.mem_singleton.mp ho ▸ ⟨Nat.le_refl _, Nat.lt_succ_self _⟩)
    rwa [show absV (upd s.w s.next bs) (.bytes s.next) = .bytes bs from congrArg AV.bytes (upd_same _ _ _)] at h
  | remove a k => exact guarded (s.ro a) _ _ hi (fun _ => remove_spec hi a k)
  | removeIf a m => exact guarded (s.ro a) _ _ hi (fun _ => removeIf_spec hi a m)
  | clear a => exact guarded (s.ro a) _ _ hi (fun _ => clear_spec hi a)
  | copyTo a b => exact guarded (s.ro b) _ _ hi (fun _ => copyTo_spec hi a b hw)
  | moveTo a b => exact guarded (s.ro a || s.ro b) _ _ hi (fun _ => moveTo_spec hi a b hw)
  | markRO a => exact ⟨Inv.of_sep rfl hi.sep, rfl, rfl⟩
  | ensureCap a n =>
    simp only [step, pstep]
    by_cases hn : n ≤ (s.hd a).cap
    · simp only [hn, if_true]; exact guarded (s.ro a) s _ hi (fun _ => ⟨hi, rfl⟩)
    · simp only [hn, if_false]; exact guarded (s.ro a) _ _ hi (fun _ => same_live_spec hi a _)
  | bytesAppend a k x =>
    -- `Get(k)` finds the same slot in model and specification
    have hfm : pfind ((abs s).val a) k = find (s.hd a).live k := find_map _ _ _
    have hget : ∀ i, ((abs s).val a)[i]? = ((s.hd a).live[i]?).map (absKV s.w) := fun i => List.getElem?_map
    have same : ∀ g : Bool, Inv (if g = true then (s, true) else (s, true)).1 ∧
        abs (if g = true then (s, true) else (s, true)).1 = (if g = true then (abs s, true) else (abs s, true)).1 ∧
        (if g = true then (s, true) else (s, true)).2 = (if g = true then (abs s, true) else (abs s, true)).2 :=
      fun g => by cases g <;> exact ⟨hi, rfl, rfl⟩
    simp only [step, pstep, hfm]
    cases find (s.hd a).live k with
    | none => exact same _
    | some i =>
      simp only [hget]
      cases hg : (s.hd a).live[i]? with
      | none => exact same _
      | some kv =>
        obtain ⟨k', v⟩ := kv
        cases v with
        | nil => exact same _
        | scalar p q => exact same _
        | bytes id =>
          exact guarded (s.ro a) _ _ hi (fun _ => ⟨Inv.of_sep rfl hi.sep, bytes_edit_spec hi a i k' id _ hg⟩)

theorem run_spec (prog : List Op) : ∀ (s : St), Inv s → (∀ op ∈ prog, WfOp op) →
    Inv (run s prog) ∧ abs (run s prog) = prun (abs s) prog := by
  induction prog with
  | nil => exact fun s hi _ => ⟨hi, rfl⟩
  | cons op ops ih =>
    intro s hi hw
    obtain ⟨h1, h2, _⟩ := step_spec hi op (hw op List.mem_cons_self)
    obtain ⟨i1, i2⟩ := ih _ h1 (fun o ho => hw o (List.mem_cons_of_mem _ ho))
    exact ⟨i1, i2.trans (congrArg (prun · ops) h2)⟩

theorem pstep_frame (p : PSt) (op : Op) (c : Nat) (hc : c ∉ targets op) : (pstep p op).1.val c = p.val c := by
  cases op with
  | ensureCap a n => exact guarded_same (fun t : PSt => t.val c) _ _ rfl
  | moveTo a b =>
    exact guarded_same (fun t : PSt => t.val c) _ _ ((upd_other _ _ _ _ (not_mem_pair hc).1).trans (upd_other _ _ _ _ (not_mem_pair hc).2))
  | markRO a => rfl
  | bytesAppend a k x =>
    simp only [pstep]
    split
    · rfl
    · split
      · split
        · exact upd_other _ _ _ _ (List.ne_of_not_mem_cons hc)
        · rfl
      · rfl
  | _ => exact guarded_same (fun t : PSt => t.val c) _ _ (upd_other _ _ _ _ (List.ne_of_not_mem_cons hc))

end OtelVerif.C07.M

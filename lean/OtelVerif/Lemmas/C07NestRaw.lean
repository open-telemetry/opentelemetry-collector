import OtelVerif.Model.C07NestRaw
import OtelVerif.Lemmas.C07NestOps
/-!
# C07 part C' lemmas: `FromRaw` with nested raw input builds a value made of NEW wrappers only that reads exactly as the raw input;
then the program level: `Map.FromRaw` / `Slice.FromRaw` as one more operation (`OpR`, `WfOpR`, `stepR_spec`, `WfProgR`), `fromRawRoot`
-/
namespace OtelVerif.C07.N

/-- contract of `Value.FromRaw` (heap level, any heap whatsoever): nothing allocated before is written; at every fuel that covers the
raw input's depth the result fits, its footprint is duplicate-free and consists of NEW wrappers only, and it reads as the raw input -/
structure RawPost (h : Heap) (r : Raw) (res : Heap × V) : Prop where
  next_le : h.next ≤ res.1.next
  frame : ∀ x, x < h.next → res.1.wb x = h.wb x ∧ res.1.wl x = h.wl x
  good : ∀ D, depth r ≤ D → fits D res.1 res.2 ∧ (reachV D res.1 res.2).Nodup ∧
    (∀ o ∈ reachV D res.1 res.2, h.next ≤ o ∧ o < res.1.next) ∧ absV D res.1 res.2 = absRaw r

theorem RawPost.repl {h : Heap} {r : Raw} {res : Heap × V} (p : RawPost h r res) (D : Nat) (hD : depth r ≤ D) :
    Repl D D h .nil res.1 res.2 :=
  ⟨⟨p.next_le, fun x hx _ => p.frame x hx⟩, (p.good D hD).1,
    ⟨(p.good D hD).2.1, fun o ho => ⟨Or.inr ((p.good D hD).2.2.1 o ho).1, ((p.good D hD).2.2.1 o ho).2⟩⟩⟩

theorem RawPost.of {h : Heap} {r : Raw} {res : Heap × V}
    (c : ∀ D, depth r ≤ D → Repl D D h .nil res.1 res.2 ∧ (∀ o ∈ reachV D res.1 res.2, h.next ≤ o) ∧ absV D res.1 res.2 = absRaw r) :
    RawPost h r res :=
  ⟨(c _ (Nat.le_refl _)).1.upd.next_le, fun x hx => (c _ (Nat.le_refl _)).1.upd.frame x hx (by rw [reachV_nil]; exact List.not_mem_nil),
    fun D hD => ⟨(c D hD).1.fit, (c D hD).1.foot.nodup, fun o ho => ⟨(c D hD).2.1 o ho, ((c D hD).1.foot.mem o ho).2⟩, (c D hD).2.2⟩⟩

/-- a value without container: nothing allocated before is written, the result owns at most the one new wrapper `ids` -/
theorem RawPost.flat {h g : Heap} {r : Raw} {v : V} (hn : h.next ≤ g.next) (hf : ∀ x, x < h.next → g.wb x = h.wb x ∧ g.wl x = h.wl x)
    (ids : List Nat) (hv : ∀ D, fits D g v ∧ reachV D g v = ids ∧ absV D g v = absRaw r) (hnd : ids.Nodup)
    (hids : ∀ o ∈ ids, h.next ≤ o ∧ o < g.next) : RawPost h r (g, v) :=
  ⟨hn, hf, fun D _ => ⟨(hv D).1, (hv D).2.1 ▸ hnd, (hv D).2.1 ▸ hids, (hv D).2.2⟩⟩

mutual
theorem fromRaw_spec : ∀ (r : Raw) (h : Heap), RawPost h r (fromRaw h r)
  | .nil, h => RawPost.flat (Nat.le_refl _) (fun _ _ => ⟨rfl, rfl⟩) [] (fun D => ⟨fits_nil D h, reachV_nil D h, absV_nil D h⟩)
      List.nodup_nil (fun _ ho => nomatch ho)
  | .scalar k v, h => RawPost.flat (Nat.le_refl _) (fun _ _ => ⟨rfl, rfl⟩) []
      (fun D => ⟨fits_scalar D h k v, reachV_scalar D h k v, absV_scalar D h k v⟩) List.nodup_nil (fun _ ho => nomatch ho)
  | .bytes bs, h =>
    RawPost.flat (Nat.le_succ _) (fun x hx => ⟨upd_other _ _ _ _ (Nat.ne_of_lt hx), rfl⟩) [h.next]
      (fun D => ⟨fits_bytes D _ _, reachV_bytes D _ _, (absV_bytes D _ _).trans (congrArg (fun l => [Tok.bytes l]) (upd_same _ _ _))⟩)
      (List.nodup_cons.mpr ⟨List.not_mem_nil, List.nodup_nil⟩)
      (fun o ho => List.mem_singleton.mp ho ▸ ⟨Nat.le_refl _, Nat.lt_succ_self _⟩)
  | .list km kids, h => by
    -- a new container: allocated, filled from nothing, its header written
    have ih := fromRawL_spec kids { h with wl := upd h.wl h.next {}, next := h.next + 1 }
    simp only [fromRaw]
    refine RawPost.of (fun D hD => ?_)
    obtain ⟨D', rfl⟩ : ∃ D', D = D' + 1 := ⟨D - 1, by simp only [depth] at hD; omega⟩
    obtain ⟨c, hall, ha⟩ := (ih.2 D' (by simp only [depth] at hD; omega)).1.fresh (R := ⟨_, []⟩) km (D' + 1) .nil
    exact ⟨c, hall, by rw [ha]; simp only [absRaw, ih.1, (ih.2 D' (by simp only [depth] at hD; omega)).2]⟩
theorem fromRawL_spec : ∀ (l : RawL) (h : Heap), (fromRawL h l).2.length = lenL l ∧ ∀ D, depthL l ≤ D →
    LRepl [] D D h [] (fromRawL h l).1 (fromRawL h l).2 ∧
    (fromRawL h l).2.flatMap (fun kv => Tok.key kv.key :: absV D (fromRawL h l).1 kv.val) = absRawL l
  | .nil, h => ⟨rfl, fun D _ => ⟨LRepl.nil _ _ _ _ _, rfl⟩⟩
  | .cons k r rest, h => by
    have A := fromRaw_spec r h
    have B := fromRawL_spec rest (fromRaw h r).1
    simp only [fromRawL]
    refine ⟨congrArg (· + 1) B.1, fun D hD => ?_⟩
    simp only [depthL] at hD
    obtain ⟨c, ag⟩ := LRepl.cons (a := KV.zero) (b := ⟨k, (fromRaw h r).2⟩) (A.repl D (by omega)) (B.2 D (by omega)).1
      (by simp [reachL, KV.zero, reachV_nil]) (by simp [reachL, KV.zero, reachV_nil])
    refine ⟨c.old_sub (fun x hx => absurd hx (by simp [reachL, KV.zero, reachV_nil])), ?_⟩
    simp only [List.flatMap_cons, absRawL, abs_congr D _ _ _ ag, (A.good D (by omega)).2.2.2, (B.2 D (by omega)).2, List.cons_append]
end

/-! ## program level: `Map.FromRaw` / `Slice.FromRaw` on a container at ANY depth

`Value.FromRaw(iv)` at a position is, as in the code, `Set*` / `SetEmptyBytes().FromRaw` / `SetEmptyMap()` / `SetEmptySlice()`
(= `setRoot` / `setSlot` of the nested model) followed, for a map or slice input, by `Map.FromRaw` / `Slice.FromRaw` on the NEW container:
so one more operation suffices. -/

def touchedR : OpR → List Nat
  | .base op => touched op
  | .fromRawList r _ _ => [r]

def WfOpR (s : St) : OpR → Prop
  | .base op => WfOp s op
  | .fromRawList r o _ => ownsList s.dep s.h (s.root r) o

instance (s : St) (op : OpR) : Decidable (WfOpR s op) := by
  cases op <;> simp only [WfOpR] <;> infer_instance

/-- `Map.FromRaw` / `Slice.FromRaw` on a container of the forest, in a state whose depth bound covers the input -/
theorem fromRawHdr_spec {s : St} (hi : Inv s) (r o : Nat) (kids : RawL) (ho : ownsList s.dep s.h (s.root r) o) (hk : depthL kids ≤ s.dep) :
    Inv { s with h := fromRawHdr s.h o kids, dep := bump s.dep } ∧
    (∀ c, c ≠ r → absRoot { s with h := fromRawHdr s.h o kids, dep := bump s.dep } c = absRoot s c) ∧
    ((fromRawHdr s.h o kids).wl o).tail = [] ∧ ((fromRawHdr s.h o kids).wl o).live.length = lenL kids ∧
    ((fromRawHdr s.h o kids).wl o).live.flatMap (fun kv => Tok.key kv.key :: absV s.dep (fromRawHdr s.h o kids) kv.val) = absRawL kids ∧
    (∀ kv ∈ ((fromRawHdr s.h o kids).wl o).live, fits s.dep (fromRawHdr s.h o kids) kv.val) := by
  obtain ⟨hlen, hg⟩ := fromRawL_spec kids s.h
  obtain ⟨c0, g4⟩ := hg s.dep hk
  have ow := owned_of hi r o ho
  have c := c0.old_sub (d₂ := s.dep) (m₂ := (s.h.wl o).live) (fun _ hx => absurd hx List.not_mem_nil)
  have hne : ∀ x ∈ reachL s.dep (fromRawL s.h kids).1 (fromRawL s.h kids).2, x ≠ o := fun x hx e =>
    (c0.foot.mem x hx).1.elim (fun h1 => absurd h1 List.not_mem_nil) (fun h1 => Nat.lt_irrefl _ (Nat.lt_of_lt_of_le (e ▸ ow.self_lt) h1))
  have hl : (fromRawHdr s.h o kids).wl o = { live := (fromRawL s.h kids).2, tail := [] } := upd_same _ _ _
  obtain ⟨_, c2, c3⟩ := congrL s.dep (fromRawL s.h kids).1 (fromRawHdr s.h o kids) (fromRawL s.h kids).2
    (fun x hx => ⟨rfl, upd_other _ _ _ _ (hne x hx)⟩)
  have nu := nested_update hi s.ro ho (R := ⟨(fromRawL s.h kids).2, []⟩) c
  rw [hl]
  exact ⟨nu.1, nu.2, rfl, hlen, c2.trans g4, c3 c0.fit⟩

theorem fromRawList_full {s : St} (hi : Inv s) (r o : Nat) (kids : RawL) (ho : ownsList s.dep s.h (s.root r) o) (hro : s.ro r = false) :
    Inv (stepR s (.fromRawList r o kids)).1 ∧
    (∀ c, c ≠ r → absRoot (stepR s (.fromRawList r o kids)).1 c = absRoot s c) ∧
    ((stepR s (.fromRawList r o kids)).1.h.wl o).tail = [] ∧ ((stepR s (.fromRawList r o kids)).1.h.wl o).live.length = lenL kids ∧
    ((stepR s (.fromRawList r o kids)).1.h.wl o).live.flatMap
        (fun kv => Tok.key kv.key :: absV (max s.dep (depthL kids)) (stepR s (.fromRawList r o kids)).1.h kv.val) = absRawL kids ∧
    (∀ kv ∈ ((stepR s (.fromRawList r o kids)).1.h.wl o).live, fits (max s.dep (depthL kids)) (stepR s (.fromRawList r o kids)).1.h kv.val) := by
  obtain ⟨hi1, habs1⟩ := inv_raise hi (max s.dep (depthL kids)) (Nat.le_max_left _ _)
  have sp := fromRawHdr_spec hi1 r o kids (owns_mono (Nat.le_max_left _ _) s.h _ o ho) (Nat.le_max_right _ _)
  simp only [stepR, hro, Bool.false_eq_true, ↓reduceIte]
  exact ⟨sp.1, fun c hc => (sp.2.1 c hc).trans (habs1 c), sp.2.2⟩

/-- `Value.FromRaw` of a map / slice input on a ROOT value, as the code does it: `SetEmptyMap()` / `SetEmptySlice()`, then
`Map.FromRaw` / `Slice.FromRaw` on the container just made -/
def fromRawRoot (s : St) (r : Nat) (km : Bool) (kids : RawL) : St :=
  (stepR (step s (.setRoot r (.list km))).1 (.fromRawList r s.h.next kids)).1

theorem stepR_spec {s : St} (hi : Inv s) (op : OpR) (hw : WfOpR s op) :
    Inv (stepR s op).1 ∧ ∀ c, c ∉ touchedR op → absRoot (stepR s op).1 c = absRoot s c := by
  cases op with
  | base op => exact step_all_spec hi op hw
  | fromRawList r o kids =>
    by_cases hro : s.ro r = true
    · rw [show stepR s (.fromRawList r o kids) = (s, true) from if_pos hro]; exact ⟨hi, fun _ _ => rfl⟩
    · have hro' : s.ro r = false := by simpa using hro
      obtain ⟨a, b, _⟩ := fromRawList_full hi r o kids hw hro'
      exact ⟨a, fun c hc => b c (List.ne_of_not_mem_cons hc)⟩

def WfProgR : St → List OpR → Prop
  | _, [] => True
  | s, op :: ops => WfOpR s op ∧ WfProgR (stepR s op).1 ops

instance : ∀ (s : St) (prog : List OpR), Decidable (WfProgR s prog)
  | _, [] => isTrue trivial
  | s, op :: ops => by
    have := instDecidableWfProgR (stepR s op).1 ops
    simp only [WfProgR]; infer_instance

theorem runR_base (prog : List Op) : ∀ s, runR s (prog.map .base) = run s prog := by
  induction prog with
  | nil => exact fun _ => rfl
  | cons op ops ih => exact fun s => ih (step s op).1

end OtelVerif.C07.N

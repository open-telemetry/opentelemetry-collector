import OtelVerif.Lemmas.C04MoveFirst
import OtelVerif.Lemmas.C04Bound
import OtelVerif.Lemmas.C04Term
/-!
C04: logs, traces, profiles (one three-level tree).  Each level is `Moves` and `Sized` for every sizer; the laws the split loop
needs of `logsOps sz` are read off the top level.  `heavy`, `heavyS`: the items that weigh anything.
-/
namespace OtelVerif.C04
open OtelVerif.Payload

def wtL (sz : Sizer) (c : Ctx) : Int := itemSize sz c.2.2

theorem itemSize_nonneg (sz : Sizer) (i : Item) : 0 ≤ itemSize sz i := by
  unfold itemSize; split <;> exact Int.natCast_nonneg _
theorem scopeSize_nonneg (sz : Sizer) (s : Scope) : 0 ≤ scopeSize sz s :=
  Int.add_nonneg (own_nonneg _ _) (sumD_nonneg sz _ (itemSize_nonneg sz) _)
theorem resSize_nonneg (sz : Sizer) (r : Res) : 0 ≤ resSize sz r :=
  Int.add_nonneg (own_nonneg _ _) (sumD_nonneg sz _ (scopeSize_nonneg sz) _)

theorem scope_wt_le (sz : Sizer) (r : RMeta) (s : Scope) : wsumBy (wtL sz) (Scope.flat r s) ≤ scopeSize sz s := by
  have := wsumBy_flatMap_le sz (wtL sz) (fun i : Item => [(r, s.smeta, i)]) (itemSize sz)
    (fun i => Int.le_of_eq (Int.add_zero _)) s.items
  have := own_nonneg sz s.smeta.base
  rw [Scope.flat, List.map_eq_flatMap, scopeSize]; omega

theorem res_wt_le (sz : Sizer) (r : Res) : wsumBy (wtL sz) (Res.flat r) ≤ resSize sz r := by
  have := wsumBy_flatMap_le sz (wtL sz) (Scope.flat r.rmeta) (scopeSize sz) (scope_wt_le sz r.rmeta) r.scopes
  have := own_nonneg sz r.rmeta.base
  rw [Res.flat, resSize]; omega

theorem scope_nodes_pos (s : Scope) : 0 < s.nodes := by simp [Scope.nodes]; omega
theorem res_nodes_pos (r : Res) : 0 < r.nodes := by simp [Res.nodes]; omega

theorem Scope.flat_of_empty (r : RMeta) (s : Scope) (h : decide (s.items.length > 0) = false) : Scope.flat r s = [] := by
  rw [Scope.flat, nil_of_not_pos h]; rfl

theorem Res.flat_of_empty (r : Res) (h : decide (r.scopes.length > 0) = false) : Res.flat r = [] := by
  rw [Res.flat, nil_of_not_pos h]; rfl

theorem extractScope_moves (sz : Sizer) (r : RMeta) : Moves Eq (Scope.flat r) Scope.nodes (extractScope sz) :=
  scopeLevel.moves Seq.eq sz (itemSize sz) (Scope.flat r) (fun s i => [(r, s.smeta, i)]) (fun _ _ => List.map_eq_flatMap)
    (fun _ => List.map_eq_flatMap) Scope.nodes (fun _ => 1) (fun _ l => by rw [sumBy_one]; rfl) (fun s => by rw [sumBy_one]; rfl)
    (fun _ => Nat.one_pos) (fun _ => cutLeaf_moves Seq.eq _ _)

theorem extractScope_sized (sz : Sizer) (r : RMeta) :
    Sized sz (scopeSize sz) (Scope.flat r) (wtL sz) (fun s => s.items.length > 0) (extractScope sz) :=
  scopeLevel.sized (itemSize_nonneg sz) (Scope.flat r) (fun s i => [(r, s.smeta, i)]) (fun _ _ => List.map_eq_flatMap)
    (fun _ _ => Int.le_of_eq (Int.add_zero _)) (fun _ => cutLeaf_sized sz _ _ _)

theorem extractRes_moves (sz : Sizer) : Moves Eq Res.flat Res.nodes (extractRes sz) :=
  resLevel.moves Seq.eq sz (scopeSize sz) Res.flat (fun r => Scope.flat r.rmeta) (fun _ _ => rfl) (fun _ => rfl)
    Res.nodes Scope.nodes (fun _ _ => rfl) (fun _ => rfl) scope_nodes_pos
    (fun r => cutBy_moves sz _ _ (extractScope_moves sz r.rmeta) (fun _ _ h => Scope.flat_of_empty _ _ h))

theorem extractRes_sized (sz : Sizer) :
    Sized sz (resSize sz) Res.flat (wtL sz) (fun r => r.scopes.length > 0) (extractRes sz) :=
  resLevel.sized (scopeSize_nonneg sz) Res.flat (fun r => Scope.flat r.rmeta) (fun _ _ => rfl)
    (fun r => scope_wt_le sz r.rmeta)
    (fun r => cutBy_sized (scopeSize_nonneg sz) (fun _ => itemSize_nonneg sz _) (extractScope_sized sz r.rmeta))

theorem extract_moves (sz : Sizer) : Moves Eq flatten nodes (extract sz) :=
  top_moves Seq.eq (cutBy_moves sz _ _ (extractRes_moves sz) (fun _ _ h => Res.flat_of_empty _ h)) res_nodes_pos sz (resSize sz)

theorem extract_sized (sz : Sizer) (cap : Int) (p : List Res) :
    payloadSize sz (extract sz cap p).2.1 = payloadSize sz p - (extract sz cap p).2.2 ∧
    (0 ≤ cap → payloadSize sz (extract sz cap p).1 ≤ cap) ∧
    wsumBy (wtL sz) (flatten (extract sz cap p).1) ≤ (extract sz cap p).2.2 :=
  top_sized (cutBy_sized (resSize_nonneg sz) (fun _ => itemSize_nonneg sz _) (extractRes_sized sz)) (res_wt_le sz) cap p

theorem logs_seqOps (sz : Sizer) : SeqOps Eq (logsOps sz) flatten :=
  ⟨(extract_moves sz).seq, fun s d => (top_movesFirst mfRes_movesFirst s d).eq, fun _ _ => List.flatMap_append,
   fun s d => (top_movesFirst mfRes_movesFirst s d).one, fun s d => (top_movesFirst mfRes_movesFirst s d).none⟩

theorem logs_fifoOps (sz : Sizer) : FifoOps (logsOps sz) flatten := (logs_seqOps sz).fifo

theorem logs_conserves (sz : Sizer) : Conserves (logsOps sz) flatten := (logs_fifoOps sz).conserves

theorem logs_shrinks (sz : Sizer) : Shrinks (logsOps sz) :=
  ⟨fun cap p => ((extract_moves sz).nodes cap p).1, fun cap p => ((extract_moves sz).nodes cap p).2,
   fun s d => (top_movesFirst mfRes_movesFirst s d).lt⟩

theorem logs_sizeExact (sz : Sizer) : SizeExact (logsOps sz) :=
  ⟨fun cap p => (extract_sized sz cap p).1, fun a b => by simp [logsOps, payloadSize, sumD_append]⟩

/-- items that weigh anything under the items sizer -/
def heavyL (l : List Ctx) : Nat := (l.filter (fun c => c.2.2.w > 0)).length
def heavy (p : List Res) : Nat := heavyL (flatten p)
/-- items that weigh anything, for any sizer -/
def heavyS (sz : Sizer) (p : List Res) : Nat := ((flatten p).filter (fun c => decide (itemSize sz c.2.2 > 0))).length

theorem heavy_eq (p : List Res) : heavy p = heavyS sz0 p := by
  simp only [heavy, heavyL, heavyS, itemSize, Bool.false_eq_true, if_false, Int.natCast_pos]

theorem logs_bounded (sz : Sizer) : Bounded (logsOps sz) (heavyS sz) := by
  have hm := (logs_seqOps sz).heavy (fun l => (l.filter (fun c => decide (itemSize sz c.2.2 > 0))).length)
    (fun a b => by rw [List.filter_append, List.length_append]) (fun l => List.length_filter_le _ l)
  refine ⟨fun cap p => (extract_sized sz cap p).2.1, fun cap p h => ?_, hm.1, hm.2⟩
  have h3 := (extract_sized sz cap p).2.2
  have h' : (extract sz cap p).2.2 = 0 := h
  rw [h'] at h3
  exact heavy_zero_of_wsum (wtL sz) (fun _ => itemSize_nonneg sz _) _ h3

/-- the size bound for logs, traces and profiles under any sizer: every request `MergeSplit` returns is within `max_size`, or holds
at most one item that weighs anything in the sizer's unit -/
theorem mergeSplit_bound_logs (sz : Sizer) (max : Int) (hmax : 0 < max) (r1 : Req (List Res)) (r2 : Option (Req (List Res)))
    (out : List (Req (List Res))) (h : mergeSplit (logsOps sz) max r1 r2 = some out)
    (h1 : r1.exact (logsOps sz)) (h2 : ∀ r, r2 = some r → r.exact (logsOps sz)) :
    ∀ r ∈ out, payloadSize sz r.p ≤ max ∨ heavyS sz r.p ≤ 1 :=
  mergeSplit_bound _ (heavyS sz) (logs_sizeExact sz) (logs_bounded sz) max hmax r1 r2 out h h1 h2

end OtelVerif.C04

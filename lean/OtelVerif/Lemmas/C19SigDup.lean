import OtelVerif.Model.C19SigDup
/-!
# C19 — every per-signal duplicate is tied: same skeleton as its twins, own signal's words (decided on the regenerated data)

Strings are dear in the kernel (a literal is expanded to bytes per comparison, `toList` decodes by list indexing): skeletons are
compared as terms, word checks run in one evaluation, code tables are tied by encoding, token characters come from the literals.
-/
namespace OtelVerif.C19
open OtelVerif.Gen.SigDup SigDup

/-- with `h` by `rfl` the skeletons are compared as terms: no string is opened -/
theorem allSame_of_replicate {l : List (Nat × List String)} (n : Nat)
    (h : l.map (·.2) = List.replicate (n + 1) (common l)) : allSame l = true := by
  match l, h with
  | (a, sk) :: rest, h =>
    simp only [List.map_cons, List.replicate_succ, List.cons.injEq, common, List.head?_cons, Option.map_some, Option.getD_some,
      true_and] at h
    simp only [allSame, List.all_eq_true, beq_iff_eq]
    exact fun q hq => List.eq_of_mem_replicate (h ▸ List.mem_map_of_mem hq)

def ofCodes (l : List Nat) : String := String.ofList (l.map Char.ofNat)

theorem toNat_ofNat {n : Nat} (h : n < 55296) : (Char.ofNat n).toNat = n := by
  have hv : n.isValidChar := Or.inl h
  simp [Char.ofNat, hv, Char.ofNatAux, Char.toNat]

theorem codes_ofCodes {l : List Nat} (h : ∀ n ∈ l, n < 55296) : codes (ofCodes l) = l := by
  simp only [codes, ofCodes, String.toList_ofList, List.map_map]
  exact (List.map_congr_left fun n hn => toNat_ofNat (h n hn)).trans (List.map_id _)

/-- `codesMatch` from the codes' side; below the surrogates `Char.ofNat` keeps the codes -/
def spells (cs : List (Nat × List (List Nat))) (ws : List (Nat × List String)) : Bool :=
  ws == cs.map (fun p => (p.1, p.2.map ofCodes)) && cs.all (fun p => p.2.all (fun w => w.all (· < 55296)))

theorem codesMatch_of_spells {ws cs} (h : spells cs ws = true) : codesMatch ws cs = true := by
  simp only [spells, Bool.and_eq_true, beq_iff_eq, List.all_eq_true, decide_eq_true_eq] at h
  have hw : ∀ p ∈ cs, (p.2.map ofCodes).map codes = p.2 := fun p hp => by
    rw [List.map_map]; exact (List.map_congr_left fun w hw => codes_ofCodes (h.2 p hp w hw)).trans (List.map_id _)
  rw [codesMatch, h.1, List.map_map, beq_iff_eq]
  exact (List.map_congr_left fun p hp => congrArg (Prod.mk p.1) (hw p hp)).trans (List.map_id _)

/-- one evaluation: nouns decoded once, `mentions` shared between the quirk lists of a table -/
theorem word_checks :
    (wordsOK [] procNewWordCodes = true ∧ wordsOK [] obsConsumeWordCodes = true ∧ wordsOK [] recvStartWordCodes = true ∧
      wordsOK [] recvEndWordCodes = true ∧ wordsOK [] expRequestWordCodes = true ∧ wordsOK [] expConsumeWordCodes = true ∧
      wordsOK [(1, "MetricCount"), (2, "SignalMetrics")] scrapeWrapWordCodes = true ∧
      wordsOK [(2, "StartMetricsOp")] scrapeCtlWordCodes = true ∧ ownWordsOK procProfilesWordCodes = true) ∧
    (wordsOK [] scrapeWrapWordCodes = false ∧ wordsOK [(1, "MetricCount")] scrapeWrapWordCodes = false ∧
      wordsOK [(2, "SignalMetrics")] scrapeWrapWordCodes = false ∧ wordsOK [] scrapeCtlWordCodes = false) ∧
    wordsOK [] reqItemsWordCodes = true ∧ wordsOK [] reqOnErrorWordCodes = true := by decide +kernel

/-- **What the exporter counters count.**  `<S>Request.ItemsCount()` — the number `obsReportSender.Send`, `obsQueue.Offer` and
`BaseExporter.Send` read before the request goes on — is, for each of the four signals, the ITEM count of the signal's payload
(`LogRecordCount` / `DataPointCount` / `SpanCount` / `SampleCount`: not a cached size, not the metric count), and `OnError` narrows a
partial failure to the undelivered part of the SAME signal's error type. -/
theorem C19_request_items_count :
    allSame reqItemsNorm = true ∧ SigDup.common reqItemsNorm = ["call:v0.payload.«0»()", "return:v0.payload.«0»()"] ∧
    wordsOK [] reqItemsWordCodes = true ∧ codesMatch reqItemsWords reqItemsWordCodes = true ∧
    allSame reqOnErrorNorm = true ∧ wordsOK [] reqOnErrorWordCodes = true ∧ codesMatch reqOnErrorWords reqOnErrorWordCodes = true :=
  ⟨allSame_of_replicate 3 rfl, rfl, word_checks.2.2.1, codesMatch_of_spells (by decide +kernel), allSame_of_replicate 3 rfl,
   word_checks.2.2.2, codesMatch_of_spells (by decide +kernel)⟩

/-- **Same code per signal.**  In each family every member (logs / metrics / traces and, where it exists, profiles) has the same control
skeleton after alpha-renaming of locals and abstraction of the signal's words: what is proved about / differentially checked on one
member's structure holds for its twins. -/
theorem C19_signal_duplicates_aligned :
    allSame procNewNorm = true ∧ allSame scrapeWrapNorm = true ∧ allSame scrapeCtlNorm = true ∧ allSame obsConsumeNorm = true ∧
    allSame recvStartNorm = true ∧ allSame recvEndNorm = true ∧ allSame expRequestNorm = true ∧ allSame expConsumeNorm = true ∧
    procNewNorm.map (·.1) = [2, 1, 0] ∧ obsConsumeNorm.map (·.1) = [2, 1, 0, 3] ∧ expRequestNorm.map (·.1) = [2, 1, 0, 3] ∧
    expConsumeNorm.map (·.1) = [2, 1, 0, 3] ∧ scrapeWrapNorm.map (·.1) = [1, 2] ∧ scrapeCtlNorm.map (·.1) = [1, 2] ∧
    recvStartNorm.map (·.1) = [0, 1, 2] ∧ recvEndNorm.map (·.1) = [0, 1, 2] :=
  ⟨allSame_of_replicate 2 rfl, allSame_of_replicate 1 rfl, allSame_of_replicate 1 rfl, allSame_of_replicate 3 rfl,
   allSame_of_replicate 2 rfl, allSame_of_replicate 2 rfl, allSame_of_replicate 3 rfl, allSame_of_replicate 3 rfl,
   rfl, rfl, rfl, rfl, rfl, rfl, rfl, rfl⟩

/-- **Own signal's words.**  Behind every placeholder each member has either the same neutral word as its twins or a word of ITS OWN
signal and of no other — item-count method = the signal's item count (`SpanCount` / `DataPointCount` / `LogRecordCount` /
`SampleCount`), instruments, signal constant, consumer method, `End<S>Op`.  The accepted quirks are spelled out: `wrapObsMetrics` feeds
`MetricCount()` to the scraped-metric-POINTS counter, `wrapObsLogs` puts `SignalMetrics` into the span's format attribute, `scrapeLogs`
opens the receiver op with `StartMetricsOp` (span name only; it ENDS it with `EndLogsOp` — the repaired counter selection). -/
theorem C19_signal_duplicates_words :
    wordsOK [] procNewWordCodes = true ∧ wordsOK [] obsConsumeWordCodes = true ∧ wordsOK [] recvStartWordCodes = true ∧ wordsOK [] recvEndWordCodes = true ∧
    wordsOK [] expRequestWordCodes = true ∧ wordsOK [] expConsumeWordCodes = true ∧
    wordsOK [(1, "MetricCount"), (2, "SignalMetrics")] scrapeWrapWordCodes = true ∧
    wordsOK [(2, "StartMetricsOp")] scrapeCtlWordCodes = true ∧ ownWordsOK procProfilesWordCodes = true :=
  word_checks.1

/-- the character-code tables the checks run on are exactly the readable word tables -/
theorem C19_signal_duplicates_codes :
    codesMatch procNewWords procNewWordCodes = true ∧ codesMatch obsConsumeWords obsConsumeWordCodes = true ∧
    codesMatch recvStartWords recvStartWordCodes = true ∧ codesMatch recvEndWords recvEndWordCodes = true ∧
    codesMatch expRequestWords expRequestWordCodes = true ∧ codesMatch expConsumeWords expConsumeWordCodes = true ∧
    codesMatch scrapeWrapWords scrapeWrapWordCodes = true ∧ codesMatch scrapeCtlWords scrapeCtlWordCodes = true ∧
    codesMatch procProfilesWords procProfilesWordCodes = true := by
  have h : ([(procNewWordCodes, procNewWords), (obsConsumeWordCodes, obsConsumeWords), (recvStartWordCodes, recvStartWords),
      (recvEndWordCodes, recvEndWords), (expRequestWordCodes, expRequestWords), (expConsumeWordCodes, expConsumeWords),
      (scrapeWrapWordCodes, scrapeWrapWords), (scrapeCtlWordCodes, scrapeCtlWords),
      (procProfilesWordCodes, procProfilesWords)].all fun t => spells t.1 t.2) = true := by decide +kernel
  simp only [List.all_cons, List.all_nil, Bool.and_true, Bool.and_eq_true] at h
  exact ⟨codesMatch_of_spells h.1, codesMatch_of_spells h.2.1, codesMatch_of_spells h.2.2.1, codesMatch_of_spells h.2.2.2.1,
    codesMatch_of_spells h.2.2.2.2.1, codesMatch_of_spells h.2.2.2.2.2.1, codesMatch_of_spells h.2.2.2.2.2.2.1,
    codesMatch_of_spells h.2.2.2.2.2.2.2.1, codesMatch_of_spells h.2.2.2.2.2.2.2.2⟩

/-- the quirks are really there (the exceptions above are not vacuous) and nothing else is excused -/
theorem C19_signal_duplicates_quirks :
    wordsOK [] scrapeWrapWordCodes = false ∧ wordsOK [(1, "MetricCount")] scrapeWrapWordCodes = false ∧
    wordsOK [(2, "SignalMetrics")] scrapeWrapWordCodes = false ∧ wordsOK [] scrapeCtlWordCodes = false :=
  word_checks.2.1

/-- **Order facts of the common skeletons** the hand-written models mirror: processor counts in before / out after the process function
and records before forwarding; the profiles processor records nothing; obsconsumer and the scrape controller take their count BEFORE
the next consumer (which may empty the payload) is called. -/
theorem C19_signal_duplicates_order :
    procOrder = true ∧ procProfilesSilent = true ∧ obsOrder = true ∧ scrapeOrder = true := by
  refine ⟨by decide +kernel, ?_, by decide +kernel, by decide +kernel⟩
  -- characters from the literals (`"…"` unifies with `String.ofList […]`), not decoded by the kernel
  simp only [procProfilesSilent, common, procProfilesNorm, List.head?_cons, Option.map_some, Option.getD_some, List.any_cons,
    List.any_nil]
  repeat rw [String.toList_ofList]
  decide +kernel

end OtelVerif.C19

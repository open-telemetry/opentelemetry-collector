import OtelVerif.Lemmas.C07NestRaw
import OtelVerif.Lemmas.C07NestAdopt
/-!
# C07 part C: programs of ALL operations of the nested model — `N.WfOp` (every operation on targets at any depth),
`Map.FromRaw` / `Slice.FromRaw` on a container at any depth, and `Slice.MoveAndAppendTo` between two slices nested ANYWHERE (`WfMove`)
-/
namespace OtelVerif.C07.N

/-- `o` is the container held directly by root `r` -/
def rootIs (s : St) (r o : Nat) : Prop := s.root r = .list true o ∨ s.root r = .list false o

instance (s : St) (r o : Nat) : Decidable (rootIs s r o) := by unfold rootIs; infer_instance

def WfOpX (s : St) : OpR → Prop
  | .base (.moveAppend rs o1 rd o2 _) => WfMove s rs o1 rd o2
  | op => WfOpR s op

instance (s : St) (op : OpR) : Decidable (WfOpX s op) := by
  cases op with
  | base op => cases op <;> simp only [WfOpX] <;> infer_instance
  | fromRawList r o kids => simp only [WfOpX]; infer_instance

/-- `WfOpX` differs from `WfOpR` only at the move, where `WfOpR` is `False` -/
theorem WfOpX.of_R {s : St} {op : OpR} (h : WfOpR s op) : WfOpX s op := by
  cases op with
  | fromRawList r o kids => exact h
  | base op => cases op <;> first | exact h | exact (h : False).elim

theorem stepX_spec {s : St} (hi : Inv s) (op : OpR) (hw : WfOpX s op) :
    Inv (stepR s op).1 ∧ ∀ c, c ∉ touchedR op → absRoot (stepR s op).1 c = absRoot s c := by
  cases op with
  | fromRawList r o kids => exact stepR_spec hi _ hw
  | base op =>
    cases op with
    | moveAppend rs o1 rd o2 c =>
      exact move_append_spec hi rs o1 rd o2 c hw
    | _ => exact stepR_spec hi _ hw

def WfProgX : St → List OpR → Prop
  | _, [] => True
  | s, op :: ops => WfOpX s op ∧ WfProgX (stepR s op).1 ops

instance instDecWfProgX : ∀ (s : St) (prog : List OpR), Decidable (WfProgX s prog)
  | _, [] => isTrue trivial
  | s, op :: ops => by
    have := instDecWfProgX (stepR s op).1 ops
    simp only [WfProgX]; infer_instance

theorem WfProgX.of_R (prog : List OpR) : ∀ s, WfProgR s prog → WfProgX s prog := by
  induction prog with
  | nil => exact fun _ _ => trivial
  | cons op ops ih => exact fun s h => ⟨.of_R h.1, ih _ h.2⟩

theorem runX_spec (prog : List OpR) : ∀ (s : St), Inv s → WfProgX s prog →
    Inv (runR s prog) ∧ ∀ c, (∀ op ∈ prog, c ∉ touchedR op) → absRoot (runR s prog) c = absRoot s c := by
  induction prog with
  | nil => exact fun s hi _ => ⟨hi, fun _ _ => rfl⟩
  | cons op ops ih =>
    intro s hi hw
    obtain ⟨h1, h2⟩ := stepX_spec hi op hw.1
    obtain ⟨i1, i2⟩ := ih _ h1 hw.2
    exact ⟨i1, fun c hc => (i2 c (fun o ho => hc o (List.mem_cons_of_mem _ ho))).trans (h2 c (hc op List.mem_cons_self))⟩

end OtelVerif.C07.N

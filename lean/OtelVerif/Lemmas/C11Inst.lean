import OtelVerif.Model.C11Inst
/-! # C11 — lemmas about `normPipes` -/
namespace OtelVerif.C11

theorem mem_insertU (x y : Nat) (l : List Nat) : y ∈ insertU x l ↔ y = x ∨ y ∈ l := by
  induction l with
  | nil => simp [insertU]
  | cons z zs ih =>
    simp only [insertU]
    split
    · simp
    · split
      · subst x; simp
      · simp only [List.mem_cons, ih]; exact or_left_comm

theorem mem_normPipes (y : Nat) (l : List Nat) : y ∈ normPipes l ↔ y ∈ l := by
  induction l with
  | nil => simp [normPipes]
  | cons x xs ih =>
    have : normPipes (x :: xs) = insertU x (normPipes xs) := rfl
    rw [this, mem_insertU, ih]; simp

theorem insertU_sorted (x : Nat) (l : List Nat) (h : l.Pairwise (· < ·)) : (insertU x l).Pairwise (· < ·) := by
  induction l with
  | nil => simp [insertU]
  | cons z zs ih =>
    obtain ⟨hz, hzs⟩ := List.pairwise_cons.mp h
    simp only [insertU]
    split
    · exact List.pairwise_cons.mpr ⟨fun a ha => (List.mem_cons.mp ha).elim (· ▸ ‹x < z›) (fun ha => Nat.lt_trans ‹x < z› (hz a ha)), h⟩
    · split
      · exact h
      · refine List.pairwise_cons.mpr ⟨fun a ha => ?_, ih hzs⟩
        rcases (mem_insertU x a zs).mp ha with rfl | ha
        · omega
        · exact hz a ha

theorem normPipes_sorted (l : List Nat) : (normPipes l).Pairwise (· < ·) := by
  induction l with
  | nil => simp [normPipes]
  | cons x xs ih => exact insertU_sorted x _ ih

/-- a strictly increasing list is determined by its members -/
theorem sorted_ext (l1 l2 : List Nat) (h1 : l1.Pairwise (· < ·)) (h2 : l2.Pairwise (· < ·))
    (h : ∀ x, x ∈ l1 ↔ x ∈ l2) : l1 = l2 :=
  List.Perm.eq_of_pairwise (fun _ _ _ _ hab hba => absurd hab (Nat.lt_asymm hba)) h1 h2
    ((List.perm_ext_iff_of_nodup (h1.imp Nat.ne_of_lt) (h2.imp Nat.ne_of_lt)).mpr h)

theorem normPipes_canonical (l1 l2 : List Nat) (h : ∀ x, x ∈ l1 ↔ x ∈ l2) : normPipes l1 = normPipes l2 :=
  sorted_ext _ _ (normPipes_sorted l1) (normPipes_sorted l2) (fun x => by rw [mem_normPipes, mem_normPipes]; exact h x)

end OtelVerif.C11

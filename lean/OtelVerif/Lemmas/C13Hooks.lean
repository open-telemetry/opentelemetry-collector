import OtelVerif.Lemmas.C13Faithful
/-!
# C13 — lemmas about custom `Unmarshal` fix-ups (`setPath`, `preHook`, `postHook`, `decodeC`)

A fix-up is a fold of `setPath` steps; `setPath` leaves incomparable positions alone and keeps the shape.
-/
namespace OtelVerif.C13

theorem incomparable_cons {k : String} {q p : List String} (h : incomparable (k :: q) (k :: p) = true) :
    incomparable q p = true := by
  simpa [incomparable, List.isPrefixOf] using h

/-- the empty path is a prefix of every path -/
theorem incomparable_cons_cons {q p : List String} (h : incomparable q p = true) :
    ∃ k q' k2 p', q = k :: q' ∧ p = k2 :: p' := by
  cases q <;> cases p <;> simp [incomparable, List.isPrefixOf] at h ⊢

theorem setPath_flat {S : KS} (hf : S.flat = true) (t : TV) (k : String) (q : List String) (x : TV) :
    setPath S t (k :: q) x = t := by
  cases S <;> simp [KS.flat, setPath] at hf ⊢

theorem setPath_ptr_of_ne_nil (s : KS) (t : TV) (k : String) (q : List String) (x : TV) (hn : t ≠ .nilp) :
    setPath (.ptr s) t (k :: q) x = setPath s t (k :: q) x := by
  cases t <;> first | exact absurd rfl hn | simp only [setPath]

theorem setPath_ne_nil (S : KS) : ∀ (t : TV) (k : String) (q : List String) (x : TV), t ≠ .nilp → setPath S t (k :: q) x ≠ .nilp := by
  induction S using KS.induct with
  | flat S hf => intro t k q x ht; rwa [setPath_flat hf]
  | ptr s ih => intro t k q x ht; rw [setPath_ptr_of_ne_nil s t k q x ht]; exact ih t k q x ht
  | struct fs _ => intro t k q x ht; cases t <;> first | exact absurd rfl ht | (simp only [setPath]; exact TV.noConfusion)

/-- what replacing the value at a key path guarantees: positions incomparable with it are left alone, and a replacement that has
the shape of the position keeps the shape of the whole.  Stated at a non-empty path, where `setPath` recurses -/
def SetSpec (S : KS) : Prop := ∀ (t : TV) (k : String) (q : List String) (x : TV),
  (∀ k2 p, incomparable (k :: q) (k2 :: p) = true → getS S (setPath S t (k :: q) x) (k2 :: p) = getS S t (k2 :: p)) ∧
  (shape S t = true → (∀ sub, kindAt S (k :: q) = some sub → shape sub x = true) → shape S (setPath S t (k :: q) x) = true)

theorem SetSpec.any {S : KS} (h : SetSpec S) (t : TV) (q : List String) (x : TV) :
    (∀ p, incomparable q p = true → getS S (setPath S t q x) p = getS S t p) ∧
    (shape S t = true → (∀ sub, kindAt S q = some sub → shape sub x = true) → shape S (setPath S t q x) = true) := by
  cases q with
  | nil =>
    refine ⟨fun p hi => by simp [incomparable, List.isPrefixOf] at hi, fun _ hx => ?_⟩
    simp only [setPath]
    exact hx S (by simp only [kindAt])
  | cons k q =>
    refine ⟨fun p hi => ?_, (h t k q x).2⟩
    obtain ⟨_, _, k2, p, h1, rfl⟩ := incomparable_cons_cons hi
    exact (h t k q x).1 k2 p hi

theorem setF_spec_of {fs : List (String × KS)} (ih : ∀ f ∈ fs, SetSpec f.2)
    (tfs : List (String × TV)) (k : String) (q : List String) (x : TV) :
    (∀ k2 p, incomparable (k :: q) (k2 :: p) = true → getSF fs (setF fs tfs k q x) k2 p = getSF fs tfs k2 p) ∧
    (shapeF fs tfs = true → (∀ sub, kindAtF fs k q = some sub → shape sub x = true) → shapeF fs (setF fs tfs k q x) = true) := by
  induction fs generalizing tfs with
  | nil => exact ⟨fun _ _ _ => by simp only [setF], fun hs _ => by simpa only [setF] using hs⟩
  | cons f fs ihf =>
    obtain ⟨k', s⟩ := f
    cases tfs with
    | nil => exact ⟨fun _ _ _ => by simp only [setF], fun hs _ => by simp [shapeF] at hs⟩
    | cons th tfs =>
      obtain ⟨kt, t⟩ := th
      obtain ⟨r1, r2⟩ := ihf (fun f hf => ih f (List.mem_cons_of_mem _ hf)) tfs
      obtain ⟨i1, i2⟩ := (ih _ (List.mem_cons_self ..)).any t q x
      simp only [setF, kindAtF]
      split
      · rename_i hk
        refine ⟨fun k2 p hi => ?_, fun hs hx => ?_⟩
        · simp only [getSF]
          split
          · rename_i hk2
            cases eq_of_beq hk
            cases eq_of_beq hk2
            exact i1 p (incomparable_cons hi)
          · rfl
        · simp only [shapeF, Bool.and_eq_true] at hs ⊢
          exact ⟨i2 hs.1 hx, hs.2⟩
      · refine ⟨fun k2 p hi => ?_, fun hs hx => ?_⟩
        · simp only [getSF]
          split
          · rfl
          · exact r1 k2 p hi
        · simp only [shapeF, Bool.and_eq_true] at hs ⊢
          exact ⟨hs.1, r2 hs.2 hx⟩

theorem setPath_spec (S : KS) : SetSpec S := by
  induction S using KS.induct with
  | flat S hf => intro t k q x; rw [setPath_flat hf]; exact ⟨fun _ _ _ => rfl, fun hs _ => hs⟩
  | ptr s ih =>
    intro t k q x
    by_cases hn : t = .nilp
    · subst hn; exact ⟨fun _ _ _ => by simp only [setPath], fun _ _ => by simp only [setPath, shape]⟩
    · have hn' := setPath_ne_nil s t k q x hn
      rw [setPath_ptr_of_ne_nil s t k q x hn, shape_ptr_of_ne_nil s _ hn', shape_ptr_of_ne_nil s t hn]
      refine ⟨fun k2 p hi => ?_, fun hs hx => (ih t k q x).2 hs (fun sub h => hx sub (by simpa only [kindAt] using h))⟩
      rw [getS_ptr_of_ne_nil s _ _ hn', getS_ptr_of_ne_nil s t _ hn]
      exact (ih t k q x).1 k2 p hi
  | struct fs ih =>
    intro t k q x
    cases t with
    | nilp => exact ⟨fun _ _ _ => by simp only [setPath], fun hs _ => by simp [shape] at hs⟩
    | atom a => exact ⟨fun _ _ _ => by simp only [setPath], fun hs _ => by simp [shape] at hs⟩
    | struct tfs => simpa only [setPath, getS, shape, kindAt] using setF_spec_of ih tfs k q x

theorem getS_setPath_other (S : KS) (t : TV) (q p : List String) (x : TV) (h : incomparable q p = true) :
    getS S (setPath S t q x) p = getS S t p := ((setPath_spec S).any t q x).1 p h

theorem shape_setPath (S : KS) (t : TV) (q : List String) (x : TV) (hs : shape S t = true)
    (hx : ∀ sub, kindAt S q = some sub → shape sub x = true) : shape S (setPath S t q x) = true :=
  ((setPath_spec S).any t q x).2 hs hx

theorem getSF_setF_other : ∀ (fs : List (String × KS)) (tfs : List (String × TV)) (k : String) (q : List String)
    (k2 : String) (p : List String) (x : TV), incomparable (k :: q) (k2 :: p) = true →
    getSF fs (setF fs tfs k q x) k2 p = getSF fs tfs k2 p :=
  fun _ tfs k q k2 p x => (setF_spec_of (fun f _ => setPath_spec f.2) tfs k q x).1 k2 p

theorem shapeF_setF : ∀ (fs : List (String × KS)) (tfs : List (String × TV)) (k : String) (q : List String) (x : TV),
    shapeF fs tfs = true → (∀ sub, kindAtF fs k q = some sub → shape sub x = true) → shapeF fs (setF fs tfs k q x) = true :=
  fun _ tfs k q x => (setF_spec_of (fun f _ => setPath_spec f.2) tfs k q x).2

theorem shape_atom_of_leaf (s : KS) (a : Val) (h : isLeafKind s = true) : shape s (.atom a) = true := by
  induction s using KS.induct with
  | flat S hf => exact shape_flat hf a
  | ptr s ih => simp only [isLeafKind] at h; simp only [shape]; exact ih h
  | struct fs _ => simp [isLeafKind] at h

/-! ## the fix-ups -/

theorem shape_preHook (S : KS) (v : Val) (d : TV) (h : Hook) (hs : shape S d = true) : shape S (preHook S v d h) = true := by
  cases h with
  | aliasIfUnset q src dst => exact hs
  | dropUnset paths => exact hs
  | normalizes paths => exact hs
  | resetWhenSet q =>
    simp only [preHook]
    split
    · apply shape_setPath S d q _ hs
      intro sub hk
      simp only [hk, Option.elim]
      exact shape_zero sub
    · exact hs

theorem shape_postHook (S : KS) (v : Val) (t : TV) (h : Hook) (hw : h.wellPlaced S = true) (hs : shape S t = true) :
    shape S (postHook S v t h) = true := by
  cases h with
  | resetWhenSet q => exact hs
  | normalizes paths => exact hs
  | dropUnset paths =>
    refine List.foldlRecOn (motive := fun t => shape S t = true) paths _ hs (fun t hs q hq => ?_)
    split
    · exact hs
    · apply shape_setPath S t q _ hs
      intro sub hk
      -- `wellPlaced`: an optional sits at `q`, and nil has the shape of every optional
      have hq := List.all_eq_true.mp hw q hq
      rw [hk] at hq
      split at hq
      · rename_i s' heq; cases heq; rfl
      · cases hq
  | aliasIfUnset q src dst =>
    simp only [postHook]
    split
    · split
      · apply shape_setPath S t _ _ hs
        intro sub hk
        simp only [Hook.wellPlaced, Bool.and_eq_true, beq_iff_eq] at hw
        have h2 := hw.2
        rw [hk] at h2
        exact shape_atom_of_leaf sub _ (by simpa using h2)
      · exact hs
    · exact hs

theorem getS_postHook (S : KS) (v : Val) (t : TV) (p : List String) (h : Hook) (hc : h.compatible v p = true) :
    getS S (postHook S v t h) p = getS S t p := by
  cases h with
  | resetWhenSet q => rfl
  | normalizes paths => rfl
  | dropUnset paths =>
    refine List.foldlRecOn (motive := fun t' => getS S t' p = getS S t p) paths _ rfl (fun t' ht' q hq => ?_)
    split
    · exact ht'
    · rename_i hset
      have hq := List.all_eq_true.mp hc q hq
      rw [Bool.not_eq_true] at hset
      rw [hset, Bool.false_or] at hq
      rw [getS_setPath_other S t' q p .nilp hq, ht']
  | aliasIfUnset q src dst =>
    simp only [postHook]
    split
    · rename_i hf
      simp only [Hook.compatible, hf, Bool.not_true, Bool.false_or] at hc
      split
      · exact getS_setPath_other S t _ p _ hc
      · rfl
    · rfl

theorem shape_preHooks (S : KS) (v : Val) (hooks : List Hook) (d : TV) (hs : shape S d = true) :
    shape S (hooks.foldl (preHook S v) d) = true :=
  List.foldlRecOn (motive := fun d => shape S d = true) hooks (preHook S v) hs (fun d hd h _ => shape_preHook S v d h hd)

theorem decodeC_shape (hooks : List Hook) (S : KS) (d : TV) (v : Val) (t : TV)
    (hs : shape S d = true) (hw : ∀ h ∈ hooks, h.wellPlaced S = true) (hd : decodeC hooks S d v = some t) :
    shape S t = true := by
  obtain ⟨t0, h0, rfl⟩ := Option.map_eq_some_iff.mp hd
  exact List.foldlRecOn (motive := fun t => shape S t = true) hooks (postHook S v) (decode_shape S _ v t0 (shape_preHooks S v hooks d hs) h0)
    (fun t ht h hm => shape_postHook S v t h (hw h hm) ht)
end OtelVerif.C13

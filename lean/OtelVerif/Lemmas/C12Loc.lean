import OtelVerif.Lemmas.C12
import OtelVerif.Lemmas.C12Merge
import OtelVerif.Model.C12Loc
/-!
# C12 helper lemmas: the generated data against the model, locations, `NewResolver` + `Resolve` by stages, closers

Imports: `splitColon_join` of `Lemmas/C12.lean`; `Pointwise`, `resolveMerged` of `Lemmas/C12Merge.lean`.
-/
namespace OtelVerif.C12

open OtelVerif.Gen

/-! ## the generated data -/

/-- the shapes of the straight-line code the model mirrors, as regenerated from the source on every run: a change of
the source breaks this proof -/
theorem gen_source_shape :
    C12Consts.loopBound = 1000 ∧ C12Consts.uriRegexpAnchored = true ∧
    C12Consts.expandValueCases = ["expandedValue", "string", "[]any", "map[string]any"] ∧
    C12Consts.escapeDollarSignsCases = ["string", "expandedValue", "[]any", "map[string]any", "default"] ∧
    C12Consts.escapeDollarSignsCalls = ["ReplaceAll:$$:$", "ReplaceAll:$$:$"] ∧
    C12Consts.expandValueCalls = ["Contains:${", "Contains:}"] ∧
    C12Consts.findURICalls = ["Index:}", "LastIndex:${", "Contains::", "Contains:}", "Contains:}"] ∧
    C12Consts.expandURICalls = ["Contains::", "Contains:$"] ∧
    C12Consts.findURIParity = "count%2==1;" ∧
    C12Consts.providerSchemeCheck = "MatchString;" ∧
    C12Consts.mergeAppendKinds = ["reflect.Array,reflect.Slice", "reflect.Map", "default"] ∧
    C12Consts.isPresentCompare = "DeepEqual;" ∧
    C12Consts.fileScheme = ['f', 'i', 'l', 'e'] ∧ C12Consts.driverLetterRanges = [(65, 122)] :=
  ⟨rfl, rfl, rfl, rfl, rfl, rfl, rfl, rfl, rfl, rfl, rfl, rfl, rfl, rfl⟩

theorem char_le_iff (a b : Char) : a ≤ b ↔ a.toNat ≤ b.toNat := by
  rw [Char.le_def, UInt32.le_iff_toNat_le]; rfl

theorem char_eq_range (c d : Char) :
    decide (c = d) = (decide (d.toNat ≤ c.toNat) && decide (c.toNat ≤ d.toNat)) := by
  rw [Bool.eq_iff_iff, Bool.and_eq_true, decide_eq_true_eq, decide_eq_true_eq, decide_eq_true_eq,
    ← Nat.le_antisymm_iff, eq_comm (a := d.toNat)]
  exact ⟨congrArg _, fun h => Char.ext (UInt32.toNat_inj.1 h)⟩

-- both sides are the same disjunction of byte ranges once `≤` on `Char` is `≤` on code points; only the order differs
theorem isLetter_eq_gen (c : Char) : isLetter c = inRanges [(65, 90), (97, 122)] c := by
  simp only [isLetter, inRanges, List.any_cons, List.any_nil, Bool.or_false, char_le_iff, Bool.decide_or,
    Bool.decide_and]
  exact Bool.or_comm _ _

theorem isSchemeChar_eq_gen (c : Char) :
    isSchemeChar c = inRanges [(65, 90), (97, 122), (48, 57), (43, 43), (46, 46), (45, 45)] c := by
  simp only [isSchemeChar, isLetter_eq_gen, inRanges, List.any_cons, List.any_nil, Bool.or_false, char_le_iff,
    Bool.decide_or, Bool.decide_and, Bool.decide_eq_true, char_eq_range, Bool.or_assoc]
  rfl

/-! ## locations -/

theorem newLocation_some {uri : Str} {l : Loc} (h : newLocation uri = some l) :
    uri = l.asString ∧ validScheme l.scheme = true := by
  unfold newLocation at h
  cases hs : splitColon uri with
  | none => rw [hs] at h; cases h
  | some p =>
    obtain ⟨sc, op⟩ := p
    simp only [hs] at h
    by_cases hv : validScheme sc = true
    · rw [if_pos hv] at h
      obtain rfl := Option.some.inj h
      exact ⟨splitColon_join uri sc op hs, hv⟩
    · rw [if_neg hv] at h; cases h

theorem uriLocation_ok {provs : List Str} {uri : Str} {l : Loc} (hd : driverLetter uri = false)
    (hc : hasColon uri = true) (h : uriLocation provs uri = .ok l) :
    newLocation uri = some l ∧ provs.contains l.scheme = true := by
  unfold uriLocation at h
  simp only [hd, hc, Bool.not_true, Bool.or_self, Bool.false_eq_true, if_false] at h
  cases hn : newLocation uri with
  | none => rw [hn] at h; cases h
  | some l' =>
    simp only [hn] at h
    by_cases hp : provs.contains l'.scheme = true
    · rw [if_pos hp] at h
      obtain rfl := Except.ok.inj h
      exact ⟨rfl, hp⟩
    · rw [if_neg hp] at h; cases h

theorem uriLocations_pointwise (provs : List Str) : ∀ (uris : List Str) (locs : List Loc),
    uriLocations provs uris = .ok locs → Pointwise (fun u l => uriLocation provs u = .ok l) uris locs
  | [], locs, h => by simp [uriLocations] at h; subst h; exact .nil
  | u :: us, locs, h => by
    simp only [uriLocations] at h
    cases h1 : uriLocation provs u with
    | error e => simp [h1] at h
    | ok l =>
      simp only [h1] at h
      cases h2 : uriLocations provs us with
      | error e => simp [h2] at h
      | ok ls =>
        simp only [h2, Except.ok.injEq] at h
        subst h
        exact .cons h1 (uriLocations_pointwise provs us ls h2)

theorem newResolver_ok {set : Settings} {locs : List Loc} (h : newResolver set = .ok locs) :
    set.uris ≠ [] ∧ set.provSchemes ≠ [] ∧ checkProviders [] set.provSchemes = none ∧
    (set.defaultScheme = [] ∨ set.provSchemes.contains set.defaultScheme = true) ∧
    uriLocations set.provSchemes set.uris = .ok locs := by
  unfold newResolver at h
  by_cases h1 : set.uris.isEmpty = true
  · simp [h1] at h
  by_cases h2 : set.provSchemes.isEmpty = true
  · simp [h1, h2] at h
  simp only [h1, h2, Bool.false_eq_true, if_false] at h
  cases h3 : checkProviders [] set.provSchemes with
  | some e => simp [h3] at h
  | none =>
    simp only [h3] at h
    refine ⟨by intro e; simp [e] at h1, by intro e; simp [e] at h2, rfl, ?_⟩
    by_cases h4 : (!set.defaultScheme.isEmpty && !set.provSchemes.contains set.defaultScheme) = true
    · rw [if_pos h4] at h; cases h
    · rw [if_neg h4] at h
      refine ⟨?_, h⟩
      cases hd : set.defaultScheme with
      | nil => exact .inl rfl
      | cons _ _ => right; simpa [hd] using h4

/-! ## `NewResolver` + `Resolve` from the settings -/

theorem retrieveMerge_ok (gate : Bool) (provs : List Str) (fetch : Str → Option Val) :
    ∀ (locs : List Loc) (acc merged : KVs), retrieveMerge gate provs fetch locs acc = .ok merged →
    ∃ srcs ms, locs.mapM (fun l => fetch l.asString) = some srcs ∧ srcs.mapM asConf = some ms ∧
      (∀ l ∈ locs, provs.contains l.scheme = true) ∧
      merged = ms.foldl (fun acc s => if gate then mergeAppendKVs s acc else mergeKVs s acc) acc
  | [], acc, merged, h => by
    simp only [retrieveMerge, Except.ok.injEq] at h
    exact ⟨[], [], rfl, rfl, by simp, by simp [h]⟩
  | l :: ls, acc, merged, h => by
    simp only [retrieveMerge] at h
    by_cases hp : provs.contains l.scheme = true
    · simp only [hp, Bool.not_true, Bool.false_eq_true, if_false] at h
      cases hf : fetch l.asString with
      | none => simp [hf] at h
      | some v =>
        simp only [hf] at h
        cases ha : asConf v with
        | none => simp [ha] at h
        | some m =>
          simp only [ha] at h
          obtain ⟨srcs, ms, h1, h2, h3, h4⟩ := retrieveMerge_ok gate provs fetch ls _ merged h
          refine ⟨v :: srcs, m :: ms, ?_, ?_, ?_, ?_⟩
          · simp [List.mapM_cons, hf, h1]
          · simp [List.mapM_cons, ha, h2]
          · intro x hx
            rcases List.mem_cons.1 hx with rfl | hx
            · exact hp
            · exact h3 x hx
          · simp [h4]
    · have hp' : l.scheme ∉ provs := by simpa using hp
      simp [hp'] at h

theorem resolveSettings_eq (gate : Bool) (set : Settings) (fetch : Str → Option Val) (env : Env) :
    resolveSettings gate set fetch env =
      match newResolver set with
      | .error e => .error (.ctor e)
      | .ok locs =>
        match retrieveMerge gate set.provSchemes fetch locs .nil with
        | .error e => .error e
        | .ok merged =>
          match resolveMerged env merged with
          | .error e => .error (.resolve e)
          | .ok m => .ok m := by
  unfold resolveSettings resolveMerged
  cases newResolver set with
  | error e => rfl
  | ok locs =>
    dsimp only
    cases retrieveMerge gate set.provSchemes fetch locs .nil with
    | error e => rfl
    | ok merged => dsimp only; cases resolveLeaves env (sortedLeaves merged) <;> rfl

/-! ## closers -/

/-- every id issued so far is either closed or pending, exactly once, in issue order -/
def Life.Inv (s : Life) : Prop := s.closed ++ s.pending = List.range s.next

theorem Life.inv_closeAll {s : Life} (h : s.Inv) : s.closeAll.Inv := by
  unfold Life.Inv Life.closeAll at *
  simpa using h

theorem Life.inv_fire {s : Life} (h : s.Inv) (l : LifeLabel) : (s.fire l).Inv := by
  cases l with
  | shutdown => exact Life.inv_closeAll h
  | resolve cf n =>
    have hc := Life.inv_closeAll h
    cases cf with
    | true => simpa [Life.fire] using hc
    | false =>
      unfold Life.Inv at hc ⊢
      simp only [Life.fire, Bool.false_eq_true, if_false]
      simp only [Life.closeAll, List.append_nil] at hc ⊢
      rw [hc, List.range_add]

theorem Life.run_inv (ls : List LifeLabel) :
    (Life.run {} ls).closed ++ (Life.run {} ls).pending = List.range (Life.run {} ls).next :=
  List.foldlRecOn ls Life.fire (motive := Life.Inv) rfl (fun _ hs l _ => Life.inv_fire hs l)

theorem Life.run_append (s : Life) (a b : List LifeLabel) : Life.run s (a ++ b) = Life.run (Life.run s a) b :=
  List.foldl_append

end OtelVerif.C12

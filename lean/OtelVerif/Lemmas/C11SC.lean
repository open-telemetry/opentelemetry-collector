import OtelVerif.Model.C11Sys
import OtelVerif.Lemmas.C11Run
/-!
# C11 — the projection `pr`, the host wrapper and `sharedcomponent.Component` of `Model/C11Sys.lean`

A report through the wrapper reaches `t` once per occurrence of `t` among the sources (`pr_fan`).  `SC.start` / `SC.shutdown` /
`SC.run` are put into closed form once (one `HW.reportAll` over the whole start / stop history); every other fact about them is
read off through `SC.start_cases`, `SC.shutdown_cases`, `SC.run_cases`.  Last: `SC.Replays` (the ring holds the start history), by
which a late instance is replayed what the first one was reported (`shared_replay_N`).
-/
namespace OtelVerif.C11
open OtelVerif.Gen

/-- the reports of `ops` addressed to `t` -/
def pr (t : Inst) (ops : List Op) : List Report := ops.filterMap (projOp t)

theorem pr_def (t : Inst) (ops : List Op) : ops.filterMap (projOp t) = pr t ops := rfl

theorem Sys.events_eq (cap : Nat) (s : Sys) (i : Inst) : s.events cap i = run .none (pr i (s.ops cap)) := rfl

@[simp] theorem pr_nil (t : Inst) : pr t [] = [] := rfl

theorem pr_append (t : Inst) (a b : List Op) : pr t (a ++ b) = pr t a ++ pr t b := List.filterMap_append

theorem pr_cons_self (t : Inst) (r : Report) (l : List Op) : pr t ((t, r) :: l) = r :: pr t l := by simp [pr, projOp]
theorem pr_cons_ne (t i : Inst) (r : Report) (l : List Op) (h : i ≠ t) : pr t ((i, r) :: l) = pr t l := by simp [pr, projOp, h]

theorem pr_single_self (t : Inst) (r : Report) : pr t [(t, r)] = [r] := by simp [pr, projOp]
theorem pr_single_ne (t i : Inst) (r : Report) (h : i ≠ t) : pr t [(i, r)] = [] := pr_cons_ne t i r [] h

theorem mem_of_mem_pr {t : Inst} {r : Report} {ops : List Op} (h : r ∈ pr t ops) : (t, r) ∈ ops := by
  obtain ⟨⟨i, r'⟩, hop, hp⟩ := List.mem_filterMap.mp h
  simp only [projOp] at hp
  split at hp
  · next hi => cases hp; exact hi ▸ hop
  · cases hp

theorem pr_fan (t : Inst) (l : List Inst) (r : Report) : pr t (l.map (fun i => (i, r))) = List.replicate (l.count t) r := by
  induction l with
  | nil => rfl
  | cons i is ih =>
    by_cases hi : i = t
    · subst hi; rw [List.map_cons, pr_cons_self, ih, List.count_cons_self]; rfl
    · rw [List.map_cons, pr_cons_ne _ _ _ _ hi, ih, List.count_cons_of_ne hi]

theorem pr_events (t i : Inst) (es : List St) :
    pr t (es.map (fun e => (i, Report.status e))) = if i = t then es.map Report.status else [] := by
  by_cases hi : i = t
  · subst hi; simp [pr, projOp, List.filterMap_map, Function.comp_def]
  · simp [pr, projOp, hi, List.filterMap_map, Function.comp_def]

theorem pr_own_self (t : Inst) (hr : Bool) (l : List St) :
    pr t (ownReports t hr l) = (if hr then l else []).map Report.status := by
  cases hr
  · rfl
  · simp [ownReports, pr_events]

theorem pr_own_ne (t i : Inst) (hr : Bool) (l : List St) (h : i ≠ t) : pr t (ownReports i hr l) = [] := by
  cases hr
  · rfl
  · simp [ownReports, pr_events, h]

theorem HW.report_sources (cap : Nat) (h : HW) (e : St) : (h.report cap e).1.sources = h.sources := rfl

theorem HW.reportAll_cons (cap : Nat) (h : HW) (e : St) (es : List St) :
    HW.reportAll cap h (e :: es) =
      ((HW.reportAll cap (h.report cap e).1 es).1, (h.report cap e).2 ++ (HW.reportAll cap (h.report cap e).1 es).2) := rfl

theorem HW.reportAll_sources (cap : Nat) (h : HW) (es : List St) : (HW.reportAll cap h es).1.sources = h.sources := by
  induction es generalizing h with
  | nil => rfl
  | cons e es ih => rw [HW.reportAll_cons, ih]; rfl

theorem HW.reportAll_append (cap : Nat) (h : HW) (a b : List St) :
    HW.reportAll cap h (a ++ b) =
      ((HW.reportAll cap (HW.reportAll cap h a).1 b).1, (HW.reportAll cap h a).2 ++ (HW.reportAll cap (HW.reportAll cap h a).1 b).2) := by
  induction a generalizing h with
  | nil => rfl
  | cons e es ih => simp only [List.cons_append, HW.reportAll_cons, ih, List.append_assoc]

/-- what a fan-out of `es` sends an instance that occurs `m` times among the sources -/
def fanned (m : Nat) (es : List St) : List Report := es.flatMap fun e => List.replicate m (Report.status e)

theorem fanned_zero (es : List St) : fanned 0 es = [] := by simp [fanned]

theorem fanned_one (es : List St) : fanned 1 es = es.map Report.status := List.map_eq_flatMap.symm

theorem mem_fanned {m : Nat} {es : List St} {e : St} (hm : 0 < m) (he : e ∈ es) : Report.status e ∈ fanned m es :=
  List.mem_flatMap.mpr ⟨e, he, List.mem_replicate.mpr ⟨by omega, rfl⟩⟩

theorem HW.reportAll_pr (cap : Nat) (t : Inst) (h : HW) (es : List St) :
    pr t (HW.reportAll cap h es).2 = fanned (h.sources.count t) es := by
  induction es generalizing h with
  | nil => rfl
  | cons e es ih =>
    rw [HW.reportAll_cons, pr_append, ih, HW.report_sources]
    exact congrArg (· ++ _) (pr_fan t _ _)

theorem HW.addSource_pr (t i : Inst) (h : HW) (hi : i ≠ t) : pr t (h.addSource i).2 = [] := by
  rw [HW.addSource, pr_events, if_neg hi]

theorem HW.reportAll_ring (cap : Nat) (h : HW) (es : List St) (hs : h.sources ≠ [])
    (hfit : h.ring.length + es.length ≤ cap) : (HW.reportAll cap h es).1.ring = h.ring ++ es := by
  induction es generalizing h with
  | nil => exact (List.append_nil _).symm
  | cons e es ih =>
    rw [List.length_cons] at hfit
    have hemp : h.sources.isEmpty = false := by simpa using hs
    have h1 : (h.report cap e).1.ring = h.ring ++ [e] := by
      simp only [HW.report, hemp, Bool.false_eq_true, if_false, pushRing_fit cap h.ring e (by omega)]
    show (HW.reportAll cap (h.report cap e).1 es).1.ring = _
    rw [ih (h.report cap e).1 hs (by rw [h1, List.length_append, List.length_singleton]; omega), h1, List.append_assoc]
    rfl

/-- what `startOnce` / `stopOnce` and the `hostWrapper == nil` tests maintain -/
def SCInv (c : SC) : Prop :=
  (c.hw.isSome = c.startOnce) ∧ c.innerStarts = (if c.startOnce then 1 else 0) ∧ c.innerStops = (if c.stopOnce then 1 else 0)

theorem SCInv.wrapper {c : SC} (h : SCInv c) : c.hw.isSome = c.startOnce := h.1

theorem SCInv_fresh (sc : Script) : SCInv { script := sc } := by simp [SCInv]

def SC.sources (c : SC) : List Inst := (c.hw.map (·.sources)).getD []

theorem SC.sources_of_hw {c : SC} {h : HW} (hw : c.hw = some h) : c.sources = h.sources := by simp [SC.sources, hw]

/-- what the component itself reports through the wrapper during its (single) `Start` -/
def Script.startHistory (sc : Script) : List St :=
  StatusGlue.sharedStartPre ++ sc.duringStart ++ (if sc.failStart then StatusGlue.sharedStartErr else [])

def Script.stopHistory (sc : Script) : List St :=
  StatusGlue.sharedStopPre ++ sc.duringStop ++ (if sc.failStop then StatusGlue.sharedStopErr else StatusGlue.sharedStopOk)

theorem SC.start_fresh (cap : Nat) (c : SC) (i : Inst) (hr : Bool) (hw : c.hw = Option.none) (hso : c.startOnce = false) :
    c.start cap i hr =
      ({ c with hw := some (HW.reportAll cap { sources := if hr then [i] else [] } c.script.startHistory).1, startOnce := true,
                innerStarts := c.innerStarts + 1 },
       (HW.reportAll cap { sources := if hr then [i] else [] } c.script.startHistory).2, c.script.failStart) := by
  -- `reportAll` over `a ++ b` is two `reportAll`s, and `addSource` on the empty wrapper replays nothing
  simp only [SC.start, hw, hso, Script.startHistory, HW.reportAll_append]
  cases hr <;> cases c.script.failStart <;> simp [HW.addSource, HW.reportAll]

theorem SC.start_attach (cap : Nat) (c : SC) (h : HW) (i : Inst) (hw : c.hw = some h) :
    c.start cap i true =
      ({ c with hw := some { h with sources := h.sources ++ [i] } }, h.ring.map (fun e => (i, Report.status e)), false) := by
  simp only [SC.start, hw, HW.addSource, if_true]

/-- `stale` is unreachable -/
theorem SC.start_cases (cap : Nat) (c : SC) (i : Inst) (hr : Bool) {P : SC × List Op × Bool → Prop}
    (fresh : c.hw = Option.none → c.startOnce = false →
      P ({ c with hw := some (HW.reportAll cap { sources := if hr then [i] else [] } c.script.startHistory).1, startOnce := true,
                  innerStarts := c.innerStarts + 1 },
         (HW.reportAll cap { sources := if hr then [i] else [] } c.script.startHistory).2, c.script.failStart))
    (stale : c.hw = Option.none → c.startOnce = true → P (c, [], false))
    (mute : ∀ h, c.hw = some h → hr = false → P (c, [], false))
    (attach : ∀ h, c.hw = some h → hr = true →
      P ({ c with hw := some { h with sources := h.sources ++ [i] } }, h.ring.map (fun e => (i, Report.status e)), false)) :
    P (c.start cap i hr) := by
  cases hw : c.hw with
  | none =>
    cases hso : c.startOnce with
    | false => rw [SC.start_fresh cap c i hr hw hso]; exact fresh hw hso
    | true => rw [show c.start cap i hr = (c, [], false) by simp [SC.start, hw, hso]]; exact stale hw hso
  | some h =>
    cases hr with
    | false => rw [show c.start cap i false = (c, [], false) by simp [SC.start, hw]]; exact mute h hw rfl
    | true => rw [SC.start_attach cap c h i hw]; exact attach h hw rfl

theorem SC.shutdown_cases (cap : Nat) (c : SC) {P : SC × List Op × Bool → Prop}
    (spent : c.stopOnce = true → P (c, [], false))
    (unstarted : c.hw = Option.none → c.stopOnce = false →
      P ({ c with stopOnce := true, innerStops := c.innerStops + 1 }, [], c.script.failStop))
    (started : ∀ h, c.hw = some h → c.stopOnce = false →
      P ({ c with hw := some (HW.reportAll cap h c.script.stopHistory).1, stopOnce := true, innerStops := c.innerStops + 1 },
         (HW.reportAll cap h c.script.stopHistory).2, c.script.failStop)) :
    P (c.shutdown cap) := by
  cases hso : c.stopOnce with
  | true => simpa only [SC.shutdown, hso, if_true] using spent hso
  | false =>
    cases hw : c.hw with
    | none => simpa only [SC.shutdown, hw, hso, Bool.false_eq_true, if_false] using unstarted hw hso
    | some h =>
      -- the three `reportAll`s are one over the whole stop history
      simpa only [SC.shutdown, hw, hso, Script.stopHistory, HW.reportAll_append, Bool.false_eq_true, if_false, List.append_assoc]
        using started h hw hso

theorem SC.run_cases (cap : Nat) (c : SC) {P : SC × List Op → Prop} (unstarted : c.hw = Option.none → P (c, []))
    (started : ∀ h, c.hw = some h →
      P ({ c with hw := some (HW.reportAll cap h c.script.running).1 }, (HW.reportAll cap h c.script.running).2)) :
    P (c.run cap) := by
  cases hw : c.hw with
  | none => simpa only [SC.run, hw] using unstarted hw
  | some h => simpa only [SC.run, hw] using started h hw

theorem SCInv_start (cap : Nat) (c : SC) (i : Inst) (hr : Bool) (h : SCInv c) : SCInv (c.start cap i hr).1 := by
  obtain ⟨h1, h2, h3⟩ := h
  refine SC.start_cases cap c i hr (P := fun r => SCInv r.1) (fun _ hso => ⟨rfl, by rw [h2, hso]; rfl, h3⟩) (fun _ _ => ⟨h1, h2, h3⟩)
    (fun _ _ _ => ⟨h1, h2, h3⟩) (fun h0 hw _ => ⟨by rw [← h1, hw]; rfl, h2, h3⟩)

theorem SCInv_shutdown (cap : Nat) (c : SC) (h : SCInv c) : SCInv (c.shutdown cap).1 := by
  obtain ⟨h1, h2, h3⟩ := h
  refine SC.shutdown_cases cap c (P := fun r => SCInv r.1) (fun _ => ⟨h1, h2, h3⟩) (fun _ hso => ⟨h1, h2, by rw [h3, hso]; rfl⟩)
    (fun h0 hw hso => ⟨by rw [← h1, hw]; rfl, h2, by rw [h3, hso]; rfl⟩)

theorem SCInv_run (cap : Nat) (c : SC) (h : SCInv c) : SCInv (c.run cap).1 :=
  SC.run_cases cap c (P := fun r => SCInv r.1) (fun _ => h) (fun h0 hw => ⟨by rw [← h.wrapper, hw]; rfl, h.2⟩)

theorem SC.start_sources (cap : Nat) (c : SC) (i : Inst) (hr : Bool) (h : c.hw.isSome = c.startOnce) :
    (c.start cap i hr).1.sources = c.sources ++ (if hr then [i] else []) := by
  refine SC.start_cases cap c i hr (P := fun r => r.1.sources = c.sources ++ (if hr then [i] else [])) ?_ ?_ ?_ ?_
  · intro hw _; simp [SC.sources, hw, HW.reportAll_sources]
  · intro hw hso; rw [hw, hso] at h; cases h
  · intro _ _ hf; simp [hf]
  · intro h0 hw ht; simp [SC.sources, hw, ht]

theorem SC.shutdown_sources (cap : Nat) (c : SC) : (c.shutdown cap).1.sources = c.sources := by
  refine SC.shutdown_cases cap c (P := fun r => r.1.sources = c.sources) (fun _ => rfl) ?_ ?_
  · intro hw _; simp [SC.sources, hw]
  · intro h0 hw _; simp [SC.sources, hw, HW.reportAll_sources]

theorem SC.run_sources (cap : Nat) (c : SC) : (c.run cap).1.sources = c.sources :=
  SC.run_cases cap c (P := fun r => r.1.sources = c.sources) (fun _ => rfl)
    (fun h0 hw => by simp [SC.sources, hw, HW.reportAll_sources])

theorem SC.start_script (cap : Nat) (c : SC) (i : Inst) (hr : Bool) : (c.start cap i hr).1.script = c.script :=
  SC.start_cases cap c i hr (P := fun r => r.1.script = c.script) (fun _ _ => rfl) (fun _ _ => rfl) (fun _ _ _ => rfl) (fun _ _ _ => rfl)

theorem SC.shutdown_script (cap : Nat) (c : SC) : (c.shutdown cap).1.script = c.script :=
  SC.shutdown_cases cap c (P := fun r => r.1.script = c.script) (fun _ => rfl) (fun _ _ => rfl) (fun _ _ _ => rfl)

theorem SC.run_script (cap : Nat) (c : SC) : (c.run cap).1.script = c.script :=
  SC.run_cases cap c (P := fun r => r.1.script = c.script) (fun _ => rfl) (fun _ _ => rfl)

theorem SC.start_other (cap : Nat) (t i : Inst) (hr : Bool) (c : SC) (hi : i ≠ t) :
    pr t (c.start cap i hr).2.1 = [] ∧ (c.start cap i hr).1.sources.count t = c.sources.count t := by
  refine SC.start_cases cap c i hr (P := fun r => pr t r.2.1 = [] ∧ r.1.sources.count t = c.sources.count t) ?_
    (fun _ _ => ⟨rfl, rfl⟩) (fun _ _ _ => ⟨rfl, rfl⟩) ?_
  · intro hw _
    have hn : ({ sources := if hr then [i] else [] } : HW).sources.count t = 0 := by cases hr <;> simp [hi]
    exact ⟨by rw [HW.reportAll_pr, hn]; exact fanned_zero _, by simpa [SC.sources, hw, HW.reportAll_sources] using hn⟩
  · intro h0 hw _
    exact ⟨by rw [pr_events, if_neg hi], by simp [SC.sources, hw, hi]⟩

theorem SC.shutdown_pr (cap : Nat) (t : Inst) (c : SC) :
    pr t (c.shutdown cap).2.1 = fanned (c.sources.count t) (if c.stopOnce then [] else c.script.stopHistory) := by
  refine SC.shutdown_cases cap c
    (P := fun r => pr t r.2.1 = fanned (c.sources.count t) (if c.stopOnce then [] else c.script.stopHistory)) ?_ ?_ ?_
  · intro hso; rw [hso]; rfl
  · intro hw _; simp [SC.sources, hw, fanned]
  · intro h hw hso; rw [HW.reportAll_pr, SC.sources_of_hw hw, hso]; rfl

theorem SC.run_pr (cap : Nat) (t : Inst) (c : SC) : pr t (c.run cap).2 = fanned (c.sources.count t) c.script.running := by
  refine SC.run_cases cap c (P := fun r => pr t r.2 = fanned (c.sources.count t) c.script.running) ?_ ?_
  · intro hw; simp [SC.sources, hw, fanned]
  · intro h hw; rw [HW.reportAll_pr, SC.sources_of_hw hw]

theorem SC.fire_report (cap : Nat) (c : SC) (e : St) :
    c.fire cap (.report e) =
      ({ c with hw := c.hw.map fun h => (h.report cap e).1 }, c.sources.map fun i => (i, Report.status e)) := by
  obtain ⟨_, hw, _, _, _, _⟩ := c
  cases hw <;> rfl

theorem SCInv_fire (cap : Nat) (c : SC) (l : SCLabel) (h : SCInv c) : SCInv (c.fire cap l).1 := by
  cases l with
  | start i hr => exact SCInv_start cap c i hr h
  | shutdown => exact SCInv_shutdown cap c h
  | report e => rw [SC.fire_report]; exact ⟨by rw [← h.wrapper]; cases c.hw <;> rfl, h.2⟩

theorem SCInv_fireAll (cap : Nat) (c : SC) (ls : List SCLabel) (h : SCInv c) : SCInv (SC.fireAll cap c ls).1 := by
  induction ls generalizing c with
  | nil => exact h
  | cons l ls ih => exact ih _ (SCInv_fire cap c l h)

/-- the instances started with a reporting host -/
def attached : List SCLabel → List Inst
  | [] => []
  | .start i true :: r => i :: attached r
  | _ :: r => attached r

theorem attached_cons (l : SCLabel) (r : List SCLabel) : attached (l :: r) = attached [l] ++ attached r := by
  cases l with
  | start i hr => cases hr <;> rfl
  | shutdown => rfl
  | report e => rfl

theorem attached_append (a b : List SCLabel) : attached (a ++ b) = attached a ++ attached b := by
  induction a with
  | nil => simp [attached]
  | cons l r ih => rw [List.cons_append, attached_cons, ih, attached_cons l r, List.append_assoc]

theorem SC.fire_sources (cap : Nat) (c : SC) (l : SCLabel) (h : c.hw.isSome = c.startOnce) :
    (c.fire cap l).1.sources = c.sources ++ attached [l] := by
  cases l with
  | start i hr => exact (SC.start_sources cap c i hr h).trans (by cases hr <;> rfl)
  | shutdown => exact (SC.shutdown_sources cap c).trans (List.append_nil _).symm
  | report e => rw [SC.fire_report]; cases hw : c.hw <;> simp [SC.sources, hw, attached, HW.report_sources]

theorem SC.fireAll_append (cap : Nat) (c : SC) (a b : List SCLabel) :
    SC.fireAll cap c (a ++ b) = ((SC.fireAll cap (SC.fireAll cap c a).1 b).1, (SC.fireAll cap c a).2 ++ (SC.fireAll cap (SC.fireAll cap c a).1 b).2) := by
  induction a generalizing c with
  | nil => simp [SC.fireAll]
  | cons l r ih => simp only [List.cons_append, SC.fireAll, ih, List.append_assoc]

theorem SC.fireAll_sources (cap : Nat) (c : SC) (ls : List SCLabel) (h : SCInv c) :
    (SC.fireAll cap c ls).1.sources = c.sources ++ attached ls := by
  induction ls generalizing c with
  | nil => simp [SC.fireAll, attached]
  | cons l r ih =>
    simp only [SC.fireAll]
    rw [ih _ (SCInv_fire cap c l h), SC.fire_sources cap c l h.wrapper, attached_cons l r, List.append_assoc]

/-- not started yet, or the ring holds everything the component reported through the wrapper during `Start` -/
def SC.Replays (sc : Script) (c : SC) : Prop :=
  c = { script := sc } ∨ ∃ h, c.hw = some h ∧ h.ring = sc.startHistory ∧ c.script = sc

theorem SC.Replays.script {sc : Script} {c : SC} (h : c.Replays sc) : c.script = sc := by
  rcases h with rfl | ⟨_, _, _, hs⟩
  · rfl
  · exact hs

theorem SC.Replays.start {cap : Nat} {sc : Script} {c : SC} (h : c.Replays sc) (hfit : sc.startHistory.length ≤ cap) (i : Inst) :
    (c.start cap i true).1.Replays sc ∧ pr i (c.start cap i true).2.1 = sc.startHistory.map Report.status ∧
      (c.start cap i true).1.sources = c.sources ++ [i] := by
  rcases h with rfl | ⟨h0, hw, hr, hs⟩
  · rw [SC.start_fresh cap _ i true rfl rfl]
    refine ⟨Or.inr ⟨_, rfl, ?_, rfl⟩, (HW.reportAll_pr ..).trans ?_, by simp [SC.sources, HW.reportAll_sources]⟩
    · exact (HW.reportAll_ring cap _ _ (by simp) (by simpa using hfit)).trans (List.nil_append _)
    · rw [if_pos rfl, List.count_singleton_self]; exact fanned_one _
  · rw [SC.start_attach cap _ h0 i hw]
    exact ⟨Or.inr ⟨_, rfl, hr, hs⟩, by rw [hr, pr_events, if_pos rfl], by simp [SC.sources, hw]⟩

theorem attach_step_script (cap : Nat) (c : SC) (h : HW) (y : Inst) (hw : c.hw = some h) :
    (c.start cap y true).1.script = c.script := SC.start_script cap c y true

/-- others' `Start`s keep `Replays` and hand `t` nothing -/
theorem starts_others (cap : Nat) (sc : Script) (t : Inst) (ys : List Inst) (ht : t ∉ ys) (c : SC) (h : c.Replays sc)
    (hfit : sc.startHistory.length ≤ cap) :
    (SC.fireAll cap c (ys.map (fun y => SCLabel.start y true))).1.Replays sc ∧
      pr t (SC.fireAll cap c (ys.map (fun y => SCLabel.start y true))).2 = [] := by
  induction ys generalizing c with
  | nil => exact ⟨h, rfl⟩
  | cons y ys ih =>
    obtain ⟨i1, i2⟩ := ih (fun e => ht (List.mem_cons_of_mem _ e)) _ (h.start hfit y).1
    exact ⟨i1, by simp only [List.map_cons, SC.fireAll, SC.fire, pr_append, i2,
      (SC.start_other cap t y true c (fun e => ht (e ▸ List.mem_cons_self ..))).1]; rfl⟩

theorem shared_replay_N (cap : Nat) (sc : Script) (x z : Inst) (xs : List Inst) (hzx : z ≠ x) (hz : z ∉ xs) (hx : x ∉ xs)
    (hfit : sc.startHistory.length ≤ cap) :
    pr z (SC.fireAll cap { script := sc }
      (SCLabel.start x true :: (xs.map (fun y => SCLabel.start y true) ++ [SCLabel.start z true]))).2 = sc.startHistory.map Report.status ∧
    pr x (SC.fireAll cap { script := sc }
      (SCLabel.start x true :: (xs.map (fun y => SCLabel.start y true) ++ [SCLabel.start z true]))).2 = sc.startHistory.map Report.status := by
  -- `x`'s `Start` reports the history to `x` (`p1`), the others' hand `x` and `z` nothing (`q1`, `q2`), `z`'s replays it to `z` (`p3`)
  obtain ⟨r1, p1, _⟩ := SC.Replays.start (cap := cap) (sc := sc) (Or.inl rfl) hfit x
  obtain ⟨r2, q1⟩ := starts_others cap sc z xs hz _ r1 hfit
  obtain ⟨_, q2⟩ := starts_others cap sc x xs hx _ r1 hfit
  obtain ⟨_, p3, _⟩ := r2.start (cap := cap) hfit z
  simp only [SC.fireAll, SC.fire, SC.fireAll_append, pr_append, List.append_nil, p1, p3, q1, q2,
    (SC.start_other cap z x true _ (Ne.symm hzx)).1, (SC.start_other cap x z true _ hzx).1]
  simp

end OtelVerif.C11

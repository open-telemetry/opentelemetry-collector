import OtelVerif.Model.C16
/-!
# C16 — the regenerated flags as equations, what the enable loop leaves in the map under a name (`assoc_buildEnabled`), the bounds of
`limitRead`, the dispatch of `ServeHTTP` as a normal form with its arms (`serveS_eq` …; the `serve` facts are the `custom = []`
instances, `serveS_no_custom`), two level-table facts
-/
namespace OtelVerif.C16
open OtelVerif.Gen

theorem assoc_mem {β : Type} {l : List (String × β)} {k : String} {v : β} (h : assoc l k = some v) : (k, v) ∈ l := by
  induction l with
  | nil => simp [assoc] at h
  | cons p rest ih =>
    obtain ⟨k', v'⟩ := p
    by_cases hk : k = k'
    · simp [assoc, hk] at h; subst hk; simp [h]
    · simp only [assoc, hk, if_false] at h; exact List.mem_cons_of_mem _ (ih h)

theorem outerLimitOnWire_eq : Compression.outerLimitOnWire = true := rfl
theorem installsNilForUnknown_eq : Compression.installsNilForUnknown = false := rfl
theorem resolve_empty : resolve "" = some .identity := by decide +kernel
theorem alias_targets_exist : ∀ a ∈ Compression.aliases, avail a.2 ≠ .nilFunc := by decide +kernel

theorem limitRead_le (n : Nat) (s : Stream) : (limitRead n s).data.length ≤ n := by
  unfold limitRead
  by_cases h : s.data.length ≤ n
  · simp [h]
  · simp only [h, if_false, List.length_take]; omega

theorem limitRead_of_le {n : Nat} {s : Stream} (h : s.data.length ≤ n) : limitRead n s = s := by
  simp [limitRead, h]

theorem limitRead_of_gt {n : Nat} {s : Stream} (h : n < s.data.length) : limitRead n s = ⟨s.data.take n, false⟩ := by
  have : ¬ s.data.length ≤ n := by omega
  simp [limitRead, this]

theorem assoc_enableOne (m : EMap) (dec name : String) :
    assoc (enableOne m dec) name =
      if name = dec then (match resolve name with | some e => some e | none => assoc m name) else assoc m name := by
  unfold enableOne resolve
  by_cases hn : name = dec
  · subst hn
    cases assoc Compression.aliases name <;> cases (Compression.installsNilForUnknown || availHas name) <;> simp [assoc]
  · cases assoc Compression.aliases dec <;> cases (Compression.installsNilForUnknown || availHas dec) <;> simp [assoc, hn]

theorem assoc_foldl_enable (l : List String) (m : EMap) (name : String) :
    assoc (l.foldl enableOne m) name =
      if name ∈ l then (match resolve name with | some e => some e | none => assoc m name) else assoc m name := by
  induction l generalizing m with
  | nil => simp
  | cons d rest ih =>
    rw [List.foldl_cons, ih, assoc_enableOne]
    by_cases h1 : name = d <;> by_cases h2 : name ∈ rest <;> cases resolve name <;> simp [h1, h2]

/-- what the server's `enabled` map holds under a name: exactly the listed names that resolve -/
theorem assoc_buildEnabled (l : List String) (name : String) :
    assoc (buildEnabled l) name = if name ∈ l then resolve name else none := by
  unfold buildEnabled
  rw [assoc_foldl_enable]
  by_cases h : name ∈ l
  · cases hr : resolve name <;> simp [h, assoc]
  · simp [h, assoc]

theorem resolve_ne_nil (name : String) : resolve name ≠ some .nilFunc := by
  unfold resolve
  cases ha : assoc Compression.aliases name with
  | some to => simpa using alias_targets_exist (name, to) (assoc_mem ha)
  | none =>
    simp only [installsNilForUnknown_eq, Bool.false_or, availHas, avail]
    cases assoc Compression.availableDecoders name with
    | none => simp
    | some o => cases o <;> simp

theorem resolve_none_of_not_decodable {name : String} (h : decodable name = false) : resolve name = none := by
  unfold decodable at h
  simp only [Bool.or_eq_false_iff] at h
  unfold resolve
  cases ha : assoc Compression.aliases name with
  | some to => simp [ha] at h
  | none => simp [installsNilForUnknown_eq, h.1]

theorem serveS_eq (codec : String → Codec) (s : Server) (r : Request) :
    serveS codec s r =
      match decoderFor s r.encoding with
      | none => .rejected Compression.rejectStatus
      | some .nilFunc => .panicked
      | some .identity => .handled (limitRead s.limit r.wire)
      | some (.lib l) =>
        match (codec l).dec (limitRead s.limit r.wire) with
        | none => .rejected Compression.rejectStatus
        | some st => .handled (limitRead s.limit st) := by
  unfold serveS
  rw [outerLimitOnWire_eq]
  rfl

theorem serveS_no_custom (codec : String → Codec) (cfg : Cfg) (r : Request) :
    serveS codec ⟨cfg, []⟩ r = serve codec cfg r := rfl

theorem decoderFor_no_custom (cfg : Cfg) (name : String) :
    decoderFor ⟨cfg, []⟩ name = if name ∈ cfg.enabled then resolve name else none :=
  assoc_buildEnabled cfg.enabled name

theorem decoderFor_ne_nil (s : Server) (name : String) : decoderFor s name ≠ some .nilFunc := by
  unfold decoderFor
  split
  · split <;> simp
  · rw [assoc_buildEnabled]
    split
    · exact resolve_ne_nil name
    · simp

theorem serveS_identity (codec : String → Codec) {s : Server} {name : String} (h : decoderFor s name = some .identity)
    (w : Stream) : serveS codec s ⟨name, w⟩ = .handled (limitRead s.limit w) := by
  rw [serveS_eq, h]

theorem serveS_lawful (codec : String → Codec) {s : Server} {name l : String} (h : decoderFor s name = some (.lib l))
    (hlaw : (codec l).Lawful) (b : Bytes) (hwire : ((codec l).enc b).length ≤ s.limit) :
    serveS codec s ⟨name, ⟨(codec l).enc b, true⟩⟩ = .handled (limitRead s.limit ⟨b, true⟩) := by
  rw [serveS_eq, h]
  simp only
  rw [limitRead_of_le (s := ⟨(codec l).enc b, true⟩) hwire, hlaw b]

theorem serve_identity (codec : String → Codec) {cfg : Cfg} (hen : "" ∈ cfg.enabled) (w : Stream) :
    serve codec cfg ⟨"", w⟩ = .handled (limitRead cfg.limit w) :=
  (serveS_no_custom codec cfg _).symm.trans
    (serveS_identity codec (by rw [decoderFor_no_custom, if_pos hen, resolve_empty]) w)

/-- server side of the round trip, for an intact lawful stream under an enabled name -/
theorem serve_lawful (codec : String → Codec) (cfg : Cfg) (name l : String) (b : Bytes)
    (hlaw : (codec l).Lawful) (hres : resolve name = some (.lib l)) (hen : name ∈ cfg.enabled)
    (hwire : ((codec l).enc b).length ≤ cfg.limit) :
    serve codec cfg ⟨name, ⟨(codec l).enc b, true⟩⟩ = .handled (limitRead cfg.limit ⟨b, true⟩) :=
  (serveS_no_custom codec cfg _).symm.trans
    (serveS_lawful codec (by rw [decoderFor_no_custom, if_pos hen, hres]) hlaw b hwire)

/-- a registered decoder is never nil, and the enable loop stores none -/
theorem serveS_no_panic (codec : String → Codec) (s : Server) (r : Request) : serveS codec s r ≠ .panicked := by
  rw [serveS_eq]
  split
  · simp
  · rename_i he; exact absurd he (decoderFor_ne_nil s _)
  · simp
  · split <;> simp

theorem serveS_cases (codec : String → Codec) (s : Server) (r : Request) :
    serveS codec s r = .rejected Compression.rejectStatus ∨ serveS codec s r = .panicked ∨
      ∃ x, serveS codec s r = .handled (limitRead s.limit x) := by
  rw [serveS_eq]
  -- each arm of `serveS_eq` is one of the disjuncts
  repeat' split
  all_goals first | exact Or.inl rfl | exact Or.inr (Or.inl rfl) | exact Or.inr (Or.inr ⟨_, rfl⟩)

theorem effLevel_flate_range {l : Int} (h : -2 ≤ l ∧ l ≤ 9) : -2 ≤ effLevel l ∧ effLevel l ≤ 9 := by
  unfold effLevel Compression.unsetLevelBecomes
  split <;> omega

theorem flate_writers_have_flate_rule : ∀ w ∈ Compression.writers,
    assoc Compression.writerPassesLevel w.1 = some true → (w.2 = "gzip" ∨ w.2 = "zlib") →
      Compression.anyLevelTypes.contains w.1 = false ∧
      assoc Compression.levelRules w.1 = some ([-1, -2, 0], [(1, 9)]) := by decide +kernel

end OtelVerif.C16

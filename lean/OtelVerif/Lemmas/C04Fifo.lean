import OtelVerif.Lemmas.C04Seq
import OtelVerif.Lemmas.C04Drop
/-!
C04: `MergeSplit` is FIFO (up to `R`, see `C04Seq`), for any signal whose operations are `SeqOps`.
-/
namespace OtelVerif.C04
open OtelVerif.Payload

/-- `SeqOps` at `R = Eq`, as a result -/
structure FifoOps {P β : Type} (o : Ops P) (flat : P → List β) : Prop where
  extract : ∀ cap p, flat (o.extract cap p).1 ++ flat (o.extract cap p).2.1 = flat p
  moveFirst : ∀ s d, flat (o.moveFirst s d).2.1 ++ flat (o.moveFirst s d).1 = flat d ++ flat s
  moveFirst_none : ∀ s d, (o.moveFirst s d).2.2 = false →
    flat (o.moveFirst s d).1 = [] ∧ flat (o.moveFirst s d).2.1 = flat d ∧ flat s = []
  append : ∀ a b, flat (o.append a b) = flat a ++ flat b

/-- what FIFO up to `R` needs of a signal's operations -/
structure SeqOps {P β : Type} (R : List β → List β → Prop) (o : Ops P) (flat : P → List β) : Prop where
  extract : ∀ cap p, R (flat (o.extract cap p).1 ++ flat (o.extract cap p).2.1) (flat p)
  moveFirst : ∀ s d, flat (o.moveFirst s d).2.1 ++ flat (o.moveFirst s d).1 = flat d ++ flat s
  append : ∀ a b, flat (o.append a b) = flat a ++ flat b
  /-- `moveFirst` moves at most one item, behind what `dest` holds -/
  one : ∀ s d, ∃ x, flat (o.moveFirst s d).2.1 = flat d ++ x ∧ x.length ≤ 1
  /-- and reports `false` only when there was none -/
  none : ∀ s d, (o.moveFirst s d).2.2 = false → flat s = []

theorem SeqOps.unmoved {P β : Type} {R : List β → List β → Prop} {o : Ops P} {flat : P → List β} (h : SeqOps R o flat)
    (s d : P) (hs : flat s = []) : flat (o.moveFirst s d).1 = [] ∧ flat (o.moveFirst s d).2.1 = flat d := by
  obtain ⟨x, hx, _⟩ := h.one s d
  have he := h.moveFirst s d
  rw [hs, hx, List.append_assoc] at he
  have hnil := List.append_eq_nil_iff.mp (List.append_cancel_left he)
  exact ⟨hnil.2, by rw [hx, hnil.1, List.append_nil]⟩

theorem SeqOps.fifo {P β : Type} {o : Ops P} {flat : P → List β} (h : SeqOps Eq o flat) : FifoOps o flat := by
  refine ⟨h.extract, h.moveFirst, fun s d hm => ?_, h.append⟩
  have hs := h.none s d hm
  have hn := h.unmoved s d hs
  exact ⟨hn.1, hn.2, hs⟩

theorem Splits.seq {P β : Type} {R : List β → List β → Prop} (m : Seq R) {o : Ops P} {flat : P → List β}
    (hc : SeqOps R o flat) {max : Int} {req : Req P} {out : List (Req P)} (h : Splits o max req out) :
    R (flatReqs flat out) (flat req.p) := by
  induction h with
  | fits req _ => exact m.of_eq (flatReqs_single flat _)
  | stuck req _ _ hmv =>
    have hs := hc.none _ _ hmv
    have hn := hc.unmoved _ (o.extract max req.p).1 hs
    have hx := hc.extract max req.p
    rw [hs, List.append_nil] at hx
    rw [flatReqs_single, hc.append, hn.1, hn.2, List.nil_append]
    exact hx
  | moved req out _ _ _ _ ih =>
    rw [flatReqs_cons]
    exact m.trans (m.append (m.refl _) ih) (m.trans (m.of_eq (hc.moveFirst _ _)) (hc.extract max req.p))
  | extracted req out _ _ _ ih =>
    rw [flatReqs_cons]
    exact m.trans (m.append (m.refl _) ih) (hc.extract max req.p)

/-- `FifoOps` with the order forgotten, as a result -/
structure Conserves {P β : Type} (o : Ops P) (flat : P → List β) : Prop where
  extract : ∀ cap p, (flat (o.extract cap p).1 ++ flat (o.extract cap p).2.1).Perm (flat p)
  moveFirst : ∀ s d, (flat (o.moveFirst s d).1 ++ flat (o.moveFirst s d).2.1).Perm (flat s ++ flat d)
  append : ∀ a b, flat (o.append a b) = flat a ++ flat b

theorem FifoOps.conserves {P β : Type} {o : Ops P} {flat : P → List β} (h : FifoOps o flat) : Conserves o flat :=
  ⟨fun cap p => .of_eq (h.extract cap p),
   fun s d => List.perm_append_comm.trans ((List.Perm.of_eq (h.moveFirst s d)).trans List.perm_append_comm), h.append⟩

def optFlat {P β : Type} (flat : P → List β) (r : Option (Req P)) : List β :=
  match r with
  | some r => flat r.p
  | none => []

theorem merged_flat {P β : Type} (o : Ops P) (flat : P → List β) (ha : ∀ a b, flat (o.append a b) = flat a ++ flat b)
    (r1 : Req P) (r2 : Option (Req P)) : flat (merged o r1 r2).p = flat r1.p ++ optFlat flat r2 := by
  cases r2 with
  | none => exact (List.append_nil _).symm
  | some r2 => exact ha r1.p r2.p

/-- for any signal, and flattenings compared up to `R` (`Eq`, or `Each (Frag keep)` for metrics) -/
theorem mergeSplit_fifo {P β : Type} {R : List β → List β → Prop} (m : Seq R) (o : Ops P) (flat : P → List β)
    (hc : SeqOps R o flat) (hE : ∀ p, o.empty p = true → flat p = []) (max : Int) (r1 : Req P) (r2 : Option (Req P))
    (out : List (Req P)) (h : mergeSplit o max r1 r2 = some out) :
    R (flatReqs flat out) (flat r1.p ++ optFlat flat r2) := by
  rw [← merged_flat o flat hc.append r1 r2]
  rcases mergeSplit_cases o max r1 r2 out h with ⟨_, rfl⟩ | ⟨_, out0, hs, rfl⟩
  · exact m.of_eq (flatReqs_single flat _)
  · rw [dropEmptyLast_flat o flat hE]
    exact hs.seq m hc

end OtelVerif.C04

import OtelVerif.Lemmas.C20Fsm
/-!
# C20 — the state samples of a model log (`stTr`) form a path of the FSM that ends in the current state word (`LogInv`)

This is what the driver's lifecycle oracle `fsmLogBad` needs to accept every log the model can produce (`fsmPath_dedup_ok`):
the oracle cannot alarm on behaviour the LTS allows.
-/
namespace OtelVerif.C20

def stTr (log : List TEv) : List CState := log.filterMap TEv.stOf

theorem fsmLogBad_eq (log : List TEv) : fsmLogBad log = fsmTraceBad (dedupAdj (.starting :: stTr log)) := rfl

@[simp] theorem stOf_st (c : CState) : TEv.stOf (.st c) = some c := rfl
@[simp] theorem stOf_created (g c : Nat) : TEv.stOf (.created g c) = none := rfl
@[simp] theorem stOf_started (g c : Nat) : TEv.stOf (.started g c) = none := rfl
@[simp] theorem stOf_shut (g c : Nat) : TEv.stOf (.shut g c) = none := rfl
@[simp] theorem stOf_prov : TEv.stOf .prov = none := rfl
@[simp] theorem stOf_call : TEv.stOf .call = none := rfl
@[simp] theorem stOf_stop : TEv.stOf .stop = none := rfl
@[simp] theorem stOf_quiet : TEv.stOf .quiet = none := rfl
@[simp] theorem stOf_ret (b : Bool) : TEv.stOf (.ret b) = none := rfl

theorem Op.events_stOf (op : Op) (gen : Nat) (svc : Option Nat) : (op.events gen svc).filterMap TEv.stOf = [] := by
  cases op <;> first | rfl | (cases svc <;> rfl)

theorem stTr_fire (v : Variant) {s s' : S} {l : Label} (h : fire v s l = some s') :
    (stTr s'.log = stTr s.log ∧ s'.st = s.st) ∨ stTr s'.log = stTr s.log ++ [s'.st] := by
  rcases fire_cases v h with ⟨-, x⟩ | ⟨-, -, rfl⟩ | ⟨ok, -, hs⟩ | ⟨e, -, -, hk⟩
  · refine Or.inl ⟨?_, congrArg Core.st x.core⟩
    rw [x.log]
    split <;> simp [stTr]
  · exact Or.inl ⟨rfl, rfl⟩
  · have sh := stepRun_stepped hs
    have hst : s'.st = s.pc.stores.getD s.st := congrArg Core.st sh.core
    have hlog : stTr s'.log = stTr s.log ++ s.pc.stores.toList := by
      rw [sh.log]
      simp only [stTr, List.filterMap_append, Op.events_stOf, List.append_nil]
      cases s.pc.stores <;> split <;> simp
    rw [hlog, hst]
    cases s.pc.stores with
    | none => exact Or.inl ⟨List.append_nil _, rfl⟩
    | some x => exact Or.inr rfl
  · have pk := pickEv_picked hk
    refine Or.inl ⟨?_, congrArg Core.st pk.core⟩
    rw [pk.log]
    cases e.stops <;> simp [stTr]

theorem fsmPath_snoc : ∀ (a : CState) (l : List CState) (b c : CState), fsmPath a l → (a :: l).getLast? = some b →
    (c = b ∨ fsmEdge b c = true) → fsmPath a (l ++ [c])
  | _, [], _, _, _, h, hc => by cases h; exact ⟨hc, trivial⟩
  | _, x :: r, b, c, hl, h, hc => ⟨hl.1, fsmPath_snoc x r b c hl.2 (by simpa [List.getLast?_cons_cons] using h) hc⟩

theorem dedupAdj_head : ∀ (a : CState) (r : List CState), ∃ t, dedupAdj (a :: r) = a :: t
  | a, [] => ⟨[], rfl⟩
  | a, b :: r => by
    simp only [dedupAdj]
    split
    · rename_i hab; subst hab; exact dedupAdj_head a r
    · exact ⟨_, rfl⟩

theorem fsmPath_dedup_ok : ∀ (a : CState) (l : List CState), fsmPath a l → fsmTraceBad (dedupAdj (a :: l)) = none
  | _, [], _ => rfl
  | a, b :: r, h => by
    have ih := fsmPath_dedup_ok b r h.2
    simp only [dedupAdj]
    split
    · exact ih
    · rename_i hab
      obtain ⟨t, ht⟩ := dedupAdj_head b r
      rw [ht] at ih ⊢
      simp only [fsmTraceBad, h.1.resolve_left (Ne.symm hab), if_true]
      exact ih

structure LogInv (s : S) : Prop where
  last : (CState.starting :: stTr s.log).getLast? = some s.st
  path : fsmPath .starting (stTr s.log)

theorem logInv_init : LogInv init := ⟨rfl, trivial⟩

theorem logInv_fire (v : Variant) {s s' : S} {l : Label} (hi : Good s.core) (hl : LogInv s) (h : fire v s l = some s') :
    LogInv s' := by
  rcases stTr_fire v h with ⟨h1, h2⟩ | h1
  · exact ⟨by rw [h1, h2]; exact hl.last, by rw [h1]; exact hl.path⟩
  · refine ⟨?_, ?_⟩
    · rw [h1, ← List.cons_append, List.getLast?_append]; simp
    · rw [h1]
      exact fsmPath_snoc _ _ s.st s'.st hl.path hl.last (fire_st_edge v hi h)

end OtelVerif.C20

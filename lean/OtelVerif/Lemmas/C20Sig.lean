import OtelVerif.Model.C20Sig
import OtelVerif.Lemmas.C20
/-! # C20 — invariants of the signal layer (`Model/C20Sig.lean`) and its refinement to the run-loop LTS -/
namespace OtelVerif.C20

theorem ever_iff {s : Core} (hi : Inv s) (hd : s.pc ≠ .done) : s.everRunning = !s.pc.initialPhase := by
  cases hp : s.pc.initialPhase with
  | true => simpa using hi.notEver hp
  | false => simpa using hi.ever hp hd

theorem notifySet_true : notifySet true = [.hup] := by decide +kernel
theorem notifySet_false : notifySet false = [.hup, .int, .term] := by decide +kernel
theorem sigCap_eq : sigCap = 3 := by decide

/-- the channel content against the core's counters, and the registrations as a function of `regDone` and the program point -/
structure SInv (ss : SS) : Prop where
  cap : ss.q.length ≤ sigCap
  hupCount : ss.core.nHup = ss.q.count .hup
  total : ss.core.nHup + ss.core.nTerm = ss.q.length
  regd : ∀ sg ∈ ss.q, sg ∈ notifySet ss.dg
  notif : ss.notified = if (ss.regDone = true ∧ ss.core.pc ≠ .done) then notifySet ss.dg else []
  noTermStop : ss.dg = true → ss.core.stop ≠ some .term

theorem sinv_init (dg : Bool) : SInv (initS dg) := by
  constructor <;> simp [initS]

/-- a signal enters the channel (a `post` of the run loop); or nothing the run loop sees changes (dropped, ignored, the registration
step); or a label of the run loop fires under the FIFO guard -/
theorem fireS_cases {ss ss' : SS} {l : SLabel} (h : fireS ss l = some ss') :
    (∃ sg c, l = .os sg ∧ sg ∈ ss.notified ∧ ss.q.length < sigCap ∧ fire .fixed ss.core (.post sg.ev) = some c ∧
        ss' = { ss with core := c, q := ss.q ++ [sg] }) ∨
    (ss'.core = ss.core ∧ ss'.q = ss.q ∧ ss'.dg = ss.dg ∧
        ((ss'.regDone = ss.regDone ∧ ss'.notified = ss.notified) ∨
         (ss.core.pc = .select ∧ ss'.regDone = true ∧ ss'.notified = notifySet ss.dg))) ∨
    (∃ l0 q' c, l = .core l0 ∧ sigGuard ss l0 = some q' ∧ fire .fixed ss.core l0 = some c ∧ ss' = { ss.upd c with q := q' }) := by
  cases l with
  | os sg =>
    simp only [fireS] at h
    split at h
    · split at h
      · obtain ⟨c, hf, he⟩ := Option.map_eq_some_iff.1 h
        exact Or.inl ⟨sg, c, rfl, ‹_›, ‹_›, hf, he.symm⟩
      · cases h; exact Or.inr (Or.inl ⟨rfl, rfl, rfl, Or.inl ⟨rfl, rfl⟩⟩)
    · cases h; exact Or.inr (Or.inl ⟨rfl, rfl, rfl, Or.inl ⟨rfl, rfl⟩⟩)
  | register =>
    simp only [fireS] at h
    split at h
    · cases h; exact Or.inr (Or.inl ⟨rfl, rfl, rfl, Or.inr ⟨(‹_ ∧ _›).1, rfl, rfl⟩⟩)
    · cases h
  | core l0 =>
    simp only [fireS] at h
    obtain ⟨q', hg, h⟩ := Option.bind_eq_some_iff.1 h
    obtain ⟨c, hf, he⟩ := Option.map_eq_some_iff.1 h
    exact Or.inr (Or.inr ⟨l0, q', c, rfl, hg, hf, he.symm⟩)

theorem fireS_core {ss ss' : SS} {l : SLabel} (h : fireS ss l = some ss') :
    ss'.dg = ss.dg ∧ (ss'.core = ss.core ∨ ∃ l', fire .fixed ss.core l' = some ss'.core) := by
  rcases fireS_cases h with ⟨sg, c, -, -, -, hf, rfl⟩ | ⟨h1, -, h3, -⟩ | ⟨l0, q', c, -, -, hf, rfl⟩
  · exact ⟨rfl, Or.inr ⟨_, hf⟩⟩
  · exact ⟨h3, Or.inl h1⟩
  · exact ⟨rfl, Or.inr ⟨_, hf⟩⟩

theorem sigGuard_spec {ss : SS} {l : Label} {q' : List Sig} (hg : sigGuard ss l = some q') :
    l ≠ .post .hup ∧ l ≠ .post .term ∧
      ((l ≠ .pick .hup ∧ l ≠ .pick .term ∧ q' = ss.q) ∨ ∃ sg, ss.q = sg :: q' ∧ l = .pick sg.ev) := by
  cases l with
  | post e => cases e <;> first | exact ⟨nofun, nofun, Or.inl ⟨nofun, nofun, (Option.some.inj hg).symm⟩⟩ | cases hg
  | pick e =>
    simp only [sigGuard] at hg
    split at hg
    · cases e with
      | hup =>
        simp only at hg
        split at hg <;> cases hg
        exact ⟨nofun, nofun, Or.inr ⟨.hup, ‹_›, rfl⟩⟩
      | term =>
        simp only at hg
        split at hg
        · rename_i sg _ hq
          split at hg <;> cases hg
          exact ⟨nofun, nofun, Or.inr ⟨sg, hq, by cases sg <;> first | rfl | exact absurd rfl ‹_›⟩⟩
        · cases hg
      | _ => exact ⟨nofun, nofun, Or.inl ⟨nofun, nofun, (Option.some.inj hg).symm⟩⟩
    · cases hg
  | _ => exact ⟨nofun, nofun, Or.inl ⟨nofun, nofun, (Option.some.inj hg).symm⟩⟩

theorem notif_upd {ss : SS} {c : S} {l : Label}
    (hi : ss.notified = if (ss.regDone = true ∧ ss.core.pc ≠ .done) then notifySet ss.dg else [])
    (hf : fire .fixed ss.core l = some c) :
    regAfter ss c = if (ss.regDone = true ∧ c.pc ≠ .done) then notifySet ss.dg else [] := by
  unfold regAfter
  by_cases hd : c.pc = .done
  · simp [hd, show Gen.CollectorFsm.signalStopDeferred = true by decide]
  · have hsd : ss.core.pc ≠ .done := fun h => hd (done_fire .fixed hf h)
    simp only [hd, if_false]
    rw [hi]; simp [hd, hsd]

theorem sinv_fireS {ss ss' : SS} {l : SLabel} (hi : SInv ss) (h : fireS ss l = some ss') : SInv ss' := by
  obtain ⟨i1, i2, i3, i4, i5, i6⟩ := hi
  rcases fireS_cases h with ⟨sg, c, -, hn, hroom, hf, rfl⟩ | ⟨h1, h2, h3, h4⟩ | ⟨l0, q', c, -, hg, hf, rfl⟩
  · have x := fire_exted .fixed rfl hf
    have f := fire_frame .fixed hf
    have hH := f.nHup; have hT := f.nTerm
    have hmem : sg ∈ notifySet ss.dg := by
      rw [i5] at hn; split at hn
      · exact hn
      · cases hn
    refine ⟨?_, ?_, ?_, ?_, ?_, ?_⟩
    · show (ss.q ++ [sg]).length ≤ _
      rw [List.length_append]; exact hroom
    · show c.nHup = (ss.q ++ [sg]).count .hup
      rw [List.count_append, ← i2]
      cases sg <;> simp [Sig.ev] at hH ⊢ <;> omega
    · show c.nHup + c.nTerm = (ss.q ++ [sg]).length
      rw [List.length_append, ← i3]
      cases sg <;> simp [Sig.ev] at hH hT ⊢ <;> omega
    · intro y hy
      rcases List.mem_append.1 hy with hy | hy
      · exact i4 y hy
      · rw [List.mem_singleton.1 hy]; exact hmem
    · show ss.notified = if ss.regDone = true ∧ c.pc ≠ .done then _ else _
      rw [x.pc]; exact i5
    · show ss.dg = true → c.stop ≠ _
      rw [show c.stop = ss.core.stop from congrArg Core.stop x.core]; exact i6
  · refine ⟨by rw [h2]; exact i1, by rw [h1, h2]; exact i2, by rw [h1, h2]; exact i3, by rw [h2, h3]; exact i4, ?_, by rw [h1, h3]; exact i6⟩
    rcases h4 with ⟨h4, h5⟩ | ⟨hpc, h4, h5⟩
    · rw [h1, h3, h4, h5]; exact i5
    · rw [h1, h3, h4, h5, hpc]; simp
  · obtain ⟨n1, n2, hsg⟩ := sigGuard_spec hg
    have f := fire_frame .fixed hf
    have hH := f.nHup; have hT := f.nTerm
    rw [if_neg n1] at hH; rw [if_neg n2] at hT
    have hnotif := notif_upd i5 hf
    have hstop := stop_fire .fixed hf
    rcases hsg with ⟨p1, p2, rfl⟩ | ⟨sg, hq, rfl⟩
    · rw [if_neg p1] at hH; rw [if_neg p2] at hT
      refine ⟨i1, i2.symm ▸ hH, ?_, i4, hnotif, fun hdg => ?_⟩
      · show c.nHup + c.nTerm = _
        rw [← i3]; omega
      · show c.stop ≠ some .term
        rcases hstop with hs | ⟨e, he, hs⟩
        · rw [hs]; exact i6 hdg
        · rw [hs]; intro h'; cases h'; exact p2 he
    · rw [hq] at i1 i2 i3 i4
      rw [List.length_cons] at i1 i3
      rw [List.count_cons] at i2
      refine ⟨Nat.le_of_succ_le i1, ?_, ?_, fun y hy => i4 y (List.mem_cons_of_mem _ hy), hnotif, fun hdg => ?_⟩
      · show c.nHup = q'.count .hup
        cases sg <;> simp [Sig.ev] at hH i2 ⊢ <;> omega
      · show c.nHup + c.nTerm = q'.length
        cases sg <;> simp [Sig.ev] at hH hT ⊢ <;> omega
      · show c.stop ≠ some .term
        -- with `dg` the head of the channel, being registered, is a SIGHUP
        have := i4 sg List.mem_cons_self
        rw [show ss.dg = true from hdg, notifySet_true, List.mem_singleton] at this
        subst this
        rcases hstop with hs | ⟨e, he, hs⟩
        · rw [hs]; exact i6 hdg
        · cases he; rw [hs]; nofun

theorem sinv_reachable {dg : Bool} {ss : SS} (h : ReachableS dg ss) : Reachable .fixed ss.core ∧ SInv ss ∧ ss.dg = dg := by
  obtain ⟨ls, h⟩ := h
  refine run_induction (run := runFromS) (I := fun ss => Reachable .fixed ss.core ∧ SInv ss ∧ ss.dg = dg) (ok := fun _ => True)
    (fun _ => rfl) (fun _ _ _ => rfl) (fun ss l s1 ⟨hr, hi, hd⟩ _ hf => ?_) ls _ ss ⟨⟨[], rfl⟩, sinv_init dg, rfl⟩ (fun _ _ => trivial) h
  obtain ⟨hdg, hc⟩ := fireS_core hf
  refine ⟨?_, sinv_fireS hi hf, hdg.trans hd⟩
  rcases hc with he | ⟨l', hl'⟩
  · rw [he]; exact hr
  · exact reachable_runFrom (ls := [l']) hr (by simp only [runFrom, hl']; rfl)

theorem sig_received (ss : SS) (hpc : ss.core.pc = .select) (hreg : ss.regDone = true) (hq : ss.q = []) (sg : Sig)
    (hmem : sg ∈ ss.notified) :
    ∃ ss1 ss2, fireS ss (.os sg) = some ss1 ∧ fireS ss1 (.core (.pick sg.ev)) = some ss2 ∧ ss2.q = [] ∧
      ss2.core.pc = (if sg.ev.stops then .shut1 else .reload1) ∧
      ss2.core.stop = (if sg.ev.stops then some sg.ev else ss.core.stop) := by
  -- execute `os sg`, then `pick sg.ev`
  cases sg <;>
    simp [fireS, hmem, hq, sigCap_eq, Sig.ev, fire, postEv, sigGuard, hreg, hpc, pickEv, SS.upd, leave, S.emit, Ev.stops]

end OtelVerif.C20

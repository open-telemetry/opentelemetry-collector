import OtelVerif.Model.C03Replay
import OtelVerif.Lemmas.C03
/-!
# C03: soundness of the trace replayer

Whatever state the replayer (`Model/C03Replay.lean`) reaches, it reached it by firing ENABLED labels of the LTS: the model state
of the result is obtained from the model state of the argument by a schedule (`runFrom … ls = some …`), hence it is `Reachable`.

Method: `Steps a b := ∃ ls, runFrom a ls = some b` (reflexive, transitive, contains every enabled `fire`); every function of the
replayer is shown to extend a `Steps a ·` fact about the model state of its argument to its result (predicate-transformer style:
`Steps a rs.s → Steps a (f rs).s`), because every change of `RS.s` goes through `fireL`, i.e. through `fire`.
-/
namespace OtelVerif.C03.Replay

/-! ## schedules -/

theorem runFrom_append (s : State) (a b : List Label) :
    runFrom s (a ++ b) = (runFrom s a).bind (fun s' => runFrom s' b) :=
  run_append runFrom_nil runFrom_step s a b

def Steps (a b : State) : Prop := ∃ ls, runFrom a ls = some b

theorem Steps.refl (a : State) : Steps a a := ⟨[], rfl⟩

theorem Steps.trans {a b c : State} (h1 : Steps a b) (h2 : Steps b c) : Steps a c := by
  obtain ⟨l1, h1⟩ := h1
  obtain ⟨l2, h2⟩ := h2
  exact ⟨l1 ++ l2, by rw [runFrom_append, h1]; simpa using h2⟩

theorem Steps.fire {a b : State} (l : Label) (h : fire a l = some b) : Steps a b :=
  ⟨[l], by simp [runFrom, h]⟩

theorem Steps.reachable {a b : State} (h : Steps a b) (ha : Reachable a) : Reachable b := by
  obtain ⟨ls, h⟩ := h
  exact reachable_of_runFrom ls ha h

/-! ## the building blocks -/

theorem fail_s (rs : RS) (k d : String) : (fail rs k d).s = rs.s := by
  unfold fail; split <;> rfl

theorem fail_steps {a : State} {rs : RS} (k d : String) (h : Steps a rs.s) : Steps a (fail rs k d).s := by
  rw [fail_s]; exact h

theorem fireL_s (rs : RS) (l : Label) (ctx : String) :
    (fireL rs l ctx).s = rs.s ∨ ∃ s', C03.fire rs.s l = some s' ∧ (fireL rs l ctx).s = s' := by
  unfold fireL
  split
  · exact Or.inl rfl
  · split
    · next s' hf => exact Or.inr ⟨s', hf, rfl⟩
    · exact Or.inl (fail_s _ _ _)

theorem fireL_steps {a : State} {rs : RS} (l : Label) (ctx : String) (h : Steps a rs.s) : Steps a (fireL rs l ctx).s := by
  rcases fireL_s rs l ctx with he | ⟨s', hf, he⟩
  · rw [he]; exact h
  · rw [he]; exact h.trans (.fire l hf)

theorem foldl_steps {α : Type} {a : State} (f : RS → α → RS) (hf : ∀ rs x, Steps a rs.s → Steps a (f rs x).s)
    (l : List α) (rs : RS) (h : Steps a rs.s) : Steps a (l.foldl f rs).s :=
  List.foldlRecOn l f h (fun rs hrs x _ => hf rs x hrs)

theorem repeatN_steps {a : State} (n : Nat) (f : RS → RS) (hf : ∀ rs, Steps a rs.s → Steps a (f rs).s)
    {rs : RS} (h : Steps a rs.s) : Steps a (repeatN n f rs).s := by
  unfold repeatN
  exact foldl_steps _ (fun rs _ h => hf rs h) _ rs h

theorem spawnAll_steps {a : State} {rs : RS} (h : Steps a rs.s) : Steps a (spawnAll rs).s := by
  unfold spawnAll
  refine foldl_steps _ (fun rs i h => ?_) _ rs h
  split
  · exact repeatN_steps _ _ (fun rs h => fireL_steps _ _ h) h
  · exact h

theorem exitAll_steps {a : State} {rs : RS} (h : Steps a rs.s) : Steps a (exitAll rs).s := by
  unfold exitAll
  refine foldl_steps _ (fun rs i h => ?_) _ rs h
  split
  · exact fireL_steps _ _ h
  · exact h
  · exact fail_steps _ _ h
  · exact h

theorem advance1_steps {a : State} {rs : RS} (h : Steps a rs.s) : Steps a (advance1 rs).s := by
  unfold advance1
  split
  · exact foldl_steps _ (fun rs f h => fireL_steps _ _ h) _ _ (fireL_steps (rs := rs) _ _ h)
  · exact fireL_steps _ _ h
  · exact fireL_steps _ _ (exitAll_steps (spawnAll_steps h))
  · exact fireL_steps _ _ h
  · exact h

theorem needPhase_steps {a : State} (k : Nat) {rs : RS} (h : Steps a rs.s) : Steps a (needPhase k rs).s := by
  unfold needPhase
  refine repeatN_steps _ _ (fun rs h => ?_) h
  split
  · exact advance1_steps h
  · exact h

theorem ensureOffered_steps {a : State} (rc : RCfg) {rs : RS} (ids : List Nat) (h : Steps a rs.s) :
    Steps a (ensureOffered rc rs ids).s := by
  unfold ensureOffered
  split
  · exact fail_steps _ _ h
  · split
    · exact h
    · exact fireL_steps (rs := rs) _ _ h

theorem startFlightLast_steps {a : State} {rs : RS} (call : Nat) (h : Steps a rs.s) :
    Steps a (startFlightLast rs call).s := by
  unfold startFlightLast
  exact fireL_steps (rs := rs) _ _ h

theorem steps_ite {a : State} {c : Prop} [Decidable c] {x y : RS} (hx : Steps a x.s) (hy : Steps a y.s) :
    Steps a (if c then x else y).s := by
  split <;> assumption

/-! ## one event -/
section Handle

-- the building blocks are opaque from here on (their `_steps` lemmas are all that is used): failed `apply`s fail fast
attribute [local irreducible] fail fireL repeatN spawnAll exitAll advance1 needPhase ensureOffered startFlightLast

/-- close a goal `Steps a (… rs …).s` by peeling the replayer's functions / case distinctions -/
local macro "steps_step" : tactic =>
  `(tactic| first
    | assumption
    | apply steps_ite
    | apply fireL_steps
    | apply fail_steps
    | apply startFlightLast_steps
    | apply spawnAll_steps
    | apply exitAll_steps
    | apply needPhase_steps
    | apply ensureOffered_steps
    | apply repeatN_steps _ _ (fun _ h => fireL_steps _ _ h)
    | apply foldl_steps _ (fun _ _ h => fireL_steps _ _ h)
    | apply foldl_steps _ (fun _ _ h => ensureOffered_steps _ _ h)
    | split)

theorem handle_steps {a : State} (rc : RCfg) {rs : RS} (e : TEv) (rest : List TEv)
    (h : Steps a rs.s) : Steps a (handle rc rs e rest).s := by
  cases e <;> simp only [handle] <;> repeat steps_step

end Handle

/-! ## the whole trace -/

theorem go_steps {a : State} (rc : RCfg) (rs : RS) (t : List TEv) (h : Steps a rs.s) : Steps a (go rc rs t).s := by
  induction t generalizing rs with
  | nil => simpa only [go] using h
  | cons e rest ih => simp only [go]; exact ih _ (handle_steps rc e rest h)

theorem goUntilShutreq_steps {a : State} (rc : RCfg) (rs : RS) (t : List TEv) (h : Steps a rs.s) :
    Steps a (goUntilShutreq rc rs t).s := by
  induction t generalizing rs with
  | nil => simpa only [goUntilShutreq] using h
  | cons e rest ih =>
    cases e <;> simp only [goUntilShutreq] <;> first | exact h | exact ih _ (handle_steps rc _ rest h)

theorem goN_steps {a : State} (rc : RCfg) (n : Nat) (rs : RS) (t : List TEv) (h : Steps a rs.s) : Steps a (goN rc n rs t).s := by
  induction n generalizing rs t with
  | zero => simp only [goN]; exact h
  | succ n ih =>
    cases t with
    | nil => simp only [goN]; exact h
    | cons e rest => simp only [goN]; exact ih _ _ (handle_steps rc e rest h)

theorem replay_steps (rc : RCfg) (t : List TEv) :
    Steps (init rc.cfg rc.nCons rc.workers rc.timer) (replay rc t).s := by
  unfold replay
  have h := go_steps rc { s := init rc.cfg rc.nCons rc.workers rc.timer } t (Steps.refl _)
  dsimp only
  split
  · exact fail_steps _ _ h
  · exact h

theorem go_reachable (rc : RCfg) (rs : RS) (t : List TEv) (h : Reachable rs.s) : Reachable (go rc rs t).s :=
  (go_steps rc rs t (Steps.refl _)).reachable h

theorem goN_reachable (rc : RCfg) (n : Nat) (t : List TEv) :
    Reachable (goN rc n { s := init rc.cfg rc.nCons rc.workers rc.timer } t).s :=
  (goN_steps rc n _ t (Steps.refl _)).reachable (Reachable.init _ _ _ _)

end OtelVerif.C03.Replay

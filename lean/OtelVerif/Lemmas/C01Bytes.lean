import OtelVerif.Model.C01Bytes
import OtelVerif.Lemmas.C01Codec
import Std.Data.String.ToNat
/-! C01 — the abstract store is exactly what start-up decodes from the bytes the code writes -/
namespace OtelVerif.C01
open OtelVerif.Gen Codec

/-- the regenerated key names as character lists -/
def genKeyLists : List (List Char) :=
  [PQKeys.readIndexKey.toList, PQKeys.writeIndexKey.toList, PQKeys.queueSizeKey.toList, PQKeys.dispatchedKey.toList]

/-- pairwise different, and each contains a character that is not a decimal digit (so none can be an item key) -/
def genKeysOK : Bool :=
  decide genKeyLists.Nodup && genKeyLists.all (fun k => k.any (fun c => !c.isDigit))

theorem itemKey_ne_of_nondigit (i : Nat) (k : String) (hk : k.toList.any (fun c => !c.isDigit) = true) :
    itemKey i ≠ k := by
  intro h
  obtain ⟨c, hc, hnd⟩ := List.any_eq_true.mp hk
  have h1 : (Nat.repr i).toList = k.toList := by unfold itemKey at h; rw [h]
  rw [Nat.toList_repr] at h1
  have hd := Nat.isDigit_of_mem_toDigits (b := 10) (by decide) (by decide) (h1 ▸ hc)
  simp [hd] at hnd

theorem itemKey_toNat (i : Nat) : (itemKey i).toNat? = some i := Nat.toNat?_repr i

/-- the facts `genKeysOK` computes, proved on their own (no lemma links the two) with the names compared as string literals: cheap -/
structure GenKeysFacts : Prop where
  rw : PQKeys.writeIndexKey ≠ PQKeys.readIndexKey
  dr : PQKeys.dispatchedKey ≠ PQKeys.readIndexKey
  dw : PQKeys.dispatchedKey ≠ PQKeys.writeIndexKey
  ds : PQKeys.dispatchedKey ≠ PQKeys.queueSizeKey
  nr : PQKeys.readIndexKey.toList.any (fun c => !c.isDigit) = true
  nw : PQKeys.writeIndexKey.toList.any (fun c => !c.isDigit) = true
  ns : PQKeys.queueSizeKey.toList.any (fun c => !c.isDigit) = true
  nd : PQKeys.dispatchedKey.toList.any (fun c => !c.isDigit) = true

theorem genKeysFacts : GenKeysFacts := by
  refine ⟨?_, ?_, ?_, ?_, by decide, by decide, by decide, by decide⟩ <;>
    simp only [PQKeys.readIndexKey, PQKeys.writeIndexKey, PQKeys.queueSizeKey, PQKeys.dispatchedKey, ne_eq, String.reduceEq,
      not_false_eq_true]

theorem enc_ri (rc : ReqCodec) (s : Store) : encodeStore rc s PQKeys.readIndexKey = s.ri.map itemIndexToBytes := by
  simp [encodeStore]

theorem enc_wi (rc : ReqCodec) (s : Store) : encodeStore rc s PQKeys.writeIndexKey = s.wi.map itemIndexToBytes := by
  simp [encodeStore, genKeysFacts.rw]

theorem enc_di (rc : ReqCodec) (s : Store) : encodeStore rc s PQKeys.dispatchedKey = some (itemIndexArrayToBytes s.di) := by
  simp [encodeStore, genKeysFacts.dr, genKeysFacts.dw, genKeysFacts.ds]

theorem enc_item (rc : ReqCodec) (s : Store) (i : Nat) : encodeStore rc s (itemKey i) = (s.items i).map rc.enc := by
  have g := genKeysFacts
  simp [encodeStore, itemKey_ne_of_nondigit i _ g.nr, itemKey_ne_of_nondigit i _ g.nw,
    itemKey_ne_of_nondigit i _ g.ns, itemKey_ne_of_nondigit i _ g.nd, itemKey_toNat]

theorem readIndexes_encode (rc : ReqCodec) (s : Store) (hopt : s.wi = none → s.ri = none)
    (hr : ∀ v, s.ri = some v → v < 2 ^ 64) (hw : ∀ v, s.wi = some v → v < 2 ^ 64) :
    readIndexes (encodeStore rc s) = (s.R, s.W) := by
  unfold readIndexes
  rw [enc_ri, enc_wi]
  cases hwi : s.wi with
  | none =>
    have hri := hopt hwi
    simp [hri, bytesToItemIndex, Store.R, Store.W, hwi]
  | some w =>
    have hwb := hw w hwi
    cases hri : s.ri with
    | none =>
      have h2 := index_codec w hwb
      simp only [Option.map_none, Option.map_some, h2, Store.R, Store.W, hwi, hri, Option.getD_some, Option.getD_none]
      simp [bytesToItemIndex]
    | some r =>
      have hrb := hr r hri
      have h1 := index_codec r hrb
      have h2 := index_codec w hwb
      simp only [Option.map_some, h1, h2, Store.R, Store.W, hwi, hri, Option.getD_some]

theorem readDi_encode (rc : ReqCodec) (s : Store) (hlen : s.di.length < 2 ^ 32) (hx : ∀ x ∈ s.di, x < 2 ^ 64) :
    readDi (encodeStore rc s) = s.di := by
  unfold readDi
  rw [enc_di]
  simp only [index_array_codec s.di hlen hx]

theorem readItem_encode (rc : ReqCodec) (s : Store) (i : Nat) : readItem rc (encodeStore rc s) i = s.items i := by
  unfold readItem readItemWith
  rw [enc_item]
  cases s.items i with
  | none => rfl
  | some r => simp [rc.law]

end OtelVerif.C01

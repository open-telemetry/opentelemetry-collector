import OtelVerif.Model.C01
import OtelVerif.Lemmas.Basic
/-!
# C01 — the store (its invariant, recoverability under the storage calls) and what a firing is

`Recoverable`, `InStore`, `StInv`, `outstOf`, `waitingOf` of the statements in Props/C01.lean are defined here.  The invariants of the
machine are in Lemmas/C01Loose.lean (`InvR`) and Lemmas/C01Inv.lean (`Inv`).  After the store: the handles on `fire` — its case analysis
(`fire_cases`), `whenIdle` and the `fire_*` equations for one label at a time, the kinds of firing (`Step`), and the labels that leave
`accepted` and the blocked offers alone (`fire_frame`).
-/
namespace OtelVerif.C01

/-- a request can be found again from the durable indexes alone -/
def Recoverable (s : Store) (r : Req) : Prop :=
  ∃ i, s.items i = some r ∧ (i ∈ s.di ∨ (s.R ≤ i ∧ i < s.W))

def InStore (s : Store) (r : Req) : Prop := ∃ i, s.items i = some r

theorem Recoverable.inStore {s : Store} {r : Req} (h : Recoverable s r) : InStore s r :=
  let ⟨i, hi, _⟩ := h; ⟨i, hi⟩

/-- executable form of `Recoverable` (the indexes that can matter are those in `di` and below `wi`), for the kernel-evaluated
    witnesses of `C01_ext_errors_no_loss_fails` -/
def recoverableB (s : Store) (r : Req) : Bool :=
  (s.di ++ (List.range s.W).filter (fun j => decide (s.R ≤ j))).any (fun j => s.items j == some r)

theorem recoverableB_of_recoverable {s : Store} {r : Req} (h : Recoverable s r) : recoverableB s r = true := by
  obtain ⟨j, hj, hc⟩ := h
  unfold recoverableB
  rw [List.any_eq_true]
  refine ⟨j, ?_, by simp [hj]⟩
  rw [List.mem_append]
  rcases hc with hd | ⟨h1, h2⟩
  · left; exact hd
  · right; simp [List.mem_filter, h1, h2]

@[simp] theorem upd_same (f : Nat → Option Req) (i : Nat) (v : Option Req) : upd f i v i = v := by
  simp [upd]

theorem upd_ne (f : Nat → Option Req) {i j : Nat} (v : Option Req) (h : j ≠ i) : upd f i v j = f j := by
  simp [upd, h]

theorem swapRemove_perm : ∀ (l : List Nat) (x : Nat), (swapRemove l x).Perm (l.erase x)
  | [], _ => .refl _
  | [a], x => by
    by_cases h : a = x
    · subst h; rw [List.erase_cons_head]; simp only [swapRemove, if_true]; exact .refl _
    · rw [List.erase_cons_tail (by simpa using h)]; simp only [swapRemove, h, if_false]; exact .refl _
  | a :: b :: t, x => by
    by_cases h : a = x
    · subst h
      rw [List.erase_cons_head]
      simp only [swapRemove, if_true]
      refine (List.perm_append_singleton _ _).symm.trans ?_
      rw [List.dropLast_concat_getLast]
    · rw [List.erase_cons_tail (by simpa using h)]
      simp only [swapRemove, h, if_false]
      exact (swapRemove_perm (b :: t) x).cons a

theorem mem_swapRemove_of_ne (l : List Nat) (x y : Nat) (h : y ∈ l) (hne : y ≠ x) : y ∈ swapRemove l x :=
  (swapRemove_perm l x).mem_iff.mpr ((List.mem_erase_of_ne hne).mpr h)

theorem mem_of_mem_swapRemove (l : List Nat) (x y : Nat) (h : y ∈ swapRemove l x) : y ∈ l :=
  List.mem_of_mem_erase ((swapRemove_perm l x).mem_iff.mp h)

theorem swapRemove_nodup (l : List Nat) (x : Nat) (hn : l.Nodup) : (swapRemove l x).Nodup :=
  (swapRemove_perm l x).nodup_iff.mpr (hn.erase x)

theorem not_mem_swapRemove_of_nodup (l : List Nat) (x : Nat) (hn : l.Nodup) : x ∉ swapRemove l x :=
  fun h => hn.not_mem_erase ((swapRemove_perm l x).mem_iff.mp h)

theorem swapRemove_length (l : List Nat) (x : Nat) : l.length ≤ (swapRemove l x).length + 1 := by
  rw [(swapRemove_perm l x).length_eq, List.length_erase]
  split <;> omega

theorem swapRemove_append_self : ∀ (l : List Nat) (i : Nat), i ∉ l → swapRemove (l ++ [i]) i = l
  | [], i, _ => by simp [swapRemove]
  | [a], i, h => by
    have : a ≠ i := by intro e; subst e; simp at h
    simp [swapRemove, this]
  | a :: b :: t, i, h => by
    have ha : a ≠ i := by intro e; subst e; simp at h
    have ht : i ∉ b :: t := fun hm => h (List.mem_cons_of_mem _ hm)
    have ih := swapRemove_append_self (b :: t) i ht
    simp only [List.cons_append] at ih ⊢
    simp only [swapRemove, ha, if_false]
    rw [ih]

structure StInv (s : Store) : Prop where
  opt : s.wi = none → s.ri = none
  le : s.R ≤ s.W
  dlt : ∀ i ∈ s.di, i < s.R
  nodup : s.di.Nodup
  full : ∀ j, s.R ≤ j → j < s.W → (s.items j).isSome = true

/-- what of `StInv` survives failing storage calls -/
structure StInvE (s : Store) : Prop where
  opt : s.wi = none → s.ri = none
  le : s.R ≤ s.W
  dlt : ∀ i ∈ s.di, i < s.R
  nodup : s.di.Nodup

theorem StInv.toE {s : Store} (h : StInv s) : StInvE s := ⟨h.opt, h.le, h.dlt, h.nodup⟩

theorem R_eq {s : Store} (h : s.wi = none → s.ri = none) : s.R = s.ri.getD 0 := by
  unfold Store.R
  cases hw : s.wi with
  | none => simp [h hw]
  | some w => rfl

@[simp] theorem putB_W (s : Store) (w : Nat) (r : Req) : (s.putB w r).W = w + 1 := by simp [Store.putB, Store.W]
theorem putB_R {s : Store} (h : s.wi = none → s.ri = none) (w : Nat) (r : Req) : (s.putB w r).R = s.R := by
  rw [R_eq h]; simp [Store.putB, Store.R]
@[simp] theorem putB_di (s : Store) (w : Nat) (r : Req) : (s.putB w r).di = s.di := rfl
@[simp] theorem putB_items (s : Store) (w : Nat) (r : Req) : (s.putB w r).items = upd s.items w (some r) := rfl

@[simp] theorem moveB_W (s : Store) (w : Nat) (r : Req) (i : Nat) (rest : List Nat) : (s.moveB w r i rest).W = w + 1 := by
  simp [Store.moveB, Store.W]
theorem moveB_R {s : Store} (h : s.wi = none → s.ri = none) (w : Nat) (r : Req) (i : Nat) (rest : List Nat) :
    (s.moveB w r i rest).R = s.R := by
  rw [R_eq h]; simp [Store.moveB, Store.R]
@[simp] theorem moveB_di (s : Store) (w : Nat) (r : Req) (i : Nat) (rest : List Nat) : (s.moveB w r i rest).di = rest := rfl
@[simp] theorem moveB_items (s : Store) (w : Nat) (r : Req) (i : Nat) (rest : List Nat) :
    (s.moveB w r i rest).items = upd (upd s.items w (some r)) i none := rfl

@[simp] theorem finB_W (s : Store) (cdi : List Nat) (i : Nat) : (s.finB cdi i).W = s.W := rfl
@[simp] theorem finB_R (s : Store) (cdi : List Nat) (i : Nat) : (s.finB cdi i).R = s.R := rfl
@[simp] theorem finB_di (s : Store) (cdi : List Nat) (i : Nat) : (s.finB cdi i).di = cdi := rfl
@[simp] theorem finB_items (s : Store) (cdi : List Nat) (i : Nat) : (s.finB cdi i).items = upd s.items i none := rfl

@[simp] theorem setSi_W (s : Store) (v : Nat) : (s.setSi v).W = s.W := rfl
@[simp] theorem setSi_R (s : Store) (v : Nat) : (s.setSi v).R = s.R := rfl
@[simp] theorem setSi_di (s : Store) (v : Nat) : (s.setSi v).di = s.di := rfl
@[simp] theorem setSi_items (s : Store) (v : Nat) : (s.setSi v).items = s.items := rfl

@[simp] theorem getB_W (s : Store) (ri' : Nat) (cdi : List Nat) : (s.getB ri' cdi).W = s.W := rfl
theorem getB_R {s : Store} (hlt : s.R < s.W) (ri' : Nat) (cdi : List Nat) : (s.getB ri' cdi).R = ri' := by
  have : s.wi ≠ none := by
    intro h; simp [Store.W, Store.R, h] at hlt
  unfold Store.R Store.getB
  cases hw : s.wi with
  | none => exact absurd hw this
  | some w => simp
@[simp] theorem getB_di (s : Store) (ri' : Nat) (cdi : List Nat) : (s.getB ri' cdi).di = cdi := rfl
@[simp] theorem getB_items (s : Store) (ri' : Nat) (cdi : List Nat) : (s.getB ri' cdi).items = s.items := rfl

@[simp] theorem delB_W (s : Store) (i : Nat) : (s.delB i).W = s.W := rfl
@[simp] theorem delB_R (s : Store) (i : Nat) : (s.delB i).R = s.R := rfl
@[simp] theorem delB_di (s : Store) (i : Nat) : (s.delB i).di = s.di := rfl
@[simp] theorem delB_items (s : Store) (i : Nat) : (s.delB i).items = upd s.items i none := rfl
@[simp] theorem setDi_W (s : Store) (l : List Nat) : (s.setDi l).W = s.W := rfl
@[simp] theorem setDi_R (s : Store) (l : List Nat) : (s.setDi l).R = s.R := rfl
@[simp] theorem setDi_di (s : Store) (l : List Nat) : (s.setDi l).di = l := rfl
@[simp] theorem setDi_items (s : Store) (l : List Nat) : (s.setDi l).items = s.items := rfl

theorem Recoverable.setSi {s : Store} {q : Req} (h : Recoverable s q) (v : Nat) : Recoverable (s.setSi v) q := h

theorem StInvE.putB {s : Store} (h : StInvE s) (r : Req) : StInvE (s.putB s.W r) := by
  have hR := putB_R h.opt s.W r
  refine ⟨by simp [Store.putB], ?_, ?_, h.nodup⟩
  · rw [hR, putB_W]; have := h.le; omega
  · intro i hi; rw [hR]; exact h.dlt i hi

theorem StInvE.setSi {s : Store} (h : StInvE s) (v : Nat) : StInvE (s.setSi v) := ⟨h.opt, h.le, h.dlt, h.nodup⟩

theorem Recoverable.putB_old {s : Store} (h : StInvE s) {q : Req} (hq : Recoverable s q) (r : Req) :
    Recoverable (s.putB s.W r) q := by
  obtain ⟨i, hi, hc⟩ := hq
  have hne : i ≠ s.W := by
    rcases hc with hd | ⟨_, h2⟩
    · have := h.dlt i hd; have := h.le; omega
    · omega
  refine ⟨i, by rw [putB_items, upd_ne _ _ hne]; exact hi, ?_⟩
  rcases hc with hd | ⟨h1, h2⟩
  · left; exact hd
  · right; rw [putB_R h.opt, putB_W]; omega

theorem Recoverable.putB_new {s : Store} (h : StInvE s) (r : Req) : Recoverable (s.putB s.W r) r :=
  ⟨s.W, by simp, Or.inr (by rw [putB_R h.opt, putB_W]; have := h.le; omega)⟩

theorem Recoverable.finB {s : Store} {i : Nat} {l : List Nat} {q : Req} (hq : Recoverable s q)
    (hne : s.items i ≠ some q) (hl : ∀ j ∈ s.di, j ≠ i → j ∈ l) : Recoverable (s.finB l i) q := by
  obtain ⟨j, hj, hc⟩ := hq
  have hji : j ≠ i := by intro e; subst e; exact hne hj
  refine ⟨j, by rw [finB_items, upd_ne _ _ hji]; exact hj, ?_⟩
  rcases hc with hd | hr
  · exact Or.inl (hl j hd hji)
  · exact Or.inr hr

theorem Recoverable.finB_head {s : Store} {i : Nat} {rest : List Nat} (hd : s.di = i :: rest) {q : Req}
    (hq : Recoverable s q) (hne : s.items i ≠ some q) : Recoverable (s.finB rest i) q :=
  hq.finB hne fun j hj hji => by rw [hd] at hj; exact (List.mem_cons.mp hj).resolve_left hji

/-- recovery batch that moves the head `i` of `di` to the write index (repaired code): `(putB w r).finB rest i`.  For ANY request, as
    `C01_drain` needs it (a new process, empty histories); `invR_doMove` argues about accepted requests through the store steps instead. -/
theorem Recoverable.moveB {s : Store} (h : StInvE s) {i : Nat} {rest : List Nat} (hd : s.di = i :: rest)
    {r : Req} (hr : s.items i = some r) {q : Req} (hq : Recoverable s q) :
    Recoverable (s.moveB s.W r i rest) q := by
  have hi : i < s.R := h.dlt i (by simp [hd])
  have hle := h.le
  have hiW : i ≠ s.W := by omega
  by_cases e : q = r
  · subst e
    exact ⟨s.W, by rw [moveB_items, upd_ne _ _ hiW.symm, upd_same], Or.inr (by rw [moveB_R h.opt, moveB_W]; omega)⟩
  · refine (hq.putB_old h r).finB_head (s := s.putB s.W r) hd ?_
    rw [putB_items, upd_ne _ _ hiW, hr]
    exact fun e' => e (Option.some.inj e').symm

theorem stInv_empty : StInv {} :=
  ⟨fun _ => rfl, Nat.le_refl _, fun _ hi => (nomatch hi), List.nodup_nil, fun _ h1 h2 => absurd h2 (Nat.not_lt.mpr h1)⟩

def whenIdle (c : Cfg) (op : Mem → Cfg) : Cfg :=
  match c.ph with
  | .live m .idle => op m
  | _ => c

theorem whenIdle_live {c : Cfg} {m : Mem} (h : c.ph = .live m .idle) (op : Mem → Cfg) : whenIdle c op = op m := by
  unfold whenIdle; rw [h]

theorem whenIdle_cases {P : Cfg → Prop} (c : Cfg) (op : Mem → Cfg) (skip : P c)
    (idle : ∀ m, c.ph = .live m .idle → P (op m)) : P (whenIdle c op) := by
  unfold whenIdle
  split
  · exact idle _ ‹_›
  · exact skip

theorem idle_iff {c : Cfg} : c.idle = true ↔ ∃ m, c.ph = .live m .idle := by
  unfold Cfg.idle
  constructor
  · intro h
    split at h
    · exact ⟨_, ‹_›⟩
    · cases h
  · rintro ⟨m, h⟩
    rw [h]

theorem fire_tick {c : Cfg} {m : Mem} {pc : Pc} (h : c.ph = .live m pc) : fire c .tick = doTick c m pc := by
  simp only [fire, h]

theorem fire_start_dead {c : Cfg} (h : c.ph = .dead) : fire c .start = doStart c := by
  simp only [fire, h]

theorem fire_offer (c : Cfg) (r : Req) : fire c (.offer r) = whenIdle c (fun m => doOffer c m r) := rfl
theorem fire_read (c : Cfg) : fire c .read = whenIdle c (doRead c) := rfl
theorem fire_done (c : Cfg) (i : Nat) (oc : Outcome) : fire c (.done i oc) = whenIdle c (fun m => doDone c m i oc) := rfl
theorem fire_shutdown (c : Cfg) : fire c .shutdown = whenIdle c (doShutdown c) := rfl
theorem fire_wake (c : Cfg) : fire c .wake = whenIdle c (doWake c) := rfl
theorem fire_cancel (c : Cfg) (j : Nat) : fire c (.cancel j) = whenIdle c (fun m => doCancel c m j) := rfl
theorem fire_promote (c : Cfg) (j : Nat) : fire c (.promote j) = whenIdle c (fun m => doPromote c m j) := rfl

theorem fire_read_idle {c : Cfg} {m : Mem} (h : c.ph = .live m .idle) : fire c .read = doRead c m := by
  rw [fire_read, whenIdle_live h]

theorem fire_done_idle {c : Cfg} {m : Mem} (h : c.ph = .live m .idle) (i : Nat) (oc : Outcome) :
    fire c (.done i oc) = doDone c m i oc := by
  rw [fire_done, whenIdle_live h]

theorem fire_done_shutdownErr (c : Cfg) (i : Nat) :
    (fire c (.done i .shutdownErr)).st = c.st ∧ (fire c (.done i .shutdownErr)).finalised = c.finalised := by
  rw [fire_done]
  unfold whenIdle
  split
  · simp only [doDone]; split <;> exact ⟨rfl, rfl⟩
  · exact ⟨rfl, rfl⟩

theorem fire_cases {P : Label → Cfg → Prop} (c : Cfg) (l : Label)
    (skip : P l c)
    (crash : P .crash { c with ph := .dead })
    (start : c.ph = .dead → P .start (doStart c))
    (tick : ∀ m pc, c.ph = .live m pc → P .tick (doTick c m pc))
    (offer : ∀ m r, c.ph = .live m .idle → P (.offer r) (doOffer c m r))
    (read : ∀ m, c.ph = .live m .idle → P .read (doRead c m))
    (done : ∀ m i oc, c.ph = .live m .idle → P (.done i oc) (doDone c m i oc))
    (shutdown : ∀ m, c.ph = .live m .idle → P .shutdown (doShutdown c m))
    (wake : ∀ m, c.ph = .live m .idle → P .wake (doWake c m))
    (cancel : ∀ m j, c.ph = .live m .idle → P (.cancel j) (doCancel c m j))
    (promote : ∀ m j, c.ph = .live m .idle → P (.promote j) (doPromote c m j)) : P l (fire c l) := by
  -- the cases in the order of the definition of `fire`: each label followed by its "not enabled" case
  fun_cases fire c l
  · exact crash
  · exact start ‹_›
  · exact skip
  · exact tick _ _ ‹_›
  · exact skip
  · exact offer _ _ ‹_›
  · exact skip
  · exact read _ ‹_›
  · exact skip
  · exact done _ _ _ ‹_›
  · exact skip
  · exact shutdown _ ‹_›
  · exact skip
  · exact wake _ ‹_›
  · exact skip
  · exact cancel _ _ ‹_›
  · exact skip
  · exact promote _ _ ‹_›
  · exact skip

/-! ## the kinds of firing

What a firing does to the pending hand-offs, to the histories, the blocked offers and the settings is told by its KIND (`Step`):
nothing, a step that hands nothing out and takes nothing back (`Keeps`), the return of `Read`, `Done`, death, start. -/

def outstOf (c : Cfg) : List (Nat × Req) :=
  match c.ph with
  | .live m _ => m.outst
  | .dead => []

theorem outstOf_live {c : Cfg} {m : Mem} {pc : Pc} (h : c.ph = .live m pc) : outstOf c = m.outst := by
  unfold outstOf; rw [h]

def waitingOf (c : Cfg) : List Req :=
  match c.ph with
  | .live m _ => m.waiting
  | .dead => []

theorem waitingOf_live {c : Cfg} {m : Mem} {pc : Pc} (h : c.ph = .live m pc) : waitingOf c = m.waiting := by
  unfold waitingOf; rw [h]

/-- labels that leave `accepted` and the blocked offers alone -/
def Label.plain : Label → Prop
  | .read | .done _ _ | .shutdown | .start | .tick => True
  | _ => False

/-- `c'` continues the incarnation whose memory was `m` with the same pending hand-offs -/
structure Keeps (l : Label) (m : Mem) (c c' : Cfg) : Prop where
  /-- the read index does not go back; an index about to be returned lies between the old and the new one (for `Keeps.outInv`) -/
  ph : ∃ m' pc', c'.ph = .live m' pc' ∧ m'.outst = m.outst ∧ m.ri ≤ m'.ri ∧
    ∀ i r, pc' = .readRet i r → m.ri ≤ i ∧ i < m'.ri
  fin : c'.finalised = c.finalised
  /-- only `Done` answers `doneUnknown` (for `GInv.qfire_env`) -/
  unk : c'.res = .doneUnknown → c.res = .doneUnknown
  k : c'.k = c.k
  handed : c'.handed = c.handed
  quiet : l.plain → c'.accepted = c.accepted ∧ waitingOf c' = m.waiting

theorem Keeps.of {l : Label} {m m' : Mem} {pc' : Pc} {c c' : Cfg} (hph : c'.ph = .live m' pc') (ho : m'.outst = m.outst)
    (hr : m'.ri = m.ri) (hpc : ∀ i r, pc' ≠ .readRet i r) (hf : c'.finalised = c.finalised)
    (hu : c'.res = .doneUnknown → c.res = .doneUnknown) (hk : c'.k = c.k := by rfl) (hh : c'.handed = c.handed := by rfl)
    (hq : l.plain → c'.accepted = c.accepted ∧ m'.waiting = m.waiting := by exact fun _ => ⟨rfl, rfl⟩) :
    Keeps l m c c' :=
  ⟨⟨m', pc', hph, ho, Nat.le_of_eq hr.symm, fun i r e => absurd e (hpc i r)⟩, hf, hu, hk, hh,
   fun hl => by rw [waitingOf_live hph]; exact hq hl⟩

theorem Keeps.outst {l : Label} {m : Mem} {c c' : Cfg} (k : Keeps l m c c') : outstOf c' = m.outst := by
  obtain ⟨m', pc', hph, ho, _⟩ := k.ph
  rw [outstOf_live hph, ho]

theorem afterMove_ne (todo : List (Nat × Option Req)) : ∀ i r, afterMove todo ≠ .readRet i r := by
  cases todo <;> nofun

theorem finCont_ne (k : Conf) (m : Mem) (fk : FinK) : ∀ i r, finCont k m fk ≠ .readRet i r := by
  intro i r e
  cases fk
  · cases e
  · simp only [finCont] at e; split at e <;> cases e

theorem ite_ne_readRet {p : Prop} [Decidable p] {x y : Pc} (hx : ∀ i r, x ≠ .readRet i r) (hy : ∀ i r, y ≠ .readRet i r) :
    ∀ i r, (if p then x else y) ≠ .readRet i r := by
  split <;> assumption

theorem Keeps.ite {l : Label} {m : Mem} {c a b : Cfg} {p : Prop} [Decidable p] (ha : Keeps l m c a) (hb : Keeps l m c b) :
    Keeps l m c (if p then a else b) := by
  split <;> assumption

theorem keeps_doRead (l : Label) (c : Cfg) (m : Mem) : Keeps l m c (doRead c m) := by
  refine .ite (.of rfl rfl rfl nofun rfl nofun) (.ite (.of rfl rfl rfl nofun rfl nofun) ?_)
  refine ⟨⟨_, _, rfl, rfl, Nat.le_succ _, ?_⟩, rfl, nofun, rfl, rfl, fun _ => ⟨rfl, rfl⟩⟩
  intro i r e
  split at e <;> cases e
  exact ⟨Nat.le_refl _, Nat.lt_succ_self _⟩

theorem keeps_doGetDi (l : Label) (c : Cfg) (m : Mem) : Keeps l m c (doGetDi c m) := by
  fun_cases doGetDi c m <;> exact .of rfl rfl rfl nofun rfl id

theorem keeps_doMove (l : Label) (c : Cfg) (m : Mem) (todo : List (Nat × Option Req)) : Keeps l m c (doMove c m todo) := by
  fun_cases doMove c m todo
  · exact .of rfl rfl rfl nofun rfl id
  · exact .of rfl rfl rfl (afterMove_ne _) rfl id
  · exact .of rfl rfl rfl (ite_ne_readRet nofun (afterMove_ne _)) rfl id

theorem keeps_doPut {l : Label} (hl : ¬ l.plain) (c : Cfg) (m : Mem) (w : List Req) (r : Req) :
    Keeps l m c (doPut c { m with waiting := w } r) :=
  .of rfl rfl rfl (ite_ne_readRet nofun nofun) rfl nofun (hq := fun h => absurd h hl)

theorem keeps_doOffer {c : Cfg} {m : Mem} (h : c.ph = .live m .idle) (r : Req) : Keeps (.offer r) m c (doOffer c m r) :=
  -- along the `if`s of `doOffer` and `doOfferFull`
  .ite (.ite (.of h rfl rfl nofun rfl nofun)
      (.ite (.of h rfl rfl nofun rfl nofun) (.of rfl rfl rfl nofun rfl nofun (hq := False.elim))))
    (keeps_doPut id c m m.waiting r)

theorem keeps_doWake {c : Cfg} {m : Mem} (h : c.ph = .live m .idle) : Keeps .wake m c (doWake c m) := by
  fun_cases doWake c m
  · exact .of h rfl rfl nofun rfl id
  · exact .of rfl rfl rfl nofun rfl nofun (hq := False.elim)
  · exact keeps_doPut id c m _ _

theorem keeps_doPromote {c : Cfg} {m : Mem} (h : c.ph = .live m .idle) (j : Nat) :
    Keeps (.promote j) m c (doPromote c m j) := by
  fun_cases doPromote c m j
  · exact .of h rfl rfl nofun rfl id
  · exact .of rfl rfl rfl nofun rfl id (hq := False.elim)

inductive Step (c : Cfg) : Label → Cfg → Prop
  | skip (l : Label) : Step c l c
  | keeps {m : Mem} {pc : Pc} {l : Label} {c' : Cfg} : c.ph = .live m pc → Keeps l m c c' → Step c l c'
  | ret {m : Mem} {i : Nat} {r : Req} : c.ph = .live m (.readRet i r) → Step c .tick (doTick c m (.readRet i r))
  | done {m : Mem} (i : Nat) (oc : Outcome) : c.ph = .live m .idle → Step c (.done i oc) (doDone c m i oc)
  | crash : Step c .crash { c with ph := .dead }
  | start : c.ph = .dead → Step c .start (doStart c)

theorem step_doTick {c : Cfg} {m : Mem} {pc : Pc} (h : c.ph = .live m pc) : Step c .tick (doTick c m pc) := by
  cases pc with
  | idle => exact .skip _
  | readRet i r => exact .ret h
  | readLoop => exact .keeps h (keeps_doRead _ c m)
  | init1 => exact .keeps h (.ite (.of rfl rfl rfl nofun rfl id) (keeps_doGetDi _ c m))
  | init2 => exact .keeps h (keeps_doGetDi _ c m)
  | moving todo => exact .keeps h (keeps_doMove _ c m todo)
  | movingBackup todo => exact .keeps h (.of rfl rfl rfl (afterMove_ne _) rfl id)
  | fin1 i k => exact .keeps h (.of rfl rfl rfl (finCont_ne _ _ _) rfl id)
  | fin3 i k => exact .keeps h (.of rfl rfl rfl (finCont_ne _ _ _) rfl id)
  | _ => exact .keeps h (.of rfl rfl rfl nofun rfl id)

theorem fire_step (c : Cfg) (l : Label) : Step c l (fire c l) :=
  fire_cases (P := Step c) c l (skip := .skip l) (crash := .crash) (start := .start) (tick := fun _ _ h => step_doTick h)
    (done := fun _ i oc h => .done i oc h) (offer := fun _ r h => .keeps h (keeps_doOffer h r))
    (read := fun m h => .keeps h (keeps_doRead _ c m)) (wake := fun _ h => .keeps h (keeps_doWake h))
    (promote := fun _ j h => .keeps h (keeps_doPromote h j))
    (shutdown := fun _ h => .keeps h (.of rfl rfl rfl nofun rfl nofun))
    (cancel := fun _ _ h => .keeps h (.of rfl rfl rfl nofun rfl nofun (hq := False.elim)))

theorem fire_k (c : Cfg) (l : Label) : (fire c l).k = c.k := by
  have s := fire_step c l
  generalize fire c l = c' at s
  cases s with
  | keeps _ k => exact k.k
  | done i oc => fun_cases doDone c _ i oc <;> rfl
  | _ => rfl

theorem run_k (k : Conf) (ls : List Label) : (run k ls).k = k :=
  List.foldlRecOn (motive := fun c => c.k = k) ls fire rfl fun c h l _ => (fire_k c l).trans h

theorem sizeof_reqSized {k : Conf} (hk : k.reqSized = true) (r : Req) : k.sizeof r = 1 := by simp [Conf.sizeof, hk]

theorem fire_frame (c : Cfg) (l : Label) (hl : l.plain) :
    (fire c l).accepted = c.accepted ∧ waitingOf (fire c l) = waitingOf c := by
  have s := fire_step c l
  generalize fire c l = c' at s
  cases s with
  | skip => exact ⟨rfl, rfl⟩
  | keeps hph k => rw [waitingOf_live hph]; exact k.quiet hl
  | ret hph => exact ⟨rfl, by rw [waitingOf_live hph]; rfl⟩
  | done i oc hph =>
    rw [waitingOf_live hph]
    fun_cases doDone c _ i oc
    · exact ⟨rfl, waitingOf_live hph⟩
    · exact ⟨rfl, rfl⟩
    · exact ⟨rfl, rfl⟩
  | crash => cases hl
  | start hph => exact ⟨rfl, by unfold waitingOf; rw [hph]; rfl⟩

end OtelVerif.C01

import OtelVerif.Lemmas.C08Api
/-! C08, what the JSON fixed point (`C08_json_decode_canonical`, `C08_json_fixpoint(_root_otlp)`) needs: the integer readers return values in range;
the JSON readers return decoder-shaped, JSON-representable values for EVERY tree (`fromJ_CJ`); `canon` keeps `jcov`, `normV` is idempotent;
migration after a JSON decode is the identity. -/
namespace OtelVerif.C08
open OtelVerif.Proto

/-! ## the leaf readers return conforming values -/

theorem parseInt_lt (T : Txt) (signed : Bool) (w : Nat) (t : List Nat) (n : Nat) (hw : 0 < w)
    (h : parseInt T signed w t = some n) : n < 2 ^ w := by
  have hp := two_pow_pred hw
  unfold parseInt at h
  -- branches `-`, `+`, digits: each accepting leaf returns `… % 2^w` or a value just compared with `2^(w-1)` / `2^w`
  split at h
  · split at h
    · cases h
    · split at h
      · split at h
        · cases h; exact Nat.mod_lt _ (Nat.pow_pos (by decide))
        · cases h
      · cases h
  · split at h
    · cases h
    · split at h
      · split at h
        · cases h; omega
        · cases h
      · cases h
  · split at h
    · next n' _ =>
      cases signed
      · simp only [Bool.false_eq_true, if_false] at h
        split at h
        · cases h; assumption
        · cases h
      · simp only [if_true] at h
        split at h
        · cases h; omega
        · cases h
    · cases h

theorem jiterDigits_lt (w : Nat) (hw : 4 ≤ w) : ∀ (cs : List Nat) (v n : Nat), v < 2 ^ w → jiterDigits w v cs = some n → n < 2 ^ w := by
  have h16 : 16 ≤ 2 ^ w := by
    calc 16 = 2 ^ 4 := by decide
      _ ≤ 2 ^ w := Nat.pow_le_pow_right (by decide) hw
  intro cs
  induction cs with
  | nil => intro v n hv h; simp only [jiterDigits] at h; cases h; exact hv
  | cons c cs ih =>
    intro v n hv h
    simp only [jiterDigits] at h
    split at h
    · next hc =>
      split at h
      · split at h
        · cases h
        · exact ih _ n (Nat.mod_lt _ (Nat.pow_pos (by decide))) h
      · next hsafe =>
        refine ih _ n ?_ h
        have : v ≤ (2 ^ w - 1) / 10 - 1 := by omega
        have h10 : (2 ^ w - 1) / 10 * 10 ≤ 2 ^ w - 1 := Nat.div_mul_le_self _ _
        omega
    · cases h

theorem jiterUint_lt (w : Nat) (hw : 4 ≤ w) (t : List Nat) (n : Nat) (h : jiterUint w t = some n) : n < 2 ^ w := by
  have h16 : 16 ≤ 2 ^ w := by
    calc 16 = 2 ^ 4 := by decide
      _ ≤ 2 ^ w := Nat.pow_le_pow_right (by decide) hw
  unfold jiterUint at h
  split at h
  · cases h
  · cases h; omega
  · cases h
  · split at h
    · exact jiterDigits_lt w hw _ _ n (by omega) h
    · cases h

theorem parseNum_lt (signed : Bool) (w : Nat) (t : List Nat) (n : Nat) (hw : 4 ≤ w)
    (h : parseNum signed w t = some n) : n < 2 ^ w := by
  unfold parseNum at h  -- `-` then digits: as `parseInt_lt`, the value by `jiterUint_lt`
  split at h
  · split at h
    · cases h
    · split at h
      · split at h
        · cases h
        · cases h; exact Nat.mod_lt _ (Nat.pow_pos (by decide))
      · cases h
  · split at h
    · next v hv =>
      split at h
      · cases h
      · cases h; exact jiterUint_lt w hw _ _ hv
    · cases h

theorem readLeaf_ok (S : Schema) (T : Txt) (hT : TxtOut T) (he : enumsOk S = true) (ty : Ty) (j : Json) (x : Val)
    (h : readLeaf S T ty j = some x) :
    leafOk ty x = true ∧ bytesLeaf ty x = true := by
  have hnum : ∀ (signed : Bool) (w : Nat) (t : List Nat), 0 < w → (parseInt T signed w t).map Val.num = some x →
      ∃ n, x = .num n ∧ n < 2 ^ w := by
    intro signed w t hw hh
    simp only [Option.map_eq_some_iff] at hh
    obtain ⟨n, hn, hx⟩ := hh
    exact ⟨n, hx.symm, parseInt_lt T signed w t n hw hn⟩
  have hnum2 : ∀ (signed : Bool) (w : Nat) (t : List Nat), 4 ≤ w → (parseNum signed w t).map Val.num = some x →
      ∃ n, x = .num n ∧ n < 2 ^ w := by
    intro signed w t hw hh
    simp only [Option.map_eq_some_iff] at hh
    obtain ⟨n, hn, hx⟩ := hh
    exact ⟨n, hx.symm, parseNum_lt signed w t n hw hn⟩
  cases ty <;> simp only [readLeaf] at h
  case u64 | fixed64 | i64 | sfixed64 | u32 | fixed32 | i32 | s32 =>
    -- a string goes through `parseInt` (`hnum`), a number through `parseNum` (`hnum2`), anything else is rejected
    split at h <;> first
      | cases h
      | (obtain ⟨n, hx, hl⟩ := hnum _ _ _ (by decide) h; subst hx
         exact ⟨by simp [leafOk, scalarOk]; exact hl, rfl⟩)
      | (obtain ⟨n, hx, hl⟩ := hnum2 _ _ _ (by decide) h; subst hx
         exact ⟨by simp [leafOk, scalarOk]; exact hl, rfl⟩)
  case enum e =>
    split at h
    · obtain ⟨n, hx, hl⟩ := hnum2 _ _ _ (by decide) h; subst hx
      exact ⟨by simp [leafOk, scalarOk]; exact hl, rfl⟩
    · simp only [Option.map_eq_some_iff, enumByName] at h
      obtain ⟨n, hn, hx⟩ := h
      subst hx
      refine ⟨?_, rfl⟩
      split at hn
      · next en hen =>
        simp only [Option.map_eq_some_iff] at hn
        obtain ⟨p, hp, hpn⟩ := hn
        simp only [enumsOk, List.all_eq_true, decide_eq_true_eq] at he
        have := he en (List.mem_of_getElem? hen) p (List.mem_of_find?_eq_some hp)
        simp [leafOk, scalarOk]; omega
      · cases hn
    · cases h
  case bool =>
    split at h <;> first | (cases h; exact ⟨by simp [leafOk, scalarOk], rfl⟩) | cases h
  case double =>
    split at h <;> first
      | cases h
      | (simp only [Option.map_eq_some_iff] at h
         obtain ⟨n, hn, hx⟩ := h
         subst hx
         exact ⟨by simp [leafOk, scalarOk]; exact hT.fparse_lt _ _ hn, rfl⟩)
  case string =>
    split at h <;> first | (cases h; exact ⟨rfl, rfl⟩) | cases h
  case bytes =>
    split at h
    · simp only [Option.map_eq_some_iff] at h
      obtain ⟨b, hb, hx⟩ := h
      subst hx
      exact ⟨rfl, hT.unb64_bytes _ _ hb⟩
    · cases h; exact ⟨rfl, rfl⟩
    · cases h
  case id n =>
    split at h
    · next b0 =>
      split at h
      · cases h; exact ⟨by simp [leafOk], rfl⟩
      · split at h
        · cases h
        · next hne hlen =>
          simp only [Option.map_eq_some_iff] at h
          obtain ⟨p, hp, hx⟩ := h
          subst hx
          obtain ⟨hbo, hl⟩ := hT.unhex_bytes _ _ hp
          have hlen' : (stripQuotes b0).length = 2 * n := by simpa using hlen
          have hpn : p.length = n := by omega
          refine ⟨?_, ?_⟩
          · by_cases hz : allZero p = true
            · simp [hz, leafOk]
            · simp [hz, leafOk, hpn]
          · by_cases hz : allZero p = true
            · rw [if_pos hz]; rfl
            · rw [if_neg hz]; exact hbo
    · cases h; exact ⟨by simp [leafOk], rfl⟩
    · cases h
  case msg sub => cases h


/-! ## `fromJ` returns `CJ` values -/

theorem jcov_get (S : Schema) (m : Nat) (ss : List Slot) (acc : Val) (j : Nat) (s : Slot)
    (hc : confD S (.slots ss) acc = true) (hj0 : jcov S m (.slots ss) acc = true) (hj : ss[j]? = some s) :
    jcov S m (.slot s) (Val.get acc j) = true :=
  slots_get S (jcov_slots_cons S m) ss acc j s hc hj0 hj

/-- a key that passed the reader's `case` test and selected field `f` means the reader covers `f` -/
theorem covered_of_key (S : Schema) (hsym : keysSymOk S = true) (m : Nat) (s : Slot) (hs : s ∈ S.slots m) (f : Field) (alt : Bool)
    (hf : SlotOf s f alt) (k : List Nat)
    (hkey : (jsonKeysOf S m).any (fun x => str x == k) = true) (hn : (str f.json == k || str f.orig == k) = true) :
    covered S m f = true := by
  simp only [Bool.or_eq_true, beq_iff_eq] at hn
  rcases hn with hj | ho
  · simp only [covered]; rw [hj]; exact hkey
  · have hm := lt_of_mem_slots hs
    simp only [keysSymOk, List.all_eq_true, List.mem_range, keysSymAt] at hsym
    have h1 := hsym m hm s hs
    rw [← ho] at hkey
    rcases hf with ⟨_, h⟩ | ⟨_, g, alts, h, hfa⟩
    · subst h; simp only [Bool.or_eq_true, Bool.not_eq_true'] at h1
      rcases h1 with h1 | h1
      · rw [hkey] at h1; cases h1
      · exact h1
    · subst h; simp only [List.all_eq_true, Bool.or_eq_true, Bool.not_eq_true'] at h1
      rcases h1 f (mem_of_findAlt hfa).1 with h1 | h1
      · rw [hkey] at h1; cases h1
      · exact h1

theorem defaults_jcov (S : Schema) (D : List Val) (r : List Nat)
    (hcov : covOk S = true)
    (hD : ∀ sub, D.getD sub .nil = msgDefault D (S.slots sub))
    (hr : reqRankOk S r = true) (sub : Nat) : jcov S sub (.slots (S.slots sub)) (D.getD sub .nil) = true := by
  refine defaults_all (P := jcov S) (jcov_slots_cons S) (fun m => jcov_slots_nil_any S m _) hD hr ?_ sub
  intro m s hs ih
  have hcs := covOk_mem hcov m s hs
  cases s with
  | oneof g alts => exact jcov_oneof_nil S m g alts
  | one f =>
    rw [jcov_slot_one]
    cases hc : f.card <;> simp only [slotDefault, hc, jsonOmit]
    · cases f.ty <;> simp [isScalar, isZero]
    · simp only [slotCovOk, hc, Bool.or_eq_true, Bool.and_eq_true, beq_iff_eq] at hcs
      have hcv : covered S m f = true := by
        rcases hcs with ⟨_, h⟩ | h
        · cases h
        · exact h
      simp only [Bool.false_or, hcv, Bool.true_and]
      cases hty : f.ty
      case msg sub' =>
        simp only []
        rw [jcov_elem_msg S m f _ sub' hty]
        exact ih f sub' rfl hc hty
      all_goals (simp only []; rw [jcov_elem_leaf S m f _ (by intro s' h'; rw [hty] at h'; cases h'), hty]; rfl)
    · simp [Val.isCons]
    · simp [Val.isCons]

/-- decoder-shaped and JSON-representable -/
def CJ (S : Schema) (m : Nat) (v : Val) : Prop :=
  confD S (.slots (S.slots m)) v = true ∧ jcov S m (.slots (S.slots m)) v = true

/-- what `fromJ_CJ` assumes of schema, text codec and defaults -/
structure JHyp (S : Schema) (T : Txt) (D : List Val) : Prop where
  hwf : ∀ m, slotsOkFrom (S.slots m) (S.slots m) 0 = true
  hsym : keysSymOk S = true
  hT : TxtOut T
  he : enumsOk S = true
  hdef : ∀ sub, CJ S sub (D.getD sub .nil)

/-- `CJ S m v` is `CJat S m (.slots (S.slots m)) v` -/
def CJat (S : Schema) (m : Nat) (md : Mode) (x : Val) : Prop := confD S md x = true ∧ jcov S m md x = true

theorem readElem_ok (S : Schema) (T : Txt) (D : List Val) (H : JHyp S T D) (m : Nat) (f : Field) (j : Json) (x : Val)
    (ih : ∀ m' acc v, CJ S m' acc → fromJ S T D m' acc j = some v → CJ S m' v)
    (hr : readElem S T D f j = some x) : CJat S m (.elem f) x := by
  rcases msg_or_leaf f.ty with ⟨sub, hty⟩ | hty
  · rw [readElem_msg hty] at hr
    have := ih sub _ x (H.hdef sub) hr
    exact ⟨by rw [confD_elem_msg S f _ sub hty]; exact this.1, by rw [jcov_elem_msg S m f _ sub hty]; exact this.2⟩
  · rw [readElem_leaf hty] at hr
    obtain ⟨hok, hb⟩ := readLeaf_ok S T H.hT H.he f.ty j x hr
    exact ⟨by rw [confD_elem_leaf S f x hty]; exact hok, by rw [jcov_elem_leaf S m f x hty]; exact hb⟩

theorem readArr_ok (S : Schema) (T : Txt) (D : List Val) (m : Nat) (f : Field) : ∀ (j : Json) (cur x : Val),
    (∀ h y, h.size < j.size → readElem S T D f h = some y → CJat S m (.elem f) y) →
    CJat S m (.reps f) cur → readArr S T D f cur j = some x → CJat S m (.reps f) x := by
  intro j
  induction j with
  | acons h t _ iht =>
    intro cur x he hc hr
    rw [readArr_acons] at hr
    cases hy : readElem S T D f h with
    | none => rw [hy] at hr; cases hr
    | some y =>
      rw [hy] at hr
      have hy' := he h y (by simp [Json.size]; omega) hy
      exact iht _ x (fun h' y' hs => he h' y' (by simp [Json.size]; omega))
        ⟨reps_snoc (confD_reps_cons S f) (confD_reps_nil S f) cur y hc.1 hy'.1,
         reps_snoc (jcov_reps_cons S m f) (jcov_reps_nil S m f) cur y hc.2 hy'.2⟩ hr
  | anil => intro cur x _ hc hr; rw [readArr_anil] at hr; cases hr; exact hc
  | null => intro cur x _ hc hr; rw [readArr_null] at hr; cases hr; exact hc
  | _ =>  -- any other JSON shape is rejected by both array readers
    intro cur x _ _ hr
    rcases msg_or_leaf f.ty with ⟨sub, hty⟩ | hty
    · rw [readArr_msg hty, fromJ.fromJArr] at hr <;> first | cases hr | (intros; contradiction)
    · rw [readArr_leaf hty, readLeafArr] at hr <;> first | cases hr | (intros; contradiction)

/-- a list slot that the marshaler would leave out is empty -/
theorem jcov_reps_of_slot (S : Schema) (m : Nat) (f : Field) (cur : Val) (hc : f.card = .rep ∨ f.card = .packed)
    (hcur : confD S (.reps f) cur = true) (hj : jcov S m (.slot (.one f)) cur = true) : jcov S m (.reps f) cur = true := by
  rw [jcov_slot_one] at hj
  rcases confD_reps_chainy S f cur hcur with hn | hcons
  · rw [hn]; exact jcov_reps_nil S m f
  · rcases hc with hc | hc <;>
      simp only [jsonOmit, hc, hcons, Bool.not_true, Bool.false_or, Bool.and_eq_true] at hj <;> exact hj.2

/-- what one member does to its slot keeps the slot decoder-shaped and JSON-representable; `ih`: the statement for the (smaller)
trees inside the member's value -/
theorem slotRead_ok (S : Schema) (T : Txt) (D : List Val) (H : JHyp S T D) (m : Nat) (s : Slot)
    (f : Field) (alt : Bool) (hso : SlotOf s f alt) (hfok : fieldOk alt f = true) (hcv : covered S m f = true)
    (cur : Val) (hcur : CJat S m (.slot s) cur) (jv : Json) (nv : Val) (hr : slotRead S T D f alt cur jv = some nv)
    (ih : ∀ j, j.size ≤ jv.size → ∀ m' acc v, CJ S m' acc → fromJ S T D m' acc j = some v → CJ S m' v) :
    CJat S m (.slot s) nv := by
  have hel := fun j y (hs : j.size ≤ jv.size) => readElem_ok S T D H m f j y (ih j hs)
  rcases hso with ⟨rfl, rfl⟩ | ⟨rfl, g, alts, rfl, hfa⟩
  · rw [slotRead_plain S T D f hfok] at hr
    simp only [fieldOk, Bool.false_eq_true, if_false, Bool.and_eq_true] at hfok
    obtain ⟨hcur, hjcur⟩ := hcur
    unfold CJat
    rw [confD_slot_one] at hcur ⊢
    rw [jcov_slot_one]
    by_cases hl : f.card = .rep ∨ f.card = .packed
    · -- a list, of messages or of leaves
      rw [if_pos hl] at hr
      have hpk : f.card = .packed → ∀ v, packedOk f.ty v = confD S (.reps f) v :=
        fun hc => packedOk_eq_reps S f (by simpa [hc] using hfok.2)
      have hcr : confD S (.reps f) cur = true := by
        rcases hl with hc | hc
        · simpa [hc] using hcur
        · rw [← hpk hc]; simpa [hc] using hcur
      obtain ⟨h1, h2⟩ := readArr_ok S T D m f jv cur nv (fun h y hs => hel h y (by omega))
        ⟨hcr, jcov_reps_of_slot S m f cur hl hcr hjcur⟩ hr
      rcases hl with hc | hc
      · simp [hc, hcv, h1, h2]
      · simp [hc, hcv, hpk hc, h1, h2]
    · rw [if_neg hl] at hr
      split at hr
      · next sub hty =>
        -- an embedded message, read into the current one
        have hc : f.card = .req := by cases h : f.card <;> simp [h, hty, isScalar] at hfok hl ⊢
        simp only [hc] at hcur ⊢
        rw [jcov_slot_one] at hjcur
        simp only [jsonOmit, hc, Bool.false_or, Bool.and_eq_true] at hjcur ⊢
        rw [confD_elem_msg S f _ sub hty] at hcur ⊢
        rw [jcov_elem_msg S m f _ sub hty] at hjcur ⊢
        obtain ⟨h1, h2⟩ := ih jv (Nat.le_refl _) sub cur nv ⟨hcur, hjcur.2⟩ hr
        exact ⟨h1, hcv, h2⟩
      · next hty =>
        -- a single leaf
        obtain ⟨h1, h2⟩ := hel jv nv (Nat.le_refl _) hr
        rw [confD_elem_leaf S f nv hty] at h1
        cases hc : f.card
        · simp [hcv, h1, h2]
        · simp [hcv, confD_elem_leaf S f nv hty, h1, h2]
        · exact absurd (Or.inl hc) hl
        · exact absurd (Or.inr hc) hl
  · -- a one-of alternative: a fresh element
    rw [slotRead_alt, Option.map_eq_some_iff] at hr
    obtain ⟨x, hx, rfl⟩ := hr
    obtain ⟨h1, h2⟩ := hel jv x (Nat.le_refl _) hx
    exact ⟨confD_wrap_alt S g alts f x hfa h1, by rw [jcov_slot_oneof]; simp [hfa, hcv, h2]⟩

theorem mem_of_getElem?' {α : Type} {l : List α} {i : Nat} {a : α} (h : l[i]? = some a) : a ∈ l := List.mem_of_getElem? h

/-- **the JSON readers return decoder-shaped, JSON-representable values** (both `fromJ` and its array helper), for every tree -/
theorem fromJ_CJ (S : Schema) (T : Txt) (D : List Val) (H : JHyp S T D) : ∀ (n : Nat),
    (∀ j : Json, j.size ≤ n → ∀ m acc v, CJ S m acc → fromJ S T D m acc j = some v → CJ S m v) ∧
    (∀ j : Json, j.size ≤ n → ∀ sub g m' c x, g.ty = .msg sub → confD S (.reps g) c = true → jcov S m' (.reps g) c = true →
      fromJ.fromJArr S T D sub c j = some x → confD S (.reps g) x = true ∧ jcov S m' (.reps g) x = true) := by
  intro n
  induction n using Nat.strongRecOn with
  | _ n ih =>
    have ihA : ∀ j : Json, j.size < n → ∀ m acc v, CJ S m acc → fromJ S T D m acc j = some v → CJ S m v :=
      fun j hj => (ih j.size hj).1 j (Nat.le_refl _)
    constructor
    · intro j hn m acc v hacc h
      cases j with
      | onil => rw [fromJ] at h; cases h; exact hacc
      | null => rw [fromJ] at h; cases h; exact hacc
      | ocons k jv tl =>
        have hsz : jv.size < n ∧ tl.size < n := by simp only [Json.size] at hn; omega
        have ihtl := ihA tl hsz.2
        by_cases hskip : (jsonKeysOf S m).any (fun s => str s == k) = false ∨ findKey (S.slots m) 0 k = none
        · rw [fromJ_skip S T D m acc k jv tl hskip] at h
          split at h
          · exact ihtl m acc v hacc h
          · cases h
        · have hkey : (jsonKeysOf S m).any (fun s => str s == k) = true := by
            cases hk : (jsonKeysOf S m).any (fun s => str s == k) with
            | false => exact absurd (Or.inl hk) hskip
            | true => rfl
          obtain ⟨hit, hfind⟩ : ∃ hit, findKey (S.slots m) 0 k = some hit := by
            cases hf : findKey (S.slots m) 0 k with
            | none => exact absurd (Or.inr hf) hskip
            | some hit => exact ⟨hit, rfl⟩
          rw [fromJ_step S T D m acc k jv tl hit hkey hfind] at h
          split at h
          · next nv hnv =>
            obtain ⟨s, hs, hso, hfok, hname⟩ := hit_slot (H.hwf m) ((findKey_eq k _ 0).symm.trans hfind)
            have hcv := covered_of_key S H.hsym m s (List.mem_of_getElem? hs) hit.f hit.alt hso k hkey hname
            have hcur := confD_get S _ acc hit.idx s hacc.1 hs
            have hjcur := jcov_get S m _ acc hit.idx s hacc.1 hacc.2 hs
            obtain ⟨h1, h2⟩ := slotRead_ok S T D H m s hit.f hit.alt hso hfok hcv _ ⟨hcur, hjcur⟩ jv nv hnv
              (fun j hj => ihA j (by omega))
            exact ihtl m _ v ⟨confD_set S _ acc hit.idx s nv hacc.1 hs h1, slots_set S (jcov_slots_cons S m) _ acc hit.idx s nv hacc.1 hacc.2 hs h2⟩ h
          · cases h
      | _ => simp [fromJ] at h
    · intro j hn sub g m' c x hty hc hj h
      rw [← readArr_msg hty] at h
      exact readArr_ok S T D m' g j c x (fun e y hs => readElem_ok S T D H m' g e y (ihA e (by omega))) ⟨hc, hj⟩ h

/-! ## `canon` keeps `jcov`; `normV` is idempotent -/

theorem isCons_canon (S : Schema) (mode : Mode) (v : Val) : (canon S mode v).isCons = v.isCons := by
  -- `canon` only replaces a `num` by a `num`
  fun_induction canon S mode v <;> first | rfl | assumption | simp_all [Val.isCons]

theorem jcov_canon (S : Schema) (mode : Mode) (v : Val) :
    ∀ m, jcov S m mode v = true → jcov S m mode (canon S mode v) = true := by
  fun_induction canon S mode v
  case case1 s ss x xs ih2 ih1 =>  -- slots cons
    intro m h
    rw [jcov_slots_cons, Bool.and_eq_true] at h
    rw [jcov_slots_cons, Bool.and_eq_true]; exact ⟨ih2 m h.1, ih1 m h.2⟩
  case case3 f v sub hty ih =>  -- elem msg
    intro m h
    rw [jcov_elem_msg S m f v sub hty] at h
    rw [jcov_elem_msg S m f _ sub hty]; exact ih sub h
  case case5 f e rest ih2 ih1 =>  -- reps cons
    intro m h
    rw [jcov_reps_cons, Bool.and_eq_true] at h
    rw [jcov_reps_cons, Bool.and_eq_true]; exact ⟨ih2 m h.1, ih1 m h.2⟩
  case case7 f v hc hz =>  -- opt -0.0
    intro m _
    rw [jcov_slot_one]
    simp only [Bool.and_eq_true, beq_iff_eq] at hz
    simp [jsonOmit, hc, hz.1, isZero]
  case case9 f v hc ih =>  -- req
    intro m h
    rw [jcov_slot_one] at h ⊢
    simp only [hc, jsonOmit, Bool.false_or, Bool.and_eq_true] at h ⊢
    exact ⟨h.1, ih m h.2⟩
  case case10 f v hc ih =>  -- rep
    intro m h
    rw [jcov_slot_one] at h ⊢
    simp only [hc, jsonOmit, Bool.or_eq_true, Bool.and_eq_true, Bool.not_eq_true'] at h ⊢
    rcases h with h | h
    · left; rw [isCons_canon]; exact h
    · right; exact ⟨h.1, ih m h.2⟩
  case case12 g alts k p a hfa ih =>  -- one-of found
    intro m h
    rw [jcov_slot_oneof] at h ⊢
    simp only [hfa, Bool.and_eq_true] at h ⊢
    exact ⟨h.1, ih m h.2⟩
  all_goals (intro m h; exact h)  -- the other cases: `canon` returns `v` itself

theorem normNaN_idem (n : Nat) : normNaN (normNaN n) = normNaN n := by
  unfold normNaN
  split
  · have : isNaN canonNaN = true := by decide
    simp [this]
  · rfl

theorem normLeaf_idem (ty : Ty) (v : Val) : normLeaf ty (normLeaf ty v) = normLeaf ty v := by
  by_cases hd : ty = .double
  · subst hd; cases v <;> simp [normLeaf, normNaN_idem]
  · rw [normLeaf_eq ty v hd, normLeaf_eq ty v hd]

theorem normV_idem (S : Schema) (mode : Mode) (v : Val) : normV S mode (normV S mode v) = normV S mode v := by
  fun_induction normV S mode v
  case case1 s ss x xs ih2 ih1 => rw [normV_slots_cons, ih2, ih1]  -- slots cons
  case case3 f v sub hty ih =>  -- elem msg
    rw [normV_elem_msg S f _ sub hty, ih]
  case case4 f v hty =>  -- elem leaf
    rw [normV_elem_leaf S f _ hty, normLeaf_idem]
  case case5 f e rest ih2 ih1 => rw [normV_reps_cons, ih2, ih1]  -- reps cons
  case case7 f v hc ih | case8 f v hc ih => rw [normV_slot_one]; simp only [hc]; exact ih  -- rep | packed
  case case9 f v hc1 hc2 ih =>  -- opt, req
    rw [normV_slot_one]
    cases hc : f.card
    · exact ih
    · exact ih
    · exact (hc1 hc).elim
    · exact (hc2 hc).elim
  case case10 g alts k p a hfa ih =>  -- one-of found
    simp only [normV_slot_oneof S g alts k _ a hfa, ih]
  case case11 g alts k p hfa =>  -- one-of unknown
    (conv => lhs; rw [normV]); simp [hfa]
  all_goals first | rfl | (rw [normV]; assumption)  -- the ends: `normV` returns the value as it is

/-! ## migration after a JSON decode -/

theorem migrateRes_noop_jcov (S : Schema) (r : Nat) (rv : Val) (hsh : migShape2At (S.slots r) = true)
    (hdu : depUncovAt S r = true) (hc : confD S (.slots (S.slots r)) rv = true) (hj : jcov S r (.slots (S.slots r)) rv = true) :
    migrateRes (S.slots r) rv = rv := by
  apply migrateRes_noop
  intro d hd
  simp only [depUncovAt, hd] at hdu
  split at hdu
  · next fd hsd =>
    simp only [Bool.and_eq_true, Bool.not_eq_true', beq_iff_eq] at hdu
    have hcd := confD_get S _ rv d _ hc hsd
    rw [confD_slot_one] at hcd; simp only [hdu.2] at hcd
    have hjd := jcov_get S r _ rv d _ hc hj hsd
    rw [jcov_slot_one] at hjd
    simp only [hdu.1, Bool.false_and, Bool.or_false, jsonOmit, hdu.2, Bool.not_eq_true'] at hjd
    refine ⟨?_, ?_⟩
    · rcases confD_reps_chainy S fd _ hcd with hn | hcons
      · exact hn
      · rw [hcons] at hjd; cases hjd
    · intro i hi
      obtain ⟨_, _, fi, _, hsi, _, hci, _⟩ := migShape2At_spec hsh hi hd
      have hg := confD_get S _ rv i _ hc hsi
      rw [confD_slot_one] at hg; simp only [hci] at hg
      exact confD_reps_chainy S fi _ hg
  · cases hdu

theorem depUncov_at {S : Schema} (h : depUncovOk S = true) (r : Nat) : depUncovAt S r = true := by
  simp only [depUncovOk, List.all_eq_true, List.mem_range] at h
  by_cases hr : r < S.msgs.length
  · exact h r hr
  · simp [depUncovAt, slots_eq_nil hr, slotIdx, findSlot]

/-- `otlp.Migrate*` after a JSON decode is the identity: the readers cannot populate the deprecated lists -/
theorem migrate_noop_jcov (S : Schema) (hsh : migShape2Ok S = true) (hdu : depUncovOk S = true) (m : Nat) (v : Val)
    (hfirst : ∀ f rest, S.slots m = .one f :: rest → f.card = .rep) (hcj : CJ S m v) : migrate S m v = v := by
  apply migrate_noop_of_res
  intro f rest r hs hty rv hrv
  have hcard := hfirst f rest hs
  have hs0 : (S.slots m)[0]? = some (.one f) := by rw [hs]; rfl
  have hc0 := confD_get S _ v 0 _ hcj.1 hs0
  rw [confD_slot_one] at hc0; simp only [hcard] at hc0
  have hj0 := jcov_get S m _ v 0 _ hcj.1 hcj.2 hs0
  have hjr := jcov_reps_of_slot S m f _ (Or.inl hcard) hc0 hj0
  have h1 := reps_mem (confD_reps_cons S f) _ rv hc0 hrv
  rw [confD_elem_msg S f _ r hty] at h1
  have h2 := reps_mem (jcov_reps_cons S m f) _ rv hjr hrv
  rw [jcov_elem_msg S m f _ r hty] at h2
  exact migrateRes_noop_jcov S r rv (migShape2_slots hsh r) (depUncov_at hdu r) h1 h2

end OtelVerif.C08

import OtelVerif.Lemmas.C04Level
/-!
C04: `moveFirst*` (the repair of the non-terminating split).  `MovesFirst` says what the closure of one level does to a child:
proved at the innermost level, carried up one level, and read at the top for what the split loop needs of `moveFirst`.
-/
namespace OtelVerif.C04
open OtelVerif.Payload

theorem moveFirstOf_cons (c : Item) (cs : List Item) : moveFirstOf (c :: cs) = ⟨[c], cs, true⟩ := by
  simp only [moveFirstOf, walk, Bool.false_eq_true, if_false, walk_stopped (fun moved => moved) _ _ true rfl]

theorem ocnt_ite_le {α : Type} (n : α → Nat) (c : Prop) [Decidable c] (a : α) :
    ocnt n (if c then none else some a) ≤ n a := by
  split
  · exact Nat.zero_le _
  · exact Nat.le_of_eq (ocnt_some n a)

/-- what a `moveFirst*` closure does to a child: it splits the child's items into what moved and what stays, in order; it
reports `moved` unless the child holds nothing; it moves at most one item; and (a pass calls it at `moved = false` only) what it
leaves of the child has no more nodes, and fewer when it reports `moved` -/
structure MovesFirst {α β : Type} (cut : Bool → α → Option α × Option α × Bool) (f : α → List β) (n : α → Nat) : Prop where
  eq : ∀ s c, oflat f (cut s c).1 ++ oflat f (cut s c).2.1 = f c
  moved : ∀ s c, (cut s c).2.2 = true ∨ f c = []
  one : ∀ c, (oflat f (cut false c).1).length ≤ 1
  pos : ∀ c, 0 < n c
  nodes : ∀ c, ocnt n (cut false c).2.1 ≤ n c ∧ ((cut false c).2.2 ≠ false → ocnt n (cut false c).2.1 < n c)

/-- the five laws, for a whole pass `w` over the children `l` -/
structure MovedFirst {α β : Type} (f : α → List β) (n : α → Nat) (l : List α) (w : Walk α Bool) : Prop where
  eq : w.dest.flatMap f ++ w.rem.flatMap f = l.flatMap f
  moved : w.st = true ∨ l.flatMap f = []
  one : (w.dest.flatMap f).length ≤ 1
  le : sumBy n w.rem ≤ sumBy n l
  lt : w.st ≠ false → sumBy n w.rem < sumBy n l

theorem walk_movesFirst {α β : Type} {cut : Bool → α → Option α × Option α × Bool} {f : α → List β} {n : α → Nat}
    (h : MovesFirst cut f n) (l : List α) : MovedFirst f n l (walk (fun moved => moved) (fun _ _ => none) cut false l) := by
  have hn := walk_nodes (fun moved => moved) (fun _ _ => none) cut n id h.pos
    (fun s c hs => by have hs' : s = false := hs; subst hs'; exact h.nodes c) false l
  have hm : ((walk (fun moved => moved) (fun _ _ => none) cut false l).st = true ∨ l.flatMap f = []) ∧
      ((walk (fun moved => moved) (fun _ _ => none) cut false l).dest.flatMap f).length ≤ 1 := by
    clear hn
    induction l with
    | nil => exact ⟨Or.inr rfl, Nat.zero_le _⟩
    | cons c cs ih =>
      have e1 : (cut false c).1.toList.flatMap f = oflat f (cut false c).1 := rfl
      simp only [walk, Bool.false_eq_true, if_false]
      cases hk : (cut false c).2.2 with
      | true =>
        rw [walk_stopped (fun moved => moved) _ cut true rfl]
        simp only [List.append_nil, e1]
        exact ⟨Or.inl trivial, h.one c⟩
      | false =>
        have hc : f c = [] := (h.moved false c).resolve_left (by rw [hk]; exact Bool.false_ne_true)
        have h12 := h.eq false c
        rw [hc] at h12
        simp only [List.flatMap_append, List.flatMap_cons, e1, (List.append_eq_nil_iff.mp h12).1, hc, List.nil_append]
        exact ih
  exact ⟨walk_seq Seq.eq _ _ cut f (fun s c => ⟨h.eq s c, h.moved s c⟩) false l, hm.1, hm.2, hn.1, hn.2⟩

theorem leaf_movesFirst {α β : Type} (cut : Bool → α → Option α × Option α × Bool) (f : α → List β) (n : α → Nat)
    (L : Level α Item) (g : α → Item → β) (hf : ∀ a, f a = (L.kids a).map (g a))
    (hmk : ∀ a l, f (L.set a l) = l.map (g a)) (hn : ∀ a, n a = 1 + (L.kids a).length) (hnmk : ∀ a l, n (L.set a l) = 1 + l.length)
    (h0 : ∀ s a, L.kids a = [] → cut s a = (none, some a, s))
    (h1 : ∀ s a x xs, L.kids a = x :: xs →
      cut s a = (some (L.set a [x]), if (xs.length == 0) = true then none else some (L.set a xs), true)) :
    MovesFirst cut f n := by
  have key : ∀ s a, (f a = [] ∧ oflat f (cut s a).1 = [] ∧ oflat f (cut s a).2.1 = []) ∨
      (∃ x xs, oflat f (cut s a).1 = [x] ∧ f a = x :: xs ∧ oflat f (cut s a).2.1 = xs ∧ (cut s a).2.2 = true) := by
    intro s a
    cases hi : L.kids a with
    | nil =>
      have hfa : f a = [] := by rw [hf, hi]; rfl
      exact Or.inl ⟨hfa, by rw [h0 s a hi]; rfl, by rw [h0 s a hi, oflat_some, hfa]⟩
    | cons x xs =>
      refine Or.inr ⟨g a x, xs.map (g a), ?_, by rw [hf, hi]; rfl, ?_, by rw [h1 s a x xs hi]⟩
      · rw [h1 s a x xs hi, oflat_some, hmk]; rfl
      · rw [h1 s a x xs hi, oflat_if_len' f xs (L.set a) (by rw [hmk]; rfl), hmk]
  refine ⟨fun s a => ?_, fun s a => ?_, fun a => ?_, fun a => by rw [hn]; omega, fun a => ?_⟩
  · rcases key s a with ⟨h, e1, e2⟩ | ⟨x, xs, e1, h, e2, _⟩
    · rw [e1, e2, h]; rfl
    · rw [e1, e2, h]; rfl
  · rcases key s a with ⟨h, _, _⟩ | ⟨_, _, _, _, _, h⟩
    · exact Or.inr h
    · exact Or.inl h
  · rcases key false a with ⟨_, e1, _⟩ | ⟨x, xs, e1, _, _, _⟩
    · rw [e1]; exact Nat.zero_le _
    · rw [e1]; exact Nat.le_refl _
  · cases hi : L.kids a with
    | nil => rw [h0 false a hi]; exact ⟨by rw [ocnt_some]; exact Nat.le_refl _, fun h => absurd rfl h⟩
    | cons x xs =>
      have := ocnt_ite_le n ((xs.length == 0) = true) (L.set a xs)
      rw [hnmk] at this
      rw [h1 false a x xs hi, hn, hi, List.length_cons]
      dsimp only
      exact ⟨by omega, fun _ => by omega⟩

theorem mfScope_nil (moved : Bool) (s : Scope) (h : s.items = []) : mfScope moved s = (none, some s, moved) := by
  simp only [mfScope, h, List.length_nil, beq_self_eq_true, if_true]

theorem mfScope_cons (moved : Bool) (s : Scope) (x : Item) (xs : List Item) (h : s.items = x :: xs) :
    mfScope moved s =
      (some { s with items := [x] }, if (xs.length == 0) = true then none else some { s with items := xs }, true) := by
  simp only [mfScope, h, moveFirstOf_cons, List.length_cons, Nat.add_one_ne_zero, beq_iff_eq, if_false]

theorem mfMetric_nil (moved : Bool) (m : Metric) (h : m.points = []) : mfMetric moved m = (none, some m, moved) := by
  simp only [mfMetric, h, List.length_nil, beq_self_eq_true, if_true]

theorem mfMetric_cons (moved : Bool) (m : Metric) (x : Item) (xs : List Item) (h : m.points = x :: xs) :
    mfMetric moved m =
      (some { m with points := [x] }, if (xs.length == 0) = true then none else some { m with points := xs }, true) := by
  simp only [mfMetric, h, moveFirstOf_cons, List.length_cons, Nat.add_one_ne_zero, beq_iff_eq, if_false]

theorem mfScope_movesFirst (r : RMeta) : MovesFirst mfScope (Scope.flat r) Scope.nodes :=
  leaf_movesFirst mfScope (Scope.flat r) Scope.nodes scopeLevel (fun s i => (r, s.smeta, i))
    (fun _ => rfl) (fun _ _ => rfl) (fun _ => rfl) (fun _ _ => rfl) mfScope_nil mfScope_cons

theorem mfMetric_movesFirst (r : RMeta) (sm : SMeta) : MovesFirst mfMetric (Metric.flat r sm) Metric.nodes :=
  leaf_movesFirst mfMetric (Metric.flat r sm) Metric.nodes metricLevel (fun m i => (r, sm, m.mmeta, i))
    (fun _ => rfl) (fun _ _ => rfl) (fun _ => rfl) (fun _ _ => rfl) mfMetric_nil mfMetric_cons

theorem level_movesFirst {α κ β : Type} {cut : Bool → κ → Option κ × Option κ × Bool} {f : α → κ → List β} {cn : κ → Nat}
    (h : ∀ a, MovesFirst cut (f a) cn) (L : Level α κ) (F : α → List β) (n : α → Nat)
    (hF : ∀ a l, F (L.set a l) = l.flatMap (f a)) (hk : ∀ a, F a = (L.kids a).flatMap (f a))
    (hn : ∀ a, n a = 1 + sumBy cn (L.kids a)) (hnmk : ∀ a l, n (L.set a l) = 1 + sumBy cn l)
    (lvl : Bool → α → Option α × Option α × Bool)
    (hl : ∀ s a, lvl s a =
      (if (walk (fun moved => moved) (fun _ _ => none) cut false (L.kids a)).dest.length == 0 then none
        else some (L.set a (walk (fun moved => moved) (fun _ _ => none) cut false (L.kids a)).dest),
       if (walk (fun moved => moved) (fun _ _ => none) cut false (L.kids a)).st &&
            (walk (fun moved => moved) (fun _ _ => none) cut false (L.kids a)).rem.length == 0 then none
        else some (L.set a (walk (fun moved => moved) (fun _ _ => none) cut false (L.kids a)).rem),
       (walk (fun moved => moved) (fun _ _ => none) cut false (L.kids a)).st)) :
    MovesFirst lvl F n := by
  have key : ∀ s a,
      oflat F (lvl s a).1 = (walk (fun moved => moved) (fun _ _ => none) cut false (L.kids a)).dest.flatMap (f a) ∧
      oflat F (lvl s a).2.1 = (walk (fun moved => moved) (fun _ _ => none) cut false (L.kids a)).rem.flatMap (f a) := by
    intro s a
    rw [hl]
    exact ⟨by rw [oflat_if_len' F _ (L.set a) (by rw [hF]; rfl), hF], by rw [oflat_if_len F _ _ (L.set a) (by rw [hF]; rfl), hF]⟩
  refine ⟨fun s a => ?_, fun s a => ?_, fun a => ?_, fun a => by rw [hn]; omega, fun a => ?_⟩
  · rw [(key s a).1, (key s a).2, hk]; exact (walk_movesFirst (h a) (L.kids a)).eq
  · rw [hk, hl]; exact (walk_movesFirst (h a) (L.kids a)).moved
  · rw [(key false a).1]; exact (walk_movesFirst (h a) (L.kids a)).one
  · have hw := walk_movesFirst (h a) (L.kids a)
    have := ocnt_ite_le n (((walk (fun moved => moved) (fun _ _ => none) cut false (L.kids a)).st &&
        ((walk (fun moved => moved) (fun _ _ => none) cut false (L.kids a)).rem.length == 0)) = true)
      (L.set a (walk (fun moved => moved) (fun _ _ => none) cut false (L.kids a)).rem)
    rw [hnmk] at this
    rw [hl, hn]
    dsimp only
    have hle := hw.le
    exact ⟨by omega, fun h' => by have := hw.lt h'; omega⟩

theorem mfRes_movesFirst : MovesFirst mfRes Res.flat Res.nodes :=
  level_movesFirst (fun r => mfScope_movesFirst r.rmeta) resLevel Res.flat Res.nodes
    (fun _ _ => rfl) (fun _ => rfl) (fun _ => rfl) (fun _ _ => rfl) mfRes (fun _ _ => rfl)

theorem mfMScope_movesFirst (r : RMeta) : MovesFirst mfMScope (MScope.flat r) MScope.nodes :=
  level_movesFirst (fun s => mfMetric_movesFirst r s.smeta) mscopeLevel (MScope.flat r) MScope.nodes
    (fun _ _ => rfl) (fun _ => rfl) (fun _ => rfl) (fun _ _ => rfl) mfMScope (fun _ _ => rfl)

theorem mfMRes_movesFirst : MovesFirst mfMRes MRes.flat MRes.nodes :=
  level_movesFirst (fun r => mfMScope_movesFirst r.rmeta) mresLevel MRes.flat MRes.nodes
    (fun _ _ => rfl) (fun _ => rfl) (fun _ => rfl) (fun _ _ => rfl) mfMRes (fun _ _ => rfl)

/-- `moveFirst` / `mmoveFirst` from `src` behind `dest`: what the split loop needs (`SeqOps`, `Shrinks`) -/
structure TopMovedFirst {α β : Type} (f : α → List β) (n : α → Nat) (src dest : List α) (w : Walk α Bool) : Prop where
  eq : (dest ++ w.dest).flatMap f ++ w.rem.flatMap f = dest.flatMap f ++ src.flatMap f
  one : ∃ x, (dest ++ w.dest).flatMap f = dest.flatMap f ++ x ∧ x.length ≤ 1
  none : w.st = false → src.flatMap f = []
  lt : w.st = true → sumBy n w.rem < sumBy n src

theorem top_movesFirst {α β : Type} {cut : Bool → α → Option α × Option α × Bool} {f : α → List β} {n : α → Nat}
    (h : MovesFirst cut f n) (src dest : List α) :
    TopMovedFirst f n src dest (walk (fun moved => moved) (fun _ _ => none) cut false src) := by
  have hw := walk_movesFirst h src
  exact ⟨by rw [List.flatMap_append, List.append_assoc, hw.eq], ⟨_, List.flatMap_append, hw.one⟩,
    fun hst => hw.moved.resolve_left (by rw [hst]; exact Bool.false_ne_true),
    fun hst => hw.lt (by rw [hst]; exact Bool.noConfusion)⟩

end OtelVerif.C04

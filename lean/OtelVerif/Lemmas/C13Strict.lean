import OtelVerif.Model.C13Faithful
/-! # C13 — lemmas about strict decoding: one failing member makes the decode of the whole list fail (`Schema`; `decodeFs_none` for `KS`) -/
namespace OtelVerif.C13

theorem decodeFields_false {fs : List (String × Bool × Schema)} {kvs : List (String × Val)} {k : String} {s : Schema} {v : Val}
    (hm : (k, false, s) ∈ fs) (hl : lookupVal kvs k = some v) (hd : decodeOk s v = false) : decodeFields fs kvs = false := by
  induction fs with
  | nil => cases hm
  | cons f fs ih =>
    obtain ⟨k', sq, s'⟩ := f
    cases hm with
    | head => unfold decodeFields; simp [hl, hd]
    | tail _ hm' => unfold decodeFields; simp [ih hm']

theorem decodeFields_false_squash {fs : List (String × Bool × Schema)} {kvs : List (String × Val)} {sq : String}
    {gs : List (String × Bool × Schema)} (hm : (sq, true, Schema.struct gs) ∈ fs) (hd : decodeFields gs kvs = false) :
    decodeFields fs kvs = false := by
  induction fs with
  | nil => cases hm
  | cons f fs ih =>
    obtain ⟨k', q, s'⟩ := f
    cases hm with
    | head => unfold decodeFields; simp [hd]
    | tail _ hm' => unfold decodeFields; simp [ih hm']

theorem decodeAll_false {s : Schema} {vs : List Val} {v : Val} (hm : v ∈ vs) (hd : decodeOk s v = false) : decodeAll s vs = false := by
  induction vs with
  | nil => cases hm
  | cons w ws ih =>
    cases hm with
    | head => simp [decodeAll, hd]
    | tail _ hm' => simp [decodeAll, ih hm']

theorem decodeVals_false {s : Schema} {kvs : List (String × Val)} {k : String} {v : Val} (hm : (k, v) ∈ kvs) (hd : decodeOk s v = false) :
    decodeVals s kvs = false := by
  induction kvs with
  | nil => cases hm
  | cons w ws ih =>
    obtain ⟨k', v'⟩ := w
    cases hm with
    | head => simp [decodeVals, hd]
    | tail _ hm' => simp [decodeVals, ih hm']

theorem decodeFs_none {fs : List (String × KS)} {kvs : List (String × Val)} {k : String} {s : KS} {v : Val}
    (hm : (k, s) ∈ fs) (hl : lookupVal kvs k = some v) (hd : ∀ d, decodeV s d v = none) :
    ∀ dfs, decodeFs fs dfs kvs = none := by
  induction fs with
  | nil => cases hm
  | cons f fs ih =>
    obtain ⟨k', s'⟩ := f
    intro dfs
    cases dfs with
    | nil => simp [decodeFs]
    | cons dh dt =>
      obtain ⟨kd, dv⟩ := dh
      cases hm with
      | head => simp [decodeFs, hl, hd dv]
      | tail _ hm' =>
        simp only [decodeFs]
        cases lookupVal kvs k' with
        | none => simp [ih hm' dt]
        | some v' => cases decodeV s' dv v' <;> simp [ih hm' dt]

end OtelVerif.C13

import OtelVerif.Lemmas.C02
/-! liveness-flavoured facts for C02 (core Lean only): rankings that decrease under every step the goroutines take on their own
(`Phi` for the memory queue's bound, the weighted `PPhi` for both queues), a potential `Omega` that decreases when the environment
drains the queue (`Label.drain`, `served`, `backlog`, `Tracked`), frames of a `Proto` step (`Label.tid`), what follows from a descent for
any step function (`descent_*`, `fair_drain`), rest (`Quiescent`; for either queue `Machine.quiet_of`, `Machine.exists_quiesce`) -/
namespace OtelVerif.C02

def sumF (g : P → Nat) (f : Nat → P) : List Nat → Nat
  | [] => 0
  | p :: ps => g (f p) + sumF g f ps

theorem sumF_congr (g : P → Nat) (f f' : Nat → P) (L : List Nat) (h : ∀ p ∈ L, g (f' p) = g (f p)) :
    sumF g f' L = sumF g f L := by
  induction L with
  | nil => rfl
  | cons q qs ih => simp only [sumF, h q List.mem_cons_self, ih (fun p hp => h p (List.mem_cons_of_mem _ hp))]

theorem sumF_upd (g : P → Nat) (f : Nat → P) (L : List Nat) (p : Nat) (x : P) (hn : L.Nodup) (h : p ∈ L) :
    sumF g (upd f p x) L + g (f p) = sumF g f L + g x := by
  induction L with
  | nil => cases h
  | cons q qs ih =>
    simp only [List.nodup_cons] at hn
    simp only [sumF]
    by_cases hq : q = p
    · subst hq
      rw [sumF_congr g f _ qs (fun r hr => by rw [upd_other _ _ _ _ (fun (e : r = q) => hn.1 (e ▸ hr))]), upd_same]; omega
    · have := ih hn.2 ((List.mem_cons.mp h).resolve_left (fun e => hq e.symm))
      rw [upd_other _ _ _ _ hq]; omega

/-- weight of a thread for the inner measure: how many steps of its own it can still take before it needs the
environment (a completion, a cancellation) again; +2 for a closed channel not yet noticed -/
def phi (x : P) : Nat :=
  match x.ph with
  | .idle => 0
  | .done _ => 0
  | .waitRes => 1
  | .sel => if x.sig then 6 else 4
  | .wokenTok => 5
  | .wokenCtx => 3

def omg (x : P) : Nat :=
  match x.ph with
  | .sel => 3
  | .wokenTok => 3
  | .wokenCtx => 3
  | _ => 0

def Covers (L : List Nat) (s : St) : Prop := L.Nodup ∧ ∀ p, (s.ps p).ph ≠ .idle → p ∈ L

def Phi (L : List Nat) (s : St) : Nat := sumF phi s.ps L + s.cwoken.length
def Omega (L : List Nat) (s : St) : Nat := sumF omg s.ps L + 2 * s.items.length + s.inflight.length

theorem phi_le (x : P) : phi x ≤ 6 := by
  unfold phi; cases x.ph <;> simp <;> split <;> omega

theorem phi_of_idle {x : P} (h : x.ph = .idle) : phi x = 0 := by unfold phi; rw [h]
theorem phi_of_waitRes {x : P} (h : x.ph = .waitRes) : phi x = 1 := by unfold phi; rw [h]
theorem phi_of_wokenTok {x : P} (h : x.ph = .wokenTok) : phi x = 5 := by unfold phi; rw [h]
theorem phi_of_wokenCtx {x : P} (h : x.ph = .wokenCtx) : phi x = 3 := by unfold phi; rw [h]
theorem phi_of_sel_sig {x : P} (h : x.ph = .sel) (hs : x.sig = true) : phi x = 6 := by unfold phi; rw [h, hs]; rfl
theorem phi_of_sel {x : P} (h : x.ph = .sel) : 4 ≤ phi x := by unfold phi; rw [h]; cases x.sig <;> decide
theorem omg_of_inCond {x : P} (h : x.ph.inCond) : omg x = 3 := by
  unfold omg; rcases h with h | h | h <;> rw [h]

theorem phi_sig (x : P) : phi ⟨x.ph, x.el, true, x.canc⟩ ≤ phi x + 2 := by
  unfold phi
  cases x.ph <;> simp only [] <;> first | exact Nat.le_add_right _ _ | (cases x.sig <;> decide)

theorem upd_sums {L : List Nat} {s : St} (hc : Covers L s) (p : Nat) (x : P) (hp : (s.ps p).ph ≠ .idle) (g : P → Nat) :
    sumF g (upd s.ps p x) L + g (s.ps p) = sumF g s.ps L + g x :=
  sumF_upd g s.ps L p x hc.1 (hc.2 p hp)

theorem Covers.of_ph {L : List Nat} {s t : St} (hc : Covers L s) (h : ∀ q, (t.ps q).ph = (s.ps q).ph) : Covers L t :=
  ⟨hc.1, fun q hq => hc.2 q (h q ▸ hq)⟩

theorem condSignal_sums {k : Cfg} {L : List Nat} {s : St} (hC : InvC k s) (hc : Covers L s) :
    sumF phi (condSignal s).ps L ≤ sumF phi s.ps L + 2 ∧ sumF omg (condSignal s).ps L = sumF omg s.ps L := by
  refine ⟨?_, ?_⟩
  · unfold condSignal
    cases hw : s.waiters with
    | nil => exact Nat.le_add_right _ _
    | cons w ws =>
      have hww := (hC.wIff w).mp (by rw [hw]; exact List.mem_cons_self)
      have hni : (s.ps w).ph ≠ .idle := by rcases hww.1 with a | a <;> rw [a] <;> nofun
      have := upd_sums hc w ⟨(s.ps w).ph, (s.ps w).el, true, (s.ps w).canc⟩ hni phi
      have h1 := phi_sig (s.ps w)
      show sumF phi (upd s.ps w ⟨(s.ps w).ph, (s.ps w).el, true, (s.ps w).canc⟩) L ≤ _
      omega
  · exact sumF_congr omg _ _ L (fun p _ => by unfold omg; rw [condSignal_ph])

theorem condBroadcast_sums (L : List Nat) (s : St) :
    sumF phi (condBroadcast s).ps L ≤ sumF phi s.ps L + 2 * L.length ∧ sumF omg (condBroadcast s).ps L = sumF omg s.ps L := by
  refine ⟨?_, sumF_congr omg _ _ L (fun p _ => by unfold omg; rw [condBroadcast_ph])⟩
  have h : ∀ p, phi ((condBroadcast s).ps p) ≤ phi (s.ps p) + 2 := fun p => by
    show phi (if p ∈ s.waiters then ⟨(s.ps p).ph, (s.ps p).el, true, (s.ps p).canc⟩ else s.ps p) ≤ _
    split
    · exact phi_sig _
    · exact Nat.le_add_right _ _
  induction L with
  | nil => exact Nat.le_refl _
  | cons q qs ih =>
    have := h q
    simp only [sumF, List.length_cons]
    omega

theorem ctxCleanup_sums {k : Cfg} {L : List Nat} {s : St} (hC : InvC k s) (hc : Covers L s) (p : Nat) :
    sumF phi (ctxCleanup s p).ps L ≤ sumF phi s.ps L + 2 ∧ sumF omg (ctxCleanup s p).ps L = sumF omg s.ps L := by
  unfold ctxCleanup
  split
  · exact ⟨Nat.le_add_right _ _, rfl⟩
  · exact condSignal_sums hC hc

theorem filter_lookup_length (l : List (Nat × Int)) (id : Nat) (el : Int) (h : l.lookup id = some el) :
    (l.filter (fun x => x.1 != id)).length < l.length := by
  induction l with
  | nil => simp [List.lookup] at h
  | cons x xs ih =>
    obtain ⟨a, b⟩ := x
    by_cases hia : id = a
    · subst hia
      simp only [List.filter, bne_self_eq_false, List.length_cons]
      have := List.length_filter_le (fun x : Nat × Int => x.1 != id) xs
      omega
    · have hne : (id == a) = false := by simpa using hia
      simp only [List.lookup, hne] at h
      have hk : ((a, b).1 != id) = true := by simpa using fun e => hia e.symm
      simp only [List.filter, hk, List.length_cons]
      have := ih h
      omega

theorem pop_measure (L : List Nat) {s s1 : St} (hp : pop s = some s1) : Omega L s1 < Omega L s := by
  obtain ⟨id, el, t, hi, rfl⟩ := pop_some hp
  simp only [Omega, hi, List.length_append, List.length_cons, List.length_nil]
  omega

theorem pop_frame {s s1 : St} (h : pop s = some s1) :
    s1.ps = s.ps ∧ s1.stopped = s.stopped ∧ s1.accepted = s.accepted ∧ s1.cwoken = s.cwoken := by
  obtain ⟨id, el, t, _, rfl⟩ := pop_some h
  exact ⟨rfl, rfl, rfl, rfl⟩

theorem upd_canc (f : Nat → P) (p q : Nat) (x : P) (h : x.canc = (f p).canc) : (upd f p x q).canc = (f q).canc := by
  by_cases e : q = p
  · subst e; rw [upd_same]; exact h
  · rw [upd_other _ _ _ _ e]

theorem tryAdd_canc (k : Cfg) (s : St) (p q : Nat) (el : Int) : ((tryAdd k s p el).ps q).canc = (s.ps q).canc :=
  tryAdd_cases k s p el (fun _ _ => upd_canc _ _ _ _ rfl) (fun _ _ => upd_canc _ _ _ _ rfl) (fun _ _ _ => upd_canc _ _ _ _ rfl)
    (fun _ _ => upd_canc _ _ _ _ rfl)

theorem settle_measure (L : List Nat) {s : St} {id : Nat} {el : Int} (hl : s.inflight.lookup id = some el)
    (e : Nat) (v : Int) (r : List (Nat × Nat)) : Omega L (settle s id e v r) < Omega L s := by
  show sumF omg (condBroadcast s).ps L + 2 * s.items.length + (s.inflight.filter (fun x => x.1 != id)).length < _
  rw [(condBroadcast_sums L s).2]
  exact Nat.add_lt_add_left (filter_lookup_length _ _ _ hl) _

/-! ### a producer's own step

Both queues move a producer through `cond.Wait` with the same transformers; what such a step does to the sums the rankings are
built from is stated once (`ProducerStep`). -/

structure ProducerStep (L : List Nat) (s s' : St) : Prop where
  inner : sumF phi s'.ps L < sumF phi s.ps L
  phiLt : Phi L s' < Phi L s
  outerW : sumF omg s'.ps L + s'.cwoken.length ≤ sumF omg s.ps L + s.cwoken.length
  omegaLe : Omega L s' ≤ Omega L s

section
variable {k : Cfg} {L : List Nat} {s : St} {p : Nat}

theorem ProducerStep.thread_after {s1 s' : St} {x : P} (n d : Nat) (hc : Covers L s1) (h1 : s'.ps = upd s1.ps p x)
    (hA : sumF phi s1.ps L ≤ sumF phi s.ps L + d) (hB : sumF omg s1.ps L = sumF omg s.ps L)
    (hw : s'.cwoken.length ≤ s.cwoken.length + n) (hi : s'.items.length = s.items.length + n) (hf : s'.inflight = s.inflight)
    (hphi : phi x + n + d < phi (s1.ps p)) (homg : omg x + 2 * n ≤ omg (s1.ps p)) : ProducerStep L s s' := by
  have hp : (s1.ps p).ph ≠ .idle := fun e => by rw [phi_of_idle e] at hphi; exact Nat.not_lt_zero _ hphi
  have innerN : sumF phi s'.ps L + n < sumF phi s.ps L := by
    refine Nat.lt_of_add_lt_add_right (n := phi (s1.ps p)) ?_
    calc sumF phi s'.ps L + n + phi (s1.ps p) = sumF phi s'.ps L + phi (s1.ps p) + n := Nat.add_right_comm _ _ _
      _ = sumF phi s1.ps L + phi x + n := by rw [h1, upd_sums hc p x hp phi]
      _ ≤ sumF phi s.ps L + d + phi x + n := Nat.add_le_add_right (Nat.add_le_add_right hA _) _
      _ = sumF phi s.ps L + (phi x + n + d) := by rw [Nat.add_assoc, Nat.add_assoc, Nat.add_comm d]
      _ < sumF phi s.ps L + phi (s1.ps p) := Nat.add_lt_add_left hphi _
  have outerN : sumF omg s'.ps L + 2 * n ≤ sumF omg s.ps L := by
    refine Nat.le_of_add_le_add_right (b := omg (s1.ps p)) ?_
    calc sumF omg s'.ps L + 2 * n + omg (s1.ps p) = sumF omg s'.ps L + omg (s1.ps p) + 2 * n := Nat.add_right_comm _ _ _
      _ = sumF omg s.ps L + (omg x + 2 * n) := by rw [h1, upd_sums hc p x hp omg, hB, Nat.add_assoc]
      _ ≤ sumF omg s.ps L + omg (s1.ps p) := Nat.add_le_add_left homg _
  have hn : n ≤ 2 * n := Nat.le_mul_of_pos_left n (by decide)
  refine ⟨Nat.lt_of_le_of_lt (Nat.le_add_right _ _) innerN, ?_, ?_, ?_⟩
  · calc Phi L s' ≤ sumF phi s'.ps L + (s.cwoken.length + n) := Nat.add_le_add_left hw _
      _ = sumF phi s'.ps L + n + s.cwoken.length := by rw [Nat.add_comm s.cwoken.length n, Nat.add_assoc]
      _ < Phi L s := Nat.add_lt_add_right innerN _
  · calc sumF omg s'.ps L + s'.cwoken.length ≤ sumF omg s'.ps L + (s.cwoken.length + n) := Nat.add_le_add_left hw _
      _ = sumF omg s'.ps L + n + s.cwoken.length := by rw [Nat.add_comm s.cwoken.length n, Nat.add_assoc]
      _ ≤ sumF omg s'.ps L + 2 * n + s.cwoken.length := Nat.add_le_add_right (Nat.add_le_add_left hn _) _
      _ ≤ sumF omg s.ps L + s.cwoken.length := Nat.add_le_add_right outerN _
  · calc Omega L s' = sumF omg s'.ps L + 2 * (s.items.length + n) + s.inflight.length := by rw [Omega, hi, hf]
      _ = sumF omg s'.ps L + 2 * n + 2 * s.items.length + s.inflight.length := by
        rw [Nat.mul_add, Nat.add_comm (2 * s.items.length), ← Nat.add_assoc]
      _ ≤ Omega L s := Nat.add_le_add_right (Nat.add_le_add_right outerN _) _

theorem ProducerStep.thread {s' : St} {x : P} (hc : Covers L s) (h1 : s'.ps = upd s.ps p x) (hw : s'.cwoken = s.cwoken)
    (hi : s'.items = s.items) (hf : s'.inflight = s.inflight) (hphi : phi x < phi (s.ps p)) (homg : omg x ≤ omg (s.ps p)) :
    ProducerStep L s s' :=
  .thread_after 0 0 hc h1 (Nat.le_refl _) rfl (Nat.le_of_eq (congrArg List.length hw)) (congrArg List.length hi) hf hphi homg

theorem ProducerStep.wakeTok (hc : Covers L s) (h : (s.ps p).ph = .sel) (hs : (s.ps p).sig = true) :
    ProducerStep L s (setP s p { s.ps p with ph := .wokenTok }) :=
  .thread hc rfl rfl rfl rfl (by rw [phi_of_sel_sig h hs]; exact (by decide : 5 < 6))
    (by rw [omg_of_inCond (.inl h)]; exact Nat.le_refl 3)

theorem ProducerStep.wakeCtx (hc : Covers L s) (h : (s.ps p).ph = .sel) :
    ProducerStep L s (setP s p { s.ps p with ph := .wokenCtx }) :=
  .thread hc rfl rfl rfl rfl (phi_of_sel h) (by rw [omg_of_inCond (.inl h)]; exact Nat.le_refl 3)

theorem ProducerStep.refuse {r : Res} (hc : Covers L s) (h : 0 < phi (s.ps p)) : ProducerStep L s (refuse s p r) :=
  .thread hc rfl rfl rfl rfl h (Nat.zero_le _)

theorem ProducerStep.register {el : Int} (hc : Covers L s) (h : (s.ps p).ph = .wokenTok) : ProducerStep L s (register s p el) :=
  .thread hc rfl rfl rfl rfl (by rw [phi_of_wokenTok h]; exact (by decide : 4 < 5))
    (by rw [omg_of_inCond (.inr (.inl h))]; exact Nat.le_refl 3)

theorem ProducerStep.accept {el : Int} (hc : Covers L s) (h : (s.ps p).ph = .wokenTok) : ProducerStep L s (accept k s p el) := by
  refine .thread_after 1 0 hc rfl (Nat.le_refl _) rfl ?_ List.length_append rfl ?_ ?_
  · show (s.cwoken ++ s.cwait.take 1).length ≤ _
    rw [List.length_append]; exact Nat.add_le_add_left (List.length_take_le 1 _) _
  · rw [phi_of_wokenTok h]; cases k.wfr
    · exact (by decide : 0 + 1 + 0 < 5)
    · exact (by decide : 1 + 1 + 0 < 5)
  · rw [omg_of_inCond (.inr (.inl h))]; cases k.wfr <;> exact (by decide : 0 + 2 * 1 ≤ 3)

theorem ProducerStep.exit {t : St} {el : Int} (hc : Covers L s) (h : (s.ps p).ph = .wokenTok) (he : Exit k s p el t) :
    ProducerStep L s t := by
  cases he with
  | refuse r => exact .refuse hc (by rw [phi_of_wokenTok h]; decide)
  | register => exact .register hc h
  | accept k' => exact .accept hc h

theorem ProducerStep.relockCtx {r : Res} (hC : InvC k s) (hc : Covers L s) (h : (s.ps p).ph = .wokenCtx) :
    ProducerStep L s (C02.refuse (ctxCleanup s p) p r) := by
  obtain ⟨a, b⟩ := ctxCleanup_sums hC hc p
  obtain ⟨f1, f2, _⟩ := ctxCleanup_fields s p
  exact .thread_after 0 2 (hc.of_ph (ctxCleanup_ph s p)) rfl a b (Nat.le_of_eq (congrArg List.length (ctxCleanup_cons s p).2.2.1)) (congrArg List.length f1) f2
    (by rw [phi_of_wokenCtx ((ctxCleanup_ph s p p).trans h)]; exact (by decide : 0 + 0 + 2 < 3)) (Nat.zero_le _)

end

/-! ### the ranking that serves both queues

A consumer that takes the LAST queued request of the persistent queue resets the size and broadcasts on `hasMoreSpace` (`Took.reset`),
so a consumer's own step can re-activate every waiting producer and the plain sum `Phi` may grow under `recheck` (hence the side
condition on `Phi` in `proto_internal`; the memory queue meets it, `fire_recheck_ps`).  `PPhi` weighs
every notified consumer, and every unit of `omg` (3 per producer inside `cond.Wait`), with `C = 2·|L| + 1` (more than one Broadcast
can add): `recheck c` takes one notified consumer away (`-C`) and adds at most `+2` per thread; a producer's own step lowers the
inner sum and does not raise the weighted part (`ProducerStep`: one that is enqueued leaves `cond.Wait`, `-3C`, and may notify one
consumer, `+C`). -/

def PPhi (L : List Nat) (s : St) : Nat :=
  sumF phi s.ps L + (2 * L.length + 1) * (sumF omg s.ps L + s.cwoken.length)

theorem ProducerStep.pphi {L : List Nat} {s s' : St} (h : ProducerStep L s s') : PPhi L s' < PPhi L s :=
  Nat.add_lt_add_of_lt_of_le h.inner (Nat.mul_le_mul_left _ h.outerW)

theorem took_sums (L : List Nat) {s t : St} (ht : Took s t) :
    sumF phi t.ps L ≤ sumF phi s.ps L + 2 * L.length ∧ sumF omg t.ps L = sumF omg s.ps L ∧
    t.cwoken = s.cwoken ∧ Omega L t < Omega L s := by
  cases ht with
  | pop s1 hp =>
    obtain ⟨e1, _, _, e4⟩ := pop_frame hp
    exact ⟨by rw [e1]; exact Nat.le_add_right _ _, by rw [e1], e4, pop_measure L hp⟩
  | reset s1 hp =>
    obtain ⟨e1, _, _, e4⟩ := pop_frame hp
    obtain ⟨a, b⟩ := condBroadcast_sums L { s1 with size := 0 }
    refine ⟨?_, ?_, e4, ?_⟩
    · rw [← e1]; exact a
    · rw [← e1]; exact b
    · show sumF omg (condBroadcast { s1 with size := 0 }).ps L + 2 * s1.items.length + s1.inflight.length < _
      rw [b]; exact (pop_measure L hp : Omega L s1 < _)

theorem fire_recheck_ps {k : Cfg} {s s' : St} {c : Nat} (hf : fire k s (.recheck c) = some s') : s'.ps = s.ps := by
  cases fire_rule hf with
  | recheckPop _ s1 _ hp => exact (pop_frame hp).1
  | recheckStopped | recheckPark => rfl

theorem proto_internal {k : Cfg} {L : List Nat} {s s' : St} {l : Label} (hC : InvC k s) (hc : Covers L s)
    (hl : l.internal = true) (hp : Proto k s l s') :
    PPhi L s' < PPhi L s ∧ Omega L s' ≤ Omega L s ∧ ((∀ c, l = .recheck c → s'.ps = s.ps) → Phi L s' < Phi L s) := by
  have prod : ∀ {t : St}, ProducerStep L s t →
      PPhi L t < PPhi L s ∧ Omega L t ≤ Omega L s ∧ ((∀ c, l = .recheck c → t.ps = s.ps) → Phi L t < Phi L s) :=
    fun h => ⟨h.pphi, h.omegaLe, fun _ => h.phiLt⟩
  have cons : ∀ {c : Nat} {t : St}, l = .recheck c → c ∈ s.cwoken → sumF phi t.ps L ≤ sumF phi s.ps L + 2 * L.length →
      sumF omg t.ps L = sumF omg s.ps L → t.cwoken = s.cwoken.erase c → Omega L t ≤ Omega L s →
      PPhi L t < PPhi L s ∧ Omega L t ≤ Omega L s ∧ ((∀ c, l = .recheck c → t.ps = s.ps) → Phi L t < Phi L s) :=
    fun {c t} hlc hcw a b w o => by
      have hlen : s.cwoken.length = (s.cwoken.erase c).length + 1 := by
        rw [List.length_erase_of_mem hcw]; exact (Nat.sub_add_cancel (List.length_pos_of_mem hcw)).symm
      refine ⟨?_, o, fun e => ?_⟩
      -- one notified consumer less is worth `2·|L| + 1`, which beats the `+2` per thread of a Broadcast
      · rw [PPhi, PPhi, b, w, hlen, ← Nat.add_assoc, Nat.mul_succ]
        omega
      · rw [Phi, Phi, e c hlc, w, hlen]; exact Nat.lt_succ_self _
  induction hp with
  | offerOk | offer | cancel | readTook | readStopped | readPark | complete | shutdown | shutdownAll => cases hl
  | wakeTok p h hs => exact prod (.wakeTok hc h hs)
  | wakeCtx p h => exact prod (.wakeCtx hc h)
  | relockTok p t h he => exact prod (.exit hc h he)
  | relockCtx p h => exact prod (.relockCtx hC hc h)
  | getRes p e h | resCtx p h =>
    exact prod (.thread hc rfl rfl rfl rfl (by rw [phi_of_waitRes h]; exact (by decide : 0 < 1)) (Nat.zero_le _))
  | recheckStopped c hcw | recheckPark c hcw => exact cons rfl hcw (Nat.le_add_right _ _) rfl rfl (Nat.le_refl _)
  | recheckTook c t hcw ht =>
    obtain ⟨a, b, w, o⟩ := took_sums L ht
    exact cons rfl hcw a b (congrArg (List.erase · c) w) (Nat.le_of_lt o)

/-- the producer goroutine a label belongs to -/
def Label.tid : Label → Option Nat
  | .offer p _ | .cancel p | .wakeTok p | .wakeCtx p | .relockTok p | .relockCtx p | .getRes p | .resCtx p => some p
  | _ => none

theorem exit_frame {k : Cfg} {s t : St} {p : Nat} {el : Int} (he : Exit k s p el t) :
    t.stopped = s.stopped ∧ (∀ q ∈ s.accepted, q ∈ t.accepted) ∧ ∀ q, q ≠ p → t.ps q = s.ps q := by
  cases he with
  | refuse r => exact ⟨rfl, fun _ a => a, fun q hq => upd_other _ _ _ _ hq⟩
  | register => exact ⟨rfl, fun _ a => a, fun q hq => upd_other _ _ _ _ hq⟩
  | accept k' => exact ⟨rfl, fun _ a => List.mem_append_left _ a, fun q hq => upd_other _ _ _ _ hq⟩

theorem took_frame {s t : St} (ht : Took s t) :
    t.stopped = s.stopped ∧ t.accepted = s.accepted ∧ ∀ q, t.ps q = s.ps q ∨ t.ps q = { s.ps q with sig := true } := by
  cases ht with
  | pop s1 hp => obtain ⟨e1, e2, e3, _⟩ := pop_frame hp; exact ⟨e2, e3, fun q => .inl (by rw [e1])⟩
  | reset s1 hp =>
    obtain ⟨e1, e2, e3, _⟩ := pop_frame hp
    exact ⟨e2, e3, fun q => e1 ▸ condBroadcast_closes { s1 with size := 0 } q⟩

theorem stopped_step {k : Cfg} {s s' : St} {l : Label} (hp : Proto k s l s') (hl : l ≠ .shutdown) : s'.stopped = s.stopped := by
  induction hp with
  | shutdown | shutdownAll => exact absurd rfl hl
  | offerOk | cancel | wakeTok | wakeCtx | getRes | resCtx | readStopped | readPark | recheckStopped | recheckPark | complete => rfl
  | offer _ _ _ _ he | relockTok _ _ _ he => exact (exit_frame he).1
  | relockCtx p => exact (ctxCleanup_cons s p).2.2.2
  | readTook c t _ ht | recheckTook c t _ ht => exact (took_frame ht).1

theorem frame_step {k : Cfg} {s s' : St} {l : Label} (hp : Proto k s l s') :
    (∀ q ∈ s.accepted, q ∈ s'.accepted) ∧
    (∀ p, l.tid ≠ some p → (s'.ps p).ph = (s.ps p).ph ∧ (s'.ps p).canc = (s.ps p).canc ∧
      ((s.ps p).sig = true → (s'.ps p).sig = true)) := by
  suffices h : (∀ q ∈ s.accepted, q ∈ s'.accepted) ∧
      ∀ p, l.tid ≠ some p → s'.ps p = s.ps p ∨ s'.ps p = { s.ps p with sig := true } from
    ⟨h.1, fun p hp => by
      rcases h.2 p hp with e | e <;> rw [e]
      · exact ⟨rfl, rfl, id⟩
      · exact ⟨rfl, rfl, fun _ => rfl⟩⟩
  have thread : ∀ {t : St} (q : Nat) (x : P), t.accepted = s.accepted → t.ps = upd s.ps q x →
      (∀ r ∈ s.accepted, r ∈ t.accepted) ∧ ∀ p, some q ≠ some p → t.ps p = s.ps p ∨ t.ps p = { s.ps p with sig := true } :=
    fun q x ha hps => ⟨fun r hr => ha ▸ hr, fun p hp => .inl (by rw [hps, upd_other _ _ _ _ (fun e => hp (by rw [e]))])⟩
  have loop : ∀ {q : Nat} {el : Int} {t : St}, Exit k s q el t → (∀ r ∈ s.accepted, r ∈ t.accepted) ∧
      ∀ p, some q ≠ some p → t.ps p = s.ps p ∨ t.ps p = { s.ps p with sig := true } :=
    fun he => ⟨(exit_frame he).2.1, fun p hp => .inl ((exit_frame he).2.2 p (fun e => hp (by rw [e])))⟩
  have quiet : ∀ {t : St}, t.accepted = s.accepted → (∀ p, t.ps p = s.ps p ∨ t.ps p = { s.ps p with sig := true }) →
      (∀ r ∈ s.accepted, r ∈ t.accepted) ∧ ∀ p, none ≠ some p → t.ps p = s.ps p ∨ t.ps p = { s.ps p with sig := true } :=
    fun ha h => ⟨fun r hr => ha ▸ hr, fun p _ => h p⟩
  induction hp with
  | offerOk p | cancel p | wakeTok p | wakeCtx p | getRes p | resCtx p => exact thread p _ rfl rfl
  | offer _ _ _ _ he | relockTok _ _ _ he => exact loop he
  | relockCtx p =>
    refine ⟨fun r hr => (ctxCleanup_accepted s p).symm ▸ hr, fun q hq => ?_⟩
    rw [show (refuse (ctxCleanup s p) p .ctxErr).ps q = (ctxCleanup s p).ps q from upd_other _ _ _ _ (fun e => hq (by rw [e]; rfl))]
    exact ctxCleanup_closes s p q
  | readTook c t _ ht | recheckTook c t _ ht => exact quiet (took_frame ht).2.1 (took_frame ht).2.2
  | readStopped | readPark | recheckStopped | recheckPark | shutdown => exact quiet rfl (fun p => .inl rfl)
  | complete id el e v r => exact quiet rfl (fun p => condBroadcast_closes _ p)
  | shutdownAll => exact quiet rfl (fun p => condBroadcast_closes _ p)

theorem own_step {k : Cfg} {s s' : St} {l : Label} {p : Nat} (hp : Proto k s l s') (ht : l.tid = some p)
    (hi : l.internal = true) :
    ((s.ps p).ph = .sel ∧ ((s'.ps p).ph = .wokenTok ∨ (s'.ps p).ph = .wokenCtx)) ∨
    (l = .relockTok p ∧ (s.ps p).ph = .wokenTok) ∨ (l = .relockCtx p ∧ (s.ps p).ph = .wokenCtx) ∨ (s.ps p).ph = .waitRes := by
  induction hp with
  | offerOk | offer | cancel | readTook | readStopped | readPark | complete | shutdown | shutdownAll => cases hi
  | recheckTook | recheckStopped | recheckPark => cases ht
  | wakeTok q h => cases ht; exact .inl ⟨h, .inl (congrArg P.ph (upd_same _ _ _))⟩
  | wakeCtx q h => cases ht; exact .inl ⟨h, .inr (congrArg P.ph (upd_same _ _ _))⟩
  | relockTok q _ h => cases ht; exact .inr (.inl ⟨rfl, h⟩)
  | relockCtx q h => cases ht; exact .inr (.inr (.inl ⟨rfl, h⟩))
  | getRes q _ h | resCtx q h => cases ht; exact .inr (.inr (.inr h))

theorem ext_step {k : Cfg} {s s' : St} {l : Label} {p : Nat} (hp : Proto k s l s') (ht : l.tid = some p)
    (hi : l.internal = false) :
    (∃ el, l = .offer p el ∧ (s.ps p).ph = .idle) ∨ (l = .cancel p ∧ s'.ps p = { s.ps p with canc := true }) := by
  induction hp with
  | offerOk q el h | offer q el _ h => cases ht; exact .inl ⟨el, rfl, h⟩
  | cancel q => cases ht; exact .inr ⟨rfl, upd_same ..⟩
  | wakeTok | wakeCtx | relockTok | relockCtx | getRes | resCtx | recheckTook | recheckStopped | recheckPark => cases hi
  | readTook | readStopped | readPark | complete | shutdown | shutdownAll => cases ht

theorem idle_step {k : Cfg} {s s' : St} {l : Label} (hp : Proto k s l s') (q : Nat) (hq : (s.ps q).ph = .idle)
    (hl : ∀ el, l ≠ .offer q el) : (s'.ps q).ph = .idle := by
  by_cases ht : l.tid = some q
  · cases hi : l.internal with
    | true => rcases own_step hp ht hi with ⟨a, _⟩ | ⟨_, a⟩ | ⟨_, a⟩ | a <;> rw [hq] at a <;> cases a
    | false =>
      rcases ext_step hp ht hi with ⟨el, e, _⟩ | ⟨_, e⟩
      · exact absurd e (hl el)
      · rw [e]; exact hq
  · exact ((frame_step hp).2 q ht).1.trans hq

theorem woken_step {k : Cfg} {s s' : St} {l : Label} {p : Nat} (hp : Proto k s l s')
    (h : (s.ps p).ph = .wokenTok ∨ (s.ps p).ph = .wokenCtx) (hl : l ≠ .relockTok p) (hl' : l ≠ .relockCtx p) :
    (s'.ps p).ph = (s.ps p).ph := by
  have not : ∀ {x : Ph}, (s.ps p).ph = x → x ≠ .wokenTok → x ≠ .wokenCtx → False := fun e h1 h2 =>
    h.elim (fun a => h1 (e.symm.trans a)) (fun a => h2 (e.symm.trans a))
  by_cases ht : l.tid = some p
  · cases hi : l.internal with
    | true =>
      rcases own_step hp ht hi with ⟨a, _⟩ | ⟨e, _⟩ | ⟨e, _⟩ | a
      · exact (not a nofun nofun).elim
      · exact absurd e hl
      · exact absurd e hl'
      · exact (not a nofun nofun).elim
    | false =>
      rcases ext_step hp ht hi with ⟨_, _, a⟩ | ⟨_, e⟩
      · exact (not a nofun nofun).elim
      · rw [e]
  · exact ((frame_step hp).2 p ht).1

/-- labels of a drain: the goroutines' own steps plus consumers reading and completing; no new Offer, no
cancellation, no shutdown -/
def Label.drain : Label → Bool
  | .offer _ _ | .cancel _ | .shutdown => false
  | _ => true

theorem internal_drain (l : Label) (h : l.internal = true) : l.drain = true := by
  cases l <;> simp [Label.internal] at h <;> rfl

theorem drain_ne_shutdown (l : Label) (h : l.drain = true) : l ≠ .shutdown := by
  intro e; subst e; cases h

/-- who has not called `Offer` stays out while nothing is offered (`idle_step`) -/
theorem Covers.drain {k : Cfg} {L : List Nat} {s s' : St} {l : Label} (hc : Covers L s) (hl : l.drain = true) (hp : Proto k s l s') :
    Covers L s' :=
  ⟨hc.1, fun q hq => hc.2 q (fun hi => hq (idle_step hp q hi (fun el e => by rw [e] at hl; cases hl)))⟩

/-- a producer waiting for space whose context has not ended, or already enqueued -/
def Tracked (s : St) (p : Nat) : Prop :=
  (((s.ps p).ph = .sel ∨ (s.ps p).ph = .wokenTok) ∧ (s.ps p).canc = false ∧ s.stopped = false) ∨ p ∈ s.accepted

theorem Tracked.of_waiting {s : St} {p : Nat} (hp : (s.ps p).ph = .sel ∨ (s.ps p).ph = .wokenTok) (hc : (s.ps p).canc = false)
    (hs : s.stopped = false) : Tracked s p := Or.inl ⟨hp, hc, hs⟩

theorem Tracked.accepted_of_not_inCond {s : St} {p : Nat} (ht : Tracked s p) (hn : ¬ (s.ps p).ph.inCond) : p ∈ s.accepted :=
  ht.elim (fun a => absurd (a.1.elim Or.inl (fun x => Or.inr (Or.inl x))) hn) id

theorem tracked_step {k : Cfg} {s s' : St} {l : Label} {p : Nat} (hC : InvC k s) (hl : l.drain = true)
    (hf : fire k s l = some s') (ht : Tracked s p) : Tracked s' p := by
  obtain ⟨hmono, hframe⟩ := frame_step (fire_proto hf)
  rcases ht with ⟨hph, hcn, hrun⟩ | hacc
  · have hrun' : s'.stopped = false := by rw [stopped_step (fire_proto hf) (fun e => by rw [e] at hl; cases hl)]; exact hrun
    by_cases htid : l.tid = some p
    · -- a step of `p` itself: it wakes through its channel, or re-evaluates the loop of a running, blocking queue
      have guard : ∀ {x : Ph}, (s.ps p).ph = x → x ≠ .sel → x ≠ .wokenTok → False := fun h h1 h2 => by
        rcases hph with a | a <;> rw [a] at h
        · exact h1 h.symm
        · exact h2 h.symm
      induction fire_rule hf with
      | offerZero | offerInvalid | offerTooLarge | offer | cancel | shutdown => cases hl
      | readPop | readStopped | readPark | recheckPop | recheckStopped | recheckPark | complete => cases htid
      | wakeTok q =>
        obtain rfl : q = p := Option.some.inj htid
        exact .of_waiting (Or.inr (congrArg P.ph (upd_same _ _ _))) ((congrArg P.canc (upd_same _ _ _)).trans hcn) hrun
      | wakeCtx q _ hc =>
        obtain rfl : q = p := Option.some.inj htid
        rw [hcn] at hc; cases hc
      | relockTok q h =>
        obtain rfl : q = p := Option.some.inj htid
        refine tryAdd_cases k s q (s.ps q).el (fun hs _ => ?_) (fun _ hb => ?_) (fun _ _ _ => ?_) (fun _ _ => ?_)
        · rw [hrun] at hs; cases hs
        · rw [(hC.elOk q (Or.inr (Or.inl h))).2.2] at hb; cases hb
        · exact .of_waiting (Or.inl (congrArg P.ph (upd_same _ _ _))) ((congrArg P.canc (upd_same _ _ _)).trans hcn) hrun
        · exact Or.inr (List.mem_append_right _ (List.mem_singleton_self q))
      | relockCtx q h => obtain rfl : q = p := Option.some.inj htid; exact (guard h nofun nofun).elim
      | getRes q e h => obtain rfl : q = p := Option.some.inj htid; exact (guard h nofun nofun).elim
      | resCtx q h => obtain rfl : q = p := Option.some.inj htid; exact (guard h nofun nofun).elim
    · obtain ⟨e1, e2, _⟩ := hframe p htid
      exact .of_waiting (by rw [e1]; exact hph) (by rw [e2]; exact hcn) hrun'
  · exact Or.inr (hmono p hacc)

def served (s : St) : Nat := s.handed.length + s.finished.length

/-- queued requests count twice (they still have to be taken and completed), requests in flight once -/
def backlog (s : St) : Nat := 2 * s.items.length + s.inflight.length

theorem exit_served {k : Cfg} {s t : St} {p : Nat} {el : Int} (he : Exit k s p el t) : served t = served s ∧ backlog s ≤ backlog t := by
  cases he with
  | refuse r => exact ⟨rfl, Nat.le_refl _⟩
  | register => exact ⟨rfl, Nat.le_refl _⟩
  | accept k' => exact ⟨rfl, by simp only [backlog, accept, List.length_append, List.length_cons, List.length_nil]; omega⟩

theorem proto_drain {k : Cfg} {L : List Nat} {s s' : St} {l : Label} (hC : InvC k s) (hc : Covers L s)
    (hl : l.drain = true) (hp : Proto k s l s') :
    Omega L s' ≤ Omega L s ∧
    (Omega L s' < Omega L s ∨ (PPhi L s' ≤ PPhi L s ∧ served s' = served s ∧ backlog s ≤ backlog s')) ∧
    (l.internal = true → PPhi L s' < PPhi L s) := by
  have own : l.internal = true → Omega L s' < Omega L s ∨ (served s' = served s ∧ backlog s ≤ backlog s') →
      Omega L s' ≤ Omega L s ∧
      (Omega L s' < Omega L s ∨ (PPhi L s' ≤ PPhi L s ∧ served s' = served s ∧ backlog s ≤ backlog s')) ∧
      (l.internal = true → PPhi L s' < PPhi L s) := fun hi hs =>
    have ⟨y, w, _⟩ := proto_internal hC hc hi hp
    ⟨w, hs.imp id (fun e => ⟨Nat.le_of_lt y, e⟩), fun _ => y⟩
  have drop : l.internal = false → Omega L s' < Omega L s →
      Omega L s' ≤ Omega L s ∧
      (Omega L s' < Omega L s ∨ (PPhi L s' ≤ PPhi L s ∧ served s' = served s ∧ backlog s ≤ backlog s')) ∧
      (l.internal = true → PPhi L s' < PPhi L s) := fun hi h =>
    ⟨Nat.le_of_lt h, Or.inl h, fun x => absurd (hi ▸ x) Bool.false_ne_true⟩
  induction hp with
  | offerOk | offer | cancel | shutdown | shutdownAll => cases hl
  | wakeTok | wakeCtx | getRes | resCtx | recheckStopped | recheckPark => exact own rfl (Or.inr ⟨rfl, Nat.le_refl _⟩)
  | relockTok p t _ he => exact own rfl (Or.inr (exit_served he))
  | relockCtx p =>
    obtain ⟨c1, c2, _, c4, c5, _⟩ := ctxCleanup_fields s p
    refine own rfl (Or.inr ⟨?_, Nat.le_of_eq ?_⟩)
    · show (ctxCleanup s p).handed.length + (ctxCleanup s p).finished.length = _
      rw [c4, c5]; rfl
    · show 2 * s.items.length + s.inflight.length = 2 * (ctxCleanup s p).items.length + (ctxCleanup s p).inflight.length
      rw [c1, c2]
  | recheckTook c t _ ht => exact own rfl (Or.inl (took_sums L ht).2.2.2)
  | readTook c t _ ht => exact drop rfl (took_sums L ht).2.2.2
  | readStopped | readPark => exact ⟨Nat.le_refl _, Or.inr ⟨Nat.le_refl _, rfl, Nat.le_refl _⟩, fun x => nomatch x⟩
  | complete id el e v r hl' => exact drop rfl (settle_measure L hl' e v r)

theorem Covers.step {L : List Nat} {s s' : St} (hc : Covers L s) (p : Nat)
    (hp : ∀ q, q ≠ p → (s.ps q).ph = .idle → (s'.ps q).ph = .idle) : ∃ L', Covers L' s' := by
  by_cases hpl : p ∈ L
  · refine ⟨L, hc.1, fun q hq => ?_⟩
    by_cases hqp : q = p
    · exact hqp ▸ hpl
    · exact hc.2 q (fun hi => hq (hp q hqp hi))
  · refine ⟨p :: L, List.nodup_cons.mpr ⟨hpl, hc.1⟩, fun q hq => ?_⟩
    by_cases hqp : q = p
    · exact hqp ▸ List.mem_cons_self
    · exact List.mem_cons_of_mem _ (hc.2 q (fun hi => hq (hp q hqp hi)))

theorem offer_tid {l : Label} {q : Nat} (h : q ≠ l.tid.getD 0) (el : Int) : l ≠ .offer q el := fun e => h (by rw [e]; rfl)

theorem Machine.covers_exists {k : Cfg} (M : Machine k) {s : St} (hr : M.Reach s) : ∃ L, Covers L s :=
  M.reach_induction (fun s => ∃ L, Covers L s) ⟨[], List.nodup_nil, fun _ hp => absurd rfl hp⟩
    (fun _ l _ ⟨_, hc⟩ hf => hc.step (l.tid.getD 0) (fun q hq hi => idle_step (M.proto hf) q hi (offer_tid hq))) s hr

/-! ### descent and fair progress, for any step function -/

theorem descent_bounded {σ : Type} {f : σ → Label → Option σ} {run : σ → List Label → Option σ}
    (hcons : ∀ s l ls, run s (l :: ls) = (f s l).bind (fun s' => run s' ls))
    {I : σ → Prop} {m : σ → Nat} (hstep : ∀ s l s', I s → l.internal = true → f s l = some s' → I s' ∧ m s' < m s) :
    ∀ (ls : List Label) (s : σ), I s → (∀ l ∈ ls, Label.internal l = true) → (run s ls).isSome = true → ls.length ≤ m s := by
  intro ls
  induction ls with
  | nil => intro s _ _ _; exact Nat.zero_le _
  | cons l rest ih =>
    intro s hI hi hs
    rw [hcons] at hs
    cases hf : f s l with
    | none => rw [hf] at hs; cases hs
    | some s1 =>
      rw [hf] at hs
      obtain ⟨h1, h2⟩ := hstep s l s1 hI (hi l List.mem_cons_self) hf
      exact Nat.succ_le_of_lt (Nat.lt_of_le_of_lt (ih s1 h1 (fun l' hl' => hi l' (List.mem_cons_of_mem _ hl')) hs) h2)

theorem descent_quiesce {σ : Type} {f : σ → Label → Option σ} {run : σ → List Label → Option σ}
    (hnil : ∀ s, run s [] = some s) (hcons : ∀ s l ls, run s (l :: ls) = (f s l).bind (fun s' => run s' ls))
    {I : σ → Prop} {m : σ → Nat} (hstep : ∀ s l s', I s → l.internal = true → f s l = some s' → I s' ∧ m s' < m s) :
    ∀ (n : Nat) (s : σ), I s → m s < n →
      ∃ ls s', (∀ l ∈ ls, Label.internal l = true) ∧ run s ls = some s' ∧ (∀ l, l.internal = true → f s' l = none) ∧ I s' := by
  intro n
  induction n with
  | zero => intro s _ h; exact absurd h (Nat.not_lt_zero _)
  | succ n ih =>
    intro s hI hn
    by_cases hq : ∀ l, l.internal = true → f s l = none
    · exact ⟨[], s, fun _ h => absurd h List.not_mem_nil, hnil s, hq, hI⟩
    · obtain ⟨l, hl⟩ := Classical.not_forall.mp hq
      obtain ⟨hli, hne⟩ := Classical.not_imp.mp hl
      cases hf : f s l with
      | none => exact absurd hf hne
      | some s1 =>
        obtain ⟨h1, h2⟩ := hstep s l s1 hI hli hf
        obtain ⟨ls, s', a, b, c, d⟩ := ih s1 h1 (Nat.lt_of_lt_of_le h2 (Nat.le_of_lt_succ hn))
        refine ⟨l :: ls, s', fun l' hl' => ?_, by rw [hcons, hf]; exact b, c, d⟩
        rcases List.mem_cons.mp hl' with e | e
        · exact e ▸ hli
        · exact a l' e

theorem from_on {Q : Nat → Prop} {n0 : Nat} (h0 : Q n0) (hs : ∀ m, n0 ≤ m → Q m → Q (m+1)) (n : Nat) (hn : n0 ≤ n) : Q n := by
  obtain ⟨d, rfl⟩ := Nat.exists_eq_add_of_le hn
  induction d with
  | zero => exact h0
  | succ d ih => exact hs (n0 + d) (Nat.le_add_right _ _) (ih (Nat.le_add_right _ _))

theorem seq_mono {a : Nat → Nat} {n0 : Nat} (h : ∀ m, n0 ≤ m → a (m+1) ≤ a m) (n : Nat) (hn : n0 ≤ n) (m : Nat) (hm : n ≤ m) :
    a m ≤ a n :=
  from_on (Q := fun m => a m ≤ a n) (Nat.le_refl _) (fun m hm ih => Nat.le_trans (h m (Nat.le_trans hn hm)) ih) m hm

theorem seq_segment {a b : Nat → Nat} {n0 : Nat}
    (h : ∀ m, n0 ≤ m → a (m+1) < a m ∨ (a (m+1) ≤ a m ∧ b (m+1) ≤ b m)) (n : Nat) (hn : n0 ≤ n) (m : Nat) (hm : n ≤ m) :
    (∃ j, n ≤ j ∧ j ≤ m ∧ a j < a n) ∨ (a m ≤ a n ∧ b m ≤ b n) := by
  refine from_on (Q := fun m => (∃ j, n ≤ j ∧ j ≤ m ∧ a j < a n) ∨ (a m ≤ a n ∧ b m ≤ b n))
    (Or.inr ⟨Nat.le_refl _, Nat.le_refl _⟩) (fun m hm ih => ?_) m hm
  rcases ih with ⟨j, h1, h2, h3⟩ | ⟨h1, h2⟩
  · exact Or.inl ⟨j, h1, Nat.le_succ_of_le h2, h3⟩
  · rcases h m (Nat.le_trans hn hm) with x | ⟨x, y⟩
    · exact Or.inl ⟨m + 1, Nat.le_succ_of_le hm, Nat.le_refl _, Nat.lt_of_lt_of_le x h1⟩
    · exact Or.inr ⟨Nat.le_trans x h1, Nat.le_trans y h2⟩

theorem lex_descent {a b : Nat → Nat} {Done : Nat → Prop} {n0 : Nat}
    (adv : ∀ n, n0 ≤ n → ¬ Done n → ∃ m, n ≤ m ∧ (a m < a n ∨ (a m ≤ a n ∧ b m < b n))) : ∃ m, n0 ≤ m ∧ Done m := by
  have inner : ∀ A, (∀ m, n0 ≤ m → a m < A → ∃ m', m ≤ m' ∧ Done m') →
      ∀ B n, n0 ≤ n → a n ≤ A → b n < B → ∃ m, n ≤ m ∧ Done m := by
    intro A dropA B
    induction B with
    | zero => exact fun n _ _ hB => absurd hB (Nat.not_lt_zero _)
    | succ B ih =>
      intro n hn hA hB
      by_cases hd : Done n
      · exact ⟨n, Nat.le_refl _, hd⟩
      · obtain ⟨m, hm, h | ⟨h1, h2⟩⟩ := adv n hn hd
        · obtain ⟨m', h1, h2⟩ := dropA m (by omega) (by omega)
          exact ⟨m', by omega, h2⟩
        · obtain ⟨m', h3, h4⟩ := ih m (by omega) (by omega) (by omega)
          exact ⟨m', by omega, h4⟩
  have outer : ∀ A n, n0 ≤ n → a n < A → ∃ m, n ≤ m ∧ Done m := by
    intro A
    induction A with
    | zero => exact fun n _ hA => absurd hA (Nat.not_lt_zero _)
    | succ A ih => exact fun n hn hA => inner A ih (b n + 1) n hn (by omega) (Nat.lt_succ_self _)
  exact outer (a n0 + 1) n0 (Nat.le_refl _) (Nat.lt_succ_self _)

theorem lex_advance {a b : Nat → Nat} {n m : Nat} (hm : n ≤ m)
    (seg : (∃ j, n ≤ j ∧ j ≤ m ∧ a j < a n) ∨ (a m ≤ a n ∧ b m ≤ b n)) (mono : a (m+1) ≤ a m)
    (hstep : a (m+1) < a m ∨ b (m+1) < b m) : ∃ j, n ≤ j ∧ (a j < a n ∨ (a j ≤ a n ∧ b j < b n)) := by
  rcases seg with ⟨j, h1, _, h3⟩ | ⟨h1, h2⟩
  · exact ⟨j, h1, Or.inl h3⟩
  · exact ⟨m + 1, Nat.le_succ_of_le hm, hstep.elim (fun x => Or.inl (by omega)) (fun x => Or.inr ⟨by omega, by omega⟩)⟩

/-- lexicographic progress along a run.  `a` never grows; while `a` stays, `b` does not grow and no service (`R`) happens; `b` drops
at every internal label.  If, as long as `Done` fails, an internal label or a service is always still to come, `Done` is reached. -/
theorem fair_drain {σ : Type} {f : σ → Label → Option σ} {ρ : Nat → σ} {lab : Nat → Option Label}
    (hrun : ∀ n, (lab n = none ∧ ρ (n+1) = ρ n) ∨ ∃ l, lab n = some l ∧ f (ρ n) l = some (ρ (n+1)))
    {I : σ → Prop} {ok : Label → Bool} {a b : σ → Nat} {R : σ → σ → Prop} (hR : ∀ s, ¬ R s s)
    (hstep : ∀ s l s', I s → ok l = true → f s l = some s' →
      I s' ∧ a s' ≤ a s ∧ (a s' < a s ∨ (b s' ≤ b s ∧ ¬ R s s')) ∧ (l.internal = true → b s' < b s))
    (n0 : Nat) (h0 : I (ρ n0)) (hq : ∀ m, n0 ≤ m → ∀ l, lab m = some l → ok l = true)
    {Done : Nat → Prop}
    (hprog : ∀ n, n0 ≤ n → I (ρ n) → ¬ Done n →
      ∃ m, n ≤ m ∧ ((∃ l, lab m = some l ∧ l.internal = true) ∨ R (ρ m) (ρ (m+1)))) :
    ∃ m, n0 ≤ m ∧ Done m ∧ I (ρ m) := by
  have step : ∀ m, n0 ≤ m → I (ρ m) → I (ρ (m+1)) ∧ a (ρ (m+1)) ≤ a (ρ m) ∧
      (a (ρ (m+1)) < a (ρ m) ∨ (b (ρ (m+1)) ≤ b (ρ m) ∧ ¬ R (ρ m) (ρ (m+1)))) ∧
      (∀ l, lab m = some l → l.internal = true → b (ρ (m+1)) < b (ρ m)) := fun m hm hI => by
    rcases hrun m with ⟨e1, e⟩ | ⟨l, e1, hf⟩
    · rw [e]; exact ⟨hI, Nat.le_refl _, Or.inr ⟨Nat.le_refl _, hR _⟩, fun l hl => by rw [e1] at hl; cases hl⟩
    · obtain ⟨x, y, z, w⟩ := hstep _ l _ hI (hq m hm l e1) hf
      exact ⟨x, y, z, fun l' hl' => Option.some.inj (e1.symm.trans hl') ▸ w⟩
  have inv : ∀ m, n0 ≤ m → I (ρ m) := from_on h0 (fun m hm ih => (step m hm ih).1)
  obtain ⟨m, hm, hd⟩ := lex_descent (a := fun n => a (ρ n)) (b := fun n => b (ρ n)) (Done := Done) (n0 := n0) (fun n hn hnd => by
    obtain ⟨m, hm, hev⟩ := hprog n hn (inv n hn) hnd
    have hnm := Nat.le_trans hn hm
    obtain ⟨_, mono, alt, int⟩ := step m hnm (inv m hnm)
    refine lex_advance (a := fun i => a (ρ i)) (b := fun i => b (ρ i)) hm ?_ mono ?_
    · exact seq_segment (a := fun i => a (ρ i)) (b := fun i => b (ρ i)) (fun j hj =>
        have ⟨_, o1, o2, _⟩ := step j hj (inv j hj)
        o2.imp id (fun x => ⟨o1, x.1⟩)) n hn m hm
    · rcases hev with ⟨l, hl, hli⟩ | hr
      · exact Or.inr (int l hl hli)
      · exact Or.inl (alt.resolve_right (fun x => x.2 hr)))
  exact ⟨m, hm, hd, inv m hm⟩

/-- `fair_drain` with a constant first component and no service: a fair run of internal labels comes to rest, and stays there -/
theorem descent_fair_rest {σ : Type} {f : σ → Label → Option σ} {ρ : Nat → σ} {lab : Nat → Option Label}
    (hrun : ∀ n, (lab n = none ∧ ρ (n+1) = ρ n) ∨ ∃ l, lab n = some l ∧ f (ρ n) l = some (ρ (n+1)))
    {I : σ → Prop} {m : σ → Nat} (hstep : ∀ s l s', I s → l.internal = true → f s l = some s' → I s' ∧ m s' < m s)
    (hfair : ∀ n, ¬ (∀ l, l.internal = true → f (ρ n) l = none) → ∃ j, n ≤ j ∧ ∃ l, lab j = some l ∧ l.internal = true)
    (n0 : Nat) (h0 : I (ρ n0)) (hq : ∀ j, n0 ≤ j → ∀ l, lab j = some l → l.internal = true) :
    ∃ j, n0 ≤ j ∧ (∀ l, l.internal = true → f (ρ j) l = none) ∧ ∀ i, j ≤ i → ρ i = ρ j := by
  obtain ⟨j, hj, hqu, _⟩ := fair_drain hrun (I := I) (ok := Label.internal) (a := fun _ => 0) (b := m) (R := fun _ _ => False)
    (fun _ => id) (fun s l s' hI hl hf => have ⟨x, y⟩ := hstep s l s' hI hl hf
      ⟨x, Nat.le_refl _, Or.inr ⟨Nat.le_of_lt y, id⟩, fun _ => y⟩) n0 h0 hq
    (Done := fun n => ∀ l, l.internal = true → f (ρ n) l = none)
    (fun n _ _ hnd => have ⟨j, hj, h⟩ := hfair n hnd; ⟨j, hj, Or.inl h⟩)
  refine ⟨j, hj, hqu, fun i hi => from_on (Q := fun i => ρ i = ρ j) rfl (fun d hd ih => ?_) i hi⟩
  rcases hrun d with ⟨_, e⟩ | ⟨l, e1, hf⟩
  · exact e.trans ih
  · rw [ih, hqu l (hq d (Nat.le_trans hj hd) l e1)] at hf; cases hf

/-! ### rest -/

theorem P.at_rest {x : P} (h : x.ph = .idle ∨ (∃ r, x.ph = .done r) ∨ (x.ph = .sel ∧ x.sig = false ∧ x.canc = false)) :
    x.ph ≠ .wokenTok ∧ x.ph ≠ .wokenCtx ∧ x.ph ≠ .waitRes ∧ (x.ph = .sel → x.sig = false ∧ x.canc = false) := by
  rcases h with a | ⟨r, a⟩ | ⟨a, b, c⟩
  · rw [a]; exact ⟨nofun, nofun, nofun, nofun⟩
  · rw [a]; exact ⟨nofun, nofun, nofun, nofun⟩
  · rw [a]; exact ⟨nofun, nofun, nofun, fun _ => ⟨b, c⟩⟩

def Quiescent (k : Cfg) (s : St) : Prop := ∀ l, l.internal = true → fire k s l = none

/-- at rest no consumer is on its way to the lock: a notified consumer can always re-take it -/
theorem Quiescent.cwoken_nil {k : Cfg} {s : St} (hq : Quiescent k s) : s.cwoken = [] :=
  List.eq_nil_iff_forall_not_mem.mpr (fun c hc => by have := (recheck_isSome k s hc).1; rw [hq (.recheck c) rfl] at this; cases this)

namespace Machine
variable {k : Cfg} (M : Machine k)

theorem quiet_of {s : St}
    (h1 : ∀ p, (s.ps p).ph = .idle ∨ (∃ r, (s.ps p).ph = .done r) ∨ ((s.ps p).ph = .sel ∧ (s.ps p).sig = false ∧ (s.ps p).canc = false))
    (h2 : s.cwoken = []) : M.Quiet s := by
  intro l hl
  have key := fun p => P.at_rest (h1 p)
  refine Option.eq_none_iff_forall_ne_some.mpr (fun s' hf => ?_)
  induction M.proto hf with
  | offerOk | offer | cancel | readTook | readStopped | readPark | complete | shutdown | shutdownAll => cases hl
  | wakeTok p h hs => exact Bool.false_ne_true (((key p).2.2.2 h).1.symm.trans hs)
  | wakeCtx p h hc => exact Bool.false_ne_true (((key p).2.2.2 h).2.symm.trans hc)
  | relockTok p _ h => exact (key p).1 h
  | relockCtx p h => exact (key p).2.1 h
  | getRes p _ h | resCtx p h => exact (key p).2.2.1 h
  | recheckTook c _ hc | recheckStopped c hc | recheckPark c hc => rw [h2] at hc; cases hc

theorem idle_run (ls : List Label) (s s' : St) (q : Nat) (hr : M.run s ls = some s')
    (hq : (s.ps q).ph = .idle) (hl : ∀ l ∈ ls, ∀ el, l ≠ .offer q el) : (s'.ps q).ph = .idle :=
  run_induction (I := fun t => (t.ps q).ph = .idle) (ok := fun l => ∀ el, l ≠ .offer q el) M.run_nil M.run_cons
    (fun _ _ _ h hl hf => idle_step (M.proto hf) q h hl) ls s s' hq hl hr

theorem rest_of_sched (P : List Nat) (ls : List Label) (s' : St) (h : M.run {} ls = some s')
    (hd : ∀ p ∈ P, ∃ r, (s'.ps p).ph = .done r) (hw : s'.cwoken = [])
    (hl : ∀ l ∈ ls, ∀ q el, l = .offer q el → q ∈ P) : M.Quiet s' := by
  refine M.quiet_of (fun p => ?_) hw
  by_cases hp : p ∈ P
  · exact Or.inr (Or.inl (hd p hp))
  · exact Or.inl (M.idle_run ls {} s' p h rfl (fun l hl' el e => hp (hl l hl' p el e)))

theorem run_reach {ρ : Nat → St} {lab : Nat → Option Label} (h0 : M.Reach (ρ 0))
    (hs : ∀ n, (lab n = none ∧ ρ (n+1) = ρ n) ∨ ∃ l, lab n = some l ∧ M.f (ρ n) l = some (ρ (n+1))) : ∀ n, M.Reach (ρ n) :=
  fun n => from_on h0 (fun m _ ih => (hs m).elim (fun e => e.2 ▸ ih) (fun ⟨_, _, hf⟩ => M.reach_step ih hf)) n (Nat.zero_le n)

theorem internal_descent (hC : ∀ s, M.Reach s → InvC k s) (L : List Nat) (b : Nat) (s : St) (l : Label) (s' : St)
    (h : M.Reach s ∧ Covers L s ∧ Omega L s ≤ b) (hl : l.internal = true) (hf : M.f s l = some s') :
    (M.Reach s' ∧ Covers L s' ∧ Omega L s' ≤ b) ∧ PPhi L s' < PPhi L s :=
  have r := proto_internal (hC s h.1) h.2.1 hl (M.proto hf)
  ⟨⟨M.reach_step h.1 hf, h.2.1.drain (internal_drain l hl) (M.proto hf), Nat.le_trans r.2.1 h.2.2⟩, r.1⟩

theorem internal_run_bounded (hC : ∀ s, M.Reach s → InvC k s) {L : List Nat} (ls : List Label) (s : St) (hr : M.Reach s)
    (hc : Covers L s) (hi : ∀ l ∈ ls, Label.internal l = true) (hs : (M.run s ls).isSome = true) : ls.length ≤ PPhi L s :=
  descent_bounded M.run_cons (M.internal_descent hC L (Omega L s)) ls s ⟨hr, hc, Nat.le_refl _⟩ hi hs

theorem exists_quiesce (hC : ∀ s, M.Reach s → InvC k s) {L : List Nat} (s : St) (hr : M.Reach s) (hc : Covers L s) :
    ∃ ls s', (∀ l ∈ ls, Label.internal l = true) ∧ M.run s ls = some s' ∧ M.Quiet s' ∧ Covers L s' ∧ Omega L s' ≤ Omega L s :=
  have ⟨ls, s', h1, h2, h3, _, h4, h5⟩ := descent_quiesce M.run_nil M.run_cons (M.internal_descent hC L (Omega L s))
    (PPhi L s + 1) s ⟨hr, hc, Nat.le_refl _⟩ (Nat.lt_succ_self _)
  ⟨ls, s', h1, h2, h3, h4, h5⟩

theorem fair_run_rests (hC : ∀ s, M.Reach s → InvC k s) {ρ : Nat → St} {lab : Nat → Option Label} (h0 : M.Reach (ρ 0))
    (hs : ∀ n, (lab n = none ∧ ρ (n+1) = ρ n) ∨ ∃ l, lab n = some l ∧ M.f (ρ n) l = some (ρ (n+1)))
    (hf : ∀ n, ¬ M.Quiet (ρ n) → ∃ m, n ≤ m ∧ ∃ l, lab m = some l ∧ l.internal = true) (n0 : Nat)
    (hq : ∀ m, n0 ≤ m → ∀ l, lab m = some l → l.internal = true) :
    ∃ m, n0 ≤ m ∧ M.Quiet (ρ m) ∧ (∀ j, m ≤ j → ρ j = ρ m) ∧ M.Reach (ρ m) := by
  obtain ⟨L, hcov⟩ := M.covers_exists (M.run_reach h0 hs n0)
  obtain ⟨m, hm, hqu, hst⟩ := descent_fair_rest hs (M.internal_descent hC L (Omega L (ρ n0))) hf n0
    ⟨M.run_reach h0 hs n0, hcov, Nat.le_refl _⟩ hq
  exact ⟨m, hm, hqu, hst, M.run_reach h0 hs m⟩

end Machine

theorem internal_run_bounded {k : Cfg} (hk : 0 ≤ k.cap) {L : List Nat} (ls : List Label) (s : St) (hr : Reachable k s)
    (hc : Covers L s) (hi : ∀ l ∈ ls, Label.internal l = true) (hs : (runSched k s ls).isSome = true) :
    ls.length ≤ Phi L s :=
  descent_bounded (runSched_cons k) (I := fun s => Reachable k s ∧ Covers L s) (fun _ l _ h hl hf =>
    ⟨⟨(mem k).reach_step h.1 hf, h.2.drain (internal_drain l hl) (fire_proto hf)⟩,
      (proto_internal (Inv.reachable hk h.1).C h.2 hl (fire_proto hf)).2.2 (fun _ e => fire_recheck_ps (e ▸ hf))⟩) ls s ⟨hr, hc⟩ hi hs

theorem drain_run {k : Cfg} (hk : 0 ≤ k.cap) {s s' : St} (ls : List Label) (hr : Reachable k s)
    (hd : ∀ l ∈ ls, Label.drain l = true) (h : runSched k s ls = some s') :
    ∀ p, Tracked s p → Tracked s' p :=
  (run_induction (ok := fun l => l.drain = true) (I := fun t => Reachable k t ∧ ∀ p, Tracked s p → Tracked t p)
    (fun _ => rfl) (runSched_cons k)
    (fun _ _ _ ⟨h1, h2⟩ hl hf => ⟨(mem k).reach_step h1 hf, fun p hp => tracked_step (Inv.reachable hk h1).C hl hf (h2 p hp)⟩)
    ls s s' ⟨hr, fun _ a => a⟩ hd h).2

end OtelVerif.C02

import OtelVerif.Lemmas.C17Split
import OtelVerif.Lemmas.C04Seq
/-!
C17 shard loop: `BatchLaws`, `due`, `Cfg.valid`, `Shard.inv`, the equations of `send` / `sendLoop` / `process`, `ShardStep`, the
step lemmas for `process` / `tick` / `shutdown`, and `BatchLaws` for logs and metrics.
-/
namespace OtelVerif.C17
open OtelVerif.Payload

/-- what the shard loop needs from a signal's batch operations -/
structure BatchLaws {P β : Type} (o : BatchOps P) (flat : P → List β) : Prop where
  count_eq : ∀ p, o.count p = (flat p).length
  empty : flat o.empty = []
  append : ∀ a b, flat (o.append a b) = flat a ++ flat b
  split_perm : ∀ n p, n < o.count p → (flat (o.split n p).1 ++ flat (o.split n p).2).Perm (flat p)
  split_size : ∀ n p, n < o.count p → o.count (o.split n p).1 = n

def flatEmits {P β : Type} (flat : P → List β) (es : List (Emit P)) : List β := es.flatMap (fun e => flat e.p)

theorem flatEmits_nil {P β : Type} (flat : P → List β) : flatEmits flat ([] : List (Emit P)) = [] := rfl

theorem flatEmits_cons {P β : Type} (flat : P → List β) (e : Emit P) (es : List (Emit P)) :
    flatEmits flat (e :: es) = flat e.p ++ flatEmits flat es := List.flatMap_cons

theorem flatEmits_append {P β : Type} (flat : P → List β) (es es' : List (Emit P)) :
    flatEmits flat (es ++ es') = flatEmits flat es ++ flatEmits flat es' := List.flatMap_append

theorem mem_flatEmits {P β : Type} {flat : P → List β} {es : List (Emit P)} {e : Emit P} {x : β} (he : e ∈ es)
    (hx : x ∈ flat e.p) : x ∈ flatEmits flat es := List.mem_flatMap.mpr ⟨e, he, hx⟩

/-- the shard's counter is the number of items it holds -/
def Shard.ok {P : Type} (o : BatchOps P) (s : Shard P) : Prop := s.cnt = o.count s.data

/-- a send is due: the guard of the send loop -/
def due {P : Type} (c : Cfg) (s : Shard P) : Bool := decide (s.cnt > 0) && (!hasTimer c || decide (s.cnt ≥ c.sbs))

theorem ok_empty {P β : Type} {o : BatchOps P} {flat : P → List β} (hl : BatchLaws o flat) (key : Key) (d : Nat) :
    Shard.ok o { key := key, data := o.empty, cnt := 0, deadline := d } := by
  show 0 = o.count o.empty
  rw [hl.count_eq, hl.empty]; rfl

theorem flat_nil_of_cnt {P β : Type} (o : BatchOps P) (flat : P → List β) (hl : BatchLaws o flat) (s : Shard P)
    (hs : s.ok o) (h0 : s.cnt = 0) : flat s.data = [] := by
  apply List.eq_nil_of_length_eq_zero
  rw [← hl.count_eq, ← hs, h0]

theorem not_mem_flat_empty {P β : Type} {o : BatchOps P} {flat : P → List β} (hl : BatchLaws o flat) (x : β) :
    x ∉ flat o.empty := by
  rw [hl.empty]; exact List.not_mem_nil

theorem due_of_cnt_zero {P : Type} (c : Cfg) (s : Shard P) (h : s.cnt = 0) : due c s = false := by
  simp only [due, h, Nat.lt_irrefl, decide_false, Bool.false_and]

/-- configuration accepted by `Config.Validate` (the part the batching logic depends on; `validCfg` in the model is the
whole `Validate()`, tied to the real one by exact differential on raw configurations) -/
def Cfg.valid (c : Cfg) : Prop := c.max = 0 ∨ c.sbs ≤ c.max

/-- invariant between two labels: the counter is exact and no send is due -/
def Shard.inv {P : Type} (o : BatchOps P) (c : Cfg) (s : Shard P) : Prop := s.ok o ∧ due c s = false

theorem inv_empty {P β : Type} {o : BatchOps P} {flat : P → List β} (hl : BatchLaws o flat) (c : Cfg) (key : Key) (d : Nat) :
    Shard.inv o c { key := key, data := o.empty, cnt := 0, deadline := d } :=
  ⟨ok_empty hl key d, due_of_cnt_zero c _ rfl⟩

theorem pos_of_due {P : Type} {c : Cfg} {s : Shard P} (h : due c s = true) : s.cnt > 0 := by
  rw [due, Bool.and_eq_true, decide_eq_true_eq] at h; exact h.1

theorem idle_cases {P : Type} {c : Cfg} {s : Shard P} (h : due c s = false) :
    s.cnt = 0 ∨ (hasTimer c = true ∧ s.cnt < c.sbs) := by
  simp only [due, Bool.and_eq_false_iff, decide_eq_false_iff_not, Bool.or_eq_false_iff, Bool.not_eq_false'] at h
  rcases h with h | ⟨h1, h2⟩
  · exact Or.inl (Nat.eq_zero_of_not_pos h)
  · exact Or.inr ⟨h1, Nat.lt_of_not_le h2⟩

theorem idle_fits {P : Type} {c : Cfg} (hv : c.valid) {s : Shard P} (h : due c s = false) :
    c.max = 0 ∨ s.cnt ≤ c.max := by
  rcases hv with h0 | hm
  · exact Or.inl h0
  · rcases idle_cases h with h1 | ⟨_, h2⟩
    · exact Or.inr (h1 ▸ Nat.zero_le _)
    · exact Or.inr (Nat.le_trans (Nat.le_of_lt h2) hm)

theorem add_key {P : Type} (o : BatchOps P) (s : Shard P) (p : P) : (s.add o p).key = s.key := by
  unfold Shard.add; split <;> rfl

theorem add_deadline {P : Type} (o : BatchOps P) (s : Shard P) (p : P) : (s.add o p).deadline = s.deadline := by
  unfold Shard.add; split <;> rfl

theorem add_spec {P β : Type} {o : BatchOps P} {flat : P → List β} (hl : BatchLaws o flat) (s : Shard P) (p : P)
    (hs : s.ok o) :
    (s.add o p).ok o ∧ flat (s.add o p).data = flat s.data ++ flat p ∧ (s.add o p).cnt = s.cnt + (flat p).length := by
  unfold Shard.add
  by_cases h : (o.count p == 0) = true
  · have h0 : flat p = [] := List.eq_nil_of_length_eq_zero (by rw [← hl.count_eq]; exact eq_of_beq h)
    rw [if_pos h, h0]
    exact ⟨hs, (List.append_nil _).symm, rfl⟩
  · rw [if_neg h]
    refine ⟨?_, hl.append _ _, by rw [hl.count_eq p]⟩
    show s.cnt + o.count p = o.count (o.append s.data p)
    rw [hl.count_eq (o.append s.data p), hl.append, List.length_append, ← hl.count_eq, ← hl.count_eq]
    exact congrArg (· + o.count p) hs

theorem send_cases {P : Type} (o : BatchOps P) (c : Cfg) (now : Nat) (s : Shard P) :
    (c.max > 0 ∧ s.cnt > c.max ∧
      s.send o c now = ({ s with data := (o.split c.max s.data).2, cnt := s.cnt - c.max }, ⟨s.key, now, (o.split c.max s.data).1⟩)) ∨
    ((c.max = 0 ∨ s.cnt ≤ c.max) ∧ s.send o c now = ({ s with data := o.empty, cnt := 0 }, ⟨s.key, now, s.data⟩)) := by
  unfold Shard.send
  by_cases h : (decide (c.max > 0) && decide (s.cnt > c.max)) = true
  · rw [if_pos h]
    rw [Bool.and_eq_true, decide_eq_true_eq, decide_eq_true_eq] at h
    exact Or.inl ⟨h.1, h.2, rfl⟩
  · rw [if_neg h]
    rw [Bool.and_eq_true, decide_eq_true_eq, decide_eq_true_eq] at h
    refine Or.inr ⟨?_, rfl⟩
    rcases Nat.eq_zero_or_pos c.max with h0 | h1
    · exact Or.inl h0
    · exact Or.inr (Nat.le_of_not_lt fun h2 => h ⟨h1, h2⟩)

/-- sends at `now` took `s` to `s'` emitting `es` -/
structure SendFields {P : Type} (now : Nat) (s s' : Shard P) (es : List (Emit P)) : Prop where
  key : s'.key = s.key
  cnt_le : s'.cnt ≤ s.cnt
  stamp : ∀ e ∈ es, e.key = s.key ∧ e.t = now

theorem send_fields {P : Type} (o : BatchOps P) (c : Cfg) (now : Nat) (s : Shard P) :
    SendFields now s (s.send o c now).1 [(s.send o c now).2] := by
  rcases send_cases o c now s with ⟨_, _, h⟩ | ⟨_, h⟩ <;> rw [h]
  · exact ⟨rfl, Nat.sub_le _ _, fun e he => by rw [List.mem_singleton.mp he]; exact ⟨rfl, rfl⟩⟩
  · exact ⟨rfl, Nat.zero_le _, fun e he => by rw [List.mem_singleton.mp he]; exact ⟨rfl, rfl⟩⟩

/-- what one send does: counter, bound, and the items up to `R` (`List.Perm` from `BatchLaws.split_perm`, `Eq` from `Fifo.split_eq`) -/
theorem send_spec {P β : Type} {o : BatchOps P} {flat : P → List β} {R : List β → List β → Prop} (m : Seq R) (hl : BatchLaws o flat)
    (hsplit : ∀ n p, n < o.count p → R (flat (o.split n p).1 ++ flat (o.split n p).2) (flat p)) (c : Cfg) (now : Nat)
    (s : Shard P) (hs : s.ok o) :
    (s.send o c now).1.ok o ∧
    (c.max > 0 → o.count (s.send o c now).2.p ≤ c.max) ∧
    (s.cnt > 0 → (s.send o c now).1.cnt < s.cnt) ∧
    (c.max = 0 ∨ s.cnt ≤ c.max → (s.send o c now).1.cnt = 0) ∧
    R (flat (s.send o c now).2.p ++ flat (s.send o c now).1.data) (flat s.data) := by
  rcases send_cases o c now s with ⟨h1, h2, e⟩ | ⟨h, e⟩ <;> rw [e]
  · have hlt : c.max < o.count s.data := hs ▸ h2
    have hp := hl.split_perm c.max s.data hlt
    have hsz := hl.split_size c.max s.data hlt
    have hlen := hp.length_eq
    rw [List.length_append, ← hl.count_eq, ← hl.count_eq, ← hl.count_eq, hsz, ← hs] at hlen
    refine ⟨?_, fun _ => Nat.le_of_eq hsz, fun _ => Nat.sub_lt (Nat.lt_trans h1 h2) h1, fun h' => ?_, hsplit c.max s.data hlt⟩
    · show s.cnt - c.max = o.count (o.split c.max s.data).2
      rw [← hlen, Nat.add_sub_cancel_left]
    · rcases h' with h' | h'
      · exact absurd h' (Nat.ne_of_gt h1)
      · exact absurd h' (Nat.not_le.mpr h2)
  · refine ⟨ok_empty hl _ _, fun hm => ?_, fun h' => h', fun _ => rfl, ?_⟩
    · show o.count s.data ≤ c.max
      rw [← hs]
      rcases h with h | h
      · exact absurd h (Nat.ne_of_gt hm)
      · exact h
    · show R (flat s.data ++ flat o.empty) (flat s.data)
      rw [hl.empty, List.append_nil]; exact m.refl _

theorem sendLoop_acc {P : Type} (o : BatchOps P) (c : Cfg) (now : Nat) :
    ∀ (fuel : Nat) (s : Shard P) (acc : List (Emit P)),
      sendLoop o c now fuel s acc = ((sendLoop o c now fuel s []).1, acc ++ (sendLoop o c now fuel s []).2) := by
  intro fuel
  induction fuel with
  | zero => intro s acc; simp only [sendLoop, List.append_nil]
  | succ n ih =>
    intro s acc
    simp only [sendLoop]
    split
    · rw [ih _ (acc ++ _), ih _ ([] ++ _), List.append_assoc, List.nil_append]
    · simp only [List.append_nil]

theorem sendLoop_idle {P : Type} (o : BatchOps P) (c : Cfg) (now : Nat) (s : Shard P) (h : due c s = false) (fuel : Nat) :
    sendLoop o c now fuel s [] = (s, []) := by
  cases fuel with
  | zero => rfl
  | succ n => rw [sendLoop]; exact if_neg (fun h' => Bool.false_ne_true (h ▸ h'))

theorem sendLoop_due {P : Type} (o : BatchOps P) (c : Cfg) (now : Nat) (s : Shard P) (h : due c s = true) (fuel : Nat) :
    sendLoop o c now (fuel + 1) s [] =
      ((sendLoop o c now fuel (s.send o c now).1 []).1, (s.send o c now).2 :: (sendLoop o c now fuel (s.send o c now).1 []).2) := by
  have e : sendLoop o c now (fuel + 1) s [] = sendLoop o c now fuel (s.send o c now).1 ([] ++ [(s.send o c now).2]) := by
    rw [sendLoop]; exact if_pos h
  rw [e, sendLoop_acc]; rfl

theorem sendLoop_fields {P : Type} (o : BatchOps P) (c : Cfg) (now : Nat) :
    ∀ (fuel : Nat) (s : Shard P), SendFields now s (sendLoop o c now fuel s []).1 (sendLoop o c now fuel s []).2 := by
  intro fuel
  induction fuel with
  | zero => intro s; exact ⟨rfl, Nat.le_refl _, (fun e he => nomatch he)⟩
  | succ n ih =>
    intro s
    cases hd : due c s with
    | false => rw [sendLoop_idle o c now s hd]; exact ⟨rfl, Nat.le_refl _, (fun e he => nomatch he)⟩
    | true =>
      rw [sendLoop_due o c now s hd]
      have a := send_fields o c now s
      have b := ih (s.send o c now).1
      refine ⟨b.key.trans a.key, Nat.le_trans b.cnt_le a.cnt_le, fun e he => ?_⟩
      rcases List.mem_cons.mp he with rfl | he
      · exact a.stamp _ (List.mem_singleton_self _)
      · exact a.key ▸ b.stamp e he

theorem sendLoop_spec {P β : Type} {o : BatchOps P} {flat : P → List β} {R : List β → List β → Prop} (m : Seq R)
    (hl : BatchLaws o flat) (hsplit : ∀ n p, n < o.count p → R (flat (o.split n p).1 ++ flat (o.split n p).2) (flat p))
    (c : Cfg) (now : Nat) :
    ∀ (fuel : Nat) (s : Shard P), s.ok o → s.cnt < fuel →
      (sendLoop o c now fuel s []).1.ok o ∧ due c (sendLoop o c now fuel s []).1 = false ∧
      (c.max > 0 → ∀ e ∈ (sendLoop o c now fuel s []).2, o.count e.p ≤ c.max) ∧
      R (flatEmits flat (sendLoop o c now fuel s []).2 ++ flat (sendLoop o c now fuel s []).1.data) (flat s.data) := by
  intro fuel
  induction fuel with
  | zero => intro s _ h; exact absurd h (Nat.not_lt_zero _)
  | succ n ih =>
    intro s hs hf
    cases hd : due c s with
    | false => rw [sendLoop_idle o c now s hd]; exact ⟨hs, hd, (fun _ e he => nomatch he), m.refl _⟩
    | true =>
      obtain ⟨ok1, b1, lt1, _, r1⟩ := send_spec m hl hsplit c now s hs
      obtain ⟨ok2, d2, b2, r2⟩ := ih (s.send o c now).1 ok1 (Nat.lt_of_lt_of_le (lt1 (pos_of_due hd)) (Nat.le_of_lt_succ hf))
      rw [sendLoop_due o c now s hd, flatEmits_cons, List.append_assoc]
      refine ⟨ok2, d2, fun hm e he => ?_, m.trans (m.append (m.refl _) r2) r1⟩
      rcases List.mem_cons.mp he with rfl | he
      · exact b1 hm
      · exact b2 hm e he

/-- shard `s` became `s'` emitting `es` after accepting items `extra` -/
structure ShardStep {P β : Type} (o : BatchOps P) (c : Cfg) (flat : P → List β) (s s' : Shard P) (es : List (Emit P))
    (extra : List β) : Prop where
  inv : s'.inv o c
  key : s'.key = s.key
  perm : (flatEmits flat es ++ flat s'.data).Perm (flat s.data ++ extra)
  bound : c.max > 0 → ∀ e ∈ es, o.count e.p ≤ c.max
  ekey : ∀ e ∈ es, e.key = s.key

theorem ShardStep.refl {P β : Type} {o : BatchOps P} {c : Cfg} {flat : P → List β} {s : Shard P}
    (hi : s.inv o c) : ShardStep o c flat s s [] [] :=
  ⟨hi, rfl, by rw [List.append_nil]; exact List.Perm.refl _, (fun _ e he => nomatch he), (fun e he => nomatch he)⟩

theorem ShardStep.trans {P β : Type} {o : BatchOps P} {c : Cfg} {flat : P → List β} {s s' s'' : Shard P}
    {es es' : List (Emit P)} {x x' : List β} (a : ShardStep o c flat s s' es x) (b : ShardStep o c flat s' s'' es' x') :
    ShardStep o c flat s s'' (es ++ es') (x ++ x') := by
  refine ⟨b.inv, b.key.trans a.key, ?_, fun hm e he => ?_, fun e he => ?_⟩
  · rw [flatEmits_append, List.append_assoc, ← List.append_assoc (flat s.data)]
    exact (List.Perm.append_left _ b.perm).trans (by rw [← List.append_assoc]; exact List.Perm.append_right _ a.perm)
  · rcases List.mem_append.mp he with h | h
    · exact a.bound hm e h
    · exact b.bound hm e h
  · rcases List.mem_append.mp he with h | h
    · exact a.ekey e h
    · exact a.key ▸ b.ekey e h

theorem ShardStep.of_eq {P β : Type} {o : BatchOps P} {c : Cfg} {flat : P → List β} {s s' : Shard P} {es : List (Emit P)}
    {x : List β} {r : Shard P × List (Emit P)} (h : r = (s', es)) (st : ShardStep o c flat s s' es x) :
    ShardStep o c flat s r.1 r.2 x := h ▸ st

theorem ShardStep.mem {P β : Type} {o : BatchOps P} {c : Cfg} {flat : P → List β} {s s' : Shard P} {es : List (Emit P)}
    {extra : List β} (st : ShardStep o c flat s s' es extra) {x : β} (hx : x ∈ flatEmits flat es ++ flat s'.data) :
    x ∈ flat s.data ∨ x ∈ extra := List.mem_append.mp (st.perm.subset hx)

theorem process_idle {P : Type} (o : BatchOps P) (c : Cfg) (now : Nat) (s : Shard P) (p : P) (h : due c (s.add o p) = false) :
    s.process o c now p = (s.add o p, []) := by
  unfold Shard.process
  simp only [sendLoop_idle o c now _ h, List.isEmpty_nil, if_true]

theorem process_due {P : Type} (o : BatchOps P) (c : Cfg) (now : Nat) (s : Shard P) (p : P) (h : due c (s.add o p) = true) :
    s.process o c now p =
      ({ (sendLoop o c now ((s.add o p).cnt + 1) (s.add o p) []).1 with deadline := now + c.timeout },
       (sendLoop o c now ((s.add o p).cnt + 1) (s.add o p) []).2) := by
  unfold Shard.process
  exact if_neg (by rw [sendLoop_due o c now _ h]; exact Bool.false_ne_true)

theorem process_first {P : Type} (o : BatchOps P) (c : Cfg) (now : Nat) (s : Shard P) (p : P) (h : due c (s.add o p) = true) :
    s.process o c now p =
      ({ (sendLoop o c now (s.add o p).cnt ((s.add o p).send o c now).1 []).1 with deadline := now + c.timeout },
       ((s.add o p).send o c now).2 :: (sendLoop o c now (s.add o p).cnt ((s.add o p).send o c now).1 []).2) := by
  rw [process_due o c now s p h, sendLoop_due o c now _ h]

theorem process_key {P : Type} (o : BatchOps P) (c : Cfg) (now : Nat) (s : Shard P) (p : P) :
    (s.process o c now p).1.key = s.key := by
  cases hd : due c (s.add o p) with
  | false => rw [process_idle o c now s p hd]; exact add_key o s p
  | true => rw [process_due o c now s p hd]; exact (sendLoop_fields o c now _ _).key.trans (add_key o s p)

theorem process_stamp {P : Type} (o : BatchOps P) (c : Cfg) (now : Nat) (s : Shard P) (p : P) :
    ∀ e ∈ (s.process o c now p).2, e.key = s.key ∧ e.t = now := by
  cases hd : due c (s.add o p) with
  | false => rw [process_idle o c now s p hd]; exact fun e he => nomatch he
  | true =>
    rw [process_due o c now s p hd]
    exact fun e he => add_key o s p ▸ (sendLoop_fields o c now _ _).stamp e he

theorem process_step {P β : Type} {o : BatchOps P} {flat : P → List β} (hl : BatchLaws o flat) (c : Cfg) (now : Nat)
    (s : Shard P) (p : P) (hs : s.ok o) :
    ShardStep o c flat s (s.process o c now p).1 (s.process o c now p).2 (flat p) := by
  obtain ⟨ok1, f1, _⟩ := add_spec hl s p hs
  cases hd : due c (s.add o p) with
  | false =>
    exact .of_eq (process_idle o c now s p hd)
      ⟨⟨ok1, hd⟩, add_key o s p, List.Perm.of_eq f1, (fun _ e he => nomatch he), (fun e he => nomatch he)⟩
  | true =>
    have e := process_due o c now s p hd
    have sp := sendLoop_spec Seq.perm hl hl.split_perm c now ((s.add o p).cnt + 1) (s.add o p) ok1 (Nat.lt_succ_self _)
    have sf := sendLoop_fields o c now ((s.add o p).cnt + 1) (s.add o p)
    generalize sendLoop o c now ((s.add o p).cnt + 1) (s.add o p) [] = L at e sp sf
    rw [f1] at sp
    exact .of_eq e ⟨⟨sp.1, sp.2.1⟩, sf.key.trans (add_key o s p), sp.2.2.2, sp.2.2.1,
      fun e he => (sf.stamp e he).1.trans (add_key o s p)⟩

theorem tick_deadline {P : Type} (o : BatchOps P) (c : Cfg) (s : Shard P) :
    (s.tick o c).1.deadline = s.deadline + c.timeout := by
  unfold Shard.tick; split <;> rfl

/-- a timer firing is the shutdown send at the deadline, then the timer is re-armed -/
theorem tick_eq_shutdown {P : Type} (o : BatchOps P) (c : Cfg) (s : Shard P) :
    s.tick o c = ({ (s.shutdown o c s.deadline).1 with deadline := s.deadline + c.timeout }, (s.shutdown o c s.deadline).2) := by
  unfold Shard.tick Shard.shutdown; split <;> rfl

theorem shutdown_step {P β : Type} {o : BatchOps P} {flat : P → List β} (hl : BatchLaws o flat) (c : Cfg)
    (hv : c.valid) (now : Nat) (s : Shard P) (hi : s.inv o c) :
    ShardStep o c flat s (s.shutdown o c now).1 (s.shutdown o c now).2 [] ∧ (s.shutdown o c now).1.cnt = 0 ∧
    ∀ e ∈ (s.shutdown o c now).2, e.t = now := by
  unfold Shard.shutdown
  by_cases h : s.cnt > 0
  · obtain ⟨ok1, b1, _, z1, p1⟩ := send_spec Seq.perm hl hl.split_perm c now s hi.1
    have sf := send_fields o c now s
    have h0 := z1 (idle_fits hv hi.2)
    rw [if_pos h]
    generalize s.send o c now = r at ok1 p1 b1 sf h0
    refine ⟨⟨⟨ok1, due_of_cnt_zero c _ h0⟩, sf.key, ?_, fun hm e he => ?_, fun e he => (sf.stamp e he).1⟩, h0,
      fun e he => (sf.stamp e he).2⟩
    · rw [flatEmits_cons, flatEmits_nil, List.append_nil, List.append_nil]; exact p1
    · rw [List.mem_singleton.mp he]; exact b1 hm
  · have h0 : s.cnt = 0 := Nat.eq_zero_of_not_pos h
    rw [if_neg h]
    exact ⟨ShardStep.refl hi, h0, fun e he => nomatch he⟩

theorem tick_step {P β : Type} {o : BatchOps P} {flat : P → List β} (hl : BatchLaws o flat) (c : Cfg)
    (hv : c.valid) (s : Shard P) (hi : s.inv o c) :
    ShardStep o c flat s (s.tick o c).1 (s.tick o c).2 [] ∧ (s.tick o c).1.cnt = 0 ∧
    ∀ e ∈ (s.tick o c).2, e.t = s.deadline := by
  obtain ⟨st, h0, ht⟩ := shutdown_step hl c hv s.deadline s hi
  rw [tick_eq_shutdown]
  exact ⟨⟨st.inv, st.key, st.perm, st.bound, st.ekey⟩, h0, ht⟩

theorem shutdown_spec {P β : Type} {o : BatchOps P} {flat : P → List β} (hl : BatchLaws o flat) (c : Cfg)
    (hv : c.valid) (now : Nat) (s : Shard P) (hi : s.inv o c) :
    (flatEmits flat (s.shutdown o c now).2).Perm (flat s.data) ∧
    (c.max > 0 → ∀ e ∈ (s.shutdown o c now).2, o.count e.p ≤ c.max) ∧
    (∀ e ∈ (s.shutdown o c now).2, e.key = s.key ∧ e.t = now) := by
  obtain ⟨st, h0, ht⟩ := shutdown_step hl c hv now s hi
  have hp := st.perm
  rw [flat_nil_of_cnt o flat hl _ st.inv.1 h0, List.append_nil, List.append_nil] at hp
  exact ⟨hp, st.bound, fun e he => ⟨st.ekey e he, ht e he⟩⟩

theorem logs_laws : BatchLaws logsBatch flatten :=
  ⟨count_eq_length, rfl, fun _ _ => List.flatMap_append, fun n p h => .of_eq (splitLogs_eq n p h), fun n p h => by
    show count (splitLogs n p).1 = n
    rw [count_eq_length, (splitLogs_take n p h).1, List.length_take, ← count_eq_length]
    exact Nat.min_eq_left (Nat.le_of_lt h)⟩

theorem metrics_laws : BatchLaws metricsBatch mflatten :=
  ⟨mcount_eq_length, rfl, fun _ _ => List.flatMap_append, fun n p h => .of_eq (splitMetrics_eq n p h), fun n p h => by
    show mcount (splitMetrics n p).1 = n
    rw [mcount_eq_length, (splitMetrics_take n p h).1, List.length_take, ← mcount_eq_length]
    exact Nat.min_eq_left (Nat.le_of_lt h)⟩

end OtelVerif.C17

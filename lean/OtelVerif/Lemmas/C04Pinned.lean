import OtelVerif.Lemmas.C04Sizer
/-!
The metric fragment construction of the code in /repo (`metricFragmentKeepsIdentity = false`): the split-off metric carries
only the type of its source.  `anon` is what that does to a data point's context.
-/
namespace OtelVerif.C04
open OtelVerif.Payload

/-- the identity of the fragment the pinned `extract*DataPoints` build: only the type -/
def anonMeta (m : MMeta) : MMeta := { zeroMMeta with ty := m.ty }
/-- a data point's context with the metric reduced to its type -/
def anon (c : MCtx) : MCtx := (c.1, c.2.1, anonMeta c.2.2.1, c.2.2.2)

theorem anonMeta_eq : anonMeta = fragMeta false := rfl

theorem anon_anon (c : MCtx) : anon (anon c) = anon c := by simp [anon, anonMeta, zeroMMeta]

/-- size not positive ⇒ no points: a typed metric with the anonymous identity has a positive size under the bytes sizer, and the number of its points
under the items sizer -/
theorem frag_nil_of_size_not_pos (sz : Sizer) (m : MMeta) (pts : List Item) (hty : (m.ty == 0) = false)
    (h : ¬ metricSize sz { mmeta := fragMeta false m, points := pts } > 0) : pts = [] := by
  cases sz with
  | mk b =>
    cases b with
    | true =>
      exfalso
      apply h
      have hs := sumD_nonneg szB (pointSize szB) (fun c => by simp [pointSize]) pts
      have hv := sov_pos (sumD szB (pointSize szB) pts)
      have e : metricSize szB { mmeta := fragMeta false m, points := pts } =
          1 + sumD szB (pointSize szB) pts + sov (sumD szB (pointSize szB) pts) := by
        simp [metricSize, fragMeta, zeroMMeta, hty, Sizer.delta]
      show metricSize szB _ > 0
      rw [e]
      omega
    | false =>
      simp only [metricSize, Bool.false_eq_true, if_false, sumD_count_points] at h
      cases pts with
      | nil => rfl
      | cons a l => exact absurd (Int.natCast_pos.mpr (Nat.succ_pos l.length)) h

/-- `c` is an element of `src`, or the anonymous-fragment version of one (`Props/C04` spells this out) -/
def Allowed (src : List MCtx) (c : MCtx) : Prop := c ∈ src ∨ ∃ c' ∈ src, c = anon c'

theorem Allowed.of_perm {src l : List MCtx} (h : l.Perm src) : ∀ c ∈ l, Allowed src c :=
  fun _ hc => Or.inl (h.subset hc)

end OtelVerif.C04

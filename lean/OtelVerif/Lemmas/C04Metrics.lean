import OtelVerif.Lemmas.C04Logs
import OtelVerif.Lemmas.C04Pinned
/-!
C04: metrics (a four-level tree).  Conservation is up to `Each (Frag keep)`: a data point's context is unchanged, or, for the
construction in /repo, has lost the metric identity.  Each level is `Moves` for every sizer, and `Sized` under the items sizer
(every data point weighs 1); with the bytes sizer the accounting of a metric cut in two is an upper bound only.
-/
namespace OtelVerif.C04
open OtelVerif.Payload

/-- a data point's context as it leaves: unchanged, or (code in /repo) with the metric identity reduced to the type -/
def Frag (keep : Bool) (c c' : MCtx) : Prop := c = c' ∨ (keep = false ∧ c = anon c')

theorem Frag.seq (keep : Bool) : Seq (Each (Frag keep)) := by
  refine Each.seq (fun a => Or.inl rfl) ?_
  rintro a b c (rfl | ⟨hk, rfl⟩) (rfl | ⟨_, rfl⟩)
  · exact Or.inl rfl
  · exact Or.inr ⟨‹_›, rfl⟩
  · exact Or.inr ⟨hk, rfl⟩
  · exact Or.inr ⟨hk, anon_anon c⟩

theorem Frag.eq_of_keep {c c' : MCtx} (h : Frag true c c') : c = c' := by
  rcases h with h | ⟨h, _⟩
  · exact h
  · cases h

theorem Frag.anon_eq {keep : Bool} {c c' : MCtx} (h : Frag keep c c') : anon c = anon c' := by
  rcases h with rfl | ⟨_, rfl⟩
  · rfl
  · exact anon_anon c'

theorem extractPoints_untyped (keep : Bool) (sz : Sizer) (cap : Int) (m : Metric) (h : (m.mmeta.ty == 0) = true) :
    extractPoints keep sz cap m = ({ mmeta := zeroMMeta, points := [] }, m, 0) := by
  simp only [extractPoints, h, if_true]

theorem extractPoints_typed (keep : Bool) (sz : Sizer) (cap : Int) (m : Metric) (h : (m.mmeta.ty == 0) = false) :
    extractPoints keep sz cap m =
      ({ mmeta := fragMeta keep m.mmeta,
         points := (walk stop (fitsBy sz (pointSize sz)) cutLeaf
           ⟨innerCap sz cap (metricSize sz { mmeta := fragMeta keep m.mmeta, points := [] }) - (sz.delta cap - cap), 0⟩ m.points).dest },
       { m with points := (walk stop (fitsBy sz (pointSize sz)) cutLeaf
           ⟨innerCap sz cap (metricSize sz { mmeta := fragMeta keep m.mmeta, points := [] }) - (sz.delta cap - cap), 0⟩ m.points).rem },
       (walk stop (fitsBy sz (pointSize sz)) cutLeaf
           ⟨innerCap sz cap (metricSize sz { mmeta := fragMeta keep m.mmeta, points := [] }) - (sz.delta cap - cap), 0⟩ m.points).st.rm) := by
  simp only [extractPoints, h, Bool.false_eq_true, if_false]

theorem walk_cutLeaf_items (fits : St → Item → Option St) (st : St) (items : List Item) :
    (walk stop fits cutLeaf st items).dest ++ (walk stop fits cutLeaf st items).rem = items ∧
    (walk stop fits cutLeaf st items).rem.length ≤ items.length ∧
    ((walk stop fits cutLeaf st items).st.rm ≠ st.rm → (walk stop fits cutLeaf st items).rem.length < items.length) := by
  have h := walk_moves Seq.eq (cutLeaf_moves Seq.eq (fun i : Item => [i]) (fun _ => 1)) (fun _ => Nat.one_pos) fits st items
  simpa only [List.flatMap_singleton', sumBy_one] using h

theorem extractPoints_moves (keep : Bool) (sz : Sizer) (r : RMeta) (sm : SMeta) :
    Moves (Each (Frag keep)) (Metric.flat r sm) Metric.nodes (extractPoints keep sz) := by
  refine ⟨fun cap m => ?_, fun cap m => ?_⟩ <;> cases hty : m.mmeta.ty == 0
  · rw [extractPoints_typed keep sz cap m hty]
    have hp := (walk_cutLeaf_items (fitsBy sz (pointSize sz))
      ⟨innerCap sz cap (metricSize sz { mmeta := fragMeta keep m.mmeta, points := [] }) - (sz.delta cap - cap), 0⟩ m.points).1
    simp only [Metric.flat]
    conv => rhs; rw [← hp, List.map_append]
    refine Each.append (Each.map₂ _ _ _ fun i => ?_) ((Frag.seq keep).refl _)
    cases keep with
    | true => exact Or.inl rfl
    | false => exact Or.inr ⟨rfl, rfl⟩
  · rw [extractPoints_untyped keep sz cap m hty]; exact (Frag.seq keep).refl _
  · rw [extractPoints_typed keep sz cap m hty]
    have hp := (walk_cutLeaf_items (fitsBy sz (pointSize sz))
      ⟨innerCap sz cap (metricSize sz { mmeta := fragMeta keep m.mmeta, points := [] }) - (sz.delta cap - cap), 0⟩ m.points).2
    simp only [Metric.nodes]
    exact ⟨by omega, fun h => by have := hp.2 h; omega⟩
  · rw [extractPoints_untyped keep sz cap m hty]; exact ⟨Nat.le_refl _, fun h => absurd rfl h⟩

/-- repaired code: the test is on the points; /repo: on the size, which is positive for a typed fragment with points -/
theorem extractPoints_dropped (keep : Bool) (r : RMeta) (sm : SMeta) (sz : Sizer) (cap : Int) (m : Metric)
    (h : (if keep then decide ((extractPoints keep sz cap m).1.points.length > 0)
          else decide (metricSize sz (extractPoints keep sz cap m).1 > 0)) = false) :
    Metric.flat r sm (extractPoints keep sz cap m).1 = [] := by
  have hp : (extractPoints keep sz cap m).1.points = [] := by
    cases hty : m.mmeta.ty == 0 with
    | true => rw [extractPoints_untyped keep sz cap m hty]
    | false =>
      rw [extractPoints_typed keep sz cap m hty] at h ⊢
      cases keep with
      | true => exact nil_of_not_pos h
      | false => exact frag_nil_of_size_not_pos sz m.mmeta _ hty (by simpa using h)
  rw [Metric.flat, hp]; rfl

theorem metricSize0 (m : Metric) : metricSize sz0 m = (m.points.length : Int) := by
  simp only [metricSize, Bool.false_eq_true, if_false]
  exact sumD_count_points m.points

abbrev wtM : MCtx → Int := fun _ => 1

theorem points_sized (cap : Int) (pts : List Item) :
    (walk stop (fitsBy sz0 (pointSize sz0)) cutLeaf ⟨cap, 0⟩ pts).st.rm =
      (pts.length : Int) - ((walk stop (fitsBy sz0 (pointSize sz0)) cutLeaf ⟨cap, 0⟩ pts).rem.length : Int) ∧
    ((walk stop (fitsBy sz0 (pointSize sz0)) cutLeaf ⟨cap, 0⟩ pts).dest.length : Int) ≤ max cap 0 ∧
    ((walk stop (fitsBy sz0 (pointSize sz0)) cutLeaf ⟨cap, 0⟩ pts).dest.length : Int) ≤
      (walk stop (fitsBy sz0 (pointSize sz0)) cutLeaf ⟨cap, 0⟩ pts).st.rm := by
  have hw := walk_sized (cutLeaf_sized sz0 (pointSize sz0) (fun i : Item => [i]) (fun _ => 1))
    (fun i => by simp [wsumBy, isum, pointSize]) ⟨cap, 0⟩ pts
  rw [List.flatMap_singleton', wsumBy_one, sumD_count_points, sumD_count_points, sumD_count_points, Int.sub_zero] at hw
  have h2 : _ ≤ max cap 0 := hw.2.1
  have := Int.le_max_right (walk stop (fitsBy sz0 (pointSize sz0)) cutLeaf ⟨cap, 0⟩ pts).st.cap 0
  exact ⟨hw.1, by omega, hw.2.2⟩

theorem extractPoints_sized (keep : Bool) (r : RMeta) (sm : SMeta) :
    Sized sz0 (metricSize sz0) (Metric.flat r sm) wtM (fun m => if keep then m.points.length > 0 else metricSize sz0 m > 0)
      (extractPoints keep sz0) := by
  have e : ∀ (cap : Int) (mm : MMeta),
      innerCap sz0 cap (metricSize sz0 { mmeta := mm, points := [] }) - (Sizer.delta sz0 cap - cap) = cap := by
    intro cap mm
    simp only [innerCap, delta0, metricSize0, List.length_nil]; omega
  refine ⟨fun cap m => ?_, fun cap m _ => ?_, fun cap m => ?_⟩ <;> cases hty : m.mmeta.ty == 0
  · have := (points_sized cap m.points).1
    rw [extractPoints_typed keep sz0 cap m hty, e]
    simp only [metricSize0]
    omega
  · rw [extractPoints_untyped keep sz0 cap m hty]; exact (Int.sub_zero _).symm
  · rw [extractPoints_typed keep sz0 cap m hty, e, delta0]
    simp only [metricSize0]
    exact (points_sized cap m.points).2.1
  · rw [extractPoints_untyped keep sz0 cap m hty, delta0, metricSize0]; exact Int.le_max_right _ _
  · rw [extractPoints_typed keep sz0 cap m hty, e, wsumBy_one, Metric.flat, List.length_map]
    exact (points_sized cap m.points).2.2
  · rw [extractPoints_untyped keep sz0 cap m hty]; exact Int.le_refl _

theorem metric_wt_le (r : RMeta) (sm : SMeta) (m : Metric) : wsumBy wtM (Metric.flat r sm m) ≤ metricSize sz0 m := by
  rw [wsumBy_one, metricSize0, Metric.flat, List.length_map]; exact Int.le_refl _

theorem mscope_wt_le (r : RMeta) (s : MScope) : wsumBy wtM (MScope.flat r s) ≤ mscopeSize sz0 s := by
  have := wsumBy_flatMap_le sz0 wtM (Metric.flat r s.smeta) (metricSize sz0) (metric_wt_le r s.smeta) s.metrics
  rw [MScope.flat, mscopeSize, own0]; omega

theorem mres_wt_le (r : MRes) : wsumBy wtM (MRes.flat r) ≤ mresSize sz0 r := by
  have := wsumBy_flatMap_le sz0 wtM (MScope.flat r.rmeta) (mscopeSize sz0) (mscope_wt_le r.rmeta) r.scopes
  rw [MRes.flat, mresSize, own0]; omega

theorem metricSize_nonneg (m : Metric) : 0 ≤ metricSize sz0 m := by rw [metricSize0]; exact Int.natCast_nonneg _
theorem mscopeSize_nonneg (s : MScope) : 0 ≤ mscopeSize sz0 s :=
  Int.add_nonneg (own_nonneg _ _) (sumD_nonneg sz0 _ metricSize_nonneg _)
theorem mresSize_nonneg (r : MRes) : 0 ≤ mresSize sz0 r :=
  Int.add_nonneg (own_nonneg _ _) (sumD_nonneg sz0 _ mscopeSize_nonneg _)

theorem metric_nodes_pos (m : Metric) : 0 < m.nodes := by simp [Metric.nodes]; omega
theorem mscope_nodes_pos (s : MScope) : 0 < s.nodes := by simp [MScope.nodes]; omega
theorem mres_nodes_pos (r : MRes) : 0 < r.nodes := by simp [MRes.nodes]; omega

theorem MScope.flat_of_empty (r : RMeta) (s : MScope) (h : decide (s.metrics.length > 0) = false) : MScope.flat r s = [] := by
  rw [MScope.flat, nil_of_not_pos h]; rfl

theorem MRes.flat_of_empty (r : MRes) (h : decide (r.scopes.length > 0) = false) : MRes.flat r = [] := by
  rw [MRes.flat, nil_of_not_pos h]; rfl

theorem extractMScope_moves (keep : Bool) (sz : Sizer) (r : RMeta) :
    Moves (Each (Frag keep)) (MScope.flat r) MScope.nodes (extractMScope keep sz) :=
  mscopeLevel.moves (Frag.seq keep) sz (metricSize sz) (MScope.flat r) (fun s => Metric.flat r s.smeta) (fun _ _ => rfl)
    (fun _ => rfl) MScope.nodes Metric.nodes (fun _ _ => rfl) (fun _ => rfl) metric_nodes_pos
    (fun s => cutBy_moves sz _ _ (extractPoints_moves keep sz r s.smeta) (extractPoints_dropped keep r s.smeta sz))

theorem extractMScope_sized (keep : Bool) (r : RMeta) :
    Sized sz0 (mscopeSize sz0) (MScope.flat r) wtM (fun s => s.metrics.length > 0) (extractMScope keep sz0) :=
  mscopeLevel.sized metricSize_nonneg (MScope.flat r) (fun s => Metric.flat r s.smeta) (fun _ _ => rfl)
    (fun s => metric_wt_le r s.smeta)
    (fun s => cutBy_sized metricSize_nonneg (fun _ => Int.one_nonneg) (extractPoints_sized keep r s.smeta))

theorem extractMRes_moves (keep : Bool) (sz : Sizer) : Moves (Each (Frag keep)) MRes.flat MRes.nodes (extractMRes keep sz) :=
  mresLevel.moves (Frag.seq keep) sz (mscopeSize sz) MRes.flat (fun r => MScope.flat r.rmeta) (fun _ _ => rfl) (fun _ => rfl)
    MRes.nodes MScope.nodes (fun _ _ => rfl) (fun _ => rfl) mscope_nodes_pos
    (fun r => cutBy_moves sz _ _ (extractMScope_moves keep sz r.rmeta) (fun _ _ h => MScope.flat_of_empty _ _ h))

theorem extractMRes_sized (keep : Bool) :
    Sized sz0 (mresSize sz0) MRes.flat wtM (fun r => r.scopes.length > 0) (extractMRes keep sz0) :=
  mresLevel.sized mscopeSize_nonneg MRes.flat (fun r => MScope.flat r.rmeta) (fun _ _ => rfl) (fun r => mscope_wt_le r.rmeta)
    (fun r => cutBy_sized mscopeSize_nonneg (fun _ => Int.one_nonneg) (extractMScope_sized keep r.rmeta))

theorem mextract_moves (keep : Bool) (sz : Sizer) : Moves (Each (Frag keep)) mflatten mnodes (mextract keep sz) :=
  top_moves (Frag.seq keep) (cutBy_moves sz _ _ (extractMRes_moves keep sz) (fun _ _ h => MRes.flat_of_empty _ h))
    mres_nodes_pos sz (mresSize sz)

theorem mextract_sized (keep : Bool) (cap : Int) (p : List MRes) :
    mpayloadSize sz0 (mextract keep sz0 cap p).2.1 = mpayloadSize sz0 p - (mextract keep sz0 cap p).2.2 ∧
    (0 ≤ cap → mpayloadSize sz0 (mextract keep sz0 cap p).1 ≤ cap) ∧
    wsumBy wtM (mflatten (mextract keep sz0 cap p).1) ≤ (mextract keep sz0 cap p).2.2 :=
  top_sized (cutBy_sized mresSize_nonneg (fun _ => Int.one_nonneg) (extractMRes_sized keep)) mres_wt_le cap p

theorem metrics_seqOps (keep : Bool) (sz : Sizer) : SeqOps (Each (Frag keep)) (metricsOps keep sz) mflatten :=
  ⟨(mextract_moves keep sz).seq, fun s d => (top_movesFirst mfMRes_movesFirst s d).eq, fun _ _ => List.flatMap_append,
   fun s d => (top_movesFirst mfMRes_movesFirst s d).one, fun s d => (top_movesFirst mfMRes_movesFirst s d).none⟩

theorem mergeSplit_fifo_metrics (keep : Bool) (sz : Sizer) (max : Int) (r1 : Req (List MRes)) (r2 : Option (Req (List MRes)))
    (out : List (Req (List MRes))) (h : mergeSplit (metricsOps keep sz) max r1 r2 = some out) :
    Each (Frag keep) (flatReqs mflatten out) (mflatten r1.p ++ optFlat mflatten r2) :=
  mergeSplit_fifo (Frag.seq keep) _ mflatten (metrics_seqOps keep sz) (empty_flat MRes.flat OtelVerif.Gen.C04Shape.splitDropsEmptyRemainder) max r1 r2 out h

theorem metrics_shrinks (keep : Bool) (sz : Sizer) : Shrinks (metricsOps keep sz) :=
  ⟨fun cap p => ((mextract_moves keep sz).nodes cap p).1, fun cap p => ((mextract_moves keep sz).nodes cap p).2,
   fun s d => (top_movesFirst mfMRes_movesFirst s d).lt⟩

theorem metrics_sizeExact (keep : Bool) : SizeExact (metricsOps keep sz0) :=
  ⟨fun cap p => (mextract_sized keep cap p).1, fun a b => by simp [metricsOps, mpayloadSize, sumD_append]⟩

theorem metrics_bounded (keep : Bool) : Bounded (metricsOps keep sz0) (fun p => (mflatten p).length) := by
  have hm := (metrics_seqOps keep sz0).heavy List.length (fun _ _ => List.length_append) (fun _ => Nat.le_refl _)
  refine ⟨fun cap p => (mextract_sized keep cap p).2.1, fun cap p h => ?_, hm.1, hm.2⟩
  have h3 := (mextract_sized keep cap p).2.2
  have h' : (mextract keep sz0 cap p).2.2 = 0 := h
  rw [h', wsumBy_one] at h3
  show (mflatten (mextract keep sz0 cap p).1).length = 0
  omega

end OtelVerif.C04

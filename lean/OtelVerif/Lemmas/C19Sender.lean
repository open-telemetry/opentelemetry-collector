import OtelVerif.Model.C19Sender
import OtelVerif.Model.C19Exp
import OtelVerif.Lemmas.C19
/-!
# C19 — the per-call model of `obsReportSender` / `obsQueue` (`Model/C19Sender.lean`) and its link to the counter definitions over the LTS

* the REGENERATED per-signal switches select, for each of traces / metrics / logs, the sent / send-failed / enqueue-failed instrument
  of THAT signal; profiles have no case;
* the regenerated skeletons of `Send`, `endOp`, `toNumItems`, `Offer` and the gauge callbacks have the order the model assumes;
* for every history of flight ends and offer returns the per-call model's totals are the sums by outcome; profiles: always zero;
* folding `endOp` over the ended flights of ANY state of the C03 LTS gives exactly `sentOf` / `failedOf` — the definitions all
  exporter theorems of `Props/C19.lean` are about are thereby DERIVED from the model of the code that writes the counters.
-/
namespace OtelVerif.C19
open OtelVerif.Gen.ExpInstruments OtelVerif.C03

/-- **Instrument selection** (regenerated tables): every case of `newObsReportSender`'s switch assigns the SENT instrument of the
case's own signal to `itemsSentInst` and its SEND-FAILED instrument to `itemsFailedInst`; every case of `newObsQueue`'s switch the
ENQUEUE-FAILED instrument of its own signal; both switches have exactly the cases traces, metrics, logs (no profiles, no duplicate). -/
theorem C19_exporter_instrument_table :
    (∀ r ∈ senderTable, Sig.ofCode r.1 ≠ none ∧ instKind r.2.1 = Sig.ofCode r.1 ∧ instRole r.2.1 = some .sent ∧
        instKind r.2.2 = Sig.ofCode r.1 ∧ instRole r.2.2 = some .sendFailed) ∧
    (∀ r ∈ queueTable, Sig.ofCode r.1 ≠ none ∧ instKind r.2 = Sig.ofCode r.1 ∧ instRole r.2 = some .enqueueFailed) ∧
    senderTable.map (·.1) = [0, 1, 2] ∧ queueTable.map (·.1) = [0, 1, 2] := by decide +kernel

theorem C19_sender_rows (sig : Sig) :
    ((Sender.senderRow sig).isSome = true ↔ sig ≠ .profiles) ∧ ((Sender.queueRow sig).isSome = true ↔ sig ≠ .profiles) := by
  cases sig <;> decide +kernel

/-- **Shape of the code that writes the counters** (regenerated skeletons): the item count is read before the request goes down the
chain / into the queue; `toNumItems` splits by `err != nil`; each `Add` is guarded by `!= nil`; `Offer` counts exactly on error;
the size gauge observes `delegate.Size()` and the CAPACITY gauge `delegate.Capacity()`. -/
theorem C19_sender_shape :
    Sender.countBeforeSend = true ∧ Sender.endOpAdds = true ∧ Sender.toNumItemsSplit = true ∧ Sender.offerCounts = true ∧
    Sender.gaugesObserve = true := by
  refine ⟨by decide +kernel, ?_, ?_, by decide +kernel, ?_⟩
  · simp only [Sender.endOpAdds, endOpSkeleton, List.take_succ_cons, List.take_zero, beq_self_eq_true]
  · simp only [Sender.toNumItemsSplit, toNumItemsSkeleton, beq_self_eq_true]
  · simp only [Sender.gaugesObserve, gaugeCallbacks, beq_self_eq_true]

/-- `endOp` for a recording signal: the count goes to exactly one of sent / send-failed, chosen by the error -/
theorem C19_sender_endOp (sig : Sig) (hs : sig ≠ .profiles) (n : Nat) (f : Bool) (c : Ctr) :
    (Sender.endOp sig n f c).sent = c.sent + (if f then 0 else n) ∧ (Sender.endOp sig n f c).failed = c.failed + (if f then n else 0) ∧
    (Sender.endOp sig n f c).enq = c.enq := by
  cases sig <;> first | exact absurd rfl hs | (cases f <;> simp [Sender.endOp, Sender.senderRow, senderTable, Sig.code, Sender.toNumItems])

theorem C19_sender_offerEnd (sig : Sig) (hs : sig ≠ .profiles) (n : Nat) (r : Bool) (c : Ctr) :
    (Sender.offerEnd sig n r c).enq = c.enq + (if r then n else 0) ∧ (Sender.offerEnd sig n r c).sent = c.sent ∧
    (Sender.offerEnd sig n r c).failed = c.failed := by
  cases sig <;> first | exact absurd rfl hs | (cases r <;> simp [Sender.offerEnd, Sender.queueRow, queueTable, Sig.code])

/-- what one event adds to *sent*, *send-failed*, *enqueue-failed* -/
def sentInc : Sender.Ev → Nat
  | .flightEnd n false => n
  | _ => 0
def failedInc : Sender.Ev → Nat
  | .flightEnd n true => n
  | _ => 0
def enqInc : Sender.Ev → Nat
  | .offerRet n true => n
  | _ => 0

def sentSum (evs : List Sender.Ev) : Nat := sumBy sentInc evs
def failedSum (evs : List Sender.Ev) : Nat := sumBy failedInc evs
def enqSum (evs : List Sender.Ev) : Nat := sumBy enqInc evs

theorem sender_step (sig : Sig) (hs : sig ≠ .profiles) (c : Ctr) (e : Sender.Ev) :
    (Sender.step sig c e).sent = c.sent + sentInc e ∧ (Sender.step sig c e).failed = c.failed + failedInc e ∧
    (Sender.step sig c e).enq = c.enq + enqInc e := by
  cases e with
  | flightEnd n f => have := C19_sender_endOp sig hs n f c; cases f <;> simpa [Sender.step, sentInc, failedInc, enqInc] using this
  | offerRet n r =>
    obtain ⟨e1, e2, e3⟩ := C19_sender_offerEnd sig hs n r c
    cases r <;> simpa [Sender.step, sentInc, failedInc, enqInc] using ⟨e2, e3, e1⟩

theorem sender_fold (sig : Sig) (hs : sig ≠ .profiles) (evs : List Sender.Ev) (c : Ctr) :
    (evs.foldl (Sender.step sig) c).sent = c.sent + sentSum evs ∧ (evs.foldl (Sender.step sig) c).failed = c.failed + failedSum evs ∧
    (evs.foldl (Sender.step sig) c).enq = c.enq + enqSum evs :=
  ⟨foldl_sumBy _ (·.sent) _ (fun c e => (sender_step sig hs c e).1) evs c,
   foldl_sumBy _ (·.failed) _ (fun c e => (sender_step sig hs c e).2.1) evs c,
   foldl_sumBy _ (·.enq) _ (fun c e => (sender_step sig hs c e).2.2) evs c⟩

/-- **Totals of every history** (traces, metrics, logs): sent = items of the passes that ended without error, send-failed = items of
those that ended with an error, enqueue-failed = items of the offers that returned an error — and so sent + send-failed = items of
all passes, whatever the order of the events. -/
theorem C19_sender_totals (sig : Sig) (hs : sig ≠ .profiles) (evs : List Sender.Ev) :
    (Sender.run sig evs).sent = sentSum evs ∧ (Sender.run sig evs).failed = failedSum evs ∧ (Sender.run sig evs).enq = enqSum evs := by
  have := sender_fold sig hs evs {}
  simpa [Sender.run] using this

/-- **Profiles record nothing**, for every history: no counter moves and no item-counter series comes into existence -/
theorem C19_sender_profiles_silent (evs : List Sender.Ev) : Sender.run .profiles evs = {} ∧ (Sender.run .profiles evs).series = 0 := by
  have h : ∀ c, evs.foldl (Sender.step .profiles) c = c := by
    induction evs with
    | nil => intro c; rfl
    | cons e es ih =>
      intro c
      simp only [List.foldl_cons]
      have : Sender.step .profiles c e = c := by
        cases e <;> simp [Sender.step, Sender.endOp, Sender.offerEnd, Sender.senderRow, Sender.queueRow, senderTable, queueTable, Sig.code]
      rw [this]; exact ih c
  have := h {}
  simp only [Sender.run, this]
  exact ⟨trivial, by decide +kernel⟩

/-- the passes through `obsReportSender` that have ended in a state of the C03 LTS: one `flightEnd` per ended flight, carrying the
item count read before the first attempt and whether the final error was non-nil -/
def flightEvs (s : State) : List Sender.Ev :=
  (s.flights.filter (fun fl => fl.st == .done)).map (fun fl => .flightEnd fl.batch.length (!Flight.finalOk fl))

theorem sums_of_flights (fs : List Flight) :
    sentSum ((fs.filter (fun fl => fl.st == .done)).map (fun fl => Sender.Ev.flightEnd fl.batch.length (!Flight.finalOk fl))) =
      ((fs.filter (fun fl => fl.st == .done && Flight.finalOk fl)).map (·.batch.length)).sum ∧
    failedSum ((fs.filter (fun fl => fl.st == .done)).map (fun fl => Sender.Ev.flightEnd fl.batch.length (!Flight.finalOk fl))) =
      ((fs.filter (fun fl => fl.st == .done && !Flight.finalOk fl)).map (·.batch.length)).sum := by
  simp only [sentSum, failedSum]
  induction fs with
  | nil => simp [sumBy]
  | cons fl fs ih =>
    obtain ⟨i1, i2⟩ := ih
    by_cases hd : fl.st = .done
    · cases hk : Flight.finalOk fl <;> simp [hd, hk, sumBy, sentInc, failedInc, i1, i2]
    · have : (fl.st == FSt.done) = false := by simpa using hd
      simp [this, i1, i2]

/-- **The counter definitions over the LTS are what the per-call model of the code computes**: in EVERY state of the C03 LTS, running
`obsReportSender.endOp` once per ended flight (count read before the send, error = the flight's final error) yields exactly
`sentOf` and `failedOf` — for each recording signal. -/
theorem C19_sender_matches_lts (sig : Sig) (hs : sig ≠ .profiles) (s : State) :
    (Sender.run sig (flightEvs s)).sent = sentOf s ∧ (Sender.run sig (flightEvs s)).failed = failedOf s := by
  obtain ⟨h1, h2, _⟩ := C19_sender_totals sig hs (flightEvs s)
  obtain ⟨s1, s2⟩ := sums_of_flights s.flights
  simp only [flightEvs] at h1 h2 ⊢
  rw [h1, h2, s1, s2]
  exact ⟨rfl, rfl⟩

/-- each event adds its items to its own counters and sets its own series flags to `true`: additions commute, setting a flag twice is
setting it once -/
theorem Sender.step_comm (sig : Sig) (c : Ctr) (x y : Sender.Ev) :
    Sender.step sig (Sender.step sig c x) y = Sender.step sig (Sender.step sig c y) x := by
  cases x <;> cases y <;> simp only [Sender.step, Sender.endOp, Sender.offerEnd] <;>
    cases Sender.senderRow sig <;> cases Sender.queueRow sig <;> simp only [] <;>
    (try split) <;> (try split) <;> simp [Nat.add_right_comm]

theorem sender_run_perm (sig : Sig) {a b : List Sender.Ev} (hp : a.Perm b) : Sender.run sig a = Sender.run sig b :=
  hp.foldl_eq' (fun x _ y _ z => Sender.step_comm sig z x y) {}

theorem C19_sender_perm (sig : Sig) (hs : sig ≠ .profiles) {a b : List Sender.Ev} (hp : a.Perm b) :
    (Sender.run sig a).sent = (Sender.run sig b).sent ∧ (Sender.run sig a).failed = (Sender.run sig b).failed ∧
    (Sender.run sig a).enq = (Sender.run sig b).enq := by
  have _hsig := hs  -- not needed: `sender_run_perm` holds for every signal
  rw [sender_run_perm sig hp]; exact ⟨rfl, rfl, rfl⟩

example : (Sender.run .logs [.flightEnd 3 false, .offerRet 4 true, .flightEnd 2 true, .offerRet 1 false]) =
    { sent := 3, failed := 2, enq := 4, tSent := true, tFailed := true, tEnq := true } := by decide +kernel
example : (Sender.run .profiles [.flightEnd 3 false, .offerRet 4 true, .flightEnd 2 true]) = {} := by decide +kernel

end OtelVerif.C19

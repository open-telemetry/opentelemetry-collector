import OtelVerif.Model.C02R
/-! C02: the persistent queue's size accounting across lives (`Model/C02R.lean`).  The operations are first put into the form
`{ s with … }`; the restart is the re-enqueue loop, and what the loop can do to a state is the relation `Reenq`. -/
namespace OtelVerif.C02.R

theorem sizeOf_nonneg (c : RCfg) (n : Nat) : 0 ≤ sizeOf c n := by
  unfold sizeOf; split <;> omega

theorem sizeOf_req (c : RCfg) (n : Nat) (h : c.reqSized = true) : sizeOf c n = 1 := by rw [sizeOf, if_pos h]

theorem backup_eq (c : RCfg) (s : RSt) : ∃ x, backup c s = { s with sSi := x } := by
  unfold backup
  split
  · exact ⟨s.sSi, rfl⟩
  · exact ⟨_, rfl⟩

theorem backup_if_eq (c : RCfg) (b : Prop) [Decidable b] (s : RSt) : ∃ x, (if b then backup c s else s) = { s with sSi := x } := by
  split
  · exact backup_eq c s
  · exact ⟨s.sSi, rfl⟩

theorem writeInternal_eq (c : RCfg) (s : RSt) (id n : Nat) : ∃ x, writeInternal c s id n =
    { s with store := s.store ++ [(s.wi, (id, n))], sWi := some (s.wi + 1), wi := s.wi + 1, size := s.size + sizeOf c n, sSi := x } :=
  backup_if_eq c _ _

theorem writeInternal_fields (c : RCfg) (s : RSt) (id n : Nat) :
    (writeInternal c s id n).size = s.size + sizeOf c n ∧ (writeInternal c s id n).ri = s.ri ∧
    (writeInternal c s id n).wi = s.wi + 1 ∧ (writeInternal c s id n).disp = s.disp ∧
    (writeInternal c s id n).sRi = s.sRi ∧ (writeInternal c s id n).sWi = some (s.wi + 1) ∧
    (writeInternal c s id n).sDi = s.sDi ∧ (writeInternal c s id n).store = s.store ++ [(s.wi, (id, n))] ∧
    (writeInternal c s id n).next = s.next := by
  obtain ⟨x, e⟩ := writeInternal_eq c s id n
  rw [e]
  exact ⟨rfl, rfl, rfl, rfl, rfl, rfl, rfl, rfl, rfl⟩

theorem read_some {c : RCfg} {s s' : RSt} {r : Nat × Nat × Int} (hr : read c s = some (s', r)) :
    s.ri ≠ s.wi ∧ ∃ sz fl, (sz = 0 ∨ sz = s.size) ∧
      s' = { s with ri := s.ri + 1, disp := s.disp ++ [s.ri], sRi := some (s.ri + 1), sDi := s.disp ++ [s.ri], infl := fl, size := sz } := by
  unfold read at hr
  by_cases h1 : s.stopped = true
  · rw [if_pos h1] at hr; cases hr
  · by_cases h2 : s.ri = s.wi
    · rw [if_neg h1, if_pos h2] at hr; cases hr
    · rw [if_neg h1, if_neg h2] at hr
      refine ⟨h2, ?_⟩
      cases hl : s.store.lookup s.ri with
      | none => rw [hl] at hr; cases hr
      | some x =>
        rw [hl] at hr
        cases hr
        dsimp only
        split
        · exact ⟨_, _, Or.inl rfl, rfl⟩
        · exact ⟨_, _, Or.inr rfl, rfl⟩

theorem done_some {c : RCfg} {s s' : RSt} {idx : Nat} {e : Bool} (hd : done c s idx e = some s') :
    0 ≤ s'.size ∧ s'.ri = s.ri ∧ s'.wi = s.wi ∧ s'.sRi = s.sRi ∧ s'.sWi = s.sWi ∧
      (s'.disp = s.disp ∧ s'.sDi = s.sDi ∨ s'.sDi = s'.disp) := by
  unfold done at hd
  cases hl : s.infl.lookup idx with
  | none => rw [hl] at hd; cases hd
  | some el =>
    have hsz : 0 ≤ (if s.size - el < 0 then 0 else s.size - el) := by split <;> omega
    rw [hl] at hd
    cases e with
    | true =>
      obtain rfl := Option.some.inj hd
      exact ⟨hsz, rfl, rfl, rfl, rfl, Or.inl ⟨rfl, rfl⟩⟩
    | false =>
      obtain ⟨x, ex⟩ := backup_if_eq c (s.ri % Gen.PQKeys.readBackupMod = Gen.PQKeys.readBackupRem)
        { s with size := (if s.size - el < 0 then 0 else s.size - el), infl := s.infl.filter (fun x => x.1 != idx),
                 disp := removeSwap s.disp idx, sDi := removeSwap s.disp idx, store := s.store.filter (fun x => x.1 != idx) }
      obtain rfl := (Option.some.inj hd).symm.trans ex
      exact ⟨hsz, rfl, rfl, rfl, rfl, Or.inr rfl⟩

/-- what holds after every operation of every life: the size is never negative, `ri ≤ wi`, and the stored indexes are the
in-memory ones (so that a new life recovers exactly them) -/
structure RInv (s : RSt) : Prop where
  nonneg : 0 ≤ s.size
  le : s.ri ≤ s.wi
  syncR : s.sRi = some s.ri ∨ (s.sRi = none ∧ s.ri = 0)
  syncW : s.sWi = some s.wi ∨ (s.sWi = none ∧ s.wi = 0)
  syncD : s.sDi = s.disp

theorem RInv.init : RInv {} := ⟨Int.le_refl _, Nat.le_refl _, Or.inr ⟨rfl, rfl⟩, Or.inr ⟨rfl, rfl⟩, rfl⟩

theorem RInv.writeInternal {c : RCfg} {s : RSt} (h : RInv s) (id n : Nat) : RInv (writeInternal c s id n) := by
  obtain ⟨x, e⟩ := writeInternal_eq c s id n
  rw [e]
  exact ⟨Int.add_nonneg h.nonneg (sizeOf_nonneg c n), Nat.le_succ_of_le h.le, h.syncR, Or.inl rfl, h.syncD⟩

theorem RInv.offer {c : RCfg} {s : RSt} (h : RInv s) (n : Nat) : RInv (offer c s n).1 := by
  have h0 : RInv { s with next := s.next + 1 } := ⟨h.nonneg, h.le, h.syncR, h.syncW, h.syncD⟩
  unfold R.offer
  dsimp only
  split
  · exact h0
  · exact h0.writeInternal _ _

theorem RInv.read {c : RCfg} {s s' : RSt} {r : Nat × Nat × Int} (h : RInv s) (hr : read c s = some (s', r)) : RInv s' := by
  obtain ⟨hne, sz, fl, hsz, rfl⟩ := read_some hr
  exact ⟨by rcases hsz with e | e <;> rw [e]; exact Int.le_refl _; exact h.nonneg,
    Nat.succ_le_of_lt (Nat.lt_of_le_of_ne h.le hne), Or.inl rfl, h.syncW, rfl⟩

theorem RInv.done {c : RCfg} {s s' : RSt} {idx : Nat} {e : Bool} (h : RInv s) (hd : done c s idx e = some s') : RInv s' := by
  obtain ⟨a1, a2, a3, a4, a5, a6⟩ := done_some hd
  refine ⟨a1, by rw [a2, a3]; exact h.le, by rw [a4, a2]; exact h.syncR, by rw [a5, a3]; exact h.syncW, ?_⟩
  rcases a6 with ⟨e1, e2⟩ | e1
  · rw [e1, e2]; exact h.syncD
  · exact e1

theorem RInv.shutdown {c : RCfg} {s : RSt} (h : RInv s) : RInv (shutdown c s) := by
  obtain ⟨x, e⟩ := backup_eq c s
  unfold R.shutdown
  rw [e]
  exact ⟨h.nonneg, h.le, h.syncR, h.syncW, h.syncD⟩

theorem restartIdx_eq {s : RSt} (h : RInv s) : restartIdx s = (s.ri, s.wi) := by
  unfold restartIdx
  rcases h.syncR with a | ⟨a, a'⟩ <;> rcases h.syncW with b | ⟨b, b'⟩
  · rw [a, b]
  · have a' : s.ri = 0 := Nat.le_zero.mp (by rw [← b']; exact h.le)
    rw [a, b, a', b']
  · rw [a, b, a']
  · rw [a, b, a', b']

theorem restoreSize_eq (c : RCfg) (ri wi : Nat) (si : Option Nat) (h : ¬ (0 < wi - ri ∧ c.reqSized = false)) :
    restoreSize c ri wi si = ((wi - ri : Nat) : Int) := by
  unfold restoreSize
  exact if_neg h

theorem restoreSize_nonneg (c : RCfg) (ri wi : Nat) (si : Option Nat) : 0 ≤ restoreSize c ri wi si := by
  unfold restoreSize
  dsimp only
  split
  · split <;> exact Int.natCast_nonneg _
  · exact Int.natCast_nonneg _

/-- `t` comes from `s` by writing some requests at the back, as the re-enqueue loop does -/
structure Reenq (c : RCfg) (s t : RSt) : Prop where
  ri : t.ri = s.ri
  wi : s.wi ≤ t.wi
  size : s.size ≤ t.size
  same : t.wi = s.wi → t.size = s.size
  disp : t.disp = s.disp
  sRi : t.sRi = s.sRi
  sWi : t.sWi = s.sWi ∧ t.wi = s.wi ∨ t.sWi = some t.wi
  req : c.reqSized = true → t.size - t.wi = s.size - s.wi

theorem Reenq.refl (c : RCfg) (s : RSt) : Reenq c s s :=
  ⟨rfl, Nat.le_refl _, Int.le_refl _, fun _ => rfl, rfl, rfl, Or.inl ⟨rfl, rfl⟩, fun _ => rfl⟩

theorem Reenq.write {c : RCfg} {s t : RSt} {st : List (Nat × (Nat × Nat))} {rest : List Nat} {id n : Nat}
    (h : Reenq c (writeInternal c { s with store := st, sDi := rest } id n) t) : Reenq c s t := by
  obtain ⟨x, e⟩ := writeInternal_eq c { s with store := st, sDi := rest } id n
  rw [e] at h
  obtain ⟨a1, a2, a3, a4, a5, a6, a7, a8⟩ := h
  dsimp only at a2 a3 a4 a7 a8
  refine ⟨a1, Nat.le_of_succ_le a2, Int.le_trans (Int.le_add_of_nonneg_right (sizeOf_nonneg c n)) a3,
    fun h => absurd (h ▸ a2) (Nat.not_succ_le_self _), a5, a6, Or.inr ?_, fun hc => ?_⟩
  · rcases a7 with ⟨b1, b2⟩ | b
    · rw [b1, b2]
    · exact b
  · rw [a8 hc, sizeOf_req c n hc, Int.natCast_add]
    omega

theorem reenqueue_reenq (c : RCfg) : ∀ (l : List Nat) (s : RSt), Reenq c s (reenqueue c s l)
  | [], s => Reenq.refl c s
  | it :: rest, s => by
    rw [reenqueue]
    split
    · have h := reenqueue_reenq c rest { s with sDi := rest }
      exact ⟨h.ri, h.wi, h.size, h.same, h.disp, h.sRi, h.sWi, h.req⟩
    · exact (reenqueue_reenq c rest _).write

theorem reenqueue_sDi (c : RCfg) : ∀ (l : List Nat) (s : RSt), s.sDi = l → (reenqueue c s l).sDi = []
  | [], _, h => h
  | it :: rest, s, _ => by
    rw [reenqueue]
    split
    · exact reenqueue_sDi c rest _ rfl
    · exact reenqueue_sDi c rest _ (writeInternal_fields c _ _ _).2.2.2.2.2.2.1

theorem restart_reenq {c : RCfg} {s : RSt} (h : RInv s) : ∃ s0 : RSt, Reenq c s0 (restart c s) ∧ (restart c s).sDi = [] ∧
    s0.ri = s.ri ∧ s0.wi = s.wi ∧ s0.size = restoreSize c s.ri s.wi s.sSi ∧ s0.disp = [] ∧ s0.sRi = s.sRi ∧ s0.sWi = s.sWi := by
  unfold R.restart
  rw [restartIdx_eq h]
  exact ⟨_, reenqueue_reenq c _ _, reenqueue_sDi c _ _ rfl, rfl, rfl, rfl, rfl, rfl, rfl⟩

theorem RInv.restart {c : RCfg} {s : RSt} (h : RInv s) : RInv (restart c s) := by
  obtain ⟨s0, g, hd, e1, e2, e3, e4, e5, e6⟩ := restart_reenq (c := c) h
  refine ⟨Int.le_trans (e3 ▸ restoreSize_nonneg c s.ri s.wi s.sSi) g.size, by rw [g.ri, e1]; exact Nat.le_trans h.le (e2 ▸ g.wi),
    by rw [g.sRi, g.ri, e5, e1]; exact h.syncR, ?_, by rw [hd, g.disp, e4]⟩
  rcases g.sWi with ⟨b1, b2⟩ | b
  · rw [b1, b2, e6, e2]; exact h.syncW
  · exact Or.inl b

theorem RInv.step {c : RCfg} {s : RSt} (h : RInv s) (o : ROp) : RInv (step c s o).2.1 := by
  cases o with
  | offer n => exact RInv.offer h n
  | read =>
    simp only [R.step]
    cases hr : R.read c s with
    | none => exact h
    | some r => exact RInv.read (r := r.2) h hr
  | done idx e =>
    simp only [R.step]
    cases hd : R.done c s idx e with
    | none => exact h
    | some s' => exact RInv.done h hd
  | shutdown => exact RInv.shutdown h
  | restart c' => exact RInv.restart h

theorem RInv.run {c : RCfg} {s : RSt} (h : RInv s) (ops : List ROp) : RInv (run c s ops).2 := by
  induction ops generalizing c s with
  | nil => exact h
  | cons o os ih => simp only [R.run]; exact ih (RInv.step h o)

theorem restart_req_exact {c : RCfg} (hc : c.reqSized = true) {s : RSt} (h : RInv s) :
    (restart c s).size = (((restart c s).wi - (restart c s).ri : Nat) : Int) := by
  obtain ⟨s0, g, _, e1, e2, e3, _⟩ := restart_reenq (c := c) h
  have e := g.req hc
  rw [e3, restoreSize_eq c s.ri s.wi s.sSi (fun x => by rw [hc] at x; cases x.2), e2, Int.ofNat_sub h.le] at e
  rw [g.ri, e1, Int.ofNat_sub (Nat.le_trans h.le (e2 ▸ g.wi))]
  omega

theorem restart_empty_zero {c : RCfg} {s : RSt} (h : RInv s) (he : (restart c s).wi = (restart c s).ri) :
    (restart c s).size = 0 := by
  obtain ⟨s0, g, _, e1, e2, e3, _⟩ := restart_reenq (c := c) h
  rw [g.ri, e1] at he
  have hw : s.wi = s.ri := Nat.le_antisymm (he ▸ e2 ▸ g.wi) h.le
  rw [g.same (by rw [he, e2, hw]), e3,
    restoreSize_eq c s.ri s.wi s.sSi (fun x => by rw [hw, Nat.sub_self] at x; exact Nat.lt_irrefl 0 x.1), hw, Nat.sub_self]
  rfl

end OtelVerif.C02.R

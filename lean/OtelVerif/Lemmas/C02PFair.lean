import OtelVerif.Lemmas.C02P
import OtelVerif.Lemmas.C02Fair
/-! C02, persistent queue: infinite runs of `pfire` and the fairness hypotheses of its liveness theorems (`PIsRun`, `PSchedFair`, `InternalFrom`;
for the drain `PConsFair`, `DrainFrom`; the argument is `fair_drain` with `proto_drain`, `Lemmas/C02Live.lean`), runs that play a finite schedule -/
namespace OtelVerif.C02

def PStep (k : Cfg) (s : St) (ol : Option Label) (s' : St) : Prop :=
  (ol = none ∧ s' = s) ∨ (∃ l, ol = some l ∧ pfire k s l = some s')

def PIsRun (k : Cfg) (ρ : Nat → St) (lab : Nat → Option Label) : Prop :=
  PReachable k (ρ 0) ∧ ∀ n, PStep k (ρ n) (lab n) (ρ (n+1))

/-- scheduler / mutex fairness, minimal progress: whenever some goroutine can take a step of its own, eventually one does -/
def PSchedFair (k : Cfg) (ρ : Nat → St) (lab : Nat → Option Label) : Prop :=
  ∀ n, ¬ PQuiescent k (ρ n) → ∃ m, n ≤ m ∧ ∃ l, lab m = some l ∧ l.internal = true

def InternalFrom (lab : Nat → Option Label) (n0 : Nat) : Prop :=
  ∀ m, n0 ≤ m → ∀ l, lab m = some l → l.internal = true

/-- the consumers keep working: whenever a request is queued or in flight, eventually one is taken or completed
(the backlog shrinks) -/
def PConsFair (ρ : Nat → St) : Prop :=
  ∀ n, (ρ n).items ≠ [] ∨ (ρ n).inflight ≠ [] → ∃ m, n ≤ m ∧ backlog (ρ (m+1)) < backlog (ρ m)

def DrainFrom (lab : Nat → Option Label) (n0 : Nat) : Prop :=
  ∀ m, n0 ≤ m → ∀ l, lab m = some l → l.drain = true

def pplayStates (k : Cfg) : St → List Label → Nat → St
  | s, _, 0 => s
  | s, [], _+1 => s
  | s, l :: ls, n+1 => match pfire k s l with
    | some s1 => pplayStates k s1 ls n
    | none => s

theorem pplayStates_zero (k : Cfg) (s : St) (ls : List Label) : pplayStates k s ls 0 = s := by cases ls <;> rfl

theorem pplayStates_nil (k : Cfg) (s : St) (n : Nat) : pplayStates k s [] n = s := by cases n <;> rfl

theorem pplayStates_cons (k : Cfg) (s s1 : St) (l : Label) (ls : List Label) (n : Nat) (hf : pfire k s l = some s1) :
    pplayStates k s (l :: ls) (n+1) = pplayStates k s1 ls n := by
  rw [pplayStates, hf]

theorem pplay_step (k : Cfg) (ls : List Label) : ∀ (s : St) (n : Nat), (prunSched k s ls).isSome = true →
    PStep k (pplayStates k s ls n) (playLabs ls n) (pplayStates k s ls (n+1)) :=
  play_step_of (prunSched_cons k) (pplayStates_zero k) (pplayStates_nil k) (pplayStates_cons k) ls

theorem pplay_isRun {k : Cfg} {s : St} {ls : List Label} (hr : PReachable k s) (h : (prunSched k s ls).isSome = true) :
    PIsRun k (pplayStates k s ls) (playLabs ls) :=
  ⟨by rw [pplayStates_zero]; exact hr, fun n => pplay_step k ls s n h⟩

theorem pplay_take (k : Cfg) (ls : List Label) : ∀ (s : St) (n : Nat), (prunSched k s ls).isSome = true →
    prunSched k s (ls.take n) = some (pplayStates k s ls n) :=
  play_take_of (prunSched_cons k) (pplayStates_zero k) (pplayStates_nil k) (pplayStates_cons k) (fun _ => rfl) ls

theorem pplay_after {k : Cfg} {s s' : St} {ls : List Label} (h : prunSched k s ls = some s') (n : Nat) (hn : ls.length ≤ n) :
    pplayStates k s ls n = s' := by
  have h1 := pplay_take k ls s n (by rw [h]; rfl)
  rw [List.take_of_length_le hn, h] at h1
  exact (Option.some.inj h1).symm

end OtelVerif.C02

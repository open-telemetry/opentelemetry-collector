import OtelVerif.Lemmas.C06
import OtelVerif.Gen.FanoutShape
/-! the translated fan-out source (`Gen/FanoutShape.lean`) means what the hand-written model says -/
namespace OtelVerif.C06.Src

theorem callEvs_orig (cs : List Nat) (k : Nat) : callEvs cs .orig k = cs.map (fun c => Ev.call c .orig) := by
  induction cs with
  | nil => rfl
  | cons c cs ih => simp [callEvs, ih]

/-- the loop over all mutating consumers but the last, then the last one: exactly `mutDeliveries` -/
theorem mutDeliveries_evs (L : Bool) (m : List Nat) (k : Nat) :
    (mutDeliveries L m k).map toEv =
      match m.getLast? with
      | none => []
      | some c => callEvs m.dropLast .clone k ++ [Ev.call c (if L then .orig else .clone (k + (m.length - 1)))] := by
  induction m generalizing k with
  | nil => simp [mutDeliveries]
  | cons c rest ih =>
    cases rest with
    | nil => simp [mutDeliveries, toEv, callEvs]
    | cons c' rest' =>
      have := ih (k + 1)
      simp only [mutDeliveries, List.map_cons, this, toEv]
      simp only [List.getLast?_cons_cons, List.dropLast_cons_cons, callEvs]
      cases hl : (c' :: rest').getLast? with
      | none => simp at hl
      | some x =>
        simp only [List.cons_append, List.length_cons]
        have e : k + 1 + (rest'.length + 1 - 1) = k + (rest'.length + 1 + 1 - 1) := by omega
        rw [e]

theorem exec_canon_lists (mu ro : List Nat) (r0 : Bool) :
    (exec canon.consume mu ro ⟨[], 0, r0⟩).evs =
      (mutDeliveries (ro.isEmpty && !r0) mu 0).map toEv ++
        (if decide (ro.length > 1) && !r0 then [Ev.mark] else []) ++ (roDeliveries ro).map toEv := by
  have hro : (roDeliveries ro).map toEv = ro.map (fun c => Ev.call c .orig) := by
    simp [roDeliveries, toEv, Function.comp_def]
  rw [mutDeliveries_evs, hro]
  cases hl : mu.getLast? with
  | none =>
    have hmu : mu = [] := by simpa using hl
    subst hmu  -- no mutating consumer
    cases hm : (decide (ro.length > 1) && !r0) <;> simp [exec, canon, evalB, lstOf, callList, callEvs_orig, hm]
  | some c =>
    have hne : mu ≠ [] := by intro e; simp [e] at hl
    have hpos : mu.length > 0 := List.length_pos_iff.2 hne
    have htake : mu.take (mu.length - 1) = mu.dropLast := (List.dropLast_eq_take).symm
    by_cases hL : (ro.isEmpty && !r0) = true
    · have hL' := hL
      simp only [Bool.and_eq_true, Bool.not_eq_true', List.isEmpty_iff] at hL'
      obtain ⟨hroE, hr0⟩ := hL'
      subst hroE; subst hr0  -- the last one gets the original
      simp [exec, canon, evalB, lstOf, callList, callEvs, hpos, htake, hl, nextAfter]
    · have hLp : ¬ (ro = [] ∧ r0 = false) := by
        intro h; apply hL; simp [h.1, h.2]
      by_cases hm : (decide (ro.length > 1) && !r0) = true
      · -- the last one gets a clone; marking
        have hmp : 1 < ro.length ∧ r0 = false := by simpa using hm
        have hroNe : ro ≠ [] := by intro e; simp [e] at hmp
        simp [exec, canon, evalB, lstOf, callList, callEvs, callEvs_orig, hpos, htake, hl, nextAfter, hmp, hroNe]
      · -- the last one gets a clone; no marking
        have hmp : ¬ (1 < ro.length ∧ r0 = false) := by
          intro h; apply hm; simp [h.1, h.2]
        simp [exec, canon, evalB, lstOf, callList, callEvs, callEvs_orig, hpos, htake, hl, nextAfter, hLp, hmp]

theorem exec_canon (caps : List Bool) (inputRO : Bool) :
    (exec canon.consume (mutableIdx caps) (readonlyIdx caps) ⟨[], 0, inputRO⟩).evs = planEvs caps inputRO := by
  rw [exec_canon_lists]; rfl

theorem evalB_canon_cap (caps : List Bool) (r : Bool) :
    evalB canon.capExp (mutableIdx caps) (readonlyIdx caps) r = fanCap caps := by
  simp only [canon, evalB, lstOf, fanCap]
  cases mutableIdx caps <;> cases readonlyIdx caps <;> simp

theorem part_canon (caps : List Bool) (i : Nat) :
    part canon.part caps i = (idxWhere true caps i, idxWhere false caps i) := by
  induction caps generalizing i with
  | nil => simp [part, idxWhere]
  | cons c cs ih =>
    have := ih (i + 1)
    simp only [canon] at this
    cases c <;> simp [part, canon, idxWhere, this]

theorem runEvs_map (syncW : Nat → Option Nat) (h : Heap) (ds : List Delivery) :
    runEvs syncW h (ds.map toEv) = callAll syncW h ds := by
  induction ds generalizing h with
  | nil => simp [runEvs, callAll]
  | cons d ds ih => simp [runEvs, callAll, toEv, ih]

theorem runEvs_append (syncW : Nat → Option Nat) (h : Heap) (a b : List Ev) :
    runEvs syncW h (a ++ b) =
      ((runEvs syncW (runEvs syncW h a).1 b).1, (runEvs syncW h a).2 ++ (runEvs syncW (runEvs syncW h a).1 b).2) := by
  induction a generalizing h with
  | nil => simp [runEvs]
  | cons e es ih =>
    cases e with
    | mark => simp [runEvs, ih]
    | call c o => simp [runEvs, ih]

theorem runEvs_plan (caps : List Bool) (inputRO : Bool) (c0 : Nat) (syncW : Nat → Option Nat) :
    runEvs syncW { orig := c0, origRO := inputRO } (planEvs caps inputRO) = runFan caps inputRO c0 syncW := by
  simp only [planEvs, runEvs_append, runEvs_map, runFan, heapA]
  cases hm : marksRO caps inputRO <;> simp [runEvs, markRO]

theorem orLoop_eq (acc : Bool) (xs : List Bool) : orLoop acc xs = (acc || xs.any id) := by
  induction xs generalizing acc with
  | nil => simp [orLoop]
  | cons x xs ih => simp [orLoop, ih, Bool.or_assoc]

theorem gen_eq_canon : Gen.FanoutShape.logs = canon ∧ Gen.FanoutShape.metrics = canon ∧
    Gen.FanoutShape.traces = canon ∧ Gen.FanoutShape.profiles = canon := by decide +kernel

example : (exec canon.consume (mutableIdx [true, false, true, false]) (readonlyIdx [true, false, true, false]) ⟨[], 0, false⟩).evs =
    [.call 0 (.clone 0), .call 2 (.clone 1), .mark, .call 1 .orig, .call 3 .orig] := by decide +kernel

end OtelVerif.C06.Src

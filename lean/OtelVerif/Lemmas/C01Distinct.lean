import OtelVerif.Lemmas.C01
/-!
# C01 — identity of requests

A script that offers pairwise different requests has a duplicate-free `accepted` (and blocked offers), so "∀ r ∈ accepted" speaks
about each accepted request separately (`C01_accepted_nodup_of_distinct_offers`).
-/
namespace OtelVerif.C01

/-- the requests a script offers, in order -/
def offeredOf : List Label → List Req
  | [] => []
  | .offer r :: ls => r :: offeredOf ls
  | _ :: ls => offeredOf ls

/-- what has to stay duplicate-free: a blocked offer is accepted later by `wake` -/
def aw (c : Cfg) : List Req := c.accepted ++ waitingOf c

theorem aw_live {c : Cfg} {m : Mem} {pc : Pc} (h : c.ph = .live m pc) : aw c = c.accepted ++ m.waiting := by
  unfold aw waitingOf; rw [h]

theorem aw_plain (c : Cfg) (l : Label) (hl : l.plain) : aw (fire c l) = aw c := by
  unfold aw; rw [(fire_frame c l hl).1, (fire_frame c l hl).2]

theorem cons_eraseIdx_perm {α : Type} : ∀ {l : List α} {j : Nat} {r : α}, l[j]? = some r → (r :: l.eraseIdx j).Perm l
  | [], _, _, h => by simp at h
  | a :: t, 0, r, h => by
    simp at h; subst h; simp
  | a :: t, j + 1, r, h => by
    have ih := cons_eraseIdx_perm (l := t) (j := j) (r := r) (by simpa using h)
    simp only [List.eraseIdx_cons_succ]
    exact (List.Perm.swap a r _).trans (List.Perm.cons a ih)

/-- duplicate-free, and everything comes from the offers seen so far -/
structure DInv (seen : List Req) (c : Cfg) : Prop where
  nodup : (aw c).Nodup
  sub : ∀ r ∈ aw c, r ∈ seen

theorem offeredOf_cons (l : Label) (ls : List Label) : offeredOf (l :: ls) = offeredOf [l] ++ offeredOf ls := by
  cases l <;> rfl

/-- a firing permutes `accepted ++ blocked offers`, drops some of them, and adds at most the request offered -/
theorem aw_fire (c : Cfg) (l : Label) : ∃ t, (aw (fire c l)).Perm t ∧ t.Sublist (offeredOf [l] ++ aw c) := by
  have same : ∀ {c' : Cfg}, aw c' = aw c → ∃ t, (aw c').Perm t ∧ t.Sublist (offeredOf [l] ++ aw c) :=
    fun e => ⟨_, e ▸ .refl _, List.sublist_append_right _ _⟩
  have perm : ∀ {c' : Cfg}, (aw c').Perm (aw c) → ∃ t, (aw c').Perm t ∧ t.Sublist (offeredOf [l] ++ aw c) :=
    fun p => ⟨_, p, List.sublist_append_right _ _⟩
  have idle : ∀ op : Mem → Cfg, (∀ m, c.ph = .live m .idle → ∃ t, (aw (op m)).Perm t ∧ t.Sublist (offeredOf [l] ++ aw c)) →
      ∃ t, (aw (whenIdle c op)).Perm t ∧ t.Sublist (offeredOf [l] ++ aw c) := fun op h =>
    whenIdle_cases (P := fun c' => ∃ t, (aw c').Perm t ∧ t.Sublist (offeredOf [l] ++ aw c)) c op (same rfl) h
  cases l with
  | crash => exact ⟨_, .refl _, List.Sublist.append_left (List.nil_sublist _) _⟩
  | cancel j =>
    rw [fire_cancel]
    refine idle _ fun m heq => ?_
    exact ⟨_, .refl _, by rw [aw_live heq]; exact List.Sublist.append_left (List.eraseIdx_sublist _ _) _⟩
  | promote j =>
    rw [fire_promote]
    refine idle _ fun m heq => ?_
    fun_cases doPromote c m j
    · exact same rfl
    · next r hr => exact perm (by rw [aw_live heq]; exact List.Perm.append_left _ (cons_eraseIdx_perm hr))
  | wake =>
    rw [fire_wake]
    refine idle _ fun m heq => ?_
    fun_cases doWake c m
    · exact same rfl
    · next r rest hw _ =>
      exact perm (by rw [aw_live heq, hw]; exact List.Perm.append_left _ (List.perm_append_singleton r rest))
    · next r rest hw _ => exact perm (by rw [aw_live heq, hw]; exact (List.perm_middle).symm)
  | offer r =>
    rw [fire_offer]
    refine idle _ fun m heq => ?_
    have e0 : aw c = c.accepted ++ m.waiting := aw_live heq
    fun_cases doOffer c m r
    · fun_cases doOfferFull c m r
      · exact same rfl
      · exact same rfl
      · refine ⟨_, ?_, List.Sublist.refl _⟩
        rw [e0]
        exact (List.Perm.append_left _ (List.perm_append_singleton r m.waiting)).trans List.perm_middle
    · exact ⟨_, by rw [e0]; exact .refl _, List.Sublist.refl _⟩
  | _ => exact same (aw_plain c _ trivial)

theorem dinv_step {seen : List Req} {c : Cfg} (h : DInv seen c) (l : Label) (hl : ∀ r ∈ offeredOf [l], r ∉ seen) :
    DInv (offeredOf [l] ++ seen) (fire c l) := by
  obtain ⟨t, hp, hs⟩ := aw_fire c l
  refine ⟨hp.nodup_iff.mpr (hs.nodup ?_), fun r hr => ?_⟩
  · exact List.nodup_append.mpr ⟨by cases l <;> simp [offeredOf], h.nodup, fun a ha b hb e => hl a ha (e ▸ h.sub b hb)⟩
  · exact (List.mem_append.mp (hs.subset (hp.subset hr))).elim (List.mem_append_left _) fun hr => List.mem_append_right _ (h.sub r hr)

theorem dinv_foldl (ls : List Label) : ∀ (seen : List Req) (c : Cfg), DInv seen c → (offeredOf ls).Nodup →
    (∀ r ∈ offeredOf ls, r ∉ seen) → ∃ seen', DInv seen' (ls.foldl fire c) := by
  induction ls with
  | nil => exact fun seen _ h _ _ => ⟨seen, h⟩
  | cons l ls ih =>
    intro seen c h hn hs
    rw [offeredOf_cons] at hn hs
    obtain ⟨_, hn2, hdis⟩ := List.nodup_append.mp hn
    refine ih _ _ (dinv_step h l fun r hr => hs r (List.mem_append_left _ hr)) hn2 ?_
    intro x hx hm
    rcases List.mem_append.mp hm with hm | hm
    · exact hdis x hm x hx rfl
    · exact hs x (List.mem_append_right _ hx) hm

theorem accepted_nodup_of_distinct_offers (k : Conf) (ls : List Label) (h : (offeredOf ls).Nodup) :
    (run k ls).accepted.Nodup := by
  obtain ⟨seen, d⟩ := dinv_foldl ls [] (init k) ⟨by simp [aw, init, waitingOf], by intro r hr; simp [aw, init, waitingOf] at hr⟩ h
    (by intro r _ hm; cases hm)
  exact (List.nodup_append.mp d.nodup).1

end OtelVerif.C01

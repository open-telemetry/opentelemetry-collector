import OtelVerif.Lemmas.C10
/-!
# C10: an accepted service HAS topological orders

`topo.Sort` is a parameter of the C10 theorems: their `IsTopo` hypotheses (bundled as `Sys.Admissible` in `Props/C10.lean`).  They are
satisfiable for every service `newService` accepts: the peeling that models gonum's success condition (`C09.sortable`, `extSortable`; both
are `gpeel` of `Lemmas/C09Peel.lean`) itself yields a topological order (`gpeel_order`) and succeeds whenever one exists (`gpeel_complete`);
both are about `gpeel` alone and stand here for Model/C10's `Before`/`IsTopo`.  With the two case lemmas of `newService`.  Core Lean only.
-/
namespace OtelVerif.C10
open OtelVerif.C09

section
variable {ι α : Type} [DecidableEq α] {key : ι → α} {dp : ι → List α} {items : List ι}

theorem gpeel_spec (hnd : (items.map key).Nodup) : ∀ k : Nat,
    (gpeel key dp items k).Nodup ∧ (∀ a, a ∈ gpeel key dp items k → a ∈ items.map key) ∧
    ∀ e, e ∈ items → key e ∈ gpeel key dp items k → ∀ d, d ∈ dp e → Before (gpeel key dp items k) d (key e) := by
  intro k
  induction k with
  | zero => exact ⟨List.nodup_nil, fun a h => (by cases h), fun e _ h => (by cases h)⟩
  | succ k ih =>
    obtain ⟨ih1, ih2, ih3⟩ := ih
    obtain ⟨fresh, heq, hsub, hmem⟩ := gpeelStep_eq key dp items (gpeel key dp items k)
    rw [gpeel, heq]
    -- no duplicates: fresh keys are a sublist of the distinct keys (`hsub`) and are not in `done` (`hmem`)
    refine ⟨List.nodup_append.mpr ⟨ih1, hnd.sublist hsub, fun a ha b hb hab => ((hmem b).mp hb).1 (hab ▸ ha)⟩,
      fun a h => (List.mem_append.mp h).elim (ih2 a) (fun h => hsub.subset h), fun e he hm d hd => ?_⟩
    by_cases hin : key e ∈ gpeel key dp items k
    · exact before_append_left _ (ih3 e he hin d hd)
    · have hm' := (List.mem_append.mp hm).resolve_left hin
      obtain ⟨_, e', he', hid, hdeps⟩ := (hmem _).mp hm'
      cases eq_of_nodup_map hnd he' he hid
      exact before_append_mid (hdeps d hd) hm'

theorem gpeel_idx {order : List α} (ht : IsTopo (items.map key) (gEdges key dp items) order) :
    ∀ (k : Nat) (e : ι), e ∈ items → List.idxOf (key e) order < k → key e ∈ gpeel key dp items k := by
  intro k
  induction k with
  | zero => intro e _ h; cases h
  | succ k ih =>
    intro e he hlt
    refine mem_gpeel_succ.mpr (Or.inr ⟨e, he, rfl, fun d hd => ?_⟩)
    have hb := ht.fwd d (key e) (mem_gEdges.mpr ⟨e, he, hd, rfl⟩)
    obtain ⟨x, hx, rfl⟩ := List.mem_map.mp ((ht.mem d).mp hb.mem_left)
    exact ih x hx (by have := hb.idxOf_lt ht.nodup; omega)

theorem gpeel_order (hnd : (items.map key).Nodup) (h : ∀ e, e ∈ items → key e ∈ gpeel key dp items items.length) :
    IsTopo (items.map key) (gEdges key dp items) (gpeel key dp items items.length) := by
  obtain ⟨h1, h2, h3⟩ := gpeel_spec (dp := dp) hnd items.length
  refine ⟨h1, fun a => ⟨h2 a, fun ha => ?_⟩, fun a b hab => ?_⟩
  · obtain ⟨e, he, rfl⟩ := List.mem_map.mp ha
    exact h e he
  · obtain ⟨e, he, hd, rfl⟩ := mem_gEdges.mp hab
    exact h3 e he (h e he) a hd

theorem gpeel_complete {order : List α} (ht : IsTopo (items.map key) (gEdges key dp items) order) {e : ι} (he : e ∈ items) :
    key e ∈ gpeel key dp items items.length := by
  have hmem : key e ∈ order := (ht.mem _).mpr (List.mem_map_of_mem he)
  have hlen : order.length ≤ items.length := by
    simpa using ht.nodup.length_le_of_subset (fun x hx => (ht.mem x).mp hx)
  exact gpeel_mono (gpeel_idx ht _ e he (List.idxOf_lt_length_of_mem hmem)) hlen

end

/-! ## component graph: the successors of a node are its dependencies, so the order is the reverse of the peeling order -/

theorem isTopo_of_sortable (E : List (Node × Node)) (ns : List Node) (hnd : ns.Nodup)
    (hsrc : ∀ a b, (a, b) ∈ E → a ∈ ns)
    (h : sortable (succOf E) ns = true) :
    IsTopo ns E (peel (succOf E) ns ns.length).reverse := by
  have ht := gpeel_order (key := id) (dp := succOf E) (by simpa using hnd) (fun n hn => peel_eq .. ▸ sortable_mem h hn)
  rw [peel_eq]
  exact ⟨List.pairwise_reverse.mpr (ht.nodup.imp Ne.symm), fun n => by simp [ht.mem n],
    fun a b hab => before_reverse (ht.fwd b a (mem_gEdges.mpr ⟨a, hsrc a b hab, mem_succOf.mpr hab, rfl⟩))⟩

theorem isTopo_of_build {cfg : Cfg} (h : build cfg = none) :
    IsTopo (nodes cfg) (edges cfg) (peel (succOf (edges cfg)) (nodes cfg) (nodes cfg).length).reverse :=
  isTopo_of_sortable _ _ (nodup_dedup _) (fun _ _ hab => (edge_mem_nodes hab).1) (build_eq_none.mp h).2

/-! ## extension dependency graph (`extEdges exts` is `gEdges Ext.id Ext.deps exts` by definition) -/

theorem extPeel_eq (exts : List Ext) (k : Nat) : extPeel exts k = gpeel Ext.id Ext.deps exts k := by
  induction k with
  | zero => rfl
  | succ k ih => simp only [extPeel, extPeelStep, gpeel, gpeelStep, ih]

theorem mem_extEdges {exts : List Ext} {e : Ext} {d : Nat} (he : e ∈ exts) (hd : d ∈ e.deps) : (d, e.id) ∈ extEdges exts :=
  mem_gEdges.mpr ⟨e, he, hd, rfl⟩

theorem extSortable_iff {exts : List Ext} :
    extSortable exts = true ↔ ∀ e, e ∈ exts → e.id ∈ gpeel Ext.id Ext.deps exts exts.length := by
  simp only [extSortable, List.all_eq_true, decide_eq_true_eq, extPeel_eq]

theorem isTopo_of_extSortable (exts : List Ext) (hnd : (exts.map (·.id)).Nodup)
    (h : extSortable exts = true) :
    IsTopo (exts.map (·.id)) (extEdges exts) (extPeel exts exts.length) := by
  rw [extPeel_eq]
  exact gpeel_order hnd (extSortable_iff.mp h)

theorem newService_eq_none {cfg : Cfg} {exts : List Ext} :
    newService cfg exts = none ↔ build cfg = none ∧ extMissing exts = false ∧ extSortable exts = true := by
  simp only [newService]
  cases build cfg with
  | some e => cases e <;> simp
  | none => cases extMissing exts <;> cases extSortable exts <;> simp

theorem newService_of_build {cfg : Cfg} (h : build cfg = none) (exts : List Ext) :
    newService cfg exts = if extMissing exts then some .extMissing else if !(extSortable exts) then some .extCycle else none := by
  simp only [newService, h]

theorem extSortable_of_isTopo (exts : List Ext) (order : List Nat)
    (ht : IsTopo (exts.map (·.id)) (extEdges exts) order) :
    extMissing exts = false ∧ extSortable exts = true := by
  constructor
  · rw [Bool.eq_false_iff]
    intro hm
    simp only [extMissing, List.any_eq_true, Bool.not_eq_true', Bool.eq_false_iff, ne_eq, beq_iff_eq] at hm
    obtain ⟨e, he, d, hd, hno⟩ := hm
    have hdm : d ∈ exts.map (·.id) := (ht.mem d).mp (ht.fwd d e.id (mem_extEdges he hd)).mem_left
    obtain ⟨x, hx, hxd⟩ := List.mem_map.mp hdm
    exact hno ⟨x, hx, hxd⟩
  · exact extSortable_iff.mpr (fun _ he => gpeel_complete ht he)

end OtelVerif.C10

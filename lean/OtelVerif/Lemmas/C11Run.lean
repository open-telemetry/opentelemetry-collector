import OtelVerif.Model.C11
import OtelVerif.Lemmas.Basic
/-! # C11 — `step` / `run` / `runState`, the ring, the reporter's map -/
namespace OtelVerif.C11

theorem step_illegal_noop (cur s : St) (h : allowed cur s = false) : step cur (.status s) = (cur, Option.none) := by
  simp [step, transition, h]

theorem step_legal_moves (cur s : St) (h : allowed cur s = true) : step cur (.status s) = (s, some s) := by
  simp [step, transition, h]

theorem step_ok_only_if_starting (cur : St) :
    (cur ≠ .starting → step cur .okIfStarting = (cur, Option.none)) ∧
    (cur = .starting → step cur .okIfStarting = (.ok, some .ok)) := by
  constructor
  · intro h; simp [step, h]
  · intro h; subst h; decide

theorem step_fst (cur : St) (r : Report) : (step cur r).1 = (step cur r).2.getD cur := by
  cases r with
  | status s => simp only [step, transition]; split <;> rfl
  | okIfStarting =>
    simp only [step, transition]
    split
    · split <;> rfl
    · rfl

theorem step_none_state (c : St) (rep : Report) (h : (step c rep).2 = Option.none) : (step c rep).1 = c := by
  rw [step_fst, h]; rfl

theorem step_some {cur : St} {r : Report} {e : St} (h : (step cur r).2 = some e) :
    allowed cur e = true ∧ (r = .status e ∨ (r = .okIfStarting ∧ cur = .starting ∧ e = .ok)) := by
  cases r with
  | status s =>
    simp only [step, transition] at h
    split at h
    · cases h; exact ⟨‹_›, Or.inl rfl⟩
    · cases h
  | okIfStarting =>
    simp only [step, transition] at h
    split at h
    · split at h
      · cases h; exact ⟨by subst cur; assumption, Or.inr ⟨rfl, ‹_›, rfl⟩⟩
      · cases h
    · cases h

theorem run_cons (cur : St) (r : Report) (rs : List Report) :
    run cur (r :: rs) = match (step cur r).2 with
      | some e => e :: run e rs
      | Option.none => run cur rs := by
  rw [run, step_fst]
  cases (step cur r).2 <;> rfl

theorem run_none_illegal (s : St) (hs : s ≠ .starting) (rs : List Report) : run .none (.status s :: rs) = run .none rs := by
  cases s with
  | starting => exact absurd rfl hs
  | _ => rfl

theorem runState_append (cur : St) (a b : List Report) : runState cur (a ++ b) = runState (runState cur a) b := by
  induction a generalizing cur with
  | nil => rfl
  | cons x xs ih => exact ih _

theorem run_events_append (cur : St) (a b : List Report) : run cur (a ++ b) = run cur a ++ run (runState cur a) b := by
  induction a generalizing cur with
  | nil => rfl
  | cons x xs ih =>
    simp only [List.cons_append, run, runState]
    cases (step cur x).2 <;> simp [ih]

theorem run_single (cur e : St) : run cur [Report.status e] = (transition cur e).2.toList := by
  simp only [run, step]
  cases (transition cur e).2 <;> rfl

theorem run_terminal (q : St) (hq : q = .fatal ∨ q = .stopped) (l : List Report) : run q l = [] := by
  induction l with
  | nil => rfl
  | cons r rs ih =>
    have hno : ∀ s, allowed q s = false := by rcases hq with rfl | rfl <;> intro s <;> cases s <;> decide
    have hst : step q r = (q, Option.none) := by
      cases r with
      | status s => exact step_illegal_noop q s (hno s)
      | okIfStarting => exact (step_ok_only_if_starting q).1 (by rcases hq with rfl | rfl <;> decide)
    simp only [run, hst]; exact ih

theorem runState_mem (cur : St) (R : List Report) : runState cur R = cur ∨ runState cur R ∈ run cur R := by
  induction R generalizing cur with
  | nil => exact Or.inl rfl
  | cons r rs ih =>
    simp only [runState, run]
    rw [step_fst]
    cases (step cur r).2 with
    | none => exact ih cur
    | some e => exact Or.inr ((ih e).elim (fun h => by simp [h]) (fun h => by simp [h]))

theorem not_allowed_none (a : St) : allowed a .none = false := by cases a <;> rfl

theorem stopping_cases (q : St) :
    allowed q .stopping = true ∨ q = .none ∨ q = .stopping ∨ q = .fatal ∨ q = .stopped := by cases q <;> decide

theorem runState_ne_none (cur : St) (R : List Report) (h : cur ≠ .none) : runState cur R ≠ .none := by
  induction R generalizing cur with
  | nil => exact h
  | cons r rs ih =>
    apply ih
    rw [step_fst]
    cases he : (step cur r).2 with
    | none => exact h
    | some e => intro e0; have := (step_some he).1; rw [show e = St.none from e0, not_allowed_none] at this; cases this

theorem pushRing_fit (cap : Nat) (ring : List St) (e : St) (h : ring.length < cap) : pushRing cap ring e = ring ++ [e] := by
  simp only [pushRing, List.length_append, List.length_cons, List.length_nil]
  have : ring.length + (0 + 1) - cap = 0 := by omega
  simp [this]

theorem lastN_of_length_le {n : Nat} {l : List St} (h : l.length ≤ n) : lastN n l = l := by
  rw [lastN, Nat.sub_eq_zero_of_le h]; rfl

theorem pushRing_lastN (cap : Nat) (h : List St) (e : St) : pushRing cap (lastN cap h) e = lastN cap (h ++ [e]) := by
  simp only [pushRing, lastN, List.drop_append, List.drop_drop, List.length_append, List.length_drop, List.length_singleton]
  congr 2 <;> omega

theorem Reporter.cur_set_same (r : Reporter) (i : Inst) (s : St) : (r.set i s).cur i = s := by
  simp [Reporter.cur, Reporter.set]

theorem Reporter.cur_set_other (r : Reporter) (i j : Inst) (s : St) (h : j ≠ i) : (r.set i s).cur j = r.cur j := by
  have hne : (j == i) = false := by simpa using h
  simp only [Reporter.cur, Reporter.set, List.lookup, hne, lookup_filter_ne _ h]

end OtelVerif.C11

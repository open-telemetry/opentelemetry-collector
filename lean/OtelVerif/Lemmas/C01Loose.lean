import OtelVerif.Lemmas.C01
/-!
# C01 — the invariant that survives failing storage calls, on the error-free machine

Under errors the in-memory state may run ahead of the stored one (`readIndex` advanced although the dequeue batch failed; `di` in
storage lists indexes the in-memory list no longer has or, after a skipped recovery, never had).  `InvR c drp` is what stays true:
every accepted request is settled (finalised, or in the ghost list `drp` of requests given up) or recoverable from storage; whatever
the next write of `di` will forget (`keep`) and the next write of `ri` will skip (`skipped`) is settled already.

Proved once per store step (`InvR.putB`, `.getB`, `.delB`, `.setDi`); batches and operations are compositions.  Every label of `fire`
keeps it from ANY state that satisfies it, also one only reachable through storage errors (`invR_fire`); with `drp = []` its `main` is
the no-loss statement.  The failing calls: Lemmas/C01Err.lean; what the error-free machine adds: Lemmas/C01Inv.lean.
-/
namespace OtelVerif.C01

/-- the owner (if any) of the item stored under `j` is settled: finalised, or given up -/
def OS (s : Store) (fin drp : List Req) (j : Nat) : Prop :=
  ∀ r, s.items j = some r → r ∈ fin ∨ r ∈ drp

/-- the list the next write of `di` is computed from -/
def KL (s : Store) (m : Mem) : Pc → List Nat
  | .init1 => s.di
  | .init2 => s.di
  | .init3 _ => s.di
  | .moving todo => todo.map Prod.fst
  | .movingBackup todo => todo.map Prod.fst
  | .idle => m.cdi
  | .backup => m.cdi
  | .readRet _ _ => m.cdi
  | .readFin _ => m.cdi
  | .readLoop => m.cdi
  | .fin1 _ _ => m.cdi
  | .fin2 _ _ => m.cdi
  | .fin3 _ _ => m.cdi

def MovInvE (s : Store) (m : Mem) (todo : List (Nat × Option Req)) : Prop :=
  (∀ p ∈ todo, p.1 ∈ s.di ∧ s.items p.1 = p.2) ∧ (todo.map Prod.fst).Nodup ∧ m.cdi = [] ∧ m.outst = []

def PcInvE (s : Store) (fin drp : List Req) (m : Mem) : Pc → Prop
  | .idle => True
  | .backup => True
  | .readLoop => True
  | .readRet i r => s.items i = some r ∧ i ∈ m.cdi
  | .readFin i => s.items i = none
  | .fin1 i _ => OS s fin drp i ∧ i ∉ m.cdi
  | .fin2 i _ => OS s fin drp i ∧ i ∉ m.cdi
  | .fin3 i _ => OS s fin drp i ∧ i ∉ m.cdi
  | .init1 => m.cdi = [] ∧ m.outst = []
  | .init2 => m.cdi = [] ∧ m.outst = []
  | .init3 ds => ds = s.di ∧ m.cdi = [] ∧ m.outst = []
  | .moving todo => MovInvE s m todo
  | .movingBackup todo => MovInvE s m todo

structure LiveInvE (s : Store) (fin drp : List Req) (m : Mem) (pc : Pc) : Prop where
  wi : m.wi = s.W
  riLe : s.R ≤ m.ri
  riWi : m.ri ≤ m.wi
  skipped : ∀ j, s.R ≤ j → j < m.ri → OS s fin drp j
  cdiLt : ∀ j ∈ m.cdi, j < s.R
  cdiNodup : m.cdi.Nodup
  outst : ∀ p ∈ m.outst, s.items p.1 = some p.2 ∧ p.1 ∈ m.cdi
  keep : ∀ j ∈ s.di, j ∈ KL s m pc ∨ OS s fin drp j
  pc : PcInvE s fin drp m pc

theorem MovInvE.listed {s : Store} {m : Mem} {todo : List (Nat × Option Req)} (h : MovInvE s m todo) :
    ∀ p ∈ todo, p.1 ∈ s.di ∧ s.items p.1 = p.2 := h.1
theorem MovInvE.nodup {s : Store} {m : Mem} {todo : List (Nat × Option Req)} (h : MovInvE s m todo) :
    (todo.map Prod.fst).Nodup := h.2.1
theorem MovInvE.cdi {s : Store} {m : Mem} {todo : List (Nat × Option Req)} (h : MovInvE s m todo) : m.cdi = [] := h.2.2.1
theorem MovInvE.outst {s : Store} {m : Mem} {todo : List (Nat × Option Req)} (h : MovInvE s m todo) : m.outst = [] := h.2.2.2

theorem LiveInvE.mov {s : Store} {fin drp : List Req} {m : Mem} {todo : List (Nat × Option Req)}
    (hl : LiveInvE s fin drp m (.moving todo)) : MovInvE s m todo := hl.pc

structure InvR (c : Cfg) (drp : List Req) : Prop where
  st : StInvE c.st
  main : ∀ r ∈ c.accepted, (r ∈ c.finalised ∨ r ∈ drp) ∨ Recoverable c.st r
  live : ∀ m pc, c.ph = .live m pc → LiveInvE c.st c.finalised drp m pc

theorem InvR.mkLive {c : Cfg} {drp : List Req} {m : Mem} {pc : Pc} (hph : c.ph = .live m pc) (st : StInvE c.st)
    (main : ∀ r ∈ c.accepted, (r ∈ c.finalised ∨ r ∈ drp) ∨ Recoverable c.st r)
    (lv : LiveInvE c.st c.finalised drp m pc) : InvR c drp :=
  ⟨st, main, by intro m2 pc2 heq; rw [hph] at heq; cases heq; exact lv⟩

theorem InvR.mkDead {c : Cfg} {drp : List Req} (hph : c.ph = .dead) (st : StInvE c.st)
    (main : ∀ r ∈ c.accepted, (r ∈ c.finalised ∨ r ∈ drp) ∨ Recoverable c.st r) : InvR c drp :=
  ⟨st, main, by intro m2 pc2 heq; rw [hph] at heq; cases heq⟩

theorem OS.mono {s s' : Store} {fin fin' drp drp' : List Req} {j : Nat} (h : OS s fin drp j)
    (hit : ∀ r, s'.items j = some r → s.items j = some r)
    (hf : ∀ r, r ∈ fin → r ∈ fin') (hd : ∀ r, r ∈ drp → r ∈ drp') : OS s' fin' drp' j := by
  intro r hr
  rcases h r (hit r hr) with h1 | h1
  · left; exact hf r h1
  · right; exact hd r h1

/-- `KL` reads `s.di` and `m.cdi` only -/
theorem KL_congr {s s' : Store} {m m' : Mem} (hd : s'.di = s.di) (hc : m'.cdi = m.cdi) (pc : Pc) :
    KL s' m' pc = KL s m pc := by
  cases pc <;> first | exact hd | exact hc | rfl

/-- `PcInvE` reads `s.items`, `s.di`, `m.cdi`, `m.outst` only, and is monotone in `drp` -/
theorem PcInvE.transport {s s' : Store} {fin drp drp' : List Req} {m m' : Mem} {pc : Pc} (hi : s'.items = s.items)
    (hd : s'.di = s.di) (hc : m'.cdi = m.cdi) (ho : m'.outst = m.outst) (hdr : ∀ r, r ∈ drp → r ∈ drp')
    (h : PcInvE s fin drp m pc) : PcInvE s' fin drp' m' pc := by
  cases pc with
  | idle | backup | readLoop => trivial
  | readRet i r => exact ⟨by rw [hi]; exact h.1, by rw [hc]; exact h.2⟩
  | readFin i => show s'.items i = none; rw [hi]; exact h
  | fin1 i k | fin2 i k | fin3 i k =>
    exact ⟨h.1.mono (fun r e => by rw [← hi]; exact e) (fun _ e => e) hdr, by rw [hc]; exact h.2⟩
  | init1 | init2 => exact ⟨hc.trans h.1, ho.trans h.2⟩
  | init3 ds => exact ⟨h.1.trans hd.symm, hc.trans h.2.1, ho.trans h.2.2⟩
  | moving todo | movingBackup todo =>
    exact ⟨fun p hp => by rw [hi, hd]; exact h.1 p hp, h.2.1, hc.trans h.2.2.1, ho.trans h.2.2.2⟩

/-- a step that leaves the store alone: memory, pc, `finalised`, `drp` may move -/
theorem LiveInvE.mem_step {s : Store} {fin drp fin' drp' : List Req} {m m' : Mem} {pc pc' : Pc}
    (hl : LiveInvE s fin drp m pc)
    (hf : ∀ r, r ∈ fin → r ∈ fin') (hd : ∀ r, r ∈ drp → r ∈ drp')
    (hwi : m'.wi = m.wi) (hri1 : m.ri ≤ m'.ri) (hri2 : m'.ri ≤ m'.wi)
    (hskip : ∀ j, m.ri ≤ j → j < m'.ri → OS s fin' drp' j)
    (hcdi : ∀ j ∈ m'.cdi, j ∈ m.cdi) (hnd : m'.cdi.Nodup)
    (hout : ∀ p ∈ m'.outst, s.items p.1 = some p.2 ∧ p.1 ∈ m'.cdi)
    (hkeep : ∀ j ∈ s.di, j ∈ KL s m pc → j ∈ KL s m' pc' ∨ OS s fin' drp' j)
    (hpc : PcInvE s fin' drp' m' pc') : LiveInvE s fin' drp' m' pc' := by
  refine ⟨by rw [hwi]; exact hl.wi, Nat.le_trans hl.riLe hri1, hri2, ?_, fun j hj => hl.cdiLt j (hcdi j hj), hnd, hout, ?_, hpc⟩
  · intro j h1 h2
    by_cases hj : j < m.ri
    · exact (hl.skipped j h1 hj).mono (fun _ h => h) hf hd
    · exact hskip j (by omega) h2
  · intro j hj
    rcases hl.keep j hj with h | h
    · exact hkeep j hj h
    · right; exact h.mono (fun _ h => h) hf hd

theorem LiveInvE.restate {s : Store} {fin drp : List Req} {m m' : Mem} {pc pc' : Pc} (hl : LiveInvE s fin drp m pc)
    (hwi : m'.wi = m.wi) (hri : m'.ri = m.ri) (hcdi : m'.cdi = m.cdi)
    (hout : ∀ p ∈ m'.outst, s.items p.1 = some p.2 ∧ p.1 ∈ m.cdi)
    (hk : KL s m' pc' = KL s m pc) (hp : PcInvE s fin drp m' pc') : LiveInvE s fin drp m' pc' :=
  ⟨by rw [hwi]; exact hl.wi, by rw [hri]; exact hl.riLe, by rw [hri, hwi]; exact hl.riWi, by rw [hri]; exact hl.skipped,
   by rw [hcdi]; exact hl.cdiLt, by rw [hcdi]; exact hl.cdiNodup, by rw [hcdi]; exact hout, by rw [hk]; exact hl.keep, hp⟩

theorem LiveInvE.waiting {s : Store} {fin drp : List Req} {m : Mem} {pc : Pc} (hl : LiveInvE s fin drp m pc)
    (w : List Req) : LiveInvE s fin drp { m with waiting := w } pc :=
  hl.restate rfl rfl rfl hl.outst (KL_congr rfl rfl pc) (hl.pc.transport rfl rfl rfl rfl fun _ h => h)

theorem LiveInvE.setSi {s : Store} {fin drp : List Req} {m : Mem} {pc : Pc} (hl : LiveInvE s fin drp m pc)
    (v : Nat) : LiveInvE (s.setSi v) fin drp m pc :=
  ⟨hl.wi, hl.riLe, hl.riWi, hl.skipped, hl.cdiLt, hl.cdiNodup, hl.outst,
   by intro j hj; rcases hl.keep j hj with h | h
      · left; rw [KL_congr (s' := s.setSi v) (m' := m) rfl rfl pc]; exact h
      · right; exact h,
   hl.pc.transport rfl rfl rfl rfl fun _ h => h⟩

theorem LiveInvE.repc {s : Store} {fin drp : List Req} {m : Mem} {pc pc' : Pc} (hl : LiveInvE s fin drp m pc)
    (hk : KL s m pc' = KL s m pc) (hp : PcInvE s fin drp m pc') : LiveInvE s fin drp m pc' :=
  hl.restate rfl rfl rfl hl.outst hk hp

/-! ### the store steps (`finB cdi i = (delB i).setDi cdi`) -/

theorem InvR.delB {c : Cfg} {drp : List Req} {m : Mem} {pc pc' : Pc} (h : InvR c drp)
    (hl : LiveInvE c.st c.finalised drp m pc) {i : Nat}
    (hown : ∀ q, c.st.items i = some q → (q ∈ c.finalised ∨ q ∈ drp) ∨ Recoverable (c.st.delB i) q)
    (hni : ∀ p ∈ m.outst, p.1 ≠ i) (hk : KL c.st m pc' = KL c.st m pc)
    (hp : PcInvE (c.st.delB i) c.finalised drp m pc') : InvR { c with st := c.st.delB i, ph := .live m pc' } drp := by
  have hit : ∀ j q, (c.st.delB i).items j = some q → c.st.items j = some q := by
    intro j q hq
    by_cases hj : j = i
    · subst hj; simp at hq
    · rw [delB_items, upd_ne _ _ hj] at hq; exact hq
  have hkl : KL (c.st.delB i) m pc' = KL c.st m pc := by rw [← hk]; cases pc' <;> rfl
  refine InvR.mkLive rfl ⟨h.st.opt, h.st.le, h.st.dlt, h.st.nodup⟩ ?_
    ⟨hl.wi, hl.riLe, hl.riWi, ?_, hl.cdiLt, hl.cdiNodup, ?_, ?_, hp⟩
  · intro q hq
    rcases h.main q hq with hf | ⟨j, hj, hc⟩
    · exact Or.inl hf
    · by_cases hji : j = i
      · subst hji; exact hown q hj
      · exact Or.inr ⟨j, by rw [delB_items, upd_ne _ _ hji]; exact hj, hc⟩
  · intro j h1 h2; exact (hl.skipped j h1 h2).mono (hit j) (fun _ h => h) (fun _ h => h)
  · intro p hp'
    obtain ⟨h1, h2⟩ := hl.outst p hp'
    exact ⟨by rw [delB_items, upd_ne _ _ (hni p hp')]; exact h1, h2⟩
  · intro j hj
    rw [hkl]
    rcases hl.keep j hj with hk1 | hk1
    · exact Or.inl hk1
    · exact Or.inr (hk1.mono (hit j) (fun _ h => h) (fun _ h => h))

theorem InvR.setDi {c : Cfg} {drp : List Req} {m : Mem} {pc pc' : Pc} (h : InvR c drp)
    (hl : LiveInvE c.st c.finalised drp m pc) {l : List Nat} (hkeep : ∀ j ∈ KL c.st m pc, j ∈ l ∨ OS c.st c.finalised drp j) (hlt : ∀ j ∈ l, j < c.st.R)
    (hnd : l.Nodup) (hk : KL (c.st.setDi l) m pc' = l) (hp : PcInvE (c.st.setDi l) c.finalised drp m pc') :
    InvR { c with st := c.st.setDi l, ph := .live m pc' } drp := by
  refine InvR.mkLive rfl ⟨h.st.opt, h.st.le, hlt, hnd⟩ ?_
    ⟨hl.wi, hl.riLe, hl.riWi, hl.skipped, hl.cdiLt, hl.cdiNodup, hl.outst, ?_, hp⟩
  · intro q hq
    rcases h.main q hq with hf | ⟨j, hj, hd | hr⟩
    · exact Or.inl hf
    · rcases hl.keep j hd with hk1 | hk1
      · rcases hkeep j hk1 with hk2 | hk2
        · exact Or.inr ⟨j, hj, Or.inl hk2⟩
        · exact Or.inl (hk2 q hj)
      · exact Or.inl (hk1 q hj)
    · exact Or.inr ⟨j, hj, Or.inr hr⟩
  · intro j hj; left; rw [hk]; exact hj

theorem InvR.finB {c : Cfg} {drp : List Req} {m : Mem} {pc pc' : Pc} (h : InvR c drp)
    (hl : LiveInvE c.st c.finalised drp m pc) {i : Nat} (hos : OS c.st c.finalised drp i) (hni : i ∉ m.cdi) (hk : KL c.st m pc = m.cdi)
    (hk' : KL (c.st.finB m.cdi i) m pc' = m.cdi) (hp : PcInvE (c.st.finB m.cdi i) c.finalised drp m pc') :
    InvR { c with st := c.st.finB m.cdi i, ph := .live m pc' } drp := by
  -- between the two halves any pc with `PcInvE = True` and `KL = m.cdi` will do
  have h1 : InvR { c with st := c.st.delB i, ph := .live m .readLoop } drp :=
    h.delB hl (fun q hq => Or.inl (hos q hq)) (fun p hp' e => hni (e ▸ (hl.outst p hp').2)) hk.symm trivial
  exact h1.setDi (h1.live _ _ rfl) (fun j hj => Or.inl hj) hl.cdiLt hl.cdiNodup hk' hp

theorem InvR.putB {c : Cfg} {drp : List Req} {m : Mem} {pc pc' : Pc} (h : InvR c drp)
    (hl : LiveInvE c.st c.finalised drp m pc) (r : Req) {sz : Nat} {acc : List Req}
    (hacc : ∀ q ∈ acc, q = r ∨ q ∈ c.accepted)
    (hk : KL (c.st.putB m.wi r) { m with wi := m.wi + 1, size := sz } pc' = KL c.st m pc)
    (hp : PcInvE (c.st.putB m.wi r) c.finalised drp { m with wi := m.wi + 1, size := sz } pc') :
    InvR { c with st := c.st.putB m.wi r, accepted := acc, ph := .live { m with wi := m.wi + 1, size := sz } pc' } drp := by
  have hw := hl.wi
  have hle := h.st.le
  have hriLe := hl.riLe
  have hriWi := hl.riWi
  have hR := putB_R h.st.opt c.st.W r
  have hit : ∀ j q, j < c.st.W → (c.st.putB c.st.W r).items j = some q → c.st.items j = some q := by
    intro j q hj hq; rw [putB_items, upd_ne _ _ (by omega)] at hq; exact hq
  have e : c.st.putB m.wi r = c.st.putB c.st.W r := by rw [hw]
  rw [e] at hk hp ⊢
  refine InvR.mkLive rfl (h.st.putB r) ?main
    { wi := by simp [hw], riLe := by rw [hR]; exact hriLe, riWi := by dsimp only; omega, cdiNodup := hl.cdiNodup, pc := hp,
      skipped := ?skipped, cdiLt := ?cdiLt, outst := ?outst, keep := ?keep }
  case main =>
    intro q hq
    rcases hacc q hq with rfl | hq
    · right; exact Recoverable.putB_new h.st q
    · rcases h.main q hq with hf | hrec
      · left; exact hf
      · right; exact hrec.putB_old h.st r
  case skipped =>
    intro j h1 h2
    rw [hR] at h1
    dsimp only at h2
    exact (hl.skipped j h1 h2).mono (fun q => hit j q (by omega)) (fun _ h => h) (fun _ h => h)
  case cdiLt =>
    intro j hj; rw [hR]; exact hl.cdiLt j hj
  case outst =>
    intro p hp
    obtain ⟨h1, h2⟩ := hl.outst p hp
    have := hl.cdiLt p.1 h2
    exact ⟨by rw [putB_items, upd_ne _ _ (by omega)]; exact h1, h2⟩
  case keep =>
    intro j hj
    rw [putB_di] at hj
    have hjR := h.st.dlt j hj
    rw [hk]
    rcases hl.keep j hj with h1 | h1
    · exact Or.inl h1
    · exact Or.inr (h1.mono (fun q => hit j q (by omega)) (fun _ h => h) (fun _ h => h))

theorem InvR.getB {c : Cfg} {drp : List Req} {m : Mem} {pc pc' : Pc} (h : InvR c drp)
    (hl : LiveInvE c.st c.finalised drp m pc) (hk : KL c.st m pc = m.cdi) (hne : m.ri ≠ m.wi) {sz : Nat}
    (hk' : KL (c.st.getB (m.ri + 1) (m.cdi ++ [m.ri])) { m with ri := m.ri + 1, cdi := m.cdi ++ [m.ri], size := sz } pc'
      = m.cdi ++ [m.ri])
    (hp : PcInvE (c.st.getB (m.ri + 1) (m.cdi ++ [m.ri])) c.finalised drp
      { m with ri := m.ri + 1, cdi := m.cdi ++ [m.ri], size := sz } pc') {calls : Nat} {res : Res} :
    InvR { c with calls := calls, st := c.st.getB (m.ri + 1) (m.cdi ++ [m.ri]),
                  ph := .live { m with ri := m.ri + 1, cdi := m.cdi ++ [m.ri], size := sz } pc', res := res } drp := by
  have hw := hl.wi
  have hriLe := hl.riLe
  have hriWi := hl.riWi
  have hRW : c.st.R < c.st.W := by omega
  have hR' : (c.st.getB (m.ri + 1) (m.cdi ++ [m.ri])).R = m.ri + 1 := getB_R hRW _ _
  have hlt : ∀ j ∈ m.cdi ++ [m.ri], j < m.ri + 1 := by
    intro j hj
    rcases List.mem_append.mp hj with hj | hj
    · have := hl.cdiLt j hj; omega
    · rw [List.mem_singleton.mp hj]; exact Nat.lt_succ_self _
  have hnd : (m.cdi ++ [m.ri]).Nodup := by
    refine List.nodup_append.mpr ⟨hl.cdiNodup, by simp, ?_⟩
    intro a ha b hb e
    rw [List.mem_singleton.mp hb] at e
    have := hl.cdiLt a ha
    omega
  refine InvR.mkLive rfl { opt := ?opt, le := by rw [hR', getB_W]; omega, dlt := by rw [hR']; exact hlt, nodup := hnd } ?main
    { wi := hw, riLe := by rw [hR']; exact Nat.le_refl _, riWi := by show m.ri + 1 ≤ m.wi; omega,
      cdiLt := by rw [hR']; exact hlt, cdiNodup := hnd, pc := hp, skipped := ?skipped, outst := ?outst, keep := ?keep }
  case opt =>
    intro hwn
    have : c.st.W = 0 := by unfold Store.W; rw [show c.st.wi = none from hwn]; rfl
    omega
  case main =>
    intro q hq
    rcases h.main q hq with hf | ⟨j, hj, hd | ⟨h1, h2⟩⟩
    · exact Or.inl hf
    · rcases hl.keep j hd with hk1 | hk1
      · rw [hk] at hk1
        exact Or.inr ⟨j, hj, Or.inl (List.mem_append_left _ hk1)⟩
      · exact Or.inl (hk1 q hj)
    · by_cases hjr : j < m.ri
      · exact Or.inl (hl.skipped j h1 hjr q hj)
      · refine Or.inr ⟨j, hj, ?_⟩
        by_cases hje : j = m.ri
        · exact Or.inl (List.mem_append_right _ (List.mem_singleton.mpr hje))
        · right; rw [hR', getB_W]; omega
  case skipped =>
    intro j h1 h2
    rw [hR'] at h1
    have h2 : j < m.ri + 1 := h2
    omega
  case outst =>
    intro p hp'
    obtain ⟨h1, h2⟩ := hl.outst p hp'
    exact ⟨h1, List.mem_append_left _ h2⟩
  case keep =>
    intro j hj
    left; rw [hk']; exact hj

/-- steps that only touch fields the invariant does not read (`res`, `calls`) -/
theorem InvR.same {c c' : Cfg} {drp : List Req} (h : InvR c drp) (hst : c'.st = c.st) (hph : c'.ph = c.ph)
    (ha : c'.accepted = c.accepted) (hf : c'.finalised = c.finalised) : InvR c' drp :=
  ⟨by rw [hst]; exact h.st, by rw [ha, hf, hst]; exact h.main,
   by intro m pc heq; rw [hph] at heq; rw [hst, hf]; exact h.live m pc heq⟩

/-! ### the operations -/

theorem invR_doPut {c : Cfg} {drp : List Req} {m : Mem} {pc0 : Pc} (h : InvR c drp)
    (hl : LiveInvE c.st c.finalised drp m pc0) (hk : KL c.st m pc0 = m.cdi) (r : Req) : InvR (doPut c m r) drp :=
  (h.putB hl r (acc := r :: c.accepted) (sz := m.size + c.k.sizeof r)
    (pc' := if writeBackupDue c.k (m.wi + 1) then .backup else .idle)
    (fun q hq => List.mem_cons.mp hq) (by rw [hk]; split <;> rfl) (by split <;> trivial)).same rfl rfl rfl rfl

theorem invR_doOfferFull {c : Cfg} {drp : List Req} {m : Mem} (h : InvR c drp) (hph : c.ph = .live m .idle) (r : Req) :
    InvR (doOfferFull c m r) drp := by
  have hl := h.live m _ hph
  fun_cases doOfferFull c m r
  · exact h.same rfl rfl rfl rfl
  · exact h.same rfl rfl rfl rfl
  · exact InvR.mkLive rfl h.st h.main (hl.waiting _)

theorem invR_doOffer {c : Cfg} {drp : List Req} {m : Mem} (h : InvR c drp) (hph : c.ph = .live m .idle) (r : Req) :
    InvR (doOffer c m r) drp := by
  fun_cases doOffer c m r
  · exact invR_doOfferFull h hph r
  · exact invR_doPut h (h.live m _ hph) rfl r

theorem invR_doWake {c : Cfg} {drp : List Req} {m : Mem} (h : InvR c drp) (hph : c.ph = .live m .idle) :
    InvR (doWake c m) drp := by
  have hl := h.live m _ hph
  fun_cases doWake c m
  · exact h
  · exact InvR.mkLive rfl h.st h.main (hl.waiting _)
  · exact invR_doPut h (hl.waiting _) rfl _

theorem invR_doRead {c : Cfg} {drp : List Req} {m : Mem} {pc0 : Pc} (h : InvR c drp)
    (hl : LiveInvE c.st c.finalised drp m pc0) (hk : KL c.st m pc0 = m.cdi) : InvR (doRead c m) drp := by
  have hidle : LiveInvE c.st c.finalised drp m .idle := hl.repc (by rw [hk]; rfl) trivial
  fun_cases doRead c m
  · exact InvR.mkLive rfl h.st h.main hidle
  · exact InvR.mkLive rfl h.st h.main hidle
  · next _ he cdi' m' =>
      dsimp only [cdi', m']
      cases hitem : c.st.items m.ri with
      | none => exact h.getB (pc' := .readFin m.ri) hl hk he rfl hitem
      | some r =>
        exact h.getB (pc' := .readRet m.ri r) hl hk he rfl ⟨hitem, List.mem_append_right _ (List.mem_singleton.mpr rfl)⟩

/-- `Done(final)` half-way: the index is off the in-memory list, the completion batch still due (pc `fin2`).  The error-free `doDone`
    passes through here (`InvR.finish`); a failed completion batch stops here (Lemmas/C01Err.lean). -/
theorem invR_done_unlisted {c : Cfg} {drp : List Req} {m : Mem} (h : InvR c drp) (hl : LiveInvE c.st c.finalised drp m .idle)
    {i : Nat} {r : Req} (hlook : m.outst.lookup i = some r) :
    InvR { c with finalised := r :: c.finalised,
                  ph := .live { m with outst := m.outst.filter (fun p => p.1 != i), size := m.size - c.k.sizeof r,
                                       cdi := swapRemove m.cdi i } (.fin2 i .done), res := .doneOk } drp := by
  obtain ⟨hit, hicdi⟩ := hl.outst (i, r) (mem_of_lookup hlook)
  dsimp only at hit hicdi
  have hf : ∀ q, q ∈ c.finalised → q ∈ r :: c.finalised := fun q hq => List.mem_cons_of_mem _ hq
  have hos : OS c.st (r :: c.finalised) drp i := by
    intro q hq; left
    have : q = r := by rw [hit] at hq; injection hq with e; exact e.symm
    rw [this]; exact List.mem_cons_self
  refine InvR.mkLive rfl h.st ?_ ?_
  · intro q hq
    rcases h.main q hq with (h1 | h1) | h1
    · left; left; exact hf q h1
    · left; right; exact h1
    · right; exact h1
  · refine hl.mem_step hf (fun _ h => h) rfl (Nat.le_refl _) hl.riWi (fun j h1 h2 => by dsimp only at h2; omega)
      (fun j hj => mem_of_mem_swapRemove _ _ _ hj) (swapRemove_nodup _ _ hl.cdiNodup) ?_ ?_
      ⟨hos, not_mem_swapRemove_of_nodup _ _ hl.cdiNodup⟩
    · intro p hp
      obtain ⟨hp1, hp2⟩ := List.mem_filter.mp hp
      have hne : p.1 ≠ i := by simpa using hp2
      obtain ⟨h1, h2⟩ := hl.outst p hp1
      exact ⟨h1, mem_swapRemove_of_ne _ _ _ h2 hne⟩
    · intro j _ hj
      by_cases hji : j = i
      · right; rw [hji]; exact hos
      · left; exact mem_swapRemove_of_ne _ _ _ hj hji

/-- the same half-way point for an index under which the dequeue batch found nothing -/
theorem invR_readFin_unlisted {c : Cfg} {drp : List Req} {m : Mem} {i : Nat} (h : InvR c drp)
    (hl : LiveInvE c.st c.finalised drp m (.readFin i)) :
    InvR { c with ph := .live { m with cdi := swapRemove m.cdi i } (.fin2 i .read) } drp := by
  have hnone : c.st.items i = none := hl.pc
  refine InvR.mkLive rfl h.st h.main ?_
  refine hl.mem_step (fun _ h => h) (fun _ h => h) rfl (Nat.le_refl _) hl.riWi (fun j h1 h2 => by dsimp only at h2; omega)
    (fun j hj => mem_of_mem_swapRemove _ _ _ hj) (swapRemove_nodup _ _ hl.cdiNodup) ?_ ?_
    ⟨(fun q hq => by rw [hnone] at hq; cases hq), not_mem_swapRemove_of_nodup _ _ hl.cdiNodup⟩
  · intro p hp
    obtain ⟨h1, h2⟩ := hl.outst p hp
    have hne : p.1 ≠ i := by intro e; rw [e, hnone] at h1; cases h1
    exact ⟨h1, mem_swapRemove_of_ne _ _ _ h2 hne⟩
  · intro j _ hj
    by_cases hji : j = i
    · right; intro q hq; rw [hji, hnone] at hq; cases hq
    · left; exact mem_swapRemove_of_ne _ _ _ hj hji

theorem KL_finCont (s : Store) (k : Conf) (m : Mem) (fk : FinK) : KL s m (finCont k m fk) = m.cdi := by
  cases fk with
  | read => rfl
  | done => simp only [finCont]; split <;> rfl

theorem pcInvE_finCont (s : Store) (fin drp : List Req) (k : Conf) (m : Mem) (fk : FinK) :
    PcInvE s fin drp m (finCont k m fk) := by
  cases fk with
  | read => trivial
  | done => simp only [finCont]; split <;> trivial

theorem InvR.finish {c : Cfg} {drp : List Req} {m : Mem} {i : Nat} {fk : FinK} (h : InvR c drp)
    (hph : c.ph = .live m (.fin2 i fk)) :
    InvR { c with st := c.st.finB m.cdi i, ph := .live m (finCont c.k m fk) } drp := by
  obtain ⟨hos, hni⟩ : OS c.st c.finalised drp i ∧ i ∉ m.cdi := (h.live m _ hph).pc
  exact h.finB (h.live m _ hph) hos hni rfl (KL_finCont _ _ _ _) (pcInvE_finCont _ _ _ _ _ _)

theorem invR_doDone {c : Cfg} {drp : List Req} {m : Mem} (h : InvR c drp) (hph : c.ph = .live m .idle) (i : Nat)
    (oc : Outcome) : InvR (doDone c m i oc) drp := by
  have hl := h.live m _ hph
  unfold doDone
  split
  · exact h.same rfl rfl rfl rfl
  · next r hlook =>
    cases oc with
    | shutdownErr =>
      dsimp only
      exact InvR.mkLive rfl h.st h.main
        (hl.restate rfl rfl rfl (fun p hp => hl.outst p (List.mem_filter.mp hp).1) rfl trivial)
    | final => exact ((invR_done_unlisted h hl hlook).finish rfl).same rfl rfl rfl rfl

theorem invR_doShutdown {c : Cfg} {drp : List Req} {m : Mem} (h : InvR c drp) (hph : c.ph = .live m .idle) :
    InvR (doShutdown c m) drp := by
  have hl := h.live m _ hph
  unfold doShutdown
  cases hk : c.k.reqSized with
  | true =>
    simp only [if_true]
    exact InvR.mkLive rfl h.st h.main (hl.restate rfl rfl rfl hl.outst rfl trivial)
  | false =>
    simp only [Bool.false_eq_true, if_false]
    exact InvR.mkLive rfl (h.st.setSi _) (fun q hq => h.main q hq) ((hl.setSi _).restate rfl rfl rfl hl.outst rfl trivial)

theorem invR_doStart {c : Cfg} {drp : List Req} (h : InvR c drp) : InvR (doStart c) drp := by
  unfold doStart
  refine InvR.mkLive rfl h.st h.main ⟨rfl, Nat.le_refl _, h.st.le, ?_, ?_, List.nodup_nil, ?_, fun j hj => Or.inl hj, ⟨rfl, rfl⟩⟩
  · intro j h1 h2; dsimp only at h1 h2; omega
  · intro j hj; simp at hj
  · intro p hp; simp at hp

theorem liveE_afterMove {s : Store} {fin drp : List Req} {m : Mem} {rest : List (Nat × Option Req)}
    (hl : LiveInvE s fin drp m (.moving rest)) : LiveInvE s fin drp m (afterMove rest) := by
  cases rest with
  | cons p t => exact hl
  | nil =>
    exact hl.repc (by simp only [afterMove, KL, List.map_nil]; exact hl.mov.cdi) trivial

theorem invR_doGetDi {c : Cfg} {drp : List Req} {m : Mem} {pc0 : Pc} (h : InvR c drp)
    (hl : LiveInvE c.st c.finalised drp m pc0) (hk : KL c.st m pc0 = c.st.di) (hc : m.cdi = []) (ho : m.outst = []) :
    InvR (doGetDi c m) drp := by
  fun_cases doGetDi c m
  · next hd =>
    refine InvR.mkLive rfl h.st h.main ?_
    exact hl.repc (by rw [hk, hd]; show m.cdi = []; exact hc) trivial
  · next d ds hd =>
    refine InvR.mkLive rfl h.st h.main ?_
    exact hl.repc (by rw [hk]; rfl) ⟨hd.symm, hc, ho⟩

theorem InvR.repc {c : Cfg} {drp : List Req} {m : Mem} {pc pc' : Pc} (h : InvR c drp) (hph : c.ph = .live m pc)
    (hk : KL c.st m pc' = KL c.st m pc) (hp : PcInvE c.st c.finalised drp m pc') :
    InvR { c with ph := .live m pc' } drp :=
  InvR.mkLive rfl h.st h.main ((h.live m pc hph).repc hk hp)

theorem InvR.afterMove {c : Cfg} {drp : List Req} {m : Mem} {rest : List (Nat × Option Req)} (h : InvR c drp)
    (hph : c.ph = .live m (.moving rest)) : InvR { c with ph := .live m (afterMove rest) } drp :=
  InvR.mkLive rfl h.st h.main (liveE_afterMove (h.live m _ hph))

theorem finB_of_none {s : Store} {i : Nat} (h : s.items i = none) (l : List Nat) : s.finB l i = s.setDi l := by
  have : upd s.items i none = s.items := by
    funext j
    unfold upd
    split
    · next e => rw [e, h]
    · rfl
  unfold Store.finB
  rw [this]
  rfl

theorem InvR.moveNone {c : Cfg} {drp : List Req} {m : Mem} {i : Nat} {rest : List (Nat × Option Req)} (h : InvR c drp)
    (hph : c.ph = .live m (.moving ((i, none) :: rest))) :
    InvR { c with st := c.st.setDi (rest.map Prod.fst), ph := .live m (.moving rest) } drp := by
  have hl := h.live m _ hph
  have hm := hl.mov
  have hnd' : (rest.map Prod.fst).Nodup := (List.nodup_cons.mp hm.nodup).2
  refine h.setDi hl ?_ ?_ hnd' rfl ⟨?_, hnd', hm.cdi, hm.outst⟩
  · intro j hj
    have hj : j ∈ i :: rest.map Prod.fst := hj
    rcases List.mem_cons.mp hj with e | hj
    · right; intro q hq; rw [e, (hm.listed (i, none) List.mem_cons_self).2] at hq; cases hq
    · left; exact hj
  · intro j hj
    obtain ⟨p, hp, rfl⟩ := List.mem_map.mp hj
    exact h.st.dlt _ (hm.listed p (List.mem_cons_of_mem _ hp)).1
  · intro p hp
    exact ⟨List.mem_map_of_mem hp, (hm.listed p (List.mem_cons_of_mem _ hp)).2⟩

/-- `moveB w r i rest` is `putB w r`, `delB i`, `setDi rest` in one call -/
theorem invR_doMove {c : Cfg} {drp : List Req} {m : Mem} {todo : List (Nat × Option Req)} (h : InvR c drp)
    (hph : c.ph = .live m (.moving todo)) : InvR (doMove c m todo) drp := by
  have hl := h.live m _ hph
  have hmv := hl.mov
  fun_cases doMove c m todo
  · exact (h.afterMove hph).same rfl rfl rfl rfl
  · next i rest =>
    rw [finB_of_none (hmv.listed (i, none) List.mem_cons_self).2]
    exact ((h.moveNone hph).afterMove rfl).same rfl rfl rfl rfl
  · next i r rest m' =>
    obtain ⟨hidi, hir⟩ := hmv.listed (i, some r) List.mem_cons_self
    have hiR := h.st.dlt i hidi
    have hle := h.st.le
    have hw := hl.wi
    have hR := putB_R h.st.opt m.wi r
    have h1 : InvR { c with st := c.st.putB m.wi r,
                            ph := .live { m with wi := m.wi + 1, size := m.size + c.k.sizeof r } (.moving ((i, some r) :: rest)) } drp := by
      refine h.putB hl r (fun q hq => Or.inr hq) rfl ⟨?_, hmv.nodup, hmv.cdi, hmv.outst⟩
      intro p hp
      obtain ⟨hd, hv⟩ := hmv.listed p hp
      have := h.st.dlt p.1 hd
      exact ⟨hd, by rw [putB_items, upd_ne _ _ (by omega)]; exact hv⟩
    have h2 : InvR { c with st := (c.st.putB m.wi r).delB i,
                            ph := .live { m with wi := m.wi + 1, size := m.size + c.k.sizeof r } (.moving ((i, none) :: rest)) } drp := by
      refine h1.delB (h1.live _ _ rfl) ?_ (by intro p hp; rw [hmv.outst] at hp; cases hp) rfl ⟨?_, hmv.nodup, hmv.cdi, hmv.outst⟩
      · intro q hq
        have hq : (c.st.putB m.wi r).items i = some q := hq
        rw [putB_items, upd_ne _ _ (by omega), hir] at hq
        injection hq with hq
        subst hq
        refine Or.inr ⟨m.wi, by rw [delB_items, upd_ne _ _ (by omega), putB_items, upd_same], Or.inr ?_⟩
        rw [delB_R, delB_W, hR, putB_W]; omega
      · intro p hp
        rcases List.mem_cons.mp hp with rfl | hp'
        · exact ⟨hidi, by rw [delB_items, upd_same]⟩
        · have hm : p.1 ∈ rest.map Prod.fst := List.mem_map_of_mem hp'
          have hne : p.1 ≠ i := fun e => (List.nodup_cons.mp hmv.nodup).1 (e ▸ hm)
          obtain ⟨hd, hv⟩ := (h1.live _ _ rfl).mov.listed p (List.mem_cons_of_mem _ hp')
          exact ⟨hd, by rw [delB_items, upd_ne _ _ hne]; exact hv⟩
    have h3 := h2.moveNone rfl
    split
    · exact (h3.repc (pc' := .movingBackup rest) rfl rfl (h3.live _ _ rfl).pc).same rfl rfl rfl rfl
    · exact (h3.afterMove rfl).same rfl rfl rfl rfl

theorem invR_doTick {c : Cfg} {drp : List Req} {m : Mem} {pc : Pc} (h : InvR c drp) (hph : c.ph = .live m pc) :
    InvR (doTick c m pc) drp := by
  have hl := h.live m pc hph
  cases pc with
  | idle => exact h
  | backup =>
    simp only [doTick]
    exact InvR.mkLive rfl (h.st.setSi _) (fun q hq => h.main q hq) ((hl.setSi _).repc rfl trivial)
  | readRet i r =>
    obtain ⟨hit, hic⟩ : c.st.items i = some r ∧ i ∈ m.cdi := hl.pc
    simp only [doTick]
    refine InvR.mkLive rfl h.st h.main (hl.restate rfl rfl rfl ?_ rfl trivial)
    intro p hp
    dsimp only at hp
    rw [List.mem_cons] at hp
    rcases hp with rfl | hp
    · exact ⟨hit, hic⟩
    · exact hl.outst p hp
  | readFin i => exact ((invR_readFin_unlisted h hl).finish rfl).same rfl rfl rfl rfl
  | readLoop =>
    exact invR_doRead h hl rfl
  | init1 =>
    obtain ⟨hc, ho⟩ : m.cdi = [] ∧ m.outst = [] := hl.pc
    simp only [doTick]
    split
    · exact InvR.mkLive rfl h.st h.main (hl.restate rfl rfl rfl hl.outst rfl ⟨hc, ho⟩)
    · exact invR_doGetDi h hl rfl hc ho
  | init2 =>
    obtain ⟨hc, ho⟩ : m.cdi = [] ∧ m.outst = [] := hl.pc
    exact invR_doGetDi h hl rfl hc ho
  | init3 ds =>
    obtain ⟨hds, hc, ho⟩ : ds = c.st.di ∧ m.cdi = [] ∧ m.outst = [] := hl.pc
    simp only [doTick]
    refine InvR.mkLive rfl h.st h.main ?_
    have hmap : (ds.map (fun i => (i, c.st.items i))).map Prod.fst = c.st.di := by
      rw [List.map_map, ← hds]
      show List.map (fun i => i) ds = ds
      simp
    refine hl.repc (by show _ = c.st.di; exact hmap) ⟨?_, by rw [hmap]; exact h.st.nodup, hc, ho⟩
    intro p hp
    obtain ⟨j, hj, rfl⟩ := List.mem_map.mp hp
    exact ⟨by rw [← hds]; exact hj, rfl⟩
  | moving todo => exact invR_doMove h hph
  | movingBackup todo =>
    simp only [doTick]
    have hl2 : LiveInvE (c.st.setSi m.size) c.finalised drp m (.moving todo) := (hl.setSi _).repc rfl (hl.setSi _).pc
    exact InvR.mkLive rfl (h.st.setSi _) (fun q hq => h.main q hq) (liveE_afterMove hl2)
  | fin1 i k =>
    have h2 : InvR { c with ph := .live m (.fin2 i k) } drp := InvR.mkLive rfl h.st h.main (hl.repc rfl hl.pc)
    exact (h2.finish rfl).same rfl rfl rfl rfl
  | fin2 i k =>
    obtain ⟨hos, hni⟩ : OS c.st c.finalised drp i ∧ i ∉ m.cdi := hl.pc
    exact (h.delB (pc' := .fin3 i k) hl (fun q hq => Or.inl (hos q hq)) (fun p hp e => hni (e ▸ (hl.outst p hp).2)) rfl
      ⟨fun q hq => by simp at hq, hni⟩).same rfl rfl rfl rfl
  | fin3 i k =>
    exact (h.setDi hl (fun j hj => Or.inl hj) hl.cdiLt hl.cdiNodup (KL_finCont _ _ _ _)
      (pcInvE_finCont _ _ _ _ _ _)).same rfl rfl rfl rfl

theorem invR_fire {c : Cfg} {drp : List Req} (h : InvR c drp) (l : Label) : InvR (fire c l) drp := by
  refine fire_cases (P := fun _ c' => InvR c' drp) c l (skip := h) (crash := InvR.mkDead rfl h.st h.main)
    (start := fun _ => invR_doStart h) (tick := fun m pc heq => invR_doTick h heq) (offer := fun m r heq => invR_doOffer h heq r)
    (read := fun m heq => invR_doRead h (h.live m _ heq) rfl) (done := fun m i oc heq => invR_doDone h heq i oc)
    (shutdown := fun m heq => invR_doShutdown h heq) (wake := fun m heq => invR_doWake h heq)
    (cancel := fun m j heq => InvR.mkLive rfl h.st h.main ((h.live m _ heq).waiting _)) (promote := ?_)
  · intro m j heq
    fun_cases doPromote c m j
    · exact h
    · exact InvR.mkLive rfl h.st h.main ((h.live m _ heq).waiting _)

end OtelVerif.C01

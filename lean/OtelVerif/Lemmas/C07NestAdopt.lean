import OtelVerif.Lemmas.C07NestOps
/-!
# C07 part C: `Slice.MoveAndAppendTo` between slices nested ANYWHERE

The slots of the source container are neither old slots of the destination nor new wrappers: the move uses the contracts with a list
`A` of ADOPTED ids (orphans: allocated, reachable from no root).  It is two local updates (`Forest.nested`): unlink (source slots := [];
their footprint, which nothing reaches any more, becomes orphan) and link (destination slots := old ++ moved; `A` = that orphan footprint).
-/
namespace OtelVerif.C07.N

/-- well-formed `Slice.MoveAndAppendTo`: both are containers of the forest, distinct, neither lies inside the other -/
def WfMove (s : St) (rs o1 rd o2 : Nat) : Prop :=
  ownsList s.dep s.h (s.root rs) o1 ∧ ownsList s.dep s.h (s.root rd) o2 ∧ o1 ≠ o2 ∧
  o2 ∉ reachL s.dep s.h (s.h.wl o1).live ∧ o1 ∉ reachL s.dep s.h (s.h.wl o2).live

instance (s : St) (rs o1 rd o2 : Nat) : Decidable (WfMove s rs o1 rd o2) := by unfold WfMove; infer_instance

theorem move_append_agree {s : St} (hi : Inv s) (rs o1 rd o2 c : Nat) (hw : WfMove s rs o1 rd o2) (hro : (s.ro rs || s.ro rd) = false) :
    Agree s.h (step s (.moveAppend rs o1 rd o2 c)).1.h (reachL s.dep s.h (s.h.wl o1).live) ∧
    Agree s.h (step s (.moveAppend rs o1 rd o2 c)).1.h (reachL s.dep s.h (s.h.wl o2).live) := by
  obtain ⟨ho1, ho2, h12, ho2F, ho1K⟩ := hw
  obtain ⟨_, _, _, m4, m5⟩ := move_append_hdr s rs o1 rd o2 c hro h12
  have agOf : ∀ ids : List Nat, o1 ∉ ids → o2 ∉ ids → Agree s.h (step s (.moveAppend rs o1 rd o2 c)).1.h ids :=
    fun ids n1 n2 i hi' => ⟨by rw [m5], m4 i (fun e => n1 (e ▸ hi')) (fun e => n2 (e ▸ hi'))⟩
  exact ⟨agOf _ (owned_of hi rs o1 ho1).notin ho2F, agOf _ ho1K (owned_of hi rd o2 ho2).notin⟩

theorem move_append_spec {s : St} (hi : Inv s) (rs o1 rd o2 c : Nat) (hw : WfMove s rs o1 rd o2) :
    Inv (step s (.moveAppend rs o1 rd o2 c)).1 ∧
    ∀ x, x ∉ touched (.moveAppend rs o1 rd o2 c) → absRoot (step s (.moveAppend rs o1 rd o2 c)).1 x = absRoot s x := by
  by_cases hro : (s.ro rs || s.ro rd) = true
  · have e : (step s (.moveAppend rs o1 rd o2 c)).1 = s := by simp [step, hro]
    rw [e]; exact ⟨hi, fun _ _ => rfl⟩
  obtain ⟨ho1, ho2, h12, ho2F, ho1K⟩ := hw
  obtain ⟨R, hR, eS⟩ := move_append_step s rs o1 rd o2 c (by simpa using hro) h12
  have ow1 := owned_of hi rs o1 ho1
  have ow2 := owned_of hi rd o2 ho2
  -- phase 1: unlink — the source keeps no slot; the footprint of its old slots becomes orphan
  obtain ⟨p1f, p1frame, p1excl⟩ := hi.forest.nested (R := {}) ho1 (LRepl.nil [] s.dep 0 s.h _) (fun _ hx => nomatch hx)
  simp only [Nat.add_zero] at p1f p1frame p1excl
  generalize hh1 : ({ s.h with wl := upd s.h.wl o1 {} } : Heap) = h1 at p1f p1frame p1excl
  have u1 : Upd s.h h1 [o1] := hh1 ▸ ⟨Nat.le_refl _, fun x _ hx => ⟨rfl, upd_other _ _ _ _ (fun e => hx (e ▸ List.mem_singleton_self _))⟩⟩
  have orphan : ∀ x ∈ reachL s.dep s.h (s.h.wl o1).live, ∀ r, x ∉ reachV s.dep h1 (s.root r) := by
    intro x hx r
    by_cases hr : r = rs
    · subst hr; exact p1excl x hx List.not_mem_nil
    · rw [(p1frame r hr).1]
      exact hi.disj rs r (fun e => hr e.symm) x (owns_sub hi rs o1 ho1 x (List.mem_cons_of_mem _ hx))
  -- the destination is still owned: `o2` below a slot of `o1` would lie in `reachL … (wl o1).live`, which `WfMove` excludes
  have ho2' : ownsList s.dep h1 (s.root rd) o2 :=
    owns_preserved s.dep s.h h1 o1 o2 (fun x hx => by rw [← hh1]; exact upd_other _ _ _ _ hx)
      (fun kv hkv hk => ho2F (mem_reachL hkv ((owns_sublist s.dep s.h o2 s.dep (Nat.le_refl _) kv.val (ow1.fit kv hkv) hk).1.subset List.mem_cons_self))) s.dep (by omega) _ ho2
  -- phase 2: link — the destination's slots become old ++ moved, adopting the orphans
  have h1o2 : h1.wl o2 = s.h.wl o2 := by rw [← hh1]; exact upd_other _ _ _ _ (fun e => h12 e.symm)
  have sK := u1.stable (Nat.le_refl _) _ ow2.lt (fun x hx hm => ho1K (List.mem_singleton.mp hm ▸ hx)) ow2.fit
  have sF := u1.stable (Nat.le_refl _) _ ow1.lt (fun x hx hm => ow1.notin (List.mem_singleton.mp hm ▸ hx)) ow1.fit
  have ow2' : Owned s.dep h1 o2 := owned_of (p1f.inv s.dep (Nat.le_refl _) hi.pos s.ro) rd o2 ho2'
  have c2 := lrepl_adopt (m := (s.h.wl o1).live) ow2'
    ⟨sF.2, sF.1 ▸ ow1.nodup, fun x hx => by rw [sF.1] at hx; rw [← hh1]; exact ow1.lt x hx⟩
    (fun x hx hm => orphan x (sF.1 ▸ hm) rd
      ((owns_sublist s.dep h1 o2 s.dep (Nat.le_refl _) (s.root rd) (p1f.fit rd) ho2').1.subset (List.mem_cons_of_mem _ hx)))
  rw [sF.1] at c2
  obtain ⟨p2f, p2frame, _⟩ := p1f.nested (R := R) ho2' (by rw [hR, ← h1o2]; exact c2) orphan
  rw [eS]
  have eH : ({ s.h with wl := upd (upd s.h.wl o1 {}) o2 R } : Heap) = { h1 with wl := upd h1.wl o2 R } := by rw [← hh1]
  rw [eH]
  refine ⟨p2f.inv (bump s.dep) (add_self_le_bump _) (Nat.succ_pos _) s.ro, fun x hx => ?_⟩
  have hx := not_mem_pair hx
  exact (abs_fits_mono (add_self_le_bump s.dep) _ _ (p2f.fit x)).trans (((p2frame x hx.2).2).trans (p1frame x hx.1).2)

theorem move_append_children_same {s : St} (hi : Inv s) (rs o1 rd o2 c : Nat) (hw : WfMove s rs o1 rd o2)
    (hro : (s.ro rs || s.ro rd) = false) :
    ((step s (.moveAppend rs o1 rd o2 c)).1.h.wl o2).live = (s.h.wl o2).live ++ (s.h.wl o1).live ∧
    (step s (.moveAppend rs o1 rd o2 c)).1.h.wl o1 = {} ∧
    ∀ kv ∈ (s.h.wl o2).live ++ (s.h.wl o1).live,
      absV s.dep (step s (.moveAppend rs o1 rd o2 c)).1.h kv.val = absV s.dep s.h kv.val := by
  obtain ⟨agF, agK⟩ := move_append_agree hi rs o1 rd o2 c hw hro
  obtain ⟨m1, m2, _⟩ := move_append_hdr s rs o1 rd o2 c hro hw.2.2.1
  refine ⟨m1, m2, fun kv hkv => ?_⟩
  rcases List.mem_append.mp hkv with hk | hk
  · exact abs_congr s.dep _ _ _ (fun i hi' => agK i (mem_reachL hk hi'))
  · exact abs_congr s.dep _ _ _ (fun i hi' => agF i (mem_reachL hk hi'))

end OtelVerif.C07.N

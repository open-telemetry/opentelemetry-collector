import OtelVerif.Lemmas.C07NestLU
/-! nested model: every operation (also on nested targets; hypothesis `WfOp`, defined here with `touched`) keeps the forest invariant and
leaves the roots it does not target as they read; header-level facts of `moveAppend` -/
namespace OtelVerif.C07.N

/-- the roots an operation may change (all others must read as before) -/
def touched : Op → List Nat
  | .setRoot r _ | .setSlot r .. | .bytesAppend r .. | .remove r .. | .removeIf r .. | .ensureCap r .. | .clear r _ => [r]
  | .copyVal _ _ rd _ => [rd]
  | .copyList _ _ rd _ => [rd]
  | .moveAppend rs _ rd _ _ => [rs, rd]
  | .moveRoot a b => [a, b]
  | .markRO _ => []

/-- the position is a root, or a slot of a container of the forest below the named root -/
def LocOk (s : St) (r : Nat) : Loc → Prop
  | .root a => a = r
  | .slot o _ => ownsList s.dep s.h (s.root r) o

/-- well-formed operations: targets are containers / positions of the forest; copies are between
distinct values (disjoint footprints; the destination slot's container is not inside the source) -/
def WfOp (s : St) : Op → Prop
  | .setRoot _ _ => True
  | .setSlot r o _ _ _ => ownsList s.dep s.h (s.root r) o
  | .bytesAppend r b _ => b ∈ reachV s.dep s.h (s.root r)
  | .remove r o _ => ownsList s.dep s.h (s.root r) o
  | .removeIf r o _ => ownsList s.dep s.h (s.root r) o
  | .ensureCap r o _ => ownsList s.dep s.h (s.root r) o
  | .clear r o => ownsList s.dep s.h (s.root r) o
  | .copyVal rs src rd dst =>
    LocOk s rs src ∧ LocOk s rd dst ∧
    match readLoc s src, readLoc s dst with
    | some sv, some dv =>
      (∀ x ∈ reachV s.dep s.h sv, x ∉ reachV s.dep s.h dv) ∧
      (match dst with
        | .slot o _ => o ∉ reachV s.dep s.h sv
        | .root _ => True)
    | _, _ => True
  | .copyList rs o1 rd o2 =>
    ownsList s.dep s.h (s.root rs) o1 ∧ ownsList s.dep s.h (s.root rd) o2 ∧
    (∀ x ∈ reachL s.dep s.h (s.h.wl o1).live, x ∉ reachL s.dep s.h (s.h.wl o2).live) ∧
    o2 ∉ reachL s.dep s.h (s.h.wl o1).live
  | .moveAppend _ _ _ _ _ => False      -- the move has its own contract: `WfMove`, `move_append_spec` (`C07NestAdopt`)
  | .moveRoot a b => a ≠ b
  | .markRO _ => True

instance (s : St) (r : Nat) (l : Loc) : Decidable (LocOk s r l) := by
  cases l <;> simp only [LocOk] <;> infer_instance

instance (s : St) (op : Op) : Decidable (WfOp s op) := by
  cases op with
  | copyVal rs src rd dst =>
    simp only [WfOp]
    cases readLoc s src <;> cases readLoc s dst <;> cases dst <;> simp only [] <;> infer_instance
  | _ => simp only [WfOp] <;> infer_instance

theorem src_facts {s : St} (hi : Inv s) (r : Nat) (l : Loc) (hl : LocOk s r l) (sv : V) (hr : readLoc s l = some sv) :
    fits s.dep s.h sv ∧ ∀ x ∈ reachV s.dep s.h sv, x < s.h.next := by
  cases l with
  | root a =>
    have : a = r := hl
    subst this
    simp only [readLoc, Option.some.injEq] at hr; subst hr
    exact ⟨hi.fit a, hi.lt a⟩
  | slot o i =>
    have ow := owned_of hi r o hl
    simp only [readLoc, Option.map_eq_some_iff] at hr
    obtain ⟨kv, hkv, rfl⟩ := hr
    have hm := List.mem_of_getElem? hkv
    exact ⟨ow.fit kv hm, fun x hx => ow.lt x (mem_reachL hm hx)⟩

/-- `Put*` / `Set*` / `AppendEmpty`: whichever slot `place` picks -/
theorem lrepl_place {s : St} (hi : Inv s) (o : Nat) (ow : Owned s.dep s.h o) (sel : Sel) (x : NewV) (c : Nat) (hd : Hdr)
    (hp : place ((mkNew s.h x).1.wl o) sel (mkNew s.h x).2 c = some hd) :
    LRepl [] s.dep s.dep s.h (s.h.wl o).live (mkNew s.h x).1 hd.live := by
  obtain ⟨d0, hd0⟩ := hi.dep_succ
  have hwlo : (mkNew s.h x).1.wl o = s.h.wl o := ((mkNew_spec s.h x d0).1 o ow.self_lt).2
  have rpn : ∀ dv, Repl s.dep s.dep s.h dv (mkNew s.h x).1 (mkNew s.h x).2 := fun dv => by
    rw [hd0]; exact mkNew_repl s.h x d0 dv
  rw [hwlo] at hp
  cases sel with
  | key k =>
    simp only [place] at hp
    cases hf : find (s.h.wl o).live k with
    | some i =>
      simp only [hf, Option.some.injEq] at hp; subst hp
      obtain ⟨a, ha⟩ := find_some hf
      exact lrepl_set k ow ha (rpn a.val)
    | none =>
      simp only [hf, Option.some.injEq, grow] at hp; subst hp
      exact lrepl_append ow (rpn .nil)
  | idx i =>
    simp only [place] at hp
    split at hp
    · next hil =>
      simp only [Option.some.injEq] at hp; subst hp
      exact lrepl_set 0 ow (List.getElem?_eq_getElem hil) (rpn _)
    · exact nomatch hp
  | push =>
    simp only [place, Option.some.injEq, grow] at hp; subst hp
    exact lrepl_append ow (rpn .nil)

/-- `Value.CopyTo` into slot `i` of container `o` does not write the header of `o` itself -/
theorem copy_into_slot {s : St} (hi : Inv s) (rs : Nat) (src : Loc) (rd o i : Nat) (hsrc : LocOk s rs src)
    (ho : ownsList s.dep s.h (s.root rd) o) (sv : V) (hrs : readLoc s src = some sv) (a : KV) (ha : (s.h.wl o).live[i]? = some a)
    (hdisj : ∀ x ∈ reachV s.dep s.h sv, x ∉ reachV s.dep s.h a.val) :
    Post s.dep s.h sv a.val (copyVal s.dep s.h sv a.val) ∧ (copyVal s.dep s.h sv a.val).1.wl o = s.h.wl o := by
  have ow := owned_of hi rd o ho
  obtain ⟨sfit, slt⟩ := src_facts hi rs src hsrc sv hrs
  have hsubl : (reachV s.dep s.h a.val).Sublist (reachL s.dep s.h (s.h.wl o).live) :=
    reachV_sublist_reachL _ _ (List.mem_of_getElem? ha)
  have post := copyVal_spec s.dep s.h sv a.val
    ⟨sfit, slt, fun x hx => ow.lt x (hsubl.subset hx), ow.nodup.sublist hsubl, hdisj⟩
  exact ⟨post, (post.frame o ow.self_lt (fun hm' => ow.notin (hsubl.subset hm'))).2⟩

theorem step_all_spec {s : St} (hi : Inv s) (op : Op) (hw : WfOp s op) :
    Inv (step s op).1 ∧ ∀ c, c ∉ touched op → absRoot (step s op).1 c = absRoot s c := by
  have same : Inv s ∧ ∀ c, c ∉ touched op → absRoot s c = absRoot s c := ⟨hi, fun _ _ => rfl⟩
  have gf : ∀ (g : Bool) (s' : St), (g = false → Inv s' ∧ ∀ c, c ∉ touched op → absRoot s' c = absRoot s c) →
      Inv (if g = true then (s, true) else (s', false)).1 ∧
      ∀ c, c ∉ touched op → absRoot (if g = true then (s, true) else (s', false)).1 c = absRoot s c :=
    fun g s' h => guarded_fst (P := fun t => Inv t ∧ ∀ c, c ∉ touched op → absRoot t c = absRoot s c) g s' same h
  -- a root value is replaced under the contract
  have viaRepl : ∀ (r : Nat) (g : Heap) (v' : V), Repl s.dep s.dep s.h (s.root r) g v' →
      Inv { s with h := g, root := upd s.root r v', dep := bump s.dep } ∧
      ∀ c, c ∉ [r] → absRoot { s with h := g, root := upd s.root r v', dep := bump s.dep } c = absRoot s c :=
    fun r g v' rp => ⟨(root_update hi r s.ro (Nat.le_refl _) (le_bump _) rp).1,
      fun c hc => (root_update hi r s.ro (Nat.le_refl _) (le_bump _) rp).2.2 c (List.ne_of_not_mem_cons hc)⟩
  -- the slots of a container `o` below root `r` are replaced under the contract and its header written
  have viaNested : ∀ (r o : Nat) (g : Heap) (R : Hdr), ownsList s.dep s.h (s.root r) o →
      LRepl [] s.dep s.dep s.h (s.h.wl o).live g R.live →
      Inv { s with h := { g with wl := upd g.wl o R }, dep := bump s.dep } ∧
      ∀ c, c ∉ [r] → absRoot { s with h := { g with wl := upd g.wl o R }, dep := bump s.dep } c = absRoot s c :=
    fun r o g R ho c => ⟨(nested_update hi s.ro ho c).1, fun x hx => (nested_update hi s.ro ho c).2 x (List.ne_of_not_mem_cons hx)⟩
  cases op with
  | setRoot r x =>
    obtain ⟨d0, hd0⟩ := hi.dep_succ
    exact gf (s.ro r) _ (fun _ => viaRepl r _ _ (hd0 ▸ mkNew_repl s.h x d0 (s.root r)))
  | moveRoot a b =>
    have f := hi.forest.move hw
    refine gf (s.ro a || s.ro b) _ (fun _ => ⟨f.inv _ (le_bump _) (Nat.succ_pos _) s.ro, fun c hc => ?_⟩)
    have hc := not_mem_pair hc
    show absV (bump s.dep) s.h (upd (upd s.root b (s.root a)) a .nil c) = absV s.dep s.h (s.root c)
    rw [abs_fits_mono (le_bump _) s.h _ (f.fit c), upd_other _ _ _ _ hc.1, upd_other _ _ _ _ hc.2]
  | markRO r => exact ⟨hi.forest.inv s.dep (Nat.le_refl _) hi.pos _, fun _ _ => rfl⟩
  | moveAppend rs o1 rd o2 c => exact hw.elim
  | bytesAppend r b x =>
    refine gf (s.ro r) _ (fun _ => ?_)
    have := viaRepl r _ _ (Repl.bytes_edit (s.h.wb b ++ [x]) hw (hi.fit r) (hi.nodup r) (hi.lt r))
    rwa [upd_self] at this
  | remove r o k => exact gf (s.ro r) _ (fun _ => viaNested r o _ _ hw (lrepl_remove k (owned_of hi r o hw)))
  | removeIf r o m =>
    exact gf (s.ro r) _ (fun _ => viaNested r o _ (removeIfH (s.h.wl o) m) hw
      (lrepl_sub (owned_of hi r o hw) (.refl _) (keep_sublist _ m)))
  | clear r o => exact gf (s.ro r) _ (fun _ => viaNested r o _ {} hw (lrepl_sub (owned_of hi r o hw) (.refl _) (List.nil_sublist _)))
  | ensureCap r o n =>
    simp only [step]
    by_cases hn : n ≤ (s.h.wl o).cap
    · simp only [hn, if_true]
      exact gf (s.ro r) _ (fun _ => ⟨(inv_raise hi _ (le_bump _)).1, fun c _ => (inv_raise hi _ (le_bump _)).2 c⟩)
    · simp only [hn, if_false]
      exact gf (s.ro r) _ (fun _ => viaNested r o _ ⟨(s.h.wl o).live, _⟩ hw (lrepl_sub (owned_of hi r o hw) (.refl _) (.refl _)))
  | setSlot r o sel x c =>
    simp only [step]
    cases hp : place ((mkNew s.h x).1.wl o) sel (mkNew s.h x).2 c with
    | none => rw [ite_self]; exact same
    | some hd => exact gf (s.ro r) _ (fun _ => viaNested r o _ hd hw (lrepl_place hi o (owned_of hi r o hw) sel x c hd hp))
  | copyList rs o1 rd o2 =>
    have ow1 := owned_of hi rs o1 hw.1
    have ow2 := owned_of hi rd o2 hw.2.1
    exact gf (s.ro rd) _ (fun _ => viaNested rd o2 _ _ hw.2.1
      (copyHdrWith_spec s.dep (copyVal s.dep) (copyVal_spec s.dep) s.h (s.h.wl o1) (s.h.wl o2) ow1.fit ow1.lt ow2.lt ow2.nodup hw.2.2.1).lrepl)
  | copyVal rs src rd dst =>
    simp only [step]
    obtain ⟨hsrc, hdst, hsep⟩ := hw
    cases hrs : readLoc s src with
    | none => rw [ite_self]; exact same
    | some sv =>
      cases hrd : readLoc s dst with
      | none => rw [ite_self]; exact same
      | some dv =>
        refine gf (s.ro rd) _ (fun _ => ?_)
        obtain ⟨sfit, slt⟩ := src_facts hi rs src hsrc sv hrs
        simp only [hrs, hrd] at hsep
        cases dst with
        | root b =>
          have hb : b = rd := hdst
          subst hb
          simp only [readLoc, Option.some.injEq] at hrd; subst hrd
          exact viaRepl b _ _ (copyVal_spec s.dep s.h sv (s.root b) ⟨sfit, slt, hi.lt b, hi.nodup b, hsep.1⟩).repl
        | slot o i =>
          have ho : ownsList s.dep s.h (s.root rd) o := hdst
          simp only [readLoc, Option.map_eq_some_iff] at hrd
          obtain ⟨a, ha, rfl⟩ := hrd
          obtain ⟨post, hwlo⟩ := copy_into_slot hi rs src rd o i hsrc ho sv hrs a ha hsep.1
          simp only [writeLoc, hwlo, ha, Option.map_some, Option.getD_some]
          exact viaNested rd o _ ⟨_, (s.h.wl o).tail⟩ ho (lrepl_set a.key (owned_of hi rd o ho) ha post.repl)

theorem move_append_hdr (s : St) (rs o1 rd o2 c : Nat) (hro : (s.ro rs || s.ro rd) = false) (h12 : o1 ≠ o2) :
    ((step s (.moveAppend rs o1 rd o2 c)).1.h.wl o2).live = (s.h.wl o2).live ++ (s.h.wl o1).live ∧
    (step s (.moveAppend rs o1 rd o2 c)).1.h.wl o1 = {} ∧ ((step s (.moveAppend rs o1 rd o2 c)).1.h.wl o1).cap = 0 ∧
    (∀ x, x ≠ o1 → x ≠ o2 → (step s (.moveAppend rs o1 rd o2 c)).1.h.wl x = s.h.wl x) ∧
    (step s (.moveAppend rs o1 rd o2 c)).1.h.wb = s.h.wb := by
  have h21 : o2 ≠ o1 := fun e => h12 e.symm
  simp only [step, hro, Bool.false_eq_true, ↓reduceIte]
  -- only the destination's header depends on the branch; a destination of capacity 0 has no live elements: taking over the source is `old ++ source` too
  refine ⟨?_, by simp [upd_same], by simp [upd_same, Hdr.cap], fun x h1 h2 => by simp [upd_other _ _ _ _ h1, upd_other _ _ _ _ h2], trivial⟩
  simp only [upd_other _ _ _ _ h21, upd_same]
  by_cases hc : (s.h.wl o2).cap = 0
  · have : (s.h.wl o2).live = [] := by
      simp only [Hdr.cap] at hc
      exact List.eq_nil_of_length_eq_zero (by omega)
    simp [hc, this]
  · simp only [hc, ↓reduceIte]
    split <;> rfl

/-- the step as "unlink, then link": the source header is emptied, then the destination gets a header whose slots are old ++ moved -/
theorem move_append_step (s : St) (rs o1 rd o2 c : Nat) (hro : (s.ro rs || s.ro rd) = false) (h12 : o1 ≠ o2) :
    ∃ R : Hdr, R.live = (s.h.wl o2).live ++ (s.h.wl o1).live ∧
      (step s (.moveAppend rs o1 rd o2 c)).1 =
        { s with h := { s.h with wl := upd (upd s.h.wl o1 {}) o2 R }, dep := bump s.dep } := by
  refine ⟨(step s (.moveAppend rs o1 rd o2 c)).1.h.wl o2, (move_append_hdr s rs o1 rd o2 c hro h12).1, ?_⟩
  simp only [step, hro, Bool.false_eq_true, ↓reduceIte, upd_other _ _ _ _ (fun e : o2 = o1 => h12 e.symm), upd_same]
  rw [upd_comm _ _ _ (fun e : o2 = o1 => h12 e.symm)]

theorem kept_children_same {s : St} (hi : Inv s) (r o : Nat) (ho : ownsList s.dep s.h (s.root r) o) (h' : Heap)
    (hframe : ∀ x, x ≠ o → x < s.h.next → h'.wb x = s.h.wb x ∧ h'.wl x = s.h.wl x) :
    ∀ kv ∈ (s.h.wl o).live, absV (bump s.dep) h' kv.val = absV s.dep s.h kv.val := fun kv hkv =>
  have ow := owned_of hi r o ho
  have hx := fun x (hx : x ∈ reachV s.dep s.h kv.val) => (mem_reachL hkv hx : x ∈ reachL s.dep s.h (s.h.wl o).live)
  (Agree.same (g := h') (fun x h1 => hframe x (fun e => ow.notin (e ▸ hx x h1)) (ow.lt x (hx x h1))) (le_bump _) (ow.fit kv hkv)).2.1

end OtelVerif.C07.N

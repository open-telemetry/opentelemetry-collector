import OtelVerif.Model.C20
import OtelVerif.Lemmas.Basic
/-!
# C20 — anatomy of the run-loop LTS and its invariant

`stepRun` read as three tables over the program point — `Pc.next` (successor), `Pc.stores` (state word stored), `Pc.op` (effect on the
service data) — and proved to be them once (`Stepped`); a select receive is `Picked`, a label of another goroutine `Exted`, what any
label writes outside `Core` is `Frame`; `fire_cases` splits a transition into these kinds.
The invariant has two forms. `Good` is the inductive one: the service data (`Data`), and the scalars as functions of the program point
until Run returns (`AtPc`), `AtDone` afterwards. `Inv` is the flat list of clauses the end results read; it follows from `Good`
(`Good.inv`) and is never proved inductive itself.
Then: invariants along runs (`runFrom_invariant`, `reachable_induction`), the statements left on the shutdown path, `NotLost`.
-/
namespace OtelVerif.C20

/-- pcs at which `col.service` is a created service that has not been shut down -/
def Pc.hasLive : Pc → Bool
  | .setup3 _ | .setupSd _ | .setup4 _ | .select | .reload1 | .reload2 | .shut1 | .shut2 | .shut3 => true
  | _ => false

def Pc.inShut : Pc → Bool
  | .shut1 | .shut2 | .shut3 | .shut4 => true
  | _ => false

/-- the value of `state` the Run goroutine has last stored, by program point (`none`: several possible) -/
def Pc.stateAt : Pc → Option CState
  | .idle | .setup1 false => some .starting
  | .setup1 true => some .closing
  | .setup2 _ | .setup3 _ | .setupSd _ | .setup4 _ | .initFail => some .starting
  | .select | .reload1 | .shut1 => some .running
  | .reload2 | .shut2 | .shut3 | .shut4 => some .closing
  | .done => none

def Pc.isSetup2 : Pc → Bool
  | .setup2 _ => true
  | _ => false

/-- Run has not got beyond the initial set-up -/
def Pc.initialPhase : Pc → Bool
  | .idle | .setup1 false | .setup2 false | .setup3 false | .setupSd false | .setup4 false | .initFail => true
  | _ => false

/-- the part of the state that only the Run goroutine writes -/
structure Core where
  pc : Pc
  st : CState
  gen : Nat
  svc : Option Nat
  live : List Nat
  created : List Nat
  sdLog : List Nat
  provSd : Nat
  everRunning : Bool
  stop : Option Ev
  ret : Option Bool
  panic : Bool

def S.core (s : S) : Core :=
  { pc := s.pc, st := s.st, gen := s.gen, svc := s.svc, live := s.live, created := s.created, sdLog := s.sdLog,
    provSd := s.provSd, everRunning := s.everRunning, stop := s.stop, ret := s.ret, panic := s.panic }

/-- the flat clauses the end results read; derived from `Good` (`Good.inv`), never proved inductive -/
structure Inv (s : Core) : Prop where
  noPanic : s.panic = false
  stAt : ∀ c, s.pc.stateAt = some c → s.st = c
  closedDone : s.st = .closed → s.pc = .done
  svcLive : s.pc.hasLive = true → s.svc = some s.gen
  live : s.live = if s.pc.hasLive then [s.gen] else []
  created : s.created = s.sdLog ++ s.live
  bound : ∀ g ∈ s.created, if s.pc.isSetup2 then g < s.gen else g ≤ s.gen
  sorted : s.created.Pairwise (· < ·)
  prov : s.provSd = if (s.pc = .shut3 ∨ s.pc = .shut4 ∨ (s.pc = .done ∧ s.stop.isSome)) then 1 else 0
  stopPc : s.stop.isSome = true → (s.pc.inShut = true ∨ s.pc = .done)
  shutStop : s.pc.inShut = true → s.stop.isSome = true
  retDone : s.ret.isSome = true ↔ s.pc = .done
  doneStop : s.pc = .done → s.stop.isSome = true → s.st = .closed
  doneErr : s.pc = .done → s.stop = none → s.ret = some false
  ever : s.pc.initialPhase = false → s.pc ≠ .done → s.everRunning = true
  stopEver : s.stop.isSome = true → s.everRunning = true
  stopKind : ∀ e, s.stop = some e → e.stops = true
  notEver : s.pc.initialPhase = true → s.everRunning = false
  doneNoStop : s.pc = .done → s.stop = none →
    (s.everRunning = false ∧ s.st = .closed) ∨ (s.everRunning = true ∧ (s.st = .starting ∨ s.st = .closing))

/-- successor of a Run statement with outcome `ok`; `none`: not enabled -/
def Pc.next : Pc → Bool → Option Pc
  | .setup1 rl, true => some (.setup2 rl)
  | .setup2 rl, ok => some (if ok then .setup3 rl else if rl then .done else .initFail)
  | .setup3 rl, ok => some (if ok then .setup4 rl else .setupSd rl)
  | .setupSd rl, _ => some (if rl then .done else .initFail)
  | .setup4 _, true => some .select
  | .initFail, true => some .done
  | .reload1, true => some .reload2
  | .reload2, ok => some (if ok then .setup1 true else .done)
  | .shut1, true => some .shut2
  | .shut2, _ => some .shut3
  | .shut3, _ => some .shut4
  | .shut4, true => some .done
  | _, _ => none

/-- the `setCollectorState` a statement executes -/
def Pc.stores : Pc → Option CState
  | .setup1 _ => some .starting
  | .setup4 _ => some .running
  | .reload1 | .shut1 => some .closing
  | .initFail | .shut4 => some .closed
  | _ => none

/-- what a statement does to the service data (`Pc.op`) -/
inductive Op | skip | newGen | create | start | shutdown | prov
  deriving DecidableEq

def Pc.op : Pc → Bool → Op
  | .setup1 _, _ => .newGen
  | .setup2 _, true => .create
  | .setup3 _, _ => .start
  | .setupSd _, _ | .reload2, _ | .shut3, _ => .shutdown
  | .shut2, _ => .prov
  | _, _ => .skip

/-- `shutdown` mirrors `svcShutdown`: with no service it is the nil dereference -/
def Op.run : Op → Core → Core
  | .skip, c | .start, c => c
  | .newGen, c => { c with gen := c.gen + 1 }
  | .create, c => { c with svc := some c.gen, live := c.live ++ [c.gen], created := c.created ++ [c.gen] }
  | .shutdown, c =>
    match c.svc with
    | some g => { c with live := c.live.erase g, sdLog := c.sdLog ++ [g] }
    | none => { c with panic := true }
  | .prov, c => { c with provSd := c.provSd + 1 }

def Op.events : Op → (gen : Nat) → (svc : Option Nat) → List TEv
  | .create, gen, _ => [.created gen 0]
  | .start, gen, _ => [.started gen 0]
  | .shutdown, _, some g => [.shut g 0]
  | .prov, _, _ => [.prov]
  | _, _, _ => []

/-- fields no Run statement writes (`nFatal`, `nStale`, `errs`, `log` are written by some, and `nAsync` is read by no proof: they are in neither `Core` nor `Outer`) -/
structure Outer where
  chanClosed : Bool
  closers : Nat
  ctxDone : Bool
  req : Bool
  callerPanic : Bool
  nWatchOk : Nat
  nWatchErr : Nat
  nHup : Nat
  nTerm : Nat

def S.outer (s : S) : Outer :=
  { chanClosed := s.chanClosed, closers := s.closers, ctxDone := s.ctxDone, req := s.req, callerPanic := s.callerPanic,
    nWatchOk := s.nWatchOk, nWatchErr := s.nWatchErr, nHup := s.nHup, nTerm := s.nTerm }

/-- `stepRun` at program point `p`, read off the tables -/
structure Stepped (p : Pc) (s : S) (ok : Bool) (s' : S) : Prop where
  pc : p.next ok = some s'.pc
  ret : s'.ret = if s'.pc = .done then some (p = .shut4 && !s.errs) else s.ret
  core : s'.core =
    { (p.op ok).run s.core with
      pc := s'.pc
      st := p.stores.getD s.st
      ret := s'.ret
      stop := s.stop
      everRunning := p.stores == some .running || s.everRunning }
  outer : s'.outer = s.outer
  log : s'.log = s.log ++ (p.stores.map TEv.st).toList ++ (p.op ok).events s.gen s.svc ++
          (if s'.pc = .done then [.ret (p = .shut4 && !s.errs)] else [])

-- unfolds `stepRun` at a known program point (`hpc : s.pc = …`) in `h : stepRun s ok = some s'`
macro "c20_step_simp" h:ident hpc:ident : tactic =>
  `(tactic| simp only [stepRun, $hpc:ident, setSt, S.emit, failSetup, svcShutdown, Option.some.injEq, if_true, if_false,
      Bool.false_eq_true, reduceCtorEq] at $h:ident)

theorem stepRun_stepped {s s' : S} {ok : Bool} (h : stepRun s ok = some s') : Stepped s.pc s ok s' := by
  cases hpc : s.pc <;> cases ok <;> c20_step_simp h hpc
  all_goals subst h
  -- `failSetup` branches on `rl`, `svcShutdown` on `s.svc`; every other row is `rfl`
  case setup2.false rl => cases rl <;> exact ⟨rfl, rfl, rfl, rfl, by simp [Pc.stores, Pc.op, Op.events]⟩
  case setupSd.false rl | setupSd.true rl =>
    cases rl <;> cases hsvc : s.svc <;> simp only [if_true, if_false, Bool.false_eq_true] <;>
      exact ⟨rfl, rfl, by simp [S.core, Pc.op, Op.run, hsvc, Pc.stores], rfl, by simp [Pc.stores, Pc.op, Op.events, hsvc]⟩
  case reload2.false | reload2.true | shut3.false | shut3.true =>
    cases hsvc : s.svc <;>
      exact ⟨rfl, rfl, by simp [S.core, Pc.op, Op.run, hsvc, Pc.stores], rfl, by simp [Pc.stores, Pc.op, Op.events, hsvc]⟩
  all_goals exact ⟨rfl, rfl, rfl, rfl, by simp [Pc.stores, Pc.op, Op.events]⟩

def Pc.provAt : Pc → Nat
  | .shut3 | .shut4 => 1
  | _ => 0

/-- the service data; `hl` stands for `pc.hasLive`, `s2` for `pc.isSetup2`, so that an `Op` can be followed without a program point -/
structure Data (hl s2 : Bool) (c : Core) : Prop where
  noPanic : c.panic = false
  svcLive : hl = true → c.svc = some c.gen
  live : c.live = if hl then [c.gen] else []
  created : c.created = c.sdLog ++ c.live
  bound : ∀ g ∈ c.created, g + s2.toNat ≤ c.gen
  sorted : c.created.Pairwise (· < ·)

/-- how the two flags of `Data` must move across an operation for `Data` to survive it; `Pc.next_fits`: every row of `Pc.next` moves them so -/
def Op.fits : Op → (hl s2 hl' s2' : Bool) → Bool
  | .newGen, hl, _, hl', _ => !hl && !hl'
  | .create, hl, s2, hl', s2' => !hl && s2 && hl' && !s2'
  | .shutdown, hl, _, hl', s2' => hl && !hl' && !s2'
  | _, hl, s2, hl', s2' => hl' == hl && (!s2' || s2)

theorem Data.op_run {hl s2 hl' s2' : Bool} {c : Core} (op : Op) (h : Data hl s2 c) (hf : op.fits hl s2 hl' s2' = true) :
    Data hl' s2' (op.run c) := by
  obtain ⟨h1, h2, h3, h4, h5, h6⟩ := h
  have hs2 := s2'.toNat_le
  cases op <;> simp only [Op.fits, Bool.and_eq_true, Bool.not_eq_true', beq_iff_eq, Bool.or_eq_true] at hf
  case newGen =>
    obtain ⟨rfl, rfl⟩ := hf
    exact ⟨h1, nofun, h3, h4, fun g hg => by have := h5 g hg; simp only [Op.run]; omega, h6⟩
  case create =>
    obtain ⟨⟨⟨rfl, rfl⟩, rfl⟩, rfl⟩ := hf
    simp only [if_false, Bool.false_eq_true] at h3
    refine ⟨h1, fun _ => rfl, by simp [Op.run, h3], by simp [Op.run, h4, h3], ?_, ?_⟩
    · intro g hg
      simp only [Op.run, List.mem_append, List.mem_singleton] at hg
      rcases hg with hg | rfl
      · exact Nat.le_of_lt (h5 g hg)
      · exact Nat.le_refl _
    · exact List.pairwise_append.2 ⟨h6, List.pairwise_singleton _ _, fun a ha b hb => by
        rw [List.mem_singleton.1 hb]; exact h5 a ha⟩
  case shutdown =>
    obtain ⟨⟨rfl, rfl⟩, rfl⟩ := hf
    simp only [if_true] at h3
    simp only [Op.run, h2 rfl]
    exact ⟨h1, nofun, by simp [h3], by simp [h4, h3], fun g hg => by have := h5 g hg; simp only [Bool.toNat_false]; omega, h6⟩
  all_goals
    obtain ⟨rfl, hs⟩ := hf
    refine ⟨h1, h2, h3, h4, fun g hg => ?_, h6⟩
    have := h5 g hg
    rcases hs with rfl | rfl
    · exact Nat.le_trans (Nat.le_add_right g _) this
    · exact Nat.le_trans (Nat.add_le_add_left hs2 g) this

structure AtPc (c : Core) : Prop where
  st : c.pc.stateAt = some c.st
  ever : c.everRunning = !c.pc.initialPhase
  stop : c.stop.isSome = c.pc.inShut
  prov : c.provSd = c.pc.provAt
  ret : c.ret = none

structure AtDone (c : Core) : Prop where
  ret : c.ret.isSome = true
  stopped : c.stop.isSome = true → c.st = .closed ∧ c.provSd = 1 ∧ c.everRunning = true
  failed : c.stop = none → c.ret = some false ∧ c.provSd = 0 ∧
    ((c.everRunning = false ∧ c.st = .closed) ∨ (c.everRunning = true ∧ (c.st = .starting ∨ c.st = .closing)))

structure Good (c : Core) : Prop where
  data : Data c.pc.hasLive c.pc.isSetup2 c
  stopKind : ∀ e, c.stop = some e → e.stops = true
  atPc : c.pc ≠ .done → AtPc c
  atDone : c.pc = .done → AtDone c

def Pc.all : List Pc :=
  [.idle, .initFail, .select, .reload1, .reload2, .shut1, .shut2, .shut3, .shut4, .done] ++
  [true, false].flatMap fun rl => [.setup1 rl, .setup2 rl, .setup3 rl, .setupSd rl, .setup4 rl]

theorem Pc.mem_all (p : Pc) : p ∈ Pc.all := by
  cases p <;> (try rename_i rl; cases rl) <;> decide

/-- A decidable fact about the rows `(p, ok, p')` of `Pc.next` holds if it holds on the table. `elab_as_elim`: `Q` is read off the
goal, so that `Pc.next_rows p ok p' h (by decide)` proves a table fact as it is stated. -/
@[elab_as_elim]
theorem Pc.next_rows {Q : Pc → Bool → Pc → Prop} [∀ p ok p', Decidable (Q p ok p')] (p : Pc) (ok : Bool) (p' : Pc)
    (hn : p.next ok = some p')
    (h : (Pc.all.all fun p => [true, false].all fun ok => (p.next ok).all fun p' => decide (Q p ok p')) = true) : Q p ok p' := by
  have := List.all_eq_true.1 (List.all_eq_true.1 h p p.mem_all) ok (by cases ok <;> decide)
  rw [hn] at this; exact of_decide_eq_true this

theorem Pc.next_atPc {p p' : Pc} {ok : Bool} (h : p.next ok = some p') (hd : p' ≠ .done) :
    p'.stateAt = (p.stores <|> p.stateAt) ∧ (!p'.initialPhase) = (p.stores == some .running || !p.initialPhase) ∧
    p'.inShut = p.inShut ∧ p'.provAt = p.provAt + (if p.op ok = .prov then 1 else 0) := by
  revert hd; exact Pc.next_rows p ok p' h (by decide)

theorem Pc.next_fits {p p' : Pc} {ok : Bool} (h : p.next ok = some p') :
    (p.op ok).fits p.hasLive p.isSetup2 p'.hasLive p'.isSetup2 = true :=
  Pc.next_rows p ok p' h (by decide)

/-- the rows that return, in the shape of `AtDone` (`stores <|> stateAt` is the state word after the statement) -/
theorem Pc.next_fin {p : Pc} {ok : Bool} (h : p.next ok = some .done) :
    p.op ok ≠ .prov ∧
    (p.inShut = true → p = .shut4 ∧ (p.stores <|> p.stateAt) = some .closed ∧ p.provAt = 1 ∧
      (p.stores == some .running || !p.initialPhase) = true) ∧
    (p.inShut = false → p ≠ .shut4 ∧ p.provAt = 0 ∧
      (((p.stores == some .running || !p.initialPhase) = false ∧ (p.stores <|> p.stateAt) = some .closed) ∨
       ((p.stores == some .running || !p.initialPhase) = true ∧
         ((p.stores <|> p.stateAt) = some .starting ∨ (p.stores <|> p.stateAt) = some .closing)))) := by
  generalize hd : Pc.done = p' at h
  revert hd; exact Pc.next_rows p ok p' h (by decide)

theorem Op.run_provSd (op : Op) (c : Core) : (op.run c).provSd = c.provSd + if op = .prov then 1 else 0 := by
  cases op <;> first | rfl | (simp only [Op.run]; split <;> rfl)

theorem good_step {s s' : S} {ok : Bool} (hg : Good s.core) (h : stepRun s ok = some s') : Good s'.core := by
  obtain ⟨hn, hret, hcore, -, -⟩ := stepRun_stepped h
  have hp : s.pc ≠ .done := fun hd => by rw [hd] at hn; cases hn
  obtain ⟨hst, hev, hstop, hprov, hr⟩ := hg.atPc hp
  replace hst : s.pc.stateAt = some s.st := hst
  replace hev : s.everRunning = !s.pc.initialPhase := hev
  replace hstop : s.stop.isSome = s.pc.inShut := hstop
  replace hprov : s.core.provSd = s.pc.provAt := hprov
  have hst' : (s.pc.stores <|> s.pc.stateAt) = some (s.pc.stores.getD s.st) := by rw [hst]; cases s.pc.stores <;> rfl
  have hdata := hg.data.op_run (s.pc.op ok) (Pc.next_fits hn)
  rw [hcore]
  refine ⟨⟨hdata.1, hdata.2, hdata.3, hdata.4, hdata.5, hdata.6⟩, hg.stopKind, fun hd => ?_, fun hd => ?_⟩
  · obtain ⟨t1, t2, t3, t4⟩ := Pc.next_atPc hn hd
    refine ⟨?_, ?_, ?_, ?_, ?_⟩
    · show s'.pc.stateAt = some (s.pc.stores.getD s.st)
      rw [t1, hst']
    · show (s.pc.stores == some .running || s.everRunning) = !s'.pc.initialPhase
      rw [t2, hev]
    · show s.stop.isSome = _
      rw [t3]; exact hstop
    · show (Op.run _ _).provSd = _
      rw [Op.run_provSd, t4, hprov]
    · show s'.ret = none
      rw [hret, if_neg hd]; exact hr
  · replace hd : s'.pc = .done := hd
    rw [hd] at hn
    obtain ⟨t0, ts, tf⟩ := Pc.next_fin hn
    rw [hst', ← hev, ← hstop] at ts tf
    refine ⟨?_, fun hs => ?_, fun hs => ?_⟩
    · show s'.ret.isSome = true
      rw [hret, if_pos hd]; rfl
    · show s.pc.stores.getD s.st = .closed ∧ (Op.run _ _).provSd = 1 ∧ (s.pc.stores == some .running || s.everRunning) = true
      obtain ⟨-, a, b, c⟩ := ts hs
      rw [Op.run_provSd, if_neg t0, hprov]
      exact ⟨Option.some.inj a, b, c⟩
    · show s'.ret = some false ∧ (Op.run _ _).provSd = 0 ∧ _
      obtain ⟨hne, b, c⟩ := tf (congrArg Option.isSome (show s.stop = none from hs))
      rw [Op.run_provSd, if_neg t0, hprov, hret, if_pos hd]
      exact ⟨by simp [hne], b, c.imp (fun x => ⟨x.1, Option.some.inj x.2⟩) (fun x => ⟨x.1, x.2.imp Option.some.inj Option.some.inj⟩)⟩

theorem Pc.stateAt_ne_closed (p : Pc) : p.stateAt ≠ some .closed := by
  cases p <;> (try (rename_i rl; cases rl)) <;> decide

theorem Pc.inShut_not_initial {p : Pc} (h : p.inShut = true) : p.initialPhase = false := by
  cases p <;> first | rfl | cases h

theorem Good.inv {c : Core} (g : Good c) : Inv c := by
  have d := g.data
  have hbound : ∀ x ∈ c.created, if c.pc.isSetup2 then x < c.gen else x ≤ c.gen := fun x hx => by
    have := d.bound x hx
    cases hs : c.pc.isSetup2 <;> rw [hs] at this <;> exact this
  by_cases hd : c.pc = .done
  · obtain ⟨f1, f2, f3⟩ := g.atDone hd
    exact {
      noPanic := d.noPanic, svcLive := d.svcLive, live := d.live, created := d.created, bound := hbound, sorted := d.sorted
      stopKind := g.stopKind
      -- Run has returned: the clauses about earlier program points are vacuous
      stAt := by rw [hd]; nofun
      shutStop := by rw [hd]; nofun
      notEver := by rw [hd]; nofun
      ever := fun _ h => absurd hd h
      closedDone := fun _ => hd
      stopPc := fun _ => Or.inr hd
      retDone := ⟨fun _ => hd, fun _ => f1⟩
      -- the others are `AtDone`
      prov := by
        rw [hd]
        cases hs : c.stop with
        | none => simpa using (f3 hs).2.1
        | some e => simpa using (f2 (by rw [hs]; rfl)).2.1
      doneStop := fun _ h => (f2 h).1
      doneErr := fun _ h => (f3 h).1
      stopEver := fun h => (f2 h).2.2
      doneNoStop := fun _ h => (f3 h).2.2 }
  · obtain ⟨a1, a2, a3, a4, a5⟩ := g.atPc hd
    exact {
      noPanic := d.noPanic, svcLive := d.svcLive, live := d.live, created := d.created, bound := hbound, sorted := d.sorted
      stopKind := g.stopKind
      -- Run has not returned: the clauses about `done` are vacuous
      doneStop := fun h => absurd h hd
      doneErr := fun h => absurd h hd
      doneNoStop := fun h => absurd h hd
      retDone := ⟨fun h => (by rw [a5] at h; cases h), fun h => absurd h hd⟩
      -- the others are `AtPc`, read through the tables
      stAt := fun x hx => by rw [a1] at hx; exact Option.some.inj hx
      closedDone := fun h => by rw [h] at a1; exact absurd a1 (Pc.stateAt_ne_closed _)
      prov := by rw [a4]; cases hp : c.pc <;> first | exact absurd hp hd | simp [Pc.provAt]
      stopPc := fun h => Or.inl (a3 ▸ h)
      shutStop := fun h => a3.trans h
      ever := fun h _ => by rw [a2, h]; rfl
      stopEver := fun h => by rw [a3] at h; rw [a2, Pc.inShut_not_initial h]; rfl
      notEver := fun h => by rw [a2, h]; rfl }

structure Picked (s : S) (e : Ev) (s' : S) : Prop where
  core : s'.core = { s.core with pc := if e.stops then .shut1 else .reload1, stop := if e.stops then some e else s.stop }
  log : s'.log = s.log ++ if e.stops then [.stop] else []
  chanClosed : s'.chanClosed = s.chanClosed
  closers : s'.closers = s.closers
  ctxDone : s'.ctxDone = s.ctxDone
  req : s'.req = s.req
  callerPanic : s'.callerPanic = s.callerPanic
  nWatchOk : s'.nWatchOk + (if e = .watchOk then 1 else 0) = s.nWatchOk
  nWatchErr : s'.nWatchErr + (if e = .watchErr then 1 else 0) = s.nWatchErr
  nHup : s'.nHup + (if e = .hup then 1 else 0) = s.nHup
  nTerm : s'.nTerm + (if e = .term then 1 else 0) = s.nTerm

theorem Picked.pc {s s' : S} {e : Ev} (x : Picked s e s') : s'.pc = if e.stops then .shut1 else .reload1 :=
  congrArg Core.pc x.core

theorem pickEv_picked {s s' : S} {e : Ev} (h : pickEv s e = some s') : Picked s e s' := by
  cases e <;> simp only [pickEv, leave, S.emit] at h <;> split at h <;> simp only [Option.some.injEq, reduceCtorEq] at h
  all_goals subst h
  -- second alternative: the four branches that take a counter down, where `n - 1 + 1 = n` needs the guard
  all_goals first
    | exact ⟨rfl, by simp [Ev.stops], rfl, rfl, rfl, rfl, rfl, rfl, rfl, rfl, rfl⟩
    | (refine ⟨rfl, by simp [Ev.stops], rfl, rfl, rfl, rfl, rfl, ?_, ?_, ?_, ?_⟩ <;> simp <;> omega)

theorem pick_stops (v : Variant) {s : S} {e : Ev} (hpc : s.pc = .select) (he : e.stops = true) (h : (pickEv s e).isSome = true) :
    ∃ s', fire v s (.pick e) = some s' ∧ s'.stop = some e ∧ s'.pc = .shut1 := by
  obtain ⟨s', hs⟩ := Option.isSome_iff_exists.1 h
  have pk := pickEv_picked hs
  exact ⟨s', (if_pos hpc).trans hs, (congrArg Core.stop pk.core).trans (if_pos he), pk.pc.trans (if_pos he)⟩

theorem good_pick {s s' : S} {e : Ev} (hg : Good s.core) (hpc : s.pc = .select) (h : pickEv s e = some s') : Good s'.core := by
  have hp : s.core.pc = .select := hpc
  obtain ⟨a1, a2, a3, a4, a5⟩ := hg.atPc (by rw [hp]; decide)
  have d := hg.data
  rw [hp] at a1 a2 a3 a4 d
  rw [(pickEv_picked h).core]
  cases hs : e.stops
  · refine ⟨⟨d.1, d.2, d.3, d.4, d.5, d.6⟩, hg.stopKind, fun _ => ⟨a1, a2, a3, a4, a5⟩, fun hd => ?_⟩
    cases hd
  · refine ⟨⟨d.1, d.2, d.3, d.4, d.5, d.6⟩, ?_, fun _ => ⟨a1, a2, rfl, a4, a5⟩, fun hd => ?_⟩
    · intro e' he'; cases he'; exact hs
    · cases hd

theorem good_begin {s : S} (hg : Good s.core) (hpc : s.pc = .idle) : Good ({ s with pc := .setup1 false } : S).core := by
  have hp : s.core.pc = .idle := hpc
  obtain ⟨a1, a2, a3, a4, a5⟩ := hg.atPc (by rw [hp]; decide)
  have d := hg.data
  rw [hp] at a1 a2 a3 a4 d
  exact ⟨⟨d.1, d.2, d.3, d.4, d.5, d.6⟩, hg.stopKind, fun _ => ⟨a1, a2, a3, a4, a5⟩, nofun⟩

def Label.isExt : Label → Bool
  | .call | .close | .post _ | .cancel | .fatal | .giveUp => true
  | _ => false

theorem Variant.honours_closed (v : Variant) : v.honours .closed = false := by cases v <;> rfl

theorem Variant.fixed_honours {st : CState} : Variant.fixed.honours st = true ↔ st ≠ .closed := by cases st <;> decide

theorem svcShutdown_some {s : S} {g : Nat} (h : s.svc = some g) : svcShutdown s =
    S.emit { s with live := s.live.erase g, sdLog := s.sdLog ++ [g], nFatal := 0, nStale := s.nStale + s.nFatal } (.shut g 0) := by
  simp only [svcShutdown, h]

theorem fire_call (v : Variant) (s : S) : fire v s .call =
    some { s with req := s.req || s.everRunning, closers := s.closers + (v.honours s.st).toNat, log := s.log ++ [.call] } := by
  cases hh : v.honours s.st <;> simp only [fire, S.emit, hh] <;> rfl

structure Exted (s : S) (l : Label) (s' : S) : Prop where
  core : s'.core = s.core
  log : s'.log = s.log ++ if l = .call then [.call] else []
  nFatal : s.nFatal ≤ s'.nFatal

theorem Exted.pc {s s' : S} {l : Label} (x : Exted s l s') : s'.pc = s.pc := congrArg Core.pc x.core

theorem fire_exted (v : Variant) {s s' : S} {l : Label} (hl : l.isExt = true) (h : fire v s l = some s') : Exted s l s' := by
  cases l with
  | call => rw [fire_call] at h; cases h; exact ⟨rfl, rfl, Nat.le_refl _⟩
  | close | giveUp =>
    simp only [fire] at h
    split at h <;> cases h
    exact ⟨rfl, (List.append_nil _).symm, Nat.le_refl _⟩
  | post e =>
    cases e <;> simp only [fire, postEv, Option.some.injEq, reduceCtorEq] at h <;> subst h <;>
      exact ⟨rfl, (List.append_nil _).symm, Nat.le_refl _⟩
  | cancel => cases h; exact ⟨rfl, (List.append_nil _).symm, Nat.le_refl _⟩
  | fatal => cases h; exact ⟨rfl, (List.append_nil _).symm, Nat.le_succ _⟩
  | _ => cases hl

/-- What a label writes outside `Core`, in one closed form for every label: the flags and counters are raised by labels of other
goroutines only, and only the select's receive takes a pending notification away. -/
structure Frame (v : Variant) (s : S) (l : Label) (s' : S) : Prop where
  req : s'.req = (s.req || (l == .call && s.everRunning))
  chanClosed : s'.chanClosed = (l == .close || s.chanClosed)
  closers : s'.closers + (if l = .close then 1 else 0) = s.closers + if l = .call then (v.honours s.st).toNat else 0
  ctxDone : s'.ctxDone = (l == .cancel || s.ctxDone)
  callerPanic : s'.callerPanic = (s.callerPanic || (l == .close && s.chanClosed && !Gen.ShutdownShape.closeRecovered))
  nWatchOk : s'.nWatchOk + (if l = .pick .watchOk then 1 else 0) = s.nWatchOk + if l = .post .watchOk then 1 else 0
  nWatchErr : s'.nWatchErr + (if l = .pick .watchErr then 1 else 0) = s.nWatchErr + if l = .post .watchErr then 1 else 0
  nHup : s'.nHup + (if l = .pick .hup then 1 else 0) = s.nHup + if l = .post .hup then 1 else 0
  nTerm : s'.nTerm + (if l = .pick .term then 1 else 0) = s.nTerm + if l = .post .term then 1 else 0

theorem fire_frame (v : Variant) {s s' : S} {l : Label} (h : fire v s l = some s') : Frame v s l s' := by
  -- `fatal`, `giveUp`, `begin` and the statements of Run write none of these fields
  have same : ∀ {l}, l ≠ .call → l ≠ .close → l ≠ .cancel → (∀ e, l ≠ .post e) → (∀ e, l ≠ .pick e) → s'.outer = s.outer →
      Frame v s l s' := fun {l} h1 h2 h3 h4 h5 ho => by
    have b1 : (l == Label.call) = false := beq_eq_false_iff_ne.2 h1
    have b2 : (l == Label.close) = false := beq_eq_false_iff_ne.2 h2
    have b3 : (l == Label.cancel) = false := beq_eq_false_iff_ne.2 h3
    refine ⟨?_, ?_, ?_, ?_, ?_, ?_, ?_, ?_, ?_⟩
    · rw [b1, Bool.false_and, Bool.or_false]; exact congrArg Outer.req ho
    · rw [b2, Bool.false_or]; exact congrArg Outer.chanClosed ho
    · rw [if_neg h1, if_neg h2]; exact congrArg Outer.closers ho
    · rw [b3, Bool.false_or]; exact congrArg Outer.ctxDone ho
    · rw [b2, Bool.false_and, Bool.false_and, Bool.or_false]; exact congrArg Outer.callerPanic ho
    · rw [if_neg (h4 _), if_neg (h5 _)]; exact congrArg Outer.nWatchOk ho
    · rw [if_neg (h4 _), if_neg (h5 _)]; exact congrArg Outer.nWatchErr ho
    · rw [if_neg (h4 _), if_neg (h5 _)]; exact congrArg Outer.nHup ho
    · rw [if_neg (h4 _), if_neg (h5 _)]; exact congrArg Outer.nTerm ho
  cases l with
  | call => rw [fire_call] at h; cases h; exact ⟨rfl, rfl, rfl, rfl, (Bool.or_false _).symm, rfl, rfl, rfl, rfl⟩
  | close =>
    simp only [fire] at h
    split at h <;> cases h
    exact ⟨(Bool.or_false _).symm, rfl, Nat.sub_add_cancel ‹_›, rfl, by simp [closeStep], rfl, rfl, rfl, rfl⟩
  | cancel => cases h; exact ⟨(Bool.or_false _).symm, rfl, rfl, rfl, (Bool.or_false _).symm, rfl, rfl, rfl, rfl⟩
  | post e =>
    cases e <;> simp only [fire, postEv, Option.some.injEq, reduceCtorEq] at h <;> subst h <;>
      exact ⟨(Bool.or_false _).symm, rfl, rfl, rfl, (Bool.or_false _).symm, rfl, rfl, rfl, rfl⟩
  | pick e =>
    simp only [fire] at h
    split at h
    · have pk := pickEv_picked h
      refine ⟨pk.req.trans (Bool.or_false _).symm, pk.chanClosed, pk.closers, pk.ctxDone, pk.callerPanic.trans (Bool.or_false _).symm,
        ?_, ?_, ?_, ?_⟩ <;> simp only [Label.pick.injEq, reduceCtorEq, if_false, Nat.add_zero]
      · exact pk.nWatchOk
      · exact pk.nWatchErr
      · exact pk.nHup
      · exact pk.nTerm
    · cases h
  | fatal => cases h; exact same nofun nofun nofun nofun nofun rfl
  | giveUp | begin => simp only [fire] at h; split at h <;> cases h; exact same nofun nofun nofun nofun nofun rfl
  | step ok => exact same nofun nofun nofun nofun nofun (stepRun_stepped h).outer

theorem fire_cases (v : Variant) {s s' : S} {l : Label} (h : fire v s l = some s') :
    (l.isExt = true ∧ Exted s l s') ∨ (l = .begin ∧ s.pc = .idle ∧ s' = { s with pc := .setup1 false }) ∨
    (∃ ok, l = .step ok ∧ stepRun s ok = some s') ∨ (∃ e, l = .pick e ∧ s.pc = .select ∧ pickEv s e = some s') := by
  cases l with
  | begin =>
    simp only [fire] at h
    split at h
    · exact Or.inr (Or.inl ⟨rfl, ‹_›, (Option.some.inj h).symm⟩)
    · cases h
  | step ok => exact Or.inr (Or.inr (Or.inl ⟨ok, rfl, h⟩))
  | pick e =>
    simp only [fire] at h
    split at h
    · exact Or.inr (Or.inr (Or.inr ⟨e, rfl, ‹_›, h⟩))
    · cases h
  | _ => exact Or.inl ⟨rfl, fire_exted v rfl h⟩

theorem good_init : Good init.core :=
  ⟨⟨rfl, nofun, rfl, rfl, nofun, .nil⟩, nofun, fun _ => ⟨rfl, rfl, rfl, rfl, rfl⟩, nofun⟩

theorem good_fire (v : Variant) {s s' : S} {l : Label} (hg : Good s.core) (h : fire v s l = some s') : Good s'.core := by
  rcases fire_cases v h with ⟨-, hc⟩ | ⟨-, hpc, rfl⟩ | ⟨ok, -, hs⟩ | ⟨e, -, hpc, hp⟩
  · rw [hc.core]; exact hg
  · exact good_begin hg hpc
  · exact good_step hg hs
  · exact good_pick hg hpc hp

theorem runFrom_append (v : Variant) (s : S) (l1 l2 : List Label) :
    runFrom v s (l1 ++ l2) = (runFrom v s l1).bind (fun s' => runFrom v s' l2) :=
  run_append (fun _ => rfl) (fun _ _ _ => rfl) s l1 l2

theorem runFrom_cons_eq_some {v : Variant} {s s' : S} {l : Label} {ls : List Label} :
    runFrom v s (l :: ls) = some s' ↔ ∃ s1, fire v s l = some s1 ∧ runFrom v s1 ls = some s' := Option.bind_eq_some_iff

theorem runFrom_invariant_of (v : Variant) {P : S → Prop} {Q : Label → Prop}
    (hP : ∀ s l s', Q l → P s → fire v s l = some s' → P s')
    (ls : List Label) (hQ : ∀ l ∈ ls, Q l) {s s' : S} (h0 : P s) (h : runFrom v s ls = some s') : P s' :=
  run_induction (run := runFrom v) (fun _ => rfl) (fun _ _ _ => rfl) (fun s l s' hp hq => hP s l s' hq hp) ls s s' h0 hQ h

theorem runFrom_invariant (v : Variant) {P : S → Prop} (hP : ∀ s l s', P s → fire v s l = some s' → P s')
    (ls : List Label) {s s' : S} (h0 : P s) (h : runFrom v s ls = some s') : P s' :=
  runFrom_invariant_of v (Q := fun _ => True) (fun s l s' _ => hP s l s') ls (fun _ _ => trivial) h0 h

theorem good_reachable {v : Variant} {s : S} (h : Reachable v s) : Good s.core := by
  obtain ⟨ls, h⟩ := h
  exact runFrom_invariant v (P := fun s => Good s.core) (fun _ _ _ hg hf => good_fire v hg hf) ls good_init h

theorem reachable_induction {v : Variant} {P : S → Prop} (h0 : P init)
    (step : ∀ s l s', Good s.core → P s → fire v s l = some s' → P s') {s : S} (h : Reachable v s) : P s := by
  obtain ⟨ls, h⟩ := h
  exact (runFrom_invariant v (P := fun s => Good s.core ∧ P s)
    (fun s l s' hp hf => ⟨good_fire v hp.1 hf, step s l s' hp.1 hp.2 hf⟩) ls ⟨good_init, h0⟩ h).2

theorem inv_reachable {v : Variant} {s : S} (h : Reachable v s) : Inv s.core := (good_reachable h).inv

theorem ret_iff_done {v : Variant} {s : S} (h : Reachable v s) : s.ret.isSome = true ↔ s.pc = .done := (inv_reachable h).retDone

theorem reachable_runFrom {v : Variant} {s s' : S} {ls : List Label} (hr : Reachable v s) (h : runFrom v s ls = some s') :
    Reachable v s' := by
  obtain ⟨ls0, h0⟩ := hr
  refine ⟨ls0 ++ ls, ?_⟩
  simp only [run] at h0 ⊢
  rw [runFrom_append, h0]; exact h

theorem sdLog_count_le_one (v : Variant) (s : S) (h : Reachable v s) (g : Nat) :
    s.sdLog.count g ≤ 1 := by
  have d := (good_reachable h).data
  have hs := d.sorted
  rw [d.created] at hs
  exact List.nodup_iff_count.1 ((List.pairwise_append.1 hs).1.imp Nat.ne_of_lt) g

theorem created_all_shutdown {v : Variant} {s : S} (h : Reachable v s) (hl : s.live = []) :
    ∀ g ∈ s.created, s.sdLog.count g = 1 := by
  intro g hg
  have hc : s.created = s.sdLog ++ s.live := (good_reachable h).data.created
  rw [hc, hl, List.append_nil] at hg
  have := sdLog_count_le_one v s h g
  have : 0 < s.sdLog.count g := List.count_pos_iff.2 hg
  omega

theorem returned {v : Variant} {s : S} (h : Reachable v s) (hr : s.ret.isSome = true) :
    AtDone s.core ∧ s.live = [] ∧ (∀ g ∈ s.created, s.sdLog.count g = 1) ∧ s.panic = false := by
  have g := good_reachable h
  have hpc := (ret_iff_done h).1 hr
  have hlive : s.live = [] := by
    have := g.data.live
    rw [show s.core.pc = .done from hpc] at this; exact this
  exact ⟨g.atDone hpc, hlive, created_all_shutdown h hlive, g.data.noPanic⟩

/-- steps the Run goroutine still has to execute on the shutdown path -/
def Pc.remaining : Pc → Nat
  | .shut1 => 4 | .shut2 => 3 | .shut3 => 2 | .shut4 => 1 | _ => 0

theorem Pc.remaining_pos {p : Pc} (h : p.inShut = true) : 0 < p.remaining := by
  cases p <;> first | decide | cases h

def Label.isStep : Label → Bool
  | .step _ => true
  | _ => false

theorem Pc.next_shut {p p' : Pc} {ok : Bool} (h : p.next ok = some p') (hp : p.inShut = true ∨ p = .done) :
    (p'.inShut = true ∨ p' = .done) ∧ p'.remaining + 1 = p.remaining := by
  revert hp; exact Pc.next_rows p ok p' h (by decide)

theorem shut_fire {v : Variant} {s s' : S} {l : Label} (hp : s.pc.inShut = true ∨ s.pc = .done) (h : fire v s l = some s') :
    (s'.pc.inShut = true ∨ s'.pc = .done) ∧ s'.pc.remaining + (if l.isStep then 1 else 0) = s.pc.remaining := by
  rcases fire_cases v h with ⟨hl, hc⟩ | ⟨-, hpc, -⟩ | ⟨ok, rfl, hs⟩ | ⟨e, -, hpc, -⟩
  · have hc := hc.pc
    rw [hc]
    cases l <;> first | exact ⟨hp, rfl⟩ | cases hl
  · rw [hpc] at hp; rcases hp with hp | hp <;> cases hp
  · exact Pc.next_shut (stepRun_stepped hs).pc hp
  · rw [hpc] at hp; rcases hp with hp | hp <;> cases hp

def countSteps (ls : List Label) : Nat := (ls.filter Label.isStep).length

theorem shut_runFrom {v : Variant} {s s' : S} (ls : List Label) (hp : s.pc.inShut = true ∨ s.pc = .done)
    (h : runFrom v s ls = some s') :
    (s'.pc.inShut = true ∨ s'.pc = .done) ∧ s'.pc.remaining + countSteps ls = s.pc.remaining := by
  induction ls generalizing s with
  | nil => cases h; exact ⟨hp, rfl⟩
  | cons l ls ih =>
    obtain ⟨s1, hf, h⟩ := runFrom_cons_eq_some.1 h
    obtain ⟨hp1, hr1⟩ := shut_fire hp hf
    obtain ⟨hp2, hr2⟩ := ih hp1 h
    refine ⟨hp2, ?_⟩
    simp only [countSteps, List.filter_cons] at hr2 ⊢
    cases hl : l.isStep <;> simp only [hl, if_true, if_false, Bool.false_eq_true, List.length_cons] at hr1 ⊢ <;> omega

theorem pending_fire (v : Variant) {s s' : S} {l : Label} (h : fire v s l = some s')
    (hp : s.chanClosed = true ∨ s.closers > 0) : s'.chanClosed = true ∨ s'.closers > 0 := by
  have f := fire_frame v h
  have hcl := f.closers
  rw [f.chanClosed]
  by_cases hc : l = .close
  · subst hc; exact Or.inl rfl
  · rw [if_neg hc] at hcl
    exact hp.imp (fun h1 => by rw [h1, Bool.or_true]) (fun h1 => by omega)

theorem callerPanic_fire (v : Variant) {s s' : S} {l : Label} (hrec : Gen.ShutdownShape.closeRecovered = true)
    (h : fire v s l = some s') : s'.callerPanic = s.callerPanic := by
  rw [(fire_frame v h).callerPanic, hrec, Bool.not_true, Bool.and_false, Bool.or_false]

theorem watchErr_fire (v : Variant) {s s' : S} {l : Label} (hl : l ≠ .pick .watchErr)
    (h : fire v s l = some s') : s.nWatchErr ≤ s'.nWatchErr := by
  have := (fire_frame v h).nWatchErr
  rw [if_neg hl] at this
  omega

theorem pending_runFrom (v : Variant) (ls : List Label) {s s' : S} (h : runFrom v s ls = some s')
    (hp : s.chanClosed = true ∨ s.closers > 0) : s'.chanClosed = true ∨ s'.closers > 0 :=
  runFrom_invariant v (P := fun t => t.chanClosed = true ∨ t.closers > 0) (fun _ _ _ hp hf => pending_fire v hf hp) ls hp h

/-- the request is pending (a goroutine is between the guard and `close`), visible to the select, or moot -/
def NotLost (s : S) : Prop := s.req = true → s.chanClosed = true ∨ s.closers > 0 ∨ s.pc = .done

theorem done_fire (v : Variant) {s s' : S} {l : Label} (h : fire v s l = some s') (hd : s.pc = .done) : s'.pc = .done := by
  rcases fire_cases v h with ⟨-, x⟩ | ⟨-, hpc, -⟩ | ⟨ok, -, hs⟩ | ⟨e, -, hpc, -⟩
  · exact x.pc.trans hd
  · rw [hpc] at hd; cases hd
  · have hn := (stepRun_stepped hs).pc; rw [hd] at hn; cases hn
  · rw [hpc] at hd; cases hd

theorem stop_fire (v : Variant) {s s' : S} {l : Label} (h : fire v s l = some s') :
    s'.stop = s.stop ∨ ∃ e, l = .pick e ∧ s'.stop = some e := by
  rcases fire_cases v h with ⟨-, hc⟩ | ⟨-, -, rfl⟩ | ⟨ok, -, hs⟩ | ⟨e, rfl, -, hk⟩
  · exact Or.inl (congrArg Core.stop hc.core)
  · exact Or.inl rfl
  · exact Or.inl (congrArg Core.stop (stepRun_stepped hs).core)
  · have hst : s'.stop = if e.stops then some e else s.stop := congrArg Core.stop (pickEv_picked hk).core
    rw [hst]
    cases e.stops
    · exact Or.inl rfl
    · exact Or.inr ⟨e, rfl, rfl⟩

theorem notLost_fire {s s' : S} {l : Label} (hi : Good s.core) (hn : NotLost s) (h : fire .fixed s l = some s') : NotLost s' := by
  have f := fire_frame .fixed h
  intro hr
  rw [f.req, Bool.or_eq_true] at hr
  rcases hr with hr | hr
  · -- an old request stays pending
    rcases hn hr with h1 | h1 | h1
    · exact (pending_fire .fixed h (Or.inl h1)).imp id Or.inl
    · exact (pending_fire .fixed h (Or.inr h1)).imp id Or.inl
    · exact Or.inr (Or.inr (done_fire .fixed h h1))
  · -- a new one passes the guard unless the state is Closed
    have hcall : l = .call := by cases l <;> first | rfl | cases hr
    subst hcall
    have hcl := f.closers
    by_cases hc : s.st = .closed
    · exact Or.inr (Or.inr (done_fire .fixed h (hi.inv.closedDone hc)))
    · simp only [reduceCtorEq, if_false, if_true, Variant.fixed_honours.2 hc, Bool.toNat_true] at hcl
      exact Or.inr (Or.inl (by omega))

end OtelVerif.C20

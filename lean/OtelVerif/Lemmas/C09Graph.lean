import OtelVerif.Lemmas.C09
import OtelVerif.Lemmas.Basic
/-!
# C09: `chain`, then the structure of `edges cfg`

Where chain nodes have no other out-edges a walk runs along the chain (`walk_forced`, `closed_forced`, any edge list); what an edge of
`edges cfg` can be (`mem_edges`, `edge_by_source`); closed walks seen from the pipelines (defines `Behind`; `step_in_pipe`, `closed_to_cap`).
-/
namespace OtelVerif.C09

/-! ## the two sides of a pipeline -/

/-- the shape shared by `pipeRecvNodes` and `pipeExpNodes` -/
theorem mem_sideNodes {cfg : Cfg} {ids : List CompId} {plain : CompId → Node} {others : CompId → List Pipeline}
    {mk : CompId → Pipeline → Node} {n : Node} :
    n ∈ dedup (ids.flatMap (fun r => if cfg.isConn r then (others r).map (mk r) else [plain r])) ↔
      (∃ r, r ∈ ids ∧ cfg.isConn r = false ∧ n = plain r) ∨
      (∃ c, c ∈ ids ∧ cfg.isConn c = true ∧ ∃ p, p ∈ others c ∧ n = mk c p) := by
  simp only [mem_dedup, List.mem_flatMap]
  constructor
  · rintro ⟨r, hr, h⟩
    cases hc : cfg.isConn r with
    | true =>
      simp only [hc, if_true, List.mem_map] at h
      obtain ⟨p, hp, rfl⟩ := h
      exact Or.inr ⟨r, hr, hc, p, hp, rfl⟩
    | false =>
      simp only [hc, Bool.false_eq_true, if_false, List.mem_singleton] at h
      exact Or.inl ⟨r, hr, hc, h⟩
  · rintro (⟨r, hr, hc, rfl⟩ | ⟨c, hc, hic, p, hp, rfl⟩)
    · exact ⟨r, hr, by simp [hc]⟩
    · exact ⟨c, hc, by simp only [hic, if_true]; exact List.mem_map_of_mem hp⟩

theorem mem_pipeRecvNodes {cfg : Cfg} {q : Pipeline} {n : Node} :
    n ∈ pipeRecvNodes cfg q ↔
      (∃ r, r ∈ q.recv ∧ cfg.isConn r = false ∧ n = Node.recv q.id.sig r) ∨
      (∃ c, c ∈ q.recv ∧ cfg.isConn c = true ∧ ∃ p, p ∈ cfg.pipes ∧ c ∈ p.exps ∧
        cfg.supp c p.id.sig q.id.sig = true ∧ n = Node.conn p.id.sig q.id.sig c) := by
  simp only [pipeRecvNodes, mem_sideNodes, mem_asExp, List.mem_filter, and_assoc]

theorem mem_pipeExpNodes {cfg : Cfg} {p : Pipeline} {n : Node} :
    n ∈ pipeExpNodes cfg p ↔
      (∃ e, e ∈ p.exps ∧ cfg.isConn e = false ∧ n = Node.exp p.id.sig e) ∨
      (∃ c, c ∈ p.exps ∧ cfg.isConn c = true ∧ ∃ q, q ∈ cfg.pipes ∧ c ∈ q.recv ∧
        cfg.supp c p.id.sig q.id.sig = true ∧ n = Node.conn p.id.sig q.id.sig c) := by
  simp only [pipeExpNodes, mem_sideNodes, mem_asRecv, List.mem_filter, and_assoc]

theorem mem_procNodes {p : Pipeline} {n : Node} : n ∈ procNodes p ↔ ∃ i, i ∈ p.procs ∧ Node.proc p.id i = n := List.mem_map

/-! ## the processor chain -/

theorem chain_mem {a z x y : Node} {l : List Node} (h : (x, y) ∈ chain a l z) : x ∈ a :: l ∧ (y ∈ l ∨ y = z) := by
  induction l generalizing a with
  | nil =>
    simp only [chain, List.mem_singleton, Prod.mk.injEq] at h
    exact ⟨by simp [h.1], Or.inr h.2⟩
  | cons b l ih =>
    simp only [chain, List.mem_cons, Prod.mk.injEq] at h
    rcases h with ⟨rfl, rfl⟩ | h
    · exact ⟨List.mem_cons_self, Or.inl List.mem_cons_self⟩
    · exact ⟨List.mem_cons_of_mem _ (ih h).1, (ih h).2.imp_left (List.mem_cons_of_mem _)⟩

theorem walk_chain {E : List (Node × Node)} {a z : Node} {l rest : List Node}
    (hE : ∀ e, e ∈ chain a l z → e ∈ E) (ha : a.isExp = false) (hl : ∀ x ∈ l, x.isExp = false)
    (hz : IsRouteWalk E z rest) : IsRouteWalk E a (l ++ z :: rest) := by
  induction l generalizing a with
  | nil => exact isRouteWalk_cons.mpr ⟨ha, hE _ (by simp [chain]), hz⟩
  | cons b l ih =>
    refine isRouteWalk_cons.mpr ⟨ha, hE _ (by simp [chain]), ?_⟩
    exact ih (fun e he => hE e (by simp [chain, he])) (hl b List.mem_cons_self)
      (fun x hx => hl x (List.mem_cons_of_mem _ hx))

theorem path_chain {E : List (Node × Node)} {a z : Node} {l : List Node}
    (hE : ∀ e, e ∈ chain a l z → e ∈ E) : Path E a z := by
  induction l generalizing a with
  | nil => exact Path.single (hE _ (by simp [chain]))
  | cons b l ih =>
    exact Path.cons (b := b) (hE (a, b) (by simp [chain])) (ih (a := b) (fun e he => hE e (by simp [chain, he])))

theorem chain_forced_cons {E : List (Node × Node)} {a b z : Node} {l : List Node} (hnd : (a :: b :: l).Nodup)
    (hout : ∀ x y, x ∈ a :: b :: l → (x, y) ∈ E → (x, y) ∈ chain a (b :: l) z) :
    (∀ y, (a, y) ∈ E → y = b) ∧ ∀ x y, x ∈ b :: l → (x, y) ∈ E → (x, y) ∈ chain b l z := by
  have hnd' := List.nodup_cons.mp hnd
  refine ⟨fun y hE => ?_, fun x y hx hxy => ?_⟩
  · have h1 := hout a y List.mem_cons_self hE
    simp only [chain, List.mem_cons, Prod.mk.injEq] at h1
    rcases h1 with ⟨_, h⟩ | h
    · exact h
    · exact absurd (chain_mem h).1 hnd'.1
  · have h2 := hout x y (List.mem_cons_of_mem _ hx) hxy
    simp only [chain, List.mem_cons, Prod.mk.injEq] at h2
    rcases h2 with ⟨rfl, _⟩ | h2
    · exact absurd hx hnd'.1
    · exact h2

theorem chain_forced_nil {E : List (Node × Node)} {a z : Node}
    (hout : ∀ x y, x ∈ [a] → (x, y) ∈ E → (x, y) ∈ chain a [] z) (y : Node) (hE : (a, y) ∈ E) : y = z := by
  have := hout a y List.mem_cons_self hE
  simp only [chain, List.mem_singleton, Prod.mk.injEq] at this
  exact this.2

theorem walk_forced {E : List (Node × Node)} {z : Node} : ∀ (l : List Node) (a : Node) (w : List Node),
    (a :: l).Nodup → (∀ x, x ∈ a :: l → x.isExp = false) →
    (∀ x y, x ∈ a :: l → (x, y) ∈ E → (x, y) ∈ chain a l z) →
    IsRouteWalk E a w → ∃ rest, w = l ++ z :: rest ∧ IsRouteWalk E z rest := by
  intro l
  induction l with
  | nil =>
    intro a w _ hne hout hw
    cases w with
    | nil => rw [isRouteWalk_nil, hne a List.mem_cons_self] at hw; cases hw
    | cons m w =>
      obtain ⟨_, hE, hw'⟩ := isRouteWalk_cons.mp hw
      cases chain_forced_nil hout m hE
      exact ⟨w, rfl, hw'⟩
  | cons b l ih =>
    intro a w hnd hne hout hw
    cases w with
    | nil => rw [isRouteWalk_nil, hne a List.mem_cons_self] at hw; cases hw
    | cons m w =>
      obtain ⟨_, hE, hw'⟩ := isRouteWalk_cons.mp hw
      obtain ⟨hb, hout'⟩ := chain_forced_cons hnd hout
      cases hb m hE
      obtain ⟨rest, hr, hz⟩ := ih b w (List.nodup_cons.mp hnd).2 (fun x hx => hne x (List.mem_cons_of_mem _ hx)) hout' hw'
      exact ⟨rest, by rw [hr]; rfl, hz⟩

/-! ## the edges of `edges cfg` -/

theorem mem_edges {cfg : Cfg} {a b : Node} :
    (a, b) ∈ edges cfg ↔ ∃ p, p ∈ cfg.pipes ∧
      ((a ∈ pipeRecvNodes cfg p ∧ b = Node.cap p.id) ∨
       (a, b) ∈ chain (Node.cap p.id) (procNodes p) (Node.fanout p.id) ∨
       (a = Node.fanout p.id ∧ b ∈ pipeExpNodes cfg p)) := by
  simp only [edges, List.mem_flatMap, pipeEdges, List.mem_append, List.mem_map, Prod.mk.injEq]
  constructor
  · rintro ⟨p, hp, (⟨r, hr, rfl, rfl⟩ | h) | ⟨e, he, rfl, rfl⟩⟩
    · exact ⟨p, hp, Or.inl ⟨hr, rfl⟩⟩
    · exact ⟨p, hp, Or.inr (Or.inl h)⟩
    · exact ⟨p, hp, Or.inr (Or.inr ⟨rfl, he⟩)⟩
  · rintro ⟨p, hp, ⟨hr, rfl⟩ | h | ⟨rfl, he⟩⟩
    · exact ⟨p, hp, Or.inl (Or.inl ⟨a, hr, rfl, rfl⟩)⟩
    · exact ⟨p, hp, Or.inl (Or.inr h)⟩
    · exact ⟨p, hp, Or.inr ⟨b, he, rfl, rfl⟩⟩

theorem chain_edge_mem {cfg : Cfg} {p : Pipeline} (hp : p ∈ cfg.pipes) (e : Node × Node)
    (he : e ∈ chain (Node.cap p.id) (procNodes p) (Node.fanout p.id)) : e ∈ edges cfg :=
  mem_edges.mpr ⟨p, hp, Or.inr (Or.inl he)⟩

theorem conn_hop_edges {cfg : Cfg} {p q : Pipeline} {c : CompId} (hp : p ∈ cfg.pipes) (hq : q ∈ cfg.pipes) (hce : c ∈ p.exps)
    (hcr : c ∈ q.recv) (hic : cfg.isConn c = true) (hs : cfg.supp c p.id.sig q.id.sig = true) :
    (Node.fanout p.id, Node.conn p.id.sig q.id.sig c) ∈ edges cfg ∧ (Node.conn p.id.sig q.id.sig c, Node.cap q.id) ∈ edges cfg :=
  ⟨mem_edges.mpr ⟨p, hp, Or.inr (Or.inr ⟨rfl, mem_pipeExpNodes.mpr (Or.inr ⟨c, hce, hic, q, hq, hcr, hs, rfl⟩)⟩)⟩,
    mem_edges.mpr ⟨q, hq, Or.inl ⟨mem_pipeRecvNodes.mpr (Or.inr ⟨c, hcr, hic, p, hp, hce, hs, rfl⟩), rfl⟩⟩⟩

theorem pipe_eq_of_id {cfg : Cfg} (wf : cfg.WF) {p q : Pipeline} (hp : p ∈ cfg.pipes) (hq : q ∈ cfg.pipes)
    (h : p.id = q.id) : p = q :=
  eq_of_nodup_map wf.ids_nodup hp hq h

theorem chainNode_kind {p : Pipeline} {x : Node} (h : x ∈ Node.cap p.id :: procNodes p) :
    x = Node.cap p.id ∨ ∃ i, i ∈ p.procs ∧ x = Node.proc p.id i := by
  rcases List.mem_cons.mp h with rfl | h
  · exact Or.inl rfl
  · obtain ⟨i, hi, rfl⟩ := mem_procNodes.mp h
    exact Or.inr ⟨i, hi, rfl⟩

/-- the `match` reduces at a known constructor (`False` for an exporter) -/
theorem edge_by_source {cfg : Cfg} {x y : Node} (h : (x, y) ∈ edges cfg) :
    match x with
    | .recv _ _ | .conn _ _ _ => ∃ q, q ∈ cfg.pipes ∧ x ∈ pipeRecvNodes cfg q ∧ y = Node.cap q.id
    | .cap pid | .proc pid _ => ∃ p, p ∈ cfg.pipes ∧ p.id = pid ∧ (x, y) ∈ chain (Node.cap p.id) (procNodes p) (Node.fanout p.id)
    | .fanout pid => ∃ p, p ∈ cfg.pipes ∧ p.id = pid ∧ y ∈ pipeExpNodes cfg p
    | .exp _ _ => False := by
  obtain ⟨p, hp, ⟨h1, rfl⟩ | h2 | ⟨rfl, h3⟩⟩ := mem_edges.mp h
  · rcases mem_pipeRecvNodes.mp h1 with ⟨_, _, _, rfl⟩ | ⟨_, _, _, _, _, _, _, rfl⟩ <;> exact ⟨p, hp, h1, rfl⟩
  · rcases chainNode_kind (chain_mem h2).1 with rfl | ⟨_, _, rfl⟩ <;> exact ⟨p, hp, rfl, h2⟩
  · exact ⟨p, hp, rfl, h3⟩

theorem chain_out {cfg : Cfg} (wf : cfg.WF) {p : Pipeline} (hp : p ∈ cfg.pipes) {x y : Node}
    (hx : x ∈ Node.cap p.id :: procNodes p) (h : (x, y) ∈ edges cfg) :
    (x, y) ∈ chain (Node.cap p.id) (procNodes p) (Node.fanout p.id) := by
  rcases chainNode_kind hx with rfl | ⟨_, _, rfl⟩ <;>
  · obtain ⟨p', hp', hid, hc⟩ := edge_by_source h
    cases pipe_eq_of_id wf hp' hp hid
    exact hc

theorem fanout_out {cfg : Cfg} (wf : cfg.WF) {p : Pipeline} (hp : p ∈ cfg.pipes) {y : Node}
    (h : (Node.fanout p.id, y) ∈ edges cfg) : y ∈ pipeExpNodes cfg p := by
  obtain ⟨p', hp', hid, hy⟩ := edge_by_source h
  cases pipe_eq_of_id wf hp' hp hid
  exact hy

theorem exp_no_out {cfg : Cfg} {s : Sig} {e : CompId} {b : Node} : (Node.exp s e, b) ∉ edges cfg :=
  fun h => edge_by_source h

theorem expSide_out {cfg : Cfg} {p : Pipeline} {e m : Node} (he : e ∈ pipeExpNodes cfg p) (hE : (e, m) ∈ edges cfg) :
    ∃ c q, c ∈ p.exps ∧ cfg.isConn c = true ∧ q ∈ cfg.pipes ∧ c ∈ q.recv ∧ cfg.supp c p.id.sig q.id.sig = true ∧
      e = Node.conn p.id.sig q.id.sig c ∧ m = Node.cap q.id := by
  rcases mem_pipeExpNodes.mp he with ⟨_, _, _, rfl⟩ | ⟨c, hce, hic, _, _, _, _, rfl⟩
  · exact absurd hE exp_no_out
  · obtain ⟨q, hq, hmem, rfl⟩ := edge_by_source hE
    rcases mem_pipeRecvNodes.mp hmem with ⟨_, _, _, h'⟩ | ⟨c', hcr, _, p', _, _, hs, h'⟩
    · cases h'
    · injection h' with h1 h2 h3
      subst h3
      exact ⟨c, q, hce, hic, hq, hcr, h1 ▸ hs, by rw [h2], rfl⟩

theorem chain_nodup {cfg : Cfg} (wf : cfg.WF) {p : Pipeline} (hp : p ∈ cfg.pipes) :
    (Node.cap p.id :: procNodes p).Nodup := by
  rw [List.nodup_cons]
  constructor
  · intro h
    obtain ⟨i, _, hi⟩ := mem_procNodes.mp h
    cases hi
  · exact (wf.procs_nodup p hp).map _ (fun _ _ hne h => hne (Node.proc.inj h).2)

theorem chain_nonexp {p : Pipeline} : ∀ x, x ∈ Node.cap p.id :: procNodes p → x.isExp = false := by
  intro x hx
  rcases chainNode_kind hx with rfl | ⟨i, _, rfl⟩ <;> rfl

/-! ## the nodes -/

theorem mem_nodes {cfg : Cfg} {n : Node} : n ∈ nodes cfg ↔ ∃ p, p ∈ cfg.pipes ∧ n ∈ pipeNodes cfg p := by
  simp [nodes, mem_dedup, List.mem_flatMap]

theorem mem_pipeNodes {cfg : Cfg} {p : Pipeline} {n : Node} : n ∈ pipeNodes cfg p ↔
    n ∈ pipeRecvNodes cfg p ∨ n = Node.cap p.id ∨ n ∈ procNodes p ∨ n = Node.fanout p.id ∨ n ∈ pipeExpNodes cfg p := by
  simp only [pipeNodes, List.mem_append, List.mem_singleton, or_assoc]

theorem cap_mem_nodes {cfg : Cfg} {p : Pipeline} (hp : p ∈ cfg.pipes) : Node.cap p.id ∈ nodes cfg :=
  mem_nodes.mpr ⟨p, hp, mem_pipeNodes.mpr (Or.inr (Or.inl rfl))⟩

theorem edge_mem_nodes {cfg : Cfg} {a b : Node} (h : (a, b) ∈ edges cfg) : a ∈ nodes cfg ∧ b ∈ nodes cfg := by
  obtain ⟨p, hp, h'⟩ := mem_edges.mp h
  have inP : ∀ {n}, n ∈ pipeNodes cfg p → n ∈ nodes cfg := fun hn => mem_nodes.mpr ⟨p, hp, hn⟩
  rcases h' with ⟨h1, rfl⟩ | h2 | ⟨rfl, h3⟩
  · exact ⟨inP (mem_pipeNodes.mpr (.inl h1)), cap_mem_nodes hp⟩
  · constructor
    · rcases List.mem_cons.mp (chain_mem h2).1 with h' | h'
      · exact inP (mem_pipeNodes.mpr (.inr (.inl h')))
      · exact inP (mem_pipeNodes.mpr (.inr (.inr (.inl h'))))
    · rcases (chain_mem h2).2 with h' | h'
      · exact inP (mem_pipeNodes.mpr (.inr (.inr (.inl h'))))
      · exact inP (mem_pipeNodes.mpr (.inr (.inr (.inr (.inl h')))))
  · exact ⟨inP (mem_pipeNodes.mpr (.inr (.inr (.inr (.inl rfl))))), inP (mem_pipeNodes.mpr (.inr (.inr (.inr (.inr h3)))))⟩

/-! ## closed walks -/

theorem path_first {E : List (Node × Node)} {x y : Node} (h : Path E x y) : ∃ b, (x, b) ∈ E := by
  cases h with
  | single h => exact ⟨_, h⟩
  | cons h _ => exact ⟨_, h⟩

theorem closed_forced {E : List (Node × Node)} {z : Node} : ∀ (l : List Node) (a : Node),
    (a :: l).Nodup → (∀ x y, x ∈ a :: l → (x, y) ∈ E → (x, y) ∈ chain a l z) →
    ∀ x, x ∈ a :: l → Path E x x → Path E z z := by
  intro l
  induction l with
  | nil =>
    intro a _ hout x hx hp
    cases List.mem_singleton.mp hx
    obtain ⟨b, hE, hb⟩ := path_rotate hp
    cases chain_forced_nil hout b hE
    exact hb
  | cons b0 l ih =>
    intro a hnd hout x hx hp
    obtain ⟨hb0, hout'⟩ := chain_forced_cons hnd hout
    rcases List.mem_cons.mp hx with rfl | hx'
    · obtain ⟨b, hE, hb⟩ := path_rotate hp
      cases hb0 b hE
      exact ih b0 (List.nodup_cons.mp hnd).2 hout' b0 List.mem_cons_self hb
    · exact ih b0 (List.nodup_cons.mp hnd).2 hout' x hx' hp

theorem feeds_iff {cfg : Cfg} {p q : Pipeline} : feeds cfg p q = true ↔
    ∃ c, c ∈ p.exps ∧ cfg.isConn c = true ∧ c ∈ q.recv ∧ cfg.supp c p.id.sig q.id.sig = true := by
  simp only [feeds, List.any_eq_true, Bool.and_eq_true, decide_eq_true_eq, and_assoc]

/-- where a payload can be after it passed the capabilities node of `p` and before it enters the next pipeline -/
def Behind (cfg : Cfg) (p : Pipeline) (y : Node) : Prop := y ∈ procNodes p ∨ y = Node.fanout p.id ∨ y ∈ pipeExpNodes cfg p

theorem cap_not_behind {cfg : Cfg} {p : Pipeline} {pid : PipeId} : ¬ Behind cfg p (Node.cap pid) := by
  rintro (h | h | h)
  · obtain ⟨_, _, h'⟩ := mem_procNodes.mp h; cases h'
  · cases h
  · rcases mem_pipeExpNodes.mp h with ⟨_, _, _, h'⟩ | ⟨_, _, _, _, _, _, _, h'⟩ <;> cases h'

theorem step_in_pipe {cfg : Cfg} (wf : cfg.WF) {p : Pipeline} (hp : p ∈ cfg.pipes) {x y : Node}
    (hx : x = Node.cap p.id ∨ Behind cfg p x) (hE : (x, y) ∈ edges cfg) :
    Behind cfg p y ∨ ∃ q, q ∈ cfg.pipes ∧ feeds cfg p q = true ∧ y = Node.cap q.id := by
  have inChain : x ∈ Node.cap p.id :: procNodes p → Behind cfg p y := fun hx =>
    (chain_mem (chain_out wf hp hx hE)).2.imp_right Or.inl
  rcases hx with rfl | hx | rfl | hx
  · exact Or.inl (inChain List.mem_cons_self)
  · exact Or.inl (inChain (List.mem_cons_of_mem _ hx))
  · exact Or.inl (Or.inr (Or.inr (fanout_out wf hp hE)))
  · obtain ⟨c, q, hce, hic, hq, hcr, hs, _, rfl⟩ := expSide_out hx hE
    exact Or.inr ⟨q, hq, feeds_iff.mpr ⟨c, hce, hic, hcr, hs⟩, rfl⟩

theorem closed_to_cap {cfg : Cfg} (wf : cfg.WF) {x : Node} (hp : Path (edges cfg) x x) :
    ∃ q, q ∈ cfg.pipes ∧ Path (edges cfg) (Node.cap q.id) (Node.cap q.id) := by
  have fan : ∀ p, p ∈ cfg.pipes → Path (edges cfg) (Node.fanout p.id) (Node.fanout p.id) →
      ∃ q, q ∈ cfg.pipes ∧ Path (edges cfg) (Node.cap q.id) (Node.cap q.id) := by
    intro p hpm hpp
    obtain ⟨e, hE, he⟩ := path_rotate hpp
    obtain ⟨m, hE2, hm⟩ := path_rotate he
    obtain ⟨_, q, _, _, hq, _, _, _, rfl⟩ := expSide_out (fanout_out wf hpm hE) hE2
    exact ⟨q, hq, hm⟩
  obtain ⟨b, hE, hb⟩ := path_rotate hp
  obtain ⟨p, hpm, h1 | h2 | h3⟩ := mem_edges.mp hE
  · obtain ⟨_, rfl⟩ := h1
    exact ⟨p, hpm, hb⟩
  · exact fan p hpm (closed_forced (procNodes p) (Node.cap p.id) (chain_nodup wf hpm)
      (fun x y hx hxy => chain_out wf hpm hx hxy) x (chain_mem h2).1 hp)
  · obtain ⟨rfl, _⟩ := h3
    exact fan p hpm hp

theorem feeds_path {cfg : Cfg} {p q : Pipeline} (hp : p ∈ cfg.pipes) (hq : q ∈ cfg.pipes) (h : feeds cfg p q = true) :
    Path (edges cfg) (Node.cap p.id) (Node.cap q.id) := by
  obtain ⟨c, hce, hic, hcr, hs⟩ := feeds_iff.mp h
  obtain ⟨h2, h3⟩ := conn_hop_edges hp hq hce hcr hic hs
  exact (path_chain (l := procNodes p) (chain_edge_mem hp)).trans (Path.cons h2 (Path.single h3))

theorem sortable_graph_iff {cfg : Cfg} : sortable (succ cfg) (nodes cfg) = true ↔ ∀ n, n ∈ nodes cfg → ¬ Path (edges cfg) n n :=
  succ_eq cfg ▸ sortable_iff_acyclic fun _ _ h => (edge_mem_nodes h).2

end OtelVerif.C09

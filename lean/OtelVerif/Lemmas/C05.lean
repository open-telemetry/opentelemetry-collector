import OtelVerif.Model.C05Src
import OtelVerif.Lemmas.Basic
/-! # C05 — facts about the model's definitions that the property theorems share

Optional instants; the back-off sequence; one round; equal instants; whole traces; `errors.As` under wrappers. -/
namespace OtelVerif.C05

/-! ## optional instants: `olt`, `ole`, `omin` -/

theorem olt_eq_true {o : Option Nat} {n : Nat} : olt o n = true ↔ ∃ x, o = some x ∧ x < n := by
  cases o <;> simp [olt]

theorem olt_eq_false {o : Option Nat} {n : Nat} : olt o n = false ↔ ∀ x, o = some x → n ≤ x := by
  cases o <;> simp [olt]

theorem ole_eq_true {o : Option Nat} {n : Nat} : ole o n = true ↔ ∃ x, o = some x ∧ x ≤ n := by
  cases o <;> simp [ole]

theorem ole_eq_false {o : Option Nat} {n : Nat} : ole o n = false ↔ ∀ x, o = some x → n < x := by
  cases o <;> simp [ole]

theorem olt_of_ole_eq_false {o : Option Nat} {n : Nat} (h : ole o n = false) : olt o n = false := by
  cases o <;> simp_all [olt, ole] <;> omega

theorem olt_omin (a b : Option Nat) (n : Nat) : olt (omin a b) n = (olt a n || olt b n) := by
  cases a <;> cases b <;> simp only [omin, olt, Bool.or_false, Bool.false_or, Nat.min_def] <;> split <;> simp <;> omega

theorem ole_omin (a b : Option Nat) (n : Nat) : ole (omin a b) n = (ole a n || ole b n) := by
  cases a <;> cases b <;> simp only [omin, ole, Bool.or_false, Bool.false_or, Nat.min_def] <;> split <;> simp <;> omega

theorem olt_ctxDone (e : Env) (t : Nat) : olt e.ctxDone t = false ↔ olt e.deadline t = false ∧ olt e.cancel t = false := by
  rw [Env.ctxDone, olt_omin, Bool.or_eq_false_iff]

theorem omin_right_comm (a b c : Option Nat) : omin (omin a b) c = omin (omin a c) b := by
  cases a <;> cases b <;> cases c <;> try rfl
  · exact congrArg some (Nat.min_comm ..)
  · exact congrArg some (Nat.min_right_comm ..)

/-! ## the back-off sequence -/

theorem nextCur_le (c : Cfg) (iv : Nat) : nextCur c iv ≤ c.maxInt := by
  unfold nextCur
  split
  · exact Nat.le_refl _
  · rename_i h
    by_cases hd : c.mulDen = 0
    · simp [hd]
    · have h' : iv * c.mulNum < c.mulDen * c.maxInt := by rw [Nat.mul_comm c.mulDen]; omega
      exact Nat.le_of_lt (Nat.div_lt_of_lt_mul h')

theorem nextCur_eq_min (c : Cfg) (hd : 0 < c.mulDen) (iv : Nat) : nextCur c iv = min (iv * c.mulNum / c.mulDen) c.maxInt := by
  unfold nextCur
  have := Nat.le_div_iff_mul_le (x := c.maxInt) (y := iv * c.mulNum) hd
  split <;> omega

theorem curInterval_le (c : Cfg) (cur : Nat) (h : cur ≤ c.maxInt) : curInterval c cur ≤ max c.initial c.maxInt := by
  unfold curInterval; split
  · exact Nat.le_max_left _ _
  · exact Nat.le_trans h (Nat.le_max_right _ _)

theorem curSeq_le (c : Cfg) (n : Nat) : curSeq c n ≤ c.maxInt := by
  cases n with
  | zero => exact Nat.zero_le _
  | succ n => exact nextCur_le c _

theorem curInterval_ge_initial (c : Cfg) (cur : Nat) (h : cur = 0 ∨ c.initial ≤ cur) : c.initial ≤ curInterval c cur := by
  unfold curInterval; split <;> omega

theorem nextCur_ge_initial (c : Cfg) (h1 : c.initial ≤ c.maxInt) (hd : 0 < c.mulDen) (hm : c.mulDen ≤ c.mulNum) (iv : Nat)
    (hiv : c.initial ≤ iv) : c.initial ≤ nextCur c iv := by
  unfold nextCur
  split
  · exact h1
  · rw [Nat.le_div_iff_mul_le hd]
    exact Nat.le_trans (Nat.mul_le_mul_right _ hiv) (Nat.mul_le_mul_left _ hm)

/-- the lower end of `LibLaw` for intervals at least the initial one -/
theorem libLaw_lower (c : Cfg) (iv d : Nat) (h : LibLaw c iv d) (hi : c.initial ≤ iv) :
    c.initial * (c.rfDen - c.rfNum) ≤ (d + 1) * c.rfDen :=
  Nat.le_trans (Nat.mul_le_mul_right _ hi) h.1

/-! ## one round: the four checks, then the select -/

theorem finish_ge {c : Cfg} {e : Env} {now : Nat} {a : Attempt} {fin : Nat} (h : finish c e now a = some fin) : now ≤ fin := by
  unfold finish at h
  split at h
  · cases hd : attemptCtxDone c e now with
    | none => simp [hd] at h
    | some d => simp [hd] at h; omega
  · simp at h; omega

theorem preSelect_cases (c : Cfg) (e : Env) (fin w : Nat) :
    ((c.maxElapsed > 0 ∧ c.maxElapsed < fin + w) ∧ preSelect c e fin w = some (.exhausted, fin)) ∨
    (¬(c.maxElapsed > 0 ∧ c.maxElapsed < fin + w) ∧ olt e.deadline (fin + w) = true ∧ preSelect c e fin w = some (.deadline, fin)) ∨
    (¬(c.maxElapsed > 0 ∧ c.maxElapsed < fin + w) ∧ olt e.deadline (fin + w) = false ∧ ole e.shutdown fin = true ∧
      preSelect c e fin w = some (.shutdown, fin)) ∨
    (¬(c.maxElapsed > 0 ∧ c.maxElapsed < fin + w) ∧ olt e.deadline (fin + w) = false ∧ ole e.shutdown fin = false ∧
      ole e.ctxDone fin = true ∧ preSelect c e fin w = some (.cancelled, fin)) ∨
    (¬(c.maxElapsed > 0 ∧ c.maxElapsed < fin + w) ∧ olt e.deadline (fin + w) = false ∧ ole e.shutdown fin = false ∧
      ole e.ctxDone fin = false ∧ preSelect c e fin w = none) := by
  unfold preSelect
  by_cases h1 : c.maxElapsed > 0 ∧ c.maxElapsed < fin + w
  · exact .inl ⟨h1, if_pos h1⟩
  · rw [if_neg h1]
    cases h2 : olt e.deadline (fin + w)
    · cases h3 : ole e.shutdown fin
      · cases h4 : ole e.ctxDone fin
        · exact .inr (.inr (.inr (.inr ⟨h1, rfl, rfl, rfl, rfl⟩)))
        · exact .inr (.inr (.inr (.inl ⟨h1, rfl, rfl, rfl, rfl⟩)))
      · exact .inr (.inr (.inl ⟨h1, rfl, rfl, rfl⟩))
    · exact .inr (.inl ⟨h1, rfl, rfl⟩)

theorem afterFailure_eq (c : Cfg) (e : Env) (fin w : Nat) :
    afterFailure c e fin w = (preSelect c e fin w).or (blockingSelect e fin w) := by
  unfold afterFailure
  rcases preSelect_cases c e fin w with ⟨h1, hp⟩ | ⟨h1, h2, hp⟩ | ⟨h1, h2, h3, hp⟩ | ⟨h1, h2, h3, h4, hp⟩ | ⟨h1, h2, h3, h4, hp⟩ <;>
    rw [hp] <;> simp only [*, if_true, if_false, Bool.false_eq_true] <;> rfl

theorem preSelect_eq_none {c : Cfg} {e : Env} {fin w : Nat} : preSelect c e fin w = none ↔
    ¬(c.maxElapsed > 0 ∧ c.maxElapsed < fin + w) ∧ olt e.deadline (fin + w) = false ∧
      ole e.shutdown fin = false ∧ ole e.ctxDone fin = false := by
  rcases preSelect_cases c e fin w with ⟨h1, hp⟩ | ⟨h1, h2, hp⟩ | ⟨h1, h2, h3, hp⟩ | ⟨h1, h2, h3, h4, hp⟩ | ⟨h1, h2, h3, h4, hp⟩ <;>
    simp [*]

theorem blockingSelect_eq_none {e : Env} {fin w : Nat} :
    blockingSelect e fin w = none ↔ olt e.shutdown (fin + w) = false ∧ olt e.ctxDone (fin + w) = false := by
  unfold blockingSelect
  cases e.shutdown <;> cases e.ctxDone <;> simp only [olt] <;> (repeat' split) <;> simp <;> omega

/-- the earliest instant before the timer wins; shutdown wins over the context on a tie -/
theorem blockingSelect_some {e : Env} {fin w : Nat} {r : Reason} {t : Nat} (h : blockingSelect e fin w = some (r, t)) :
    t < fin + w ∧ ((r = .shutdown ∧ e.shutdown = some t ∧ olt e.ctxDone t = false) ∨
      (r = .cancelled ∧ e.ctxDone = some t ∧ ole e.shutdown t = false)) := by
  unfold blockingSelect at h
  cases hs : e.shutdown <;> cases hx : e.ctxDone <;> simp only [hs, hx] at h <;> (repeat' split at h) <;> cases h <;>
    simp [olt, ole] <;> omega

/-! ## what equal instants allow -/

theorem ndAllowed_det (c : Cfg) (e : Env) (fin w : Nat) : ndAllowed c e fin w (afterFailure c e fin w) = true := by
  rw [afterFailure_eq]
  unfold ndAllowed
  rcases preSelect_cases c e fin w with ⟨h1, hp⟩ | ⟨h1, h2, hp⟩ | ⟨h1, h2, h3, hp⟩ | ⟨h1, h2, h3, h4, hp⟩ | ⟨h1, h2, h3, h4, hp⟩ <;>
    rw [hp]
  · simp [h1]
  · simp [h1, h2]
  · obtain ⟨s, hs, hle⟩ := ole_eq_true.1 h3
    simp [h1, h2, hs, hle]
  · obtain ⟨x, hx, hle⟩ := ole_eq_true.1 h4
    simp [h1, h2, hx, hle, olt_of_ole_eq_false h3]
  · simp only [if_neg h1, h2, Bool.false_eq_true, if_false, Option.none_or]
    cases hb : blockingSelect e fin w with
    | none => simp [blockingSelect_eq_none.1 hb]
    | some rt =>
      obtain ⟨r, t⟩ := rt
      obtain ⟨hlt, ⟨rfl, hs, hx⟩ | ⟨rfl, hx, hs⟩⟩ := blockingSelect_some hb
      · have := ole_eq_false.1 h3 t hs
        simp [hs, hx]; omega
      · have := ole_eq_false.1 h4 t hx
        simp [hx, olt_of_ole_eq_false hs]; omega

theorem ndAllowed_none {c : Cfg} {e : Env} {fin w : Nat} : ndAllowed c e fin w none = true ↔
    ¬(c.maxElapsed > 0 ∧ c.maxElapsed < fin + w) ∧ olt e.deadline (fin + w) = false ∧
      olt e.shutdown (fin + w) = false ∧ olt e.ctxDone (fin + w) = false := by
  unfold ndAllowed
  by_cases h1 : c.maxElapsed > 0 ∧ c.maxElapsed < fin + w
  · simp [h1]
  · cases h2 : olt e.deadline (fin + w) <;> simp [h1, h2]

/-- what holds of an exit `(r, t)` that some scheduling order allows after a return at `fin`; `quiet` is what the oracle's clause
wait-interrupted-by-shutdown-not-classified asks of an exit with another reason -/
structure NdExit (e : Env) (fin : Nat) (r : Reason) (t : Nat) : Prop where
  reason : r = .exhausted ∨ r = .deadline ∨ r = .shutdown ∨ r = .cancelled
  shutdown : r = .shutdown → ∃ s, e.shutdown = some s ∧ s ≤ t
  quiet : r ≠ .shutdown → fin < t → sdBefore e t = false

theorem ndAllowed_some {c : Cfg} {e : Env} {fin w : Nat} {r : Reason} {t : Nat}
    (h : ndAllowed c e fin w (some (r, t)) = true) : NdExit e fin r t := by
  suffices g : (r = .exhausted ∨ r = .deadline ∨ r = .shutdown ∨ r = .cancelled) ∧
      (r = .shutdown → ∃ s, e.shutdown = some s ∧ s ≤ t) ∧ (r ≠ .shutdown → fin < t → sdBefore e t = false) from
    ⟨g.1, g.2.1, g.2.2⟩  -- as one conjunction: the closing `simp` of each case splits it
  unfold ndAllowed at h
  simp only [] at h
  by_cases h1 : c.maxElapsed > 0 ∧ c.maxElapsed < fin + w
  · -- over budget: `(exhausted, fin)` is forced
    simp only [h1] at h
    simp at h
    obtain ⟨rfl, rfl⟩ := h
    simp
  · simp only [h1, if_false] at h
    by_cases h2 : olt e.deadline (fin + w) = true
    · -- past the deadline: `(deadline, fin)` likewise
      simp only [h2, if_true] at h
      simp at h
      obtain ⟨rfl, rfl⟩ := h
      simp
    · simp only [h2] at h
      cases r with
      | cancelled =>
        -- `ndAllowed` asks `!olt e.shutdown x` of a cancelled end at `x`, and `sdBefore` does not count a shutdown on the very instant the context ended
        simp only [Bool.false_eq_true, if_false] at h
        cases hx : e.ctxDone with
        | none => simp [hx] at h
        | some x =>
          simp only [hx] at h
          cases hs : e.shutdown with
          | none =>
            simp [hs, olt] at h
            rcases h with ⟨h, rfl⟩ | ⟨⟨h, h'⟩, rfl⟩ <;> simp [sdBefore, hs, olt] <;> omega
          | some s =>
            simp [hs, olt] at h
            rcases h with ⟨⟨h, rfl⟩, h''⟩ | ⟨⟨⟨h, h'⟩, rfl⟩, h''⟩
            · simp [sdBefore, hs, olt]
            · simp [sdBefore, hs, hx, olt]; omega
      | shutdown =>
        -- pending at the poll (`s ≤ fin = t`) or seen by the select (`t = s`)
        simp only [Bool.false_eq_true, if_false] at h
        cases hs : e.shutdown with
        | none => simp [hs] at h
        | some s =>
          simp [hs] at h
          rcases h with ⟨h, rfl⟩ | ⟨⟨⟨h, h'⟩, rfl⟩, _⟩ <;> simp <;> omega
      | _ => simp at h

/-! ## whole traces

`fun_induction run` numbers the branches in the order of `run`'s text: 1 empty script, 2 hang, 3 success, 4 disabled, 5 permanent,
6 exit (`afterFailure = some _`), 7 next round; `Allowed`: 1–5 likewise, 6 the failed, retry-eligible attempt. -/

-- `w` is a variable so that a user may spell the wait its own way (`rfl` for `hw`)
theorem run_cons_failed {c : Cfg} {e : Env} {now cur fin w : Nat} {p : List Nat} {a : Attempt} {as : List Attempt}
    (hf : finish c e now a = some fin) (hen : c.enabled = true) (hok : a.ok = false) (hp : a.perm = false)
    (hw : w = waitOf c (curInterval c cur) a) :
    run c e now cur p (a :: as) =
      match afterFailure c e fin w with
      | some (r, t) => { calls := [⟨now, fin, p⟩], reason := r, tEnd := t, sdFlag := (r == .shutdown) || a.sd }
      | none =>
        { run c e (fin + w) (nextCur c (curInterval c cur)) (a.rest.getD p) as with
          calls := ⟨now, fin, p⟩ :: (run c e (fin + w) (nextCur c (curInterval c cur)) (a.rest.getD p) as).calls } := by
  subst hw
  simp only [run, hf, hok, hp, hen]
  cases afterFailure c e fin (waitOf c (curInterval c cur) a) <;> rfl

theorem run_first_call (c : Cfg) (e : Env) (now cur : Nat) (p : List Nat) (s : List Attempt) :
    ∃ fin rest, (run c e now cur p s).calls = ⟨now, fin, p⟩ :: rest := by
  fun_induction run c e now cur p s <;> exact ⟨_, _, rfl⟩

/-- for every scheduling order; the second part because every return wraps the backend's error with `%w` -/
theorem allowed_shutdown {c : Cfg} {e : Env} {now cur : Nat} {p : List Nat} {s : List Attempt} {tr : Trace}
    (h : Allowed c e now cur p s tr) :
    (tr.reason = .shutdown → tr.sdFlag = true ∧ ∃ sd, e.shutdown = some sd ∧ sd ≤ tr.tEnd) ∧
    (tr.sdFlag = true → tr.reason = .shutdown ∨ ∃ a ∈ s, a.sd = true) := by
  fun_induction Allowed c e now cur p s tr
  case case6 a as _ fin _ _ _ _ ih =>
    rcases h with ⟨r, t, hnd, rfl⟩ | ⟨_, tr', htr', rfl⟩
    · refine ⟨fun hr => ⟨by simp [show r = .shutdown from hr], (ndAllowed_some hnd).shutdown hr⟩, fun hs => ?_⟩
      rcases Bool.or_eq_true_iff.1 hs with hs | hs
      · exact .inl (beq_iff_eq.1 hs)
      · exact .inr ⟨a, List.mem_cons_self, hs⟩
    · exact ⟨(ih tr' htr').1, fun h => ((ih tr' htr').2 h).imp id fun ⟨x, hx, hs⟩ => ⟨x, List.mem_cons_of_mem _ hx, hs⟩⟩
  -- a single call: the reason is not shutdown, `sdFlag` is `a.sd` or false
  all_goals subst h; simp +contextual

/-! ## `errors.As` under wrappers -/

theorem findList_isSome_of_mem {α : Type} (f : Err → Option α) (e : Err) : ∀ (es : List Err), e ∈ es → (e.find f).isSome = true →
    (Err.findList f es).isSome = true := by
  intro es
  induction es with
  | nil => intro h; simp at h
  | cons x xs ih =>
    intro hmem hs
    simp only [Err.findList]
    cases hx : x.find f with
    | some v => simp
    | none =>
      rcases List.mem_cons.mp hmem with h | h
      · subst h; rw [hx] at hs; simp at hs
      · simpa using ih h hs

theorem find_wrapper {α : Type} (f : Err → Option α) (w : Wrapper) (e : Err) (h : (e.find f).isSome = true) :
    ((w.apply e).find f).isSome = true := by
  cases w with
  | wrap =>
    simp only [Wrapper.apply, Err.find]
    cases f (.wrap e) <;> simp [h]
  | joinLeft os =>
    simp only [Wrapper.apply, Err.find]
    cases f (.join (os ++ [e])) with
    | some v => simp
    | none => simpa using findList_isSome_of_mem f e (os ++ [e]) (by simp) h
  | joinRight os =>
    simp only [Wrapper.apply, Err.find]
    cases f (.join (e :: os)) with
    | some v => simp
    | none => simpa using findList_isSome_of_mem f e (e :: os) (by simp) h

theorem find_wrappers {α : Type} (f : Err → Option α) (ws : List Wrapper) (e : Err) (h : (e.find f).isSome = true) :
    ((ws.foldr Wrapper.apply e).find f).isSome = true := by
  induction ws with
  | nil => exact h
  | cons w ws ih => exact find_wrapper f w _ ih

end OtelVerif.C05

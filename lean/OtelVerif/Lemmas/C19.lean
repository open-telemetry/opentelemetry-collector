import OtelVerif.Model.C19
import OtelVerif.Model.C19Obs
/-!
# C19: lemmas for the receiver, scraper, processor and obsconsumer clauses

Every counter of these models is a fold over the history that each event moves by an amount depending on the event alone, so it ends at
its start value plus the sum of the amounts (`foldl_sumBy`); the `*_counts` lemmas are the per-event equations, `sumRange_*` exchange the
sum over scrapers with the sum over scrapes, `recvStepB_sound` / `procForeign_none` read the executable checks.
-/
namespace OtelVerif.C19

/-! ## sums -/

theorem sumBy_eq_sum {α : Type} (f : α → Nat) : ∀ (l : List α), sumBy f l = (l.map f).sum
  | [] => rfl
  | x :: xs => by simp [sumBy, sumBy_eq_sum f xs]

theorem sumBy_append {α : Type} (f : α → Nat) (l₁ l₂ : List α) : sumBy f (l₁ ++ l₂) = sumBy f l₁ + sumBy f l₂ := by
  simp [sumBy_eq_sum]

theorem sumBy_congr {α : Type} {f g : α → Nat} {l : List α} (h : ∀ x ∈ l, f x = g x) : sumBy f l = sumBy g l := by
  induction l with
  | nil => rfl
  | cons a l ih => simp only [sumBy]; rw [h a List.mem_cons_self, ih (fun x hx => h x (List.mem_cons_of_mem _ hx))]

theorem sumBy_perm {α : Type} (f : α → Nat) {l₁ l₂ : List α} (h : l₁.Perm l₂) : sumBy f l₁ = sumBy f l₂ := by
  simp only [sumBy_eq_sum]; exact (h.map f).sum_nat

theorem foldl_sumBy {σ ε : Type} (step : σ → ε → σ) (obs : σ → Nat) (inc : ε → Nat)
    (h : ∀ s e, obs (step s e) = obs s + inc e) (es : List ε) (s : σ) : obs (es.foldl step s) = obs s + sumBy inc es := by
  induction es generalizing s with
  | nil => rfl
  | cons e es ih => rw [List.foldl_cons, ih, h, sumBy]; omega

/-! ## receiver -/

theorem add_apply (f : Signal → Nat) (s t : Signal) (n : Nat) : add f s n t = f t + (if s = t then n else 0) := by
  by_cases h : t = s
  · subst h; simp [add]
  · simp [add, h, Ne.symm h]

theorem add_same (f : Signal → Nat) (s : Signal) (n : Nat) : add f s n s = f s + n := by simp [add]

theorem add_other (f : Signal → Nat) (s t : Signal) (n : Nat) (h : t ≠ s) : add f s n t = f t := by simp [add, h]

theorem Recv.ext' {a b : Recv} (h₁ : ∀ s, a.accepted s = b.accepted s) (h₂ : ∀ s, a.refused s = b.refused s) : a = b := by
  cases a; cases b
  simp only [Recv.mk.injEq]
  exact ⟨funext h₁, funext h₂⟩

theorem Recv.run_counts (c : Recv) (ops : List RecvOp) (s : Signal) :
    (c.run ops).accepted s = c.accepted s + offeredOk s ops ∧ (c.run ops).refused s = c.refused s + offeredErr s ops :=
  ⟨foldl_sumBy Recv.endOp (·.accepted s) _ (fun c op => by simp only [Recv.endOp, add_apply]) ops c,
   foldl_sumBy Recv.endOp (·.refused s) _ (fun c op => by simp only [Recv.endOp, add_apply]) ops c⟩

theorem offered_split (s : Signal) (ops : List RecvOp) : offeredOk s ops + offeredErr s ops = offered s ops := by
  induction ops with
  | nil => rfl
  | cons op ops ih =>
    have e1 : offeredOk s (op :: ops) = (if op.sig = s then numAccepted op.n op.err else 0) + offeredOk s ops := rfl
    have e2 : offeredErr s (op :: ops) = (if op.sig = s then numRefused op.n op.err else 0) + offeredErr s ops := rfl
    have e3 : offered s (op :: ops) = (if op.sig = s then op.n else 0) + offered s ops := rfl
    rw [e1, e2, e3]
    by_cases h : op.sig = s
    · cases he : op.err <;> simp [h, numAccepted, numRefused] <;> omega
    · simp [h]; omega

theorem recvForeign_none {before after : Recv} {op : RecvOp} (h : recvForeign before after op = none) (t : Signal) (ht : t ≠ op.sig) :
    after.accepted t = before.accepted t ∧ after.refused t = before.refused t := by
  have := List.find?_eq_none.mp h t (Signal.mem_all t)
  simpa [ht] using this

theorem recvStepB_sound {before after : Recv} {op : RecvOp} (h : recvStepB before after op = true) : RecvStepOK before after op := by
  simp only [recvStepB, Bool.and_eq_true, Option.isNone_iff_eq_none] at h
  obtain ⟨hown, hfor⟩ := h
  refine ⟨?_, ?_, fun t ht => recvForeign_none hfor t ht⟩
  · intro he; simpa [recvOwnB, he] using hown
  · intro he; simpa [recvOwnB, he] using hown

/-! ## scraper controller -/

theorem Scr.run_cons (sig : Signal) (c : Scr) (t : Tick) (ts : List Tick) : Scr.run sig c (t :: ts) = Scr.run sig (c.scrape sig t) ts := rfl

theorem scr_recv (sig : Signal) (c : Scr) (ts : List Tick) : (Scr.run sig c ts).recv = c.recv.run (tickOps sig ts) := by
  induction ts generalizing c with
  | nil => rfl
  | cons t ts ih => rw [Scr.run_cons, ih]; rfl

theorem scr_sink (sig : Signal) (c : Scr) (ts : List Tick) : sumBy id (Scr.run sig c ts).sink = sumBy id c.sink + sumBy Tick.count ts :=
  foldl_sumBy (Scr.scrape sig) (fun c => sumBy id c.sink) _ (fun c t => by simp [Scr.scrape, sumBy_append, sumBy]) ts c

theorem offered_tickOps (sig : Signal) (ts : List Tick) : offered sig (tickOps sig ts) = sumBy Tick.count ts := by
  induction ts with
  | nil => rfl
  | cons t ts ih => simp only [tickOps, List.map_cons, offered, sumBy] at *; simp [ih]

/-! ## processor helper -/

theorem consume_counts (p : Proc) (op : ProcOp) (s : Signal) :
    (p.consume op).1.incoming s = p.incoming s + (if op.sig = s then op.inp else 0) ∧
    (p.consume op).1.outgoing s = p.outgoing s + (if op.sig = s then op.outcome.out else 0) ∧
    (p.consume op).1.fwdItems s = p.fwdItems s + (if op.sig = s then op.outcome.out else 0) := by
  cases ho : op.outcome <;> simp [Proc.consume, ho, add_apply, ProcOutcome.out]

theorem proc_run (p : Proc) (ops : List ProcOp) (s : Signal) :
    (p.run ops).incoming s = p.incoming s + given s ops ∧
    (p.run ops).outgoing s = p.outgoing s + forwardedBy s ops ∧
    (p.run ops).fwdItems s = p.fwdItems s + forwardedBy s ops :=
  ⟨foldl_sumBy _ (·.incoming s) _ (fun p op => (consume_counts p op s).1) ops p,
   foldl_sumBy _ (·.outgoing s) _ (fun p op => (consume_counts p op s).2.1) ops p,
   foldl_sumBy _ (·.fwdItems s) _ (fun p op => (consume_counts p op s).2.2) ops p⟩

theorem procForeign_none {before : ProcSnap} {o : ProcObs} (h : procForeign before o = none) (t : Signal) (ht : t ≠ o.sig) :
    o.after.incoming t = before.incoming t ∧ o.after.outgoing t = before.outgoing t := by
  have := List.find?_eq_none.mp h t (Signal.mem_all t)
  simpa [ht] using this

theorem runX_eq (p : Proc) (xs : List XOp) : p.runX xs = p.run (sigOps xs) := by
  induction xs generalizing p with
  | nil => rfl
  | cons x xs ih =>
    cases x with
    | sig op => exact ih _
    | prof n o => exact ih p

/-! ## sums over scrapers and over scrapes -/

theorem sumRange_add (k : Nat) (f g : Nat → Nat) : sumRange k (fun i => f i + g i) = sumRange k f + sumRange k g := by
  induction k with
  | zero => rfl
  | succ k ih => simp only [sumRange, ih]; omega

theorem sumRange_zero (k : Nat) : sumRange k (fun _ => 0) = 0 := by
  induction k with
  | zero => rfl
  | succ k ih => simp [sumRange, ih]

theorem sumRange_resAt_take (rs : List ScrapeRes) (g : ScrapeRes → Nat) (k : Nat) :
    sumRange k (resAt rs g) = sumBy g (rs.take k) := by
  induction k with
  | zero => simp [sumRange, sumBy]
  | succ k ih =>
    rw [sumRange, ih, List.take_add_one, sumBy_append]
    cases h : rs[k]? <;> simp [resAt, h, sumBy]

theorem sumRange_resAt (rs : List ScrapeRes) (g : ScrapeRes → Nat) (k : Nat) (hk : rs.length ≤ k) :
    sumRange k (resAt rs g) = sumBy g rs := by
  rw [sumRange_resAt_take, List.take_of_length_le hk]

theorem sumRange_sumBy (k : Nat) (ts : List Tick) (F : Tick → Nat → Nat) :
    sumRange k (fun i => sumBy (fun t => F t i) ts) = sumBy (fun t => sumRange k (F t)) ts := by
  induction ts with
  | nil => simp [sumBy, sumRange_zero]
  | cons t ts ih => simp only [sumBy]; rw [sumRange_add, ih]

theorem sumBy_sumRange_resAt (g : ScrapeRes → Nat) (k : Nat) (ts : List Tick) (hk : ∀ t ∈ ts, t.results.length ≤ k) :
    sumBy (fun t => sumRange k (resAt t.results g)) ts = sumBy (fun t => sumBy g t.results) ts :=
  sumBy_congr (fun t ht => sumRange_resAt _ _ _ (hk t ht))

theorem units_items_of (ts : List Tick) (h : UnitsAreItems ts) : totalUnits ts = totalItems ts :=
  sumBy_congr (fun t ht => sumBy_congr (h t ht))

/-! ## obsconsumer -/

namespace Obs

theorem run_counts (ops : List Op) (s : St) (i : Nat) :
    (run s ops i).success = (s i).success + okItems i ops ∧ (run s ops i).failure = (s i).failure + errItems i ops ∧
    (run s ops i).other = (s i).other := by
  induction ops generalizing s with
  | nil => simp [run, okItems, errItems]
  | cons op ops ih =>
    obtain ⟨h1, h2, h3⟩ := ih (consume s op)
    simp only [run, okItems, errItems]; rw [h1, h2, h3]
    by_cases hi : i = op.inst <;> cases he : op.err <;> simp [consume, hi, he, Eq.comm] <;> omega

end Obs

end OtelVerif.C19

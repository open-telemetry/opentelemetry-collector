import OtelVerif.Lemmas.C04Size
import OtelVerif.Lemmas.C04Fifo
/-! C04: the size bound of every request `split` returns, for any signal whose `extract` keeps within the capacity and makes progress -/
namespace OtelVerif.C04

/-- what the bound needs from a signal: `heavy p` = number of items of `p` that weigh anything in the configured unit -/
structure Bounded {P : Type} (o : Ops P) (heavy : P → Nat) : Prop where
  extract_cap : ∀ cap p, 0 ≤ cap → o.size (o.extract cap p).1 ≤ cap
  noprog : ∀ cap p, (o.extract cap p).2.2 = 0 → heavy (o.extract cap p).1 = 0
  moveFirst_heavy : ∀ s d, heavy (o.moveFirst s d).2.1 ≤ heavy d + 1
  moveFirst_none : ∀ s d, (o.moveFirst s d).2.2 = false →
    heavy (o.append (o.moveFirst s d).1 (o.moveFirst s d).2.1) ≤ heavy d

/-- a request respects the limit: not larger than `max`, or at most one item that weighs anything -/
def Req.within {P : Type} (o : Ops P) (heavy : P → Nat) (max : Int) (r : Req P) : Prop :=
  o.size r.p ≤ max ∨ heavy r.p ≤ 1

theorem Splits.bound {P : Type} {o : Ops P} {heavy : P → Nat} (hs : SizeExact o) (hb : Bounded o heavy) {max : Int}
    (hmax : 0 ≤ max) {req : Req P} {out : List (Req P)} (h : Splits o max req out) (hreq : req.exact o) :
    ∀ r ∈ out, r.within o heavy max := by
  induction h with
  | fits req hle =>
    intro r hr
    rw [List.mem_singleton.mp hr]
    have hn := norm_cached o req hreq
    exact Or.inl (by show o.size req.p ≤ max; omega)
  | stuck req _ hrm hmv =>
    intro r hr
    rw [List.mem_singleton.mp hr]
    have hz := hb.noprog max req.p hrm
    have := hb.moveFirst_none (o.extract max req.p).2.1 (o.extract max req.p).1 hmv
    exact Or.inr (by show heavy (o.append _ _) ≤ 1; omega)
  | moved req out _ hrm _ _ ih =>
    intro r hr
    rcases List.mem_cons.mp hr with rfl | hr
    · have hz := hb.noprog max req.p hrm
      have := hb.moveFirst_heavy (o.extract max req.p).2.1 (o.extract max req.p).1
      exact Or.inr (by show heavy (o.moveFirst _ _).2.1 ≤ 1; omega)
    · exact ih (Or.inr rfl) r hr
  | extracted req out _ _ _ ih =>
    intro r hr
    rcases List.mem_cons.mp hr with rfl | hr
    · exact Or.inl (hb.extract_cap max req.p hmax)
    · exact ih (extracted_exact hs max req hreq) r hr

theorem mergeSplit_bound {P : Type} (o : Ops P) (heavy : P → Nat) (hs : SizeExact o) (hb : Bounded o heavy) (max : Int)
    (hmax : 0 < max) (r1 : Req P) (r2 : Option (Req P)) (out : List (Req P)) (h : mergeSplit o max r1 r2 = some out)
    (h1 : r1.exact o) (h2 : ∀ r, r2 = some r → r.exact o) : ∀ r ∈ out, r.within o heavy max := by
  rcases mergeSplit_cases o max r1 r2 out h with ⟨h0, _⟩ | ⟨_, out0, hsp, rfl⟩
  · omega
  · intro r hr
    exact hsp.bound hs hb (Int.le_of_lt hmax) (merged_exact o hs r1 r2 h1 h2) r (dropEmptyLast_mem o out0 r hr)

/-- the `moveFirst` fields of `Bounded`, for an additive count `hv ≤ length` -/
theorem SeqOps.heavy {P β : Type} {R : List β → List β → Prop} {o : Ops P} {flat : P → List β} (h : SeqOps R o flat)
    (hv : List β → Nat) (happ : ∀ a b, hv (a ++ b) = hv a + hv b) (hle : ∀ l, hv l ≤ l.length) :
    (∀ s d, hv (flat (o.moveFirst s d).2.1) ≤ hv (flat d) + 1) ∧
    (∀ s d, (o.moveFirst s d).2.2 = false → hv (flat (o.append (o.moveFirst s d).1 (o.moveFirst s d).2.1)) ≤ hv (flat d)) := by
  refine ⟨fun s d => ?_, fun s d hm => ?_⟩
  · obtain ⟨x, hx, hl⟩ := h.one s d
    have := hle x
    rw [hx, happ]; omega
  · have hn := h.unmoved s d (h.none s d hm)
    rw [h.append, hn.1, hn.2, List.nil_append]
    exact Nat.le_refl _

end OtelVerif.C04

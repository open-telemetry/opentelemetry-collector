import OtelVerif.Lemmas.C20
/-!
# C20 — liveness of the Run goroutine under an explicit fairness hypothesis: a ranking function

`mu s` bounds the number of statements / select receives the Run goroutine can still execute from `s` if no further
reload trigger arrives: every `step`/`pick` label decreases it by at least one, labels of other goroutines leave it alone,
except a reload trigger (`post hup`, `post watchOk`: +8, one more trip round the reload) and the call of Run (`begin`: +5).
Hence in ANY history (any interleaving) the Run goroutine executes at most `mu init + 8·(reload triggers) + 5` labels:
with finitely many external events it comes to a state in which none of its labels is enabled — and that state is "Run has
returned", or "in the select with nothing ready".
-/
namespace OtelVerif.C20

/-- labels executed by the goroutine that runs `Run` (`Label.isStep`: its statements only, not the receives) -/
def Label.isRun : Label → Bool
  | .step _ | .pick _ => true
  | _ => false

/-- statements left until the Run goroutine is back in the select / has returned, by program point -/
def Pc.rank : Pc → Nat
  | .idle | .done | .select => 0
  | .reload1 => 7 | .reload2 => 6
  | .setup1 _ => 5 | .setup2 _ => 4 | .setup3 _ => 3 | .setupSd _ => 2 | .setup4 _ => 1
  | .initFail => 1
  | .shut1 => 4 | .shut2 => 3 | .shut3 => 2 | .shut4 => 1

/-- the part of `mu` that depends on the program point -/
def Pc.work (p : Pc) : Nat := (if p.inShut = true ∨ p = .done then 0 else 5) + p.rank

/-- the ranking function: 8 per pending reload trigger, 5 while the final shutdown has not begun, plus the rank of the pc -/
def mu (s : S) : Nat :=
  8 * (s.nHup + s.nWatchOk) + (if s.pc.inShut = true ∨ s.pc = .done then 0 else 5) + s.pc.rank

def Label.runCost (l : Label) : Nat := if l.isRun then 1 else 0

/-- what a label of another goroutine can add to the work of the Run goroutine -/
def Label.gain : Label → Nat
  | .post .hup | .post .watchOk => 8
  | .begin => 5
  | _ => 0

theorem mu_eq (s : S) : mu s = 8 * (s.nHup + s.nWatchOk) + s.pc.work := Nat.add_assoc _ _ _

theorem Pc.next_work {p p' : Pc} {ok : Bool} (h : p.next ok = some p') : p'.work + 1 ≤ p.work ∧ p' ≠ .idle :=
  Pc.next_rows p ok p' h (by decide)

theorem Label.gain_eq (l : Label) :
    l.gain = 8 * ((if l = .post .hup then 1 else 0) + (if l = .post .watchOk then 1 else 0)) + if l = .begin then 5 else 0 := by
  cases l <;> first | rfl | (rename_i e; cases e <;> rfl)

theorem work_fire (v : Variant) {s s' : S} {l : Label} (h : fire v s l = some s') :
    s'.pc.work + l.runCost ≤
      s.pc.work + (if l = .begin then 5 else 0) + 8 * ((if l = .pick .hup then 1 else 0) + (if l = .pick .watchOk then 1 else 0)) := by
  rcases fire_cases v h with ⟨hl, hc⟩ | ⟨rfl, hpc, rfl⟩ | ⟨ok, rfl, hs⟩ | ⟨e, rfl, hpc, hk⟩
  · rw [hc.pc]; cases l <;> first | exact Nat.le_add_right _ _ | cases hl
  · show (Pc.setup1 false).work + Label.begin.runCost ≤ _
    rw [hpc]; decide
  · exact Nat.le_trans (Pc.next_work (stepRun_stepped hs).pc).1 (Nat.le_add_right _ _)
  · rw [(pickEv_picked hk).pc, hpc]; cases e <;> decide

theorem mu_fire (v : Variant) {s s' : S} {l : Label} (h : fire v s l = some s') : mu s' + l.runCost ≤ mu s + l.gain := by
  have f := fire_frame v h
  have h1 := f.nHup; have h2 := f.nWatchOk; have h3 := work_fire v h
  rw [mu_eq, mu_eq, l.gain_eq]
  omega

def runCount (ls : List Label) : Nat := (ls.map Label.runCost).sum
def gainSum (ls : List Label) : Nat := (ls.map Label.gain).sum

theorem mu_runFrom (v : Variant) (ls : List Label) : ∀ {s s' : S}, runFrom v s ls = some s' →
    mu s' + runCount ls ≤ mu s + gainSum ls := by
  induction ls with
  | nil => intro s s' h; cases h; exact Nat.le_refl _
  | cons l ls ih =>
    intro s s' h
    obtain ⟨s1, hf, h⟩ := runFrom_cons_eq_some.1 h
    have h1 := mu_fire v hf
    have h2 := ih h
    simp only [runCount, gainSum, List.map_cons, List.sum_cons] at h2 ⊢
    omega

/-- the Run goroutine has no enabled label -/
def RunMaximal (v : Variant) (s : S) : Prop := ∀ l, l.isRun = true → fire v s l = none

theorem pick_enabled {s : S} (h : s.anyReady = true) : ∃ e, (pickEv s e).isSome = true := by
  simp only [S.anyReady, Bool.or_eq_true, decide_eq_true_eq] at h
  rcases h with (((((((h | h) | h) | h) | h) | h) | h) | h) | h
  · exact ⟨.watchOk, by simp [pickEv, h]⟩
  · exact ⟨.watchErr, by simp [pickEv, h]⟩
  · exact ⟨.hup, by simp [pickEv, h]⟩
  · exact ⟨.term, by simp [pickEv, h]⟩
  · exact ⟨.async, by simp [pickEv, h]⟩
  · exact ⟨.shutdown, by simp [pickEv, h]⟩
  · exact ⟨.ctx, by simp [pickEv, h]⟩
  · exact ⟨.async, by simp [pickEv, h]⟩
  · exact ⟨.async, by simp [pickEv, h]⟩

theorem sticky_fire (v : Variant) {s s' : S} {l : Label} (h : fire v s l = some s') :
    (s.chanClosed = true → s'.chanClosed = true) ∧ (s.ctxDone = true → s'.ctxDone = true) ∧ (s.pc ≠ .idle → s'.pc ≠ .idle) := by
  have f := fire_frame v h
  refine ⟨fun h1 => by rw [f.chanClosed, h1, Bool.or_true], fun h1 => by rw [f.ctxDone, h1, Bool.or_true], ?_⟩
  rcases fire_cases v h with ⟨-, hc⟩ | ⟨-, -, rfl⟩ | ⟨ok, -, hs⟩ | ⟨e, -, -, hk⟩
  · exact fun hp => hc.pc ▸ hp
  · exact fun _ => nofun
  · exact fun _ => (Pc.next_work (stepRun_stepped hs).pc).2
  · exact fun _ => by rw [(pickEv_picked hk).pc]; cases e.stops <;> nofun

theorem sticky_runFrom (v : Variant) (ls : List Label) {s s' : S} (h : runFrom v s ls = some s') :
    (s.chanClosed = true → s'.chanClosed = true) ∧ (s.ctxDone = true → s'.ctxDone = true) ∧ (s.pc ≠ .idle → s'.pc ≠ .idle) :=
  runFrom_invariant v
    (P := fun t => (s.chanClosed = true → t.chanClosed = true) ∧ (s.ctxDone = true → t.ctxDone = true) ∧ (s.pc ≠ .idle → t.pc ≠ .idle))
    (fun _ _ _ hp hf => let ⟨a1, a2, a3⟩ := sticky_fire v hf; ⟨fun x => a1 (hp.1 x), fun x => a2 (hp.2.1 x), fun x => a3 (hp.2.2 x)⟩)
    ls ⟨id, id, id⟩ h

theorem Label.gain_of_isRun {l : Label} (h : l.isRun = true) : l.gain = 0 := by
  cases l <;> first | rfl | cases h

theorem mu_run (v : Variant) {s s' : S} {l : Label} (hl : l.isRun = true) (h : fire v s l = some s') : mu s' + 1 ≤ mu s := by
  have := mu_fire v h
  rw [Label.gain_of_isRun hl, Label.runCost, if_pos hl] at this
  exact this

end OtelVerif.C20

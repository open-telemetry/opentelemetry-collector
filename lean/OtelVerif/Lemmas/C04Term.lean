import OtelVerif.Lemmas.C04Split
/-! C04: the split loop ends when every iteration removes a node from the request -/
namespace OtelVerif.C04

/-- an iteration that goes on removes a node -/
structure Shrinks {P : Type} (o : Ops P) : Prop where
  extract_le : ∀ cap p, o.nodes (o.extract cap p).2.1 ≤ o.nodes p
  extract_lt : ∀ cap p, (o.extract cap p).2.2 ≠ 0 → o.nodes (o.extract cap p).2.1 < o.nodes p
  moveFirst_lt : ∀ s d, (o.moveFirst s d).2.2 = true → o.nodes (o.moveFirst s d).1 < o.nodes s

theorem splitLoop_isSome {P : Type} (o : Ops P) (hs : Shrinks o) (max : Int) :
    ∀ (fuel : Nat) (req : Req P) (res : List (Req P)), o.nodes req.p < fuel → (splitLoop o max fuel req res).isSome = true := by
  intro fuel
  induction fuel with
  | zero => intro req res h; omega
  | succ n ih =>
    intro req res h
    rw [splitLoop_succ]
    by_cases hgt : (req.norm o).cached > max
    · rw [if_pos hgt]
      by_cases hrm : (o.extract max req.p).2.2 = 0
      · rw [if_pos hrm]
        by_cases hm : (o.moveFirst (o.extract max req.p).2.1 (o.extract max req.p).1).2.2 = true
        · rw [if_pos hm]
          apply ih
          have h1 := hs.moveFirst_lt _ _ hm
          have h2 := hs.extract_le max req.p
          show o.nodes (o.moveFirst (o.extract max req.p).2.1 (o.extract max req.p).1).1 < n
          omega
        · rw [if_neg hm]; rfl
      · rw [if_neg hrm]
        apply ih
        have := hs.extract_lt max req.p hrm
        show o.nodes (o.extract max req.p).2.1 < n
        omega
    · rw [if_neg hgt]; rfl

theorem split_isSome {P : Type} (o : Ops P) (hs : Shrinks o) (max : Int) (req : Req P) : (split o max req).isSome = true := by
  rw [split, Option.isSome_map]
  exact splitLoop_isSome o hs max _ req [] (Nat.lt_succ_self _)

end OtelVerif.C04

import OtelVerif.Model.C07Msg
/-! C07 part E: a generated field copy with the clearing branch yields the source field -/
namespace OtelVerif.C07

theorem Msg.copyField_eq (k : Gen.PdataMsg.Kind) (s d : Msg.FV) (hc : Msg.clears k = true) (ht : Msg.typed k s = true) :
    Msg.copyField k s d = s := by
  cases k with
  | prim => cases s <;> rfl
  | nested => cases s <;> rfl
  | optional c =>
    cases s with
    | opt o =>
      cases o with
      | none => have : c = true := hc; subst this; rfl
      | some v => rfl
    | _ => exact Bool.noConfusion ht
  | oneof n c =>
    cases s with
    | one o =>
      cases o with
      | none => have : c = true := hc; subst this; rfl
      | some av => rfl
    | _ => exact Bool.noConfusion ht

end OtelVerif.C07

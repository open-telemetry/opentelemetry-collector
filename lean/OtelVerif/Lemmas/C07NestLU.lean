import OtelVerif.Lemmas.C07Nest
/-! nested model, "local update": replacing the slots of a container nested anywhere below a value under the contract `LRepl`
re-establishes the contract `ReplA` for the whole value (`liftA`), so the forest invariant of the roots survives operations on
nested targets (`Forest.nested`, `nested_update`); the contracts of the header operations -/
namespace OtelVerif.C07.N

/-- `o` is a container (kvlist / array wrapper) of the tree below `v` -/
def ownsList : Nat → Heap → V → Nat → Prop
  | d + 1, h, .list _ i, o => i = o ∨ ∃ kv ∈ (h.wl i).live, ownsList d h kv.val o
  | _, _, _, _ => False

instance ownsDec : ∀ (d : Nat) (h : Heap) (v : V) (o : Nat), Decidable (ownsList d h v o)
  | 0, _, v, _ => isFalse (by cases v <;> simp [ownsList])
  | _ + 1, _, .nil, _ => isFalse (by simp [ownsList])
  | _ + 1, _, .scalar _ _, _ => isFalse (by simp [ownsList])
  | _ + 1, _, .bytes _, _ => isFalse (by simp [ownsList])
  | d + 1, h, .list _ i, o =>
    have : ∀ kv : KV, Decidable (ownsList d h kv.val o) := fun kv => ownsDec d h kv.val o
    inferInstanceAs (Decidable (i = o ∨ ∃ kv ∈ (h.wl i).live, ownsList d h kv.val o))

theorem owns_sublist (G : Nat) (h : Heap) (o : Nat) : ∀ d, d ≤ G → ∀ v, fits d h v → ownsList d h v o →
    (o :: reachL G h (h.wl o).live).Sublist (reachV d h v) ∧ ∀ kv ∈ (h.wl o).live, fits G h kv.val := by
  intro d
  induction d with
  | zero => intro _ v _ ho; cases v <;> simp [ownsList] at ho
  | succ d ih =>
    intro hdG v hf ho
    cases v with
    | list km i =>
      have hfi : ∀ kv ∈ (h.wl i).live, fits d h kv.val := hf
      rcases ho with rfl | ⟨kv, hkv, hkvo⟩
      · have : reachL G h (h.wl i).live = reachL d h (h.wl i).live := reachL_fits_mono (Nat.le_of_succ_le hdG) h _ hfi
        rw [this, reachV_list_succ]
        exact ⟨List.Sublist.refl _, fun kv hkv => fits_mono (Nat.le_of_succ_le hdG) h _ (hfi kv hkv)⟩
      · obtain ⟨h1, h2⟩ := ih (Nat.le_of_succ_le hdG) kv.val (hfi kv hkv) hkvo
        rw [reachV_list_succ]
        exact ⟨(h1.trans (reachV_sublist_reachL d h hkv)).trans (List.sublist_cons_self _ _), h2⟩
    | _ => exact ho.elim

theorem owns_succ : ∀ (d : Nat) (h : Heap) (v : V) (o : Nat), ownsList d h v o → ownsList (d + 1) h v o := by
  intro d
  induction d with
  | zero => intro h v o ho; cases v <;> simp [ownsList] at ho
  | succ d ih =>
    intro h v o ho
    cases v with
    | list km i =>
      simp only [ownsList] at ho ⊢
      rcases ho with e | ⟨kv, hkv, hk⟩
      · exact Or.inl e
      · exact Or.inr ⟨kv, hkv, ih h kv.val o hk⟩
    | _ => exact ho.elim

theorem owns_mono {d e : Nat} (hde : d ≤ e) (h : Heap) (v : V) (o : Nat) (ho : ownsList d h v o) : ownsList e h v o := by
  induction hde with
  | refl => exact ho
  | step _ ih => exact owns_succ _ h v o ih

theorem owns_preserved (G : Nat) (h h' : Heap) (o1 o2 : Nat) (hwl : ∀ x, x ≠ o1 → h'.wl x = h.wl x)
    (hno : ∀ kv ∈ (h.wl o1).live, ¬ ownsList G h kv.val o2) :
    ∀ d, d ≤ G + 1 → ∀ v, ownsList d h v o2 → ownsList d h' v o2 := by
  intro d
  induction d with
  | zero => intro _ v ho; cases v <;> simp [ownsList] at ho
  | succ d ih =>
    intro hd v ho
    cases v with
    | list km i =>
      simp only [ownsList] at ho ⊢
      rcases ho with e | ⟨kv, hkv, hk⟩
      · exact Or.inl e
      · by_cases hi : i = o1
        · subst hi
          exact absurd (owns_mono (by omega) h kv.val o2 hk) (hno kv hkv)
        · rw [hwl i hi]
          exact Or.inr ⟨kv, hkv, ih (by omega) kv.val hk⟩
    | _ => exact ho.elim

/-- **local update**: the slots of a container `o` somewhere below `v` are replaced under the contract and the new header is written
into `o`: then the whole value `v` is replaced (by itself) under the contract, and what the new slots no longer reach of the old
ones, `v` no longer reaches.  Induction along the path from `v` to `o`. -/
theorem liftA {A : List Nat} {G D : Nat} {h g : Heap} {o : Nat} {R : Hdr} (c : LRepl A G D h (h.wl o).live g R.live) :
    ∀ d, d ≤ G → ∀ v, fits d h v → (reachV d h v).Nodup → (∀ i ∈ reachV d h v, i < h.next) →
      (∀ x ∈ A, x ∉ reachV d h v) → ownsList d h v o →
      ReplA A d (d + D) h v { g with wl := upd g.wl o R } v ∧
      ∀ x ∈ reachL G h (h.wl o).live, x ∉ reachL D g R.live → x ∉ reachV (d + D) { g with wl := upd g.wl o R } v := by
  have hup := c.upd_header o R
  intro d
  induction d with
  | zero => intro _ v _ _ _ _ ho; cases v <;> exact ho.elim
  | succ d ih =>
    intro hdG v hf hnd hlt hA ho
    cases v with
    | list km i =>
      have hdG' : d ≤ G := Nat.le_of_succ_le hdG
      have hfi : ∀ kv ∈ (h.wl i).live, fits d h kv.val := hf
      rw [reachV_list_succ] at hnd hlt hA
      have hnd' := List.nodup_cons.mp hnd
      have hi : i < h.next := hlt i List.mem_cons_self
      have hiA : i ∉ A := fun hm => hA i hm List.mem_cons_self
      rw [show d + 1 + D = (d + D) + 1 from Nat.add_right_comm d 1 D]
      by_cases hio : i = o
      · -- the container itself
        subst hio
        have hG : reachL d h (h.wl i).live = reachL G h (h.wl i).live := (reachL_fits_mono hdG' h _ hfi).symm
        obtain ⟨w, w1, _⟩ := ((c.raise (Nat.le_add_left D d)).old_sub (fun x hx => hG ▸ hx)).wrap km hi
          (fun hm => (List.mem_append.mp hm).elim hiA hnd'.1)
        refine ⟨w, fun x hx hxn hm => ?_⟩
        rw [w1, reachL_fits_mono (Nat.le_add_left D d) g _ c.fit] at hm
        exact (List.mem_cons.mp hm).elim (fun e => hnd'.1 (hG ▸ e ▸ hx)) hxn
      · -- a container below the slot `kv`
        obtain ⟨kv, hkv, hkvo⟩ := ho.resolve_left hio
        obtain ⟨s, t, hst⟩ := List.append_of_mem hkv
        have hst' : (h.wl i).live = s ++ [kv] ++ t := by rw [hst, List.append_assoc]; rfl
        rw [hst'] at hnd' hlt hA hfi
        have hmem : kv ∈ s ++ [kv] ++ t := List.mem_append_left _ (List.mem_append_right _ List.mem_cons_self)
        have hsub : ∀ x ∈ reachV d h kv.val, x ∈ reachL d h (s ++ [kv] ++ t) := fun x hx => mem_reachL hmem hx
        -- the write set lies inside the slot's footprint
        have hW : ∀ x, x ∈ o :: reachL G h (h.wl o).live → x ∈ reachV d h kv.val := fun x hx =>
          (owns_sublist G h o d hdG' kv.val (hfi kv hmem) hkvo).1.subset hx
        have hi_notin : i ∉ reachV d h kv.val := fun hm => hnd'.1 (hsub i hm)
        have hwli : ({ g with wl := upd g.wl o R } : Heap).wl i = h.wl i := (hup.frame i hi (fun hm => hi_notin (hW i hm))).2
        obtain ⟨rk, ek⟩ := ih hdG' kv.val (hfi kv hmem)
          (hnd'.2.sublist (reachV_sublist_reachL d h hmem))
          (fun x hx => hlt x (List.mem_cons_of_mem _ (hsub x hx))) (fun x hx hm => hA x hx (List.mem_cons_of_mem _ (hsub x hm))) hkvo
        obtain ⟨c1, c2⟩ := rk.single.segment (Nat.le_add_right d D) s t ⟨hfi, hnd'.2, fun x hx => hlt x (List.mem_cons_of_mem _ hx)⟩
          (fun x hx hm => hA x hx (List.mem_cons_of_mem _ hm))
        refine ⟨ReplA.wrap km ⟨hup.next_le, fun x hx hxn => hup.frame x hx
            (fun hm => hxn (List.mem_cons_of_mem _ (hst' ▸ hsub x (hW x hm))))⟩ ?_ ?_ hi ?_, fun x hx hxn hm => ?_⟩
        · rw [hwli, hst']; exact c1.fit
        · rw [hwli, hst']; exact c1.foot
        · rw [hst']; exact fun hm => (List.mem_append.mp hm).elim hiA hnd'.1
        · have hxk : x ∈ reachV d h kv.val := hW x (List.mem_cons_of_mem _ hx)
          rw [reachV_list_succ, hwli, hst'] at hm
          refine (List.mem_cons.mp hm).elim (fun e => hi_notin (e ▸ hxk)) (c2 x ?_ ?_)
          · rw [reachL_single]; exact hxk
          · rw [reachL_single]; exact ek x hx hxn
    | _ => exact ho.elim

theorem Forest.nested {d : Nat} {h : Heap} {root : Nat → V} (f : Forest d h root) {A : List Nat} {r o : Nat} {g : Heap} {R : Hdr} {D : Nat}
    (ho : ownsList d h (root r) o) (c : LRepl A d D h (h.wl o).live g R.live) (hA : ∀ x ∈ A, ∀ r, x ∉ reachV d h (root r)) :
    Forest (d + D) { g with wl := upd g.wl o R } root ∧
    (∀ c, c ≠ r → reachV (d + D) { g with wl := upd g.wl o R } (root c) = reachV d h (root c) ∧
      absV (d + D) { g with wl := upd g.wl o R } (root c) = absV d h (root c)) ∧
    ∀ x ∈ reachL d h (h.wl o).live, x ∉ reachL D g R.live → x ∉ reachV (d + D) { g with wl := upd g.wl o R } (root r) := by
  obtain ⟨rp, ex⟩ := liftA c d (Nat.le_refl _) (root r) (f.fit r) (f.nodup r) (f.lt r) (fun x hx => hA x hx r) ho
  obtain ⟨u1, u2⟩ := f.update r (Nat.le_add_right _ _) rp hA
  rw [upd_self] at u1
  exact ⟨u1, u2, ex⟩

theorem nested_update {s : St} (hi : Inv s) {r o : Nat} {g : Heap} {R : Hdr} (ro' : Nat → Bool)
    (ho : ownsList s.dep s.h (s.root r) o) (c : LRepl [] s.dep s.dep s.h (s.h.wl o).live g R.live) :
    Inv { h := { g with wl := upd g.wl o R }, root := s.root, ro := ro', dep := bump s.dep } ∧
    ∀ c, c ≠ r → absRoot { h := { g with wl := upd g.wl o R }, root := s.root, ro := ro', dep := bump s.dep } c = absRoot s c := by
  obtain ⟨u1, u2, _⟩ := hi.forest.nested ho c (fun _ hx => nomatch hx)
  exact ⟨u1.inv _ (add_self_le_bump _) (Nat.succ_pos _) ro',
    fun c hc => (abs_fits_mono (add_self_le_bump _) _ _ (u1.fit c)).trans (u2 c hc).2⟩

/-! ### the slot-level contracts of the header operations -/

/-- container `o` of the forest: its slots are owned (`OwnL`), it is allocated and not reachable from its own slots (`owned_of`) -/
structure Owned (d : Nat) (h : Heap) (o : Nat) : Prop extends OwnL d h (h.wl o).live where
  self_lt : o < h.next
  notin : o ∉ reachL d h (h.wl o).live

theorem owned_of {s : St} (hi : Inv s) (r o : Nat) (ho : ownsList s.dep s.h (s.root r) o) : Owned s.dep s.h o := by
  obtain ⟨h1, h2⟩ := owns_sublist s.dep s.h o s.dep (Nat.le_refl _) (s.root r) (hi.fit r) ho
  have hnd := List.nodup_cons.mp ((hi.nodup r).sublist h1)
  exact ⟨⟨h2, hnd.2, fun x hx => hi.lt r x (h1.subset (List.mem_cons_of_mem _ hx))⟩, hi.lt r o (h1.subset List.mem_cons_self), hnd.1⟩

theorem owns_sub {s : St} (hi : Inv s) (r o : Nat) (ho : ownsList s.dep s.h (s.root r) o) :
    ∀ x ∈ o :: reachL s.dep s.h (s.h.wl o).live, x ∈ reachV s.dep s.h (s.root r) :=
  fun _ hx => (owns_sublist s.dep s.h o s.dep (Nat.le_refl _) (s.root r) (hi.fit r) ho).1.subset hx

/-- slot `i` gets a new value under the contract (`Set*`, `Put*` on an existing key, `Value.CopyTo` into the slot) -/
theorem lrepl_set {d : Nat} {h g : Heap} {o i : Nat} {a : KV} {v' : V} (k : Nat) (ow : Owned d h o)
    (hLi : (h.wl o).live[i]? = some a) (rp : Repl d d h a.val g v') :
    LRepl [] d d h (h.wl o).live g ((h.wl o).live.set i ⟨k, v'⟩) := by
  obtain ⟨s, t, hL, hset⟩ := set_split ⟨k, v'⟩ hLi
  have e : ∀ x : KV, s ++ [x] ++ t = s ++ x :: t := fun x => by rw [List.append_assoc]; rfl
  have c := ((rp.single (a := a) (b := ⟨k, v'⟩)).segment (Nat.le_refl _) s t (e a ▸ hL ▸ ow.toOwnL) (fun _ hx => nomatch hx)).1
  rwa [e, e, ← hL, ← hset] at c

/-- a slot is appended (`Put*` of a new key, `AppendEmpty`) holding a newly made value -/
theorem lrepl_append {d : Nat} {h g : Heap} {o : Nat} {kv : KV} (ow : Owned d h o) (rp : Repl d d h .nil g kv.val) :
    LRepl [] d d h (h.wl o).live g ((h.wl o).live ++ [kv]) := by
  -- appending = replacing the empty segment after the last slot: the contract on a dummy zero slot, its old side emptied, then `segment`
  have c := (((rp.single (a := KV.zero) (b := kv)).old_sub (m₂ := []) (fun x hx => absurd hx (by simp [reachL, KV.zero, reachV_nil]))).segment
    (Nat.le_refl _) (h.wl o).live [] (by simpa using ow.toOwnL) (fun _ hx => nomatch hx)).1
  simpa only [List.append_nil] using c

/-- slots nobody owns are appended to the slots of `o` -/
theorem lrepl_adopt {d : Nat} {h : Heap} {o : Nat} {m : List KV} (ow : Owned d h o) (om : OwnL d h m)
    (hd : ∀ x ∈ reachL d h (h.wl o).live, x ∉ reachL d h m) :
    LRepl (reachL d h m) d d h (h.wl o).live h ((h.wl o).live ++ m) :=
  ⟨⟨Nat.le_refl _, fun _ _ _ => ⟨rfl, rfl⟩⟩, fun kv hkv => (List.mem_append.mp hkv).elim (ow.fit kv) (om.fit kv), by
    rw [reachL_append]
    exact Foot.sub (List.nodup_append.mpr ⟨ow.nodup, om.nodup, fun x hx y hy e => hd x hx (e ▸ hy)⟩)
      (fun x hx => (List.mem_append.mp hx).elim (List.mem_append_right _) (List.mem_append_left _))
      (fun x hx => (List.mem_append.mp hx).elim (om.lt x) (ow.lt x))⟩

/-- the new header keeps some of the old slots, in any order (`Remove`, `RemoveIf`, `EnsureCapacity`, `Clear`) -/
theorem lrepl_sub {d : Nat} {h : Heap} {o : Nat} {R l' : List KV} (ow : Owned d h o) (hp : R.Perm l') (hs : l'.Sublist (h.wl o).live) :
    LRepl [] d d h (h.wl o).live h R :=
  have hsub := sublist_flatMap (fun kv : KV => reachV d h kv.val) hs
  have hperm : (reachL d h R).Perm (reachL d h l') := hp.flatMap_right _
  ⟨⟨Nat.le_refl _, fun _ _ _ => ⟨rfl, rfl⟩⟩, fun kv hkv => ow.fit kv (hs.subset (hp.subset hkv)),
    Foot.sub (hperm.nodup_iff.mpr (ow.nodup.sublist hsub)) (fun _ hx => hsub.subset (hperm.subset hx)) ow.lt⟩

theorem lrepl_remove {d : Nat} {h : Heap} {o : Nat} (k : Nat) (ow : Owned d h o) :
    LRepl [] d d h (h.wl o).live h (removeKey (h.wl o) k).live := by
  unfold removeKey
  cases find (h.wl o).live k with
  | none => exact lrepl_sub ow (.refl _) (.refl _)
  | some i =>
    cases hl : (h.wl o).live.getLast? with
    | none => exact lrepl_sub ow (.refl _) (.refl _)
    | some last =>
      obtain ⟨l', hp, hs⟩ := set_last_perm_sub (h.wl o).live i last hl
      exact lrepl_sub ow hp hs

end OtelVerif.C07.N

import OtelVerif.Lemmas.C01Inv
/-!
# C01 — restart and drain: after a (further) death, a complete start-up and a complete drain the durable
queue is empty (`ri = wi`, `di = []`), whatever reachable configuration one starts from.

`restart`, `drainAll` of the statements are defined here.  A start-up ends within `fuel` ticks in a `Ready` state and loses nothing
recoverable (`startup_tick`: the one walk over the start-up pcs, also for Lemmas/C01Size.lean); each `drainStep` hands out the item at `R`.
-/
namespace OtelVerif.C01

def ticks : Nat → Cfg → Cfg
  | 0, c => c
  | n + 1, c => ticks n (fire c .tick)

/-- the process dies (if it is alive), then a new incarnation runs its whole start-up: `2·|di| + 4` ticks
    cover every storage call of `Start` (extra ticks in an idle incarnation do nothing) -/
def restart (c : Cfg) : Cfg := ticks (2 * c.st.di.length + 4) (fire (fire c .crash) .start)

/-- one consumer round: `Read`, its return, `Done(final)`, and the possible size back-up -/
def drainStep (c : Cfg) : Cfg :=
  let c1 := fire (fire c .read) .tick
  match c1.res with
  | .readItem i _ => fire (fire c1 (.done i .final)) .tick
  | _ => c1

def drain : Nat → Cfg → Cfg
  | 0, c => c
  | n + 1, c => drain n (drainStep c)

/-- as many consumer rounds as there are queued items -/
def drainAll (c : Cfg) : Cfg := drain (c.st.W - c.st.R) c

/-- a started, idle, not stopped incarnation with nothing left dispatched -/
structure ReadyAt (c : Cfg) (m : Mem) : Prop where
  ph : c.ph = .live m .idle
  stopped : m.stopped = false
  outst : m.outst = []
  di : c.st.di = []

def Ready (c : Cfg) : Prop := ∃ m, ReadyAt c m

theorem Ready.di {c : Cfg} (h : Ready c) : c.st.di = [] := let ⟨_, r⟩ := h; r.di

theorem ticks_idle {m : Mem} (n : Nat) {c : Cfg} (h : c.ph = .live m .idle) : ticks n c = c := by
  induction n with
  | zero => rfl
  | succ n ih =>
    have : fire c .tick = c := by rw [fire_tick h]; rfl
    simp only [ticks]; rw [this]; exact ih

def startupPc : Pc → Bool
  | .init1 | .init2 | .init3 _ | .moving _ | .movingBackup _ => true
  | _ => false

/-- an upper bound on the storage calls a start-up still has to make -/
def fuel (s : Store) : Pc → Nat
  | .init1 => 2 * s.di.length + 4
  | .init2 => 2 * s.di.length + 3
  | .init3 ds => 2 * ds.length + 2
  | .moving todo => 2 * todo.length + 1
  | .movingBackup todo => 2 * todo.length + 2
  | _ => 0

theorem fuel_pos (s : Store) {pc : Pc} (h : startupPc pc = true) : 0 < fuel s pc := by
  cases pc <;> first | exact Nat.succ_pos _ | cases h

theorem afterMove_fuel (rest : List (Nat × Option Req)) (s : Store) (n : Nat) (hn : 2 * rest.length + 1 < n) :
    afterMove rest = .idle ∨ (startupPc (afterMove rest) = true ∧ fuel s (afterMove rest) < n) := by
  cases rest with
  | nil => exact Or.inl rfl
  | cons p t => exact Or.inr ⟨rfl, hn⟩

/-- one tick of a start-up, for Drain, Size and `C01_drain` alike: a frame of memory, idle or less `fuel`, nothing recoverable lost -/
structure Boots (c : Cfg) (m : Mem) (pc : Pc) (c' : Cfg) (m' : Mem) (pc' : Pc) : Prop where
  ph : c'.ph = .live m' pc'
  stopped : m'.stopped = m.stopped
  cdi : m'.cdi = m.cdi
  outst : m'.outst = m.outst
  size : c.k.reqSized = true → m.ri ≤ m.wi → m.size = m.wi - m.ri → m'.size = m'.wi - m'.ri
  next : pc' = .idle ∨ (startupPc pc' = true ∧ fuel c'.st pc' < fuel c.st pc)
  recov : StInv c.st → PcInv c.st m pc → m.wi = c.st.W → ∀ q, Recoverable c.st q → Recoverable c'.st q

theorem Boots.pcOnly {c c' : Cfg} {m : Mem} {pc pc' : Pc} (hph : c'.ph = .live m pc')
    (hrec : ∀ q, Recoverable c.st q → Recoverable c'.st q)
    (next : pc' = .idle ∨ (startupPc pc' = true ∧ fuel c'.st pc' < fuel c.st pc)) : Boots c m pc c' m pc' :=
  ⟨hph, rfl, rfl, rfl, fun _ _ h => h, next, fun _ _ _ => hrec⟩

theorem startup_tick {c : Cfg} {m : Mem} {pc : Pc} (hsu : startupPc pc = true) :
    ∃ m' pc', Boots c m pc (doTick c m pc) m' pc' := by
  have getDi : ∀ pc n, 2 * c.st.di.length + 2 < n → fuel c.st pc = n → ∃ m' pc', Boots c m pc (doGetDi c m) m' pc' := by
    intro pc n hn hf
    fun_cases doGetDi c m
    · exact ⟨m, _, .pcOnly rfl (fun _ h => h) (Or.inl rfl)⟩
    · next d ds hd => exact ⟨m, _, .pcOnly rfl (fun _ h => h) (Or.inr ⟨rfl, by rw [hf]; rw [hd] at hn; exact hn⟩)⟩
  cases pc with
  | init1 =>
    simp only [doTick]
    split
    · next hc =>
      exact ⟨_, _, { ph := rfl, stopped := rfl, cdi := rfl, outst := rfl, size := fun hk => absurd hc.2 (by rw [hk]; nofun),
                     next := Or.inr ⟨rfl, Nat.lt_succ_self _⟩, recov := fun _ _ _ _ h => h }⟩
    · exact getDi .init1 (2 * c.st.di.length + 4) (by omega) rfl
  | init2 => exact getDi .init2 (2 * c.st.di.length + 3) (Nat.lt_succ_self _) rfl
  | init3 ds =>
    exact ⟨m, _, .pcOnly rfl (fun _ h => h) (Or.inr ⟨rfl, by simp only [fuel, List.length_map]; omega⟩)⟩
  | moving todo =>
    simp only [doTick]
    fun_cases doMove c m todo
    · exact ⟨m, _, .pcOnly rfl (fun _ h => h) (Or.inl rfl)⟩
    · next i rest =>
      refine ⟨m, _, { ph := rfl, stopped := rfl, cdi := rfl, outst := rfl, size := fun _ _ h => h,
                      next := afterMove_fuel rest _ (2 * (rest.length + 1) + 1) (by omega), recov := fun _ hp _ q hq => ?_ }⟩
      exact hq.finB_head (MovInv.fst hp).symm (by rw [MovInv.items hp (i, none) (by simp)]; nofun)
    · next i r rest m' =>
      have hsz : c.k.reqSized = true → m.ri ≤ m.wi → m.size = m.wi - m.ri →
          m.size + c.k.sizeof r = m.wi + 1 - m.ri := fun hk _ h => by rw [sizeof_reqSized hk, h]; omega
      have hrec : StInv c.st → PcInv c.st m (.moving ((i, some r) :: rest)) → m.wi = c.st.W → ∀ q, Recoverable c.st q →
          Recoverable (c.st.moveB m.wi r i (rest.map Prod.fst)) q := by
        intro hs hp hw q hq
        rw [hw]; exact hq.moveB hs.toE (MovInv.fst hp).symm (MovInv.items hp (i, some r) (by simp))
      dsimp only [m']
      split
      · exact ⟨_, _, { ph := rfl, stopped := rfl, cdi := rfl, outst := rfl, size := hsz, recov := hrec,
                       next := Or.inr ⟨rfl, by show 2 * rest.length + 2 < 2 * (rest.length + 1) + 1; omega⟩ }⟩
      · exact ⟨_, _, { ph := rfl, stopped := rfl, cdi := rfl, outst := rfl, size := hsz, recov := hrec,
                       next := afterMove_fuel rest _ (2 * (rest.length + 1) + 1) (by omega) }⟩
  | movingBackup todo =>
    exact ⟨m, _, .pcOnly rfl (fun _ h => h) (afterMove_fuel todo _ _ (Nat.lt_succ_self _))⟩
  | _ => cases hsu

theorem startup_empty {s : Store} {m : Mem} {pc : Pc} (hsu : startupPc pc = true) (h : PcInv s m pc) :
    m.cdi = [] ∧ m.outst = [] := by
  cases pc with
  | init1 => exact h
  | init2 => exact h
  | init3 ds => exact h.2
  | moving todo => exact h.2.2
  | movingBackup todo => exact h.2.2
  | _ => cases hsu

theorem startup_ready : ∀ (n : Nat) {c : Cfg} {m : Mem} {pc : Pc}, Inv c → c.ph = .live m pc → startupPc pc = true →
    m.stopped = false → fuel c.st pc ≤ n →
    Ready (ticks n c) ∧ Inv (ticks n c) ∧ (ticks n c).accepted = c.accepted ∧
      ∀ q, Recoverable c.st q → Recoverable (ticks n c).st q
  | 0, c, m, pc, _, _, hsu, _, hn => absurd hn (Nat.not_le.mpr (fuel_pos c.st hsu))
  | n + 1, c, m, pc, hi, hph, hsu, hs, hn => by
    have hl := hi.live m pc hph
    obtain ⟨hc, ho⟩ := startup_empty hsu hl.pc
    obtain ⟨m', pc', b⟩ := startup_tick (c := c) (m := m) hsu
    have hi' := inv_fire hi .tick
    have hacc := (fire_frame c .tick trivial).1
    simp only [ticks]
    rw [fire_tick hph] at hi' hacc ⊢
    have hrec := b.recov hi.st hl.pc hl.wi
    rcases b.next with rfl | ⟨hsu', hlt⟩
    · rw [ticks_idle n b.ph]
      have hd : m'.cdi = (doTick c m pc).st.di := (hi'.live m' _ b.ph).pc
      exact ⟨⟨m', b.ph, b.stopped ▸ hs, b.outst ▸ ho, by rw [← hd, b.cdi, hc]⟩, hi', hacc, hrec⟩
    · obtain ⟨h1, h2, h3, h4⟩ := startup_ready n hi' b.ph hsu' (b.stopped ▸ hs) (by omega)
      exact ⟨h1, h2, h3.trans hacc, fun q hq => h4 q (hrec q hq)⟩

theorem restart_ready {c : Cfg} (hi : Inv c) :
    Ready (restart c) ∧ Inv (restart c) ∧ (restart c).accepted = c.accepted ∧
      ∀ q, Recoverable c.st q → Recoverable (restart c).st q :=
  startup_ready (2 * c.st.di.length + 4) (c := doStart (fire c .crash)) (inv_fire (inv_fire hi .crash) .start) rfl rfl rfl
    (Nat.le_refl _)

theorem tick_readRet {c : Cfg} {m : Mem} {i : Nat} {r : Req} (h : c.ph = .live m (.readRet i r)) :
    (fire c .tick).ph = .live { m with outst := (i, r) :: m.outst } .idle ∧ (fire c .tick).st = c.st ∧
    (fire c .tick).handed = r :: c.handed ∧ (fire c .tick).res = .readItem i r := by
  rw [fire_tick h]; exact ⟨rfl, rfl, rfl, rfl⟩

theorem done_final_single {c : Cfg} {m : Mem} {i : Nat} {r : Req} (h : c.ph = .live m .idle)
    (ho : m.outst = [(i, r)]) (hc : m.cdi = [i]) :
    (fire c (.done i .final)).st = c.st.finB [] i ∧
    ∃ m3 pc3, (fire c (.done i .final)).ph = .live m3 pc3 ∧ (pc3 = .idle ∨ pc3 = .backup) ∧
      m3.stopped = m.stopped ∧ m3.outst = [] ∧ (fire c (.done i .final)).handed = c.handed := by
  rw [fire_done_idle h]
  have hl : m.outst.lookup i = some r := by rw [ho]; simp [List.lookup]
  have hsw : swapRemove m.cdi i = [] := by rw [hc]; simp [swapRemove]
  have hf : m.outst.filter (fun p => p.1 != i) = [] := by rw [ho]; simp
  unfold doDone
  rw [hl]
  dsimp only
  refine ⟨by rw [hsw], _, _, rfl, ?_, rfl, hf, rfl⟩
  split
  · right; rfl
  · left; rfl

theorem tick_idle_or_backup {c : Cfg} {m : Mem} {pc : Pc} (h : c.ph = .live m pc) (hpc : pc = .idle ∨ pc = .backup) :
    (fire c .tick).ph = .live m .idle ∧ (fire c .tick).st.di = c.st.di ∧ (fire c .tick).st.R = c.st.R ∧
    (fire c .tick).st.W = c.st.W ∧ (fire c .tick).handed = c.handed ∧ (fire c .tick).st.items = c.st.items := by
  rw [fire_tick h]
  rcases hpc with rfl | rfl
  · exact ⟨h, rfl, rfl, rfl, rfl, rfl⟩
  · exact ⟨rfl, rfl, rfl, rfl, rfl, rfl⟩

theorem doRead_item {c : Cfg} {m : Mem} {r : Req} (hs : m.stopped = false) (hne : m.ri ≠ m.wi)
    (hit : c.st.items m.ri = some r) :
    (doRead c m).ph = .live { m with ri := m.ri + 1, cdi := m.cdi ++ [m.ri], size := if m.ri + 1 = m.wi then 0 else m.size }
      (.readRet m.ri r) ∧
    (doRead c m).st = c.st.getB (m.ri + 1) (m.cdi ++ [m.ri]) ∧ (doRead c m).handed = c.handed := by
  fun_cases doRead c m
  · next h => rw [hs] at h; cases h
  · next _ h => exact absurd h hne
  · exact ⟨by rw [hit], rfl, rfl⟩

theorem drainStep_spec {c : Cfg} (hi : Inv c) (hr : Ready c) (hlt : c.st.R < c.st.W) :
    Ready (drainStep c) ∧ Inv (drainStep c) ∧ (drainStep c).accepted = c.accepted ∧
    (drainStep c).st.R = c.st.R + 1 ∧ (drainStep c).st.W = c.st.W ∧
    (∃ r, c.st.items c.st.R = some r ∧ (drainStep c).handed = r :: c.handed) ∧
    (∀ j, j ≠ c.st.R → (drainStep c).st.items j = c.st.items j) := by
  obtain ⟨m, rd⟩ := hr
  have hph := rd.ph
  have hl := hi.live m _ hph
  have hcdi : m.cdi = [] := by have : m.cdi = c.st.di := hl.pc; rw [this, rd.di]
  have hri := hl.ri
  have hwi := hl.wi
  have hne : m.ri ≠ m.wi := by omega
  obtain ⟨r, hitem⟩ := hi.head hph hne
  -- `Read`, its return, `Done(final)`, the tick of the possible size back-up
  obtain ⟨hp1, hst1, hh1⟩ := doRead_item rd.stopped hne hitem
  rw [← fire_read_idle hph] at hp1 hst1 hh1
  obtain ⟨hp2, hst2, hh2, hres2⟩ := tick_readRet hp1
  obtain ⟨hst3, m3, pc3, hp3, hpc3, hs3, ho3, hh3⟩ :=
    done_final_single hp2 (by show (m.ri, r) :: m.outst = _; rw [rd.outst]) (by show m.cdi ++ [m.ri] = _; rw [hcdi]; rfl)
  obtain ⟨hp4, hdi4, hR4, hW4, hh4, hit4⟩ := tick_idle_or_backup hp3 hpc3
  have e : drainStep c = fire (fire (fire (fire c .read) .tick) (.done m.ri .final)) .tick := by
    unfold drainStep; dsimp only; rw [hres2]
  have hR1 : (c.st.getB (m.ri + 1) (m.cdi ++ [m.ri])).R = m.ri + 1 := getB_R hlt _ _
  rw [e]
  refine ⟨⟨m3, hp4, hs3.trans rd.stopped, ho3, ?_⟩, inv_fire (inv_fire (inv_fire (inv_fire hi _) _) _) _, ?_, ?_, ?_,
    ⟨r, hri ▸ hitem, ?_⟩, ?_⟩
  · rw [hdi4, hst3]; rfl
  · rw [(fire_frame _ .tick trivial).1, (fire_frame _ (.done _ _) trivial).1, (fire_frame _ .tick trivial).1,
      (fire_frame _ .read trivial).1]
  · rw [hR4, hst3, finB_R, hst2, hst1, hR1, hri]
  · rw [hW4, hst3, finB_W, hst2, hst1, getB_W]
  · rw [hh4, hh3, hh2, hh1]
  · intro j hj
    rw [hit4, hst3, finB_items, upd_ne _ _ (by rw [hri]; exact hj), hst2, hst1, getB_items]

theorem drain_spec : ∀ (n : Nat) (c : Cfg), Inv c → Ready c → c.st.W - c.st.R = n →
    Ready (drain n c) ∧ Inv (drain n c) ∧ (drain n c).accepted = c.accepted ∧ (drain n c).st.R = (drain n c).st.W ∧
    (∀ q ∈ c.handed, q ∈ (drain n c).handed) ∧
    (∀ j q, c.st.R ≤ j → j < c.st.W → c.st.items j = some q → q ∈ (drain n c).handed) := by
  intro n
  induction n with
  | zero =>
    intro c hi hr hn
    have := hi.st.le
    exact ⟨hr, hi, rfl, by show c.st.R = c.st.W; omega, fun q hq => hq, fun j q h1 h2 _ => by omega⟩
  | succ n ih =>
    intro c hi hr hn
    have hlt : c.st.R < c.st.W := by omega
    obtain ⟨hr1, hi1, ha1, hR1, hW1, ⟨r, hitem, hh1⟩, hit1⟩ := drainStep_spec hi hr hlt
    obtain ⟨hrN, hiN, haN, hRW, hmono, hall⟩ := ih (drainStep c) hi1 hr1 (by omega)
    refine ⟨hrN, hiN, haN.trans ha1, hRW, ?_, ?_⟩
    · intro q hq; exact hmono q (by rw [hh1]; exact List.mem_cons_of_mem _ hq)
    · intro j q h1 h2 hq
      by_cases hj : j = c.st.R
      · subst hj
        have : q = r := by rw [hitem] at hq; injection hq with e; exact e.symm
        subst this
        exact hmono q (by rw [hh1]; exact List.mem_cons_self)
      · exact hall j q (by omega) (by omega) (by rw [hit1 j hj]; exact hq)

theorem drained {c : Cfg} (hi : Inv c) :
    Inv (drainAll (restart c)) ∧ (drainAll (restart c)).st.R = (drainAll (restart c)).st.W ∧
    (drainAll (restart c)).st.di = [] ∧ ∀ r ∈ c.accepted, r ∈ (drainAll (restart c)).finalised := by
  obtain ⟨hready, hi', ha', -⟩ := restart_ready hi
  obtain ⟨hrN, hiN, haN, hRW, -⟩ := drain_spec _ (restart c) hi' hready rfl
  have hdi := hrN.di
  refine ⟨hiN, hRW, hdi, fun r hr => ?_⟩
  rcases hiN.main r (show r ∈ (drainAll (restart c)).accepted from (haN.trans ha') ▸ hr) with hf | ⟨i, _, hd | ⟨h1, h2⟩⟩
  · exact hf
  · rw [hdi] at hd; cases hd
  · exact absurd h2 (by rw [← hRW]; exact Nat.not_lt.mpr h1)

end OtelVerif.C01

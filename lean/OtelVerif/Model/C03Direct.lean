import OtelVerif.Model.C03Mon
/-!
# C03 model: QUEUE-LESS ("direct") exporters — no sending queue, no batcher

`exporterhelper/internal/base_exporter.go`: without `QueueSender` the chain is obsreport → retry → timeout → export function and
`BaseExporter.Send` runs it on the CALLER's goroutine; `BaseExporter.Shutdown` = `RetrySender.Shutdown` (`close(stopCh)`; the
retry sender is absent when `retry_on_failure.enabled = false`) and then the wrapped exporter's own shutdown.  It does NOT wait for
the callers.  So "all export calls have returned" is false for such exporters and is not claimed.  What the code guarantees — and
what this LTS states — is: once `Shutdown` has returned NO RETRY is scheduled any more.

`retry_sender.go` `Send` loop, branch by branch:
* call `next.Send` (`expStart` … `expEnd`); `nil` → return (`.ok,.drop`); permanent → return (`.perm,.drop`); back-off `Stop`, elapsed
  budget, context deadline before the next retry → return (`.trans,.drop`);
* the non-blocking `select { case <-rs.stopCh: return shutdownErr }` BEFORE the back-off: a failed call after the stop ends its `Send`
  with a shutdown error (`.trans,.keep` needs `retry ∧ stopped`), a retry is scheduled only while not stopped (`.trans,.again` needs
  `retry ∧ ¬stopped`);
* the blocking `select` of the back-off: `ctx.Done` (`giveUp f false`), `stopCh` (`giveUp f true`, needs `stopped`), timer (`expStart f`
  from `backoff`, needs `¬stopped`: once `stopCh` is closed the `select` has the `stopCh` case ready.  The SAME-INSTANT tie — the timer
  fires in the very instant of the close, both cases ready, `select` picks at random — is excluded, as in C05; the harness keeps the
  shutdown instant off the timer grid).
With retry disabled there is no retry sender: every failure is `.drop`, `shutdown` only marks "returned".

`shutdown` is ONE step (`close(stopCh)` and the return of `Shutdown`; nothing else happens in between, the wrapped exporter's shutdown
function is outside the helper).  A real trace may interleave caller events between the close and the return; everything a caller can
do there it can also do after `stopped` here, and the monitor `checkDirect` only looks at what follows `shutRet`.

Abstractions: items are naturals, a request is a list of items; a flight keeps its item list over its attempts (a partial-failure
retry of the code carries a SUB-list — the trace monitor `lateRetries` handles that through `rootOfCall`); time does not appear;
the backend outcome of every call is arbitrary; any number of callers, entering `Send` at any time (also after the stop).
-/
namespace OtelVerif.C03.Direct

open OtelVerif.C03

/-- one `Send` of a caller: obsreport → retry loop → timeout → export function, on the caller's goroutine -/
structure DFlight where
  st : FSt                -- pending: inside `Send`, export function not yet called · calling · backoff · done: `Send` returned
  attempts : Nat          -- calls of the export function
  failures : Nat          -- of which returned an error
  items : Batch
  kept : Bool             -- `Send` returned a shutdown error (`experr.NewShutdownErr`)
deriving DecidableEq, Repr

def DFlight.new (b : Batch) : DFlight := { st := .pending, attempts := 0, failures := 0, items := b, kept := false }

structure DState where
  retry : Bool            -- `retry_on_failure.enabled`
  stopped : Bool          -- `Shutdown` has returned (`close(stopCh)` done; retry disabled: just "returned")
  flights : List DFlight  -- never shrinks; index = flight id
deriving DecidableEq, Repr

def dinit (retry : Bool) : DState := { retry := retry, stopped := false, flights := [] }

inductive DLabel
  | send (b : Batch)                         -- a caller enters `Send`: allowed at ANY time, also after the stop
  | expStart (f : Nat)
  | expEnd (f : Nat) (o : Outcome) (a : After)
  | giveUp (f : Nat) (kept : Bool)           -- back-off interrupted (`stopCh` → kept, `ctx.Done` → not)
  | shutdown
deriving DecidableEq, Repr

/-- the flight's `Send` returns -/
def dend (s : DState) (f : Nat) (fl : DFlight) (kept : Bool) (fail : Nat) : DState :=
  { s with flights := s.flights.set f { fl with st := .done, failures := fl.failures + fail, kept := kept } }

def dfire (s : DState) : DLabel → Option DState
  | .send b => some { s with flights := s.flights ++ [DFlight.new b] }
  | .expStart f =>
    match s.flights[f]? with
    | some fl =>
      -- first attempt at any time; the back-off timer wins only while `stopCh` is open
      if fl.st = .pending ∨ (fl.st = .backoff ∧ s.stopped = false)
      then some { s with flights := s.flights.set f { fl with st := .calling, attempts := fl.attempts + 1 } } else none
    | none => none
  | .expEnd f o a =>
    match s.flights[f]? with
    | some fl =>
      if fl.st = .calling then
        match o, a with
        | .ok, .drop => some (dend s f fl false 0)
        | .perm, .drop => some (dend s f fl false 1)
        | .trans, .drop => some (dend s f fl false 1)
        | .trans, .again =>
          if s.retry = true ∧ s.stopped = false
          then some { s with flights := s.flights.set f { fl with st := .backoff, failures := fl.failures + 1 } } else none
        | .trans, .keep => if s.retry = true ∧ s.stopped = true then some (dend s f fl true 1) else none
        | _, _ => none
      else none
    | none => none
  | .giveUp f kept =>
    match s.flights[f]? with
    | some fl => if fl.st = .backoff ∧ (kept = true → s.stopped = true) then some (dend s f fl kept 0) else none
    | none => none
  | .shutdown => if s.stopped = false then some { s with stopped := true } else none

/-- run a schedule; `none` if some label is not enabled -/
def drunFrom (s : DState) : List DLabel → Option DState
  | [] => some s
  | l :: ls => match dfire s l with
    | some s' => drunFrom s' ls
    | none => none

inductive DReachable : DState → Prop
  | init (retry : Bool) : DReachable (dinit retry)
  | step {s s'} (l : DLabel) : DReachable s → dfire s l = some s' → DReachable s'

/-! ## the observable trace of a run (what the harness logs around the real exporter) -/

/-- `es`/`ee` around every call of the export function (call ids in order of the calls), `shutReq` then `shutRet` at `shutdown`.
No `acc`: in direct mode a `Send` returns only when its flight ends. -/
structure DRec where
  s : DState
  tr : List Ev := []                 -- oldest first
  calls : Nat := 0                   -- export calls started so far = id of the next call
  pending : List (Nat × Nat) := []   -- (flight, call id) of the calls that have not returned yet
deriving Repr

def DRec.step (r : DRec) (l : DLabel) : Option DRec :=
  match dfire r.s l with
  | none => none
  | some s' =>
    match l with
    | .shutdown => some { r with s := s', tr := r.tr ++ [.shutReq, .shutRet] }
    | .expStart f =>
      some { s := s', tr := r.tr ++ [.es r.calls ((r.s.flights[f]?.map (·.items)).getD [])], calls := r.calls + 1,
             pending := (f, r.calls) :: r.pending }
    | .expEnd f o _ =>
      match r.pending.lookup f with
      | some c => some { r with s := s', tr := r.tr ++ [.ee c (o != .ok)], pending := r.pending.filter (fun p => p.1 != f) }
      | none => some { r with s := s' }
    | _ => some { r with s := s' }

def DRec.run (r : DRec) : List DLabel → Option DRec
  | [] => some r
  | l :: ls => match r.step l with
    | some r' => r'.run ls
    | none => none

def DRec.start (retry : Bool) : DRec := { s := dinit retry }

/-! ## trace monitor (executable; the driver runs it on the traces of the REAL exporter) -/

/-- the export calls entered AFTER `Shutdown` returned that are not the first call of their chain (a retry carries the same
items or a sub-list, item ids are unique — what `rootOfCall` assumes): retries scheduled by a stopped retry sender -/
def lateRetries (t : List Ev) : List Nat :=
  ((startsOf (evsAfter isShutRet t)).filter (fun p => rootOfCall (startsOf t) p != p.1)).map (·.1)

def checkDirect (t : List Ev) : Bool := (lateRetries t).isEmpty

end OtelVerif.C03.Direct

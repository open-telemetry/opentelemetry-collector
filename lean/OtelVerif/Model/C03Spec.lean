import OtelVerif.Model.C03
/-!
# C03 — abstract specification of graceful shutdown, and the abstraction function from the LTS `Model/C03.lean`

`AState`/`AStep` is the whole specification: what is *owed* (items whose enqueue completed before the request and whose export pass
has not ended), what is durably *stored*, how much helper work is still *active*, and the rule that `Shutdown` may return (`ret`)
only when nothing is active and nothing is owed (memory queue) / everything owed is still stored (persistent queue).
After `ret` only late accepts into a persistent queue's storage are possible.  `abs` maps a state of the LTS to an `AState`;
`Props/C03Refine.lean` proves that every step of the LTS is a spec step or a stutter.

Items are identified by VALUE (as in the LTS, where they are natural numbers): `ended` is the set of item values whose export pass
has ended, and an accepted item whose value is already in `ended` is not owed again.
-/
namespace OtelVerif.C03.Spec

structure AState where
  persistent : Bool
  requested : Bool        -- Shutdown has been requested
  returned : Bool         -- Shutdown has returned
  owed : List Item        -- items accepted before the request whose export pass has not ended (memory) /
                          --   has not ended without a shutdown error (persistent)
  ended : List Item       -- item values whose export pass has ended (memory) / ended without a shutdown error (persistent)
  stored : List Item      -- persistent queue: items still durably stored
  active : Nat            -- helper goroutines / export passes / batches in hand that have not ended
deriving DecidableEq, Repr

/-- the value `x` has not ended an export pass -/
def fresh (ended : List Item) (x : Item) : Bool := !ended.contains x

inductive AStep : AState → AState → Prop
  /-- an enqueue completes before the request: its items are owed (and stored, persistent queue) -/
  | accept (a : AState) (xs : List Item) : a.requested = false →
      AStep a { a with owed := a.owed ++ xs.filter (fresh a.ended), stored := if a.persistent then a.stored ++ xs else a.stored }
  /-- an enqueue completes after the request (persistent queue): stored, not owed -/
  | lateAccept (a : AState) (xs : List Item) : a.requested = true → a.persistent = true →
      AStep a { a with stored := a.stored ++ xs }
  | request (a : AState) : a.requested = false → AStep a { a with requested := true }
  /-- any helper work before the return: export passes end (`ended` grows, those items are no longer owed), storage loses only
  items that ended, `active` changes arbitrarily -/
  | work (a : AState) (ended' stored' : List Item) (active' : Nat) : a.returned = false →
      (∀ x ∈ a.ended, x ∈ ended') → (∀ x ∈ stored', x ∈ a.stored) → (∀ x ∈ a.stored, x ∈ stored' ∨ x ∈ ended') →
      AStep a { a with ended := ended', owed := a.owed.filter (fresh ended'), stored := stored', active := active' }
  /-- Shutdown returns: nothing active; nothing owed (memory) / everything owed still stored (persistent) -/
  | ret (a : AState) : a.requested = true → a.returned = false → a.active = 0 →
      (a.persistent = false → a.owed = []) → (a.persistent = true → ∀ x ∈ a.owed, x ∈ a.stored) →
      AStep a { a with returned := true }

/-- initial abstract states: nothing requested, nothing owed (anything stored, any number of helpers) -/
def AInit (a : AState) : Prop := a.requested = false ∧ a.returned = false ∧ a.owed = []

/-- reflexive-transitive closure of `AStep` -/
inductive AStar : AState → AState → Prop
  | refl (a : AState) : AStar a a
  | tail {a b c : AState} : AStar a b → AStep b c → AStar a c

def AReach (a : AState) : Prop := ∃ a0, AInit a0 ∧ AStar a0 a

/-! ## abstraction function -/

/-- the flight has ended (memory queue) / ended without a shutdown error (persistent queue, `p = true`) -/
def settled (p : Bool) (fl : Flight) : Bool := fl.st == .done && !(p && fl.kept)

def settledItems (p : Bool) (fs : List Flight) : List Item := fs.flatMap (fun fl => if settled p fl then fl.batch else [])

/-- consumers that have not exited + timer goroutine alive + flights not done + final hand-over in progress + a partial batch waiting -/
def activeCount (s : State) : Nat :=
  (s.cons.filter (fun c => c != .exited)).length + (if s.timer = .dead then 0 else 1) +
  (s.flights.filter (fun fl => fl.st != .done)).length + (if s.shutHand.isSome then 1 else 0) + (if s.cur.isSome then 1 else 0)

def abs (s : State) : AState :=
  { persistent := s.cfg.persistent
    requested := decide (1 ≤ s.phase)
    returned := decide (s.phase = 5)
    ended := settledItems s.cfg.persistent s.flights
    owed := s.early.filter (fresh (settledItems s.cfg.persistent s.flights))
    stored := s.stored
    active := activeCount s }

end OtelVerif.C03.Spec

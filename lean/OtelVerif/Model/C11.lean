import OtelVerif.Model.C11Types
import OtelVerif.Gen.StatusTable
/-!
# C11 model: status FSM, reporter, shared-component host wrapper

Mirrors `service/internal/status/status.go` (`fsm.transition`, `reporter.ReportStatus`,
`reporter.ReportOKIfStarting`) and `internal/sharedcomponent/sharedcomponent.go` (`hostWrapper`).
The transition table is **regenerated** (`Gen.StatusTable.table`).
-/
namespace OtelVerif.C11
open OtelVerif.Gen

/-- `_, ok := m.transitions[cur][new]` -/
def allowedIn (tbl : List (St × List St)) (a b : St) : Bool :=
  match tbl.lookup a with
  | some l => l.contains b
  | Option.none => false

def allowed : St → St → Bool := allowedIn StatusTable.table

/-- a report to the per-instance FSM -/
inductive Report
  | status (s : St)      -- ReportStatus(id, NewEvent(s))
  | okIfStarting         -- ReportOKIfStarting(id)
deriving DecidableEq, Repr

/-- `fsm.transition`: new current status and the event delivered to watchers, if any -/
def transition (cur : St) (s : St) : St × Option St :=
  if allowed cur s then (s, some s) else (cur, Option.none)

def step (cur : St) : Report → St × Option St
  | .status s => transition cur s
  | .okIfStarting => if cur = .starting then transition cur .ok else (cur, Option.none)

/-- final state after a list of reports -/
def runState (cur : St) : List Report → St
  | [] => cur
  | r :: rs => runState (step cur r).1 rs

/-- events delivered to watchers -/
def run (cur : St) : List Report → List St
  | [] => []
  | r :: rs =>
    match (step cur r).2 with
    | some e => e :: run (step cur r).1 rs
    | Option.none => run (step cur r).1 rs

/-! ## reporter: one FSM per instance id, created in `StatusNone` on first use -/

abbrev Inst := Nat

structure Reporter where
  fsms : List (Inst × St) := []
deriving Repr

def Reporter.cur (r : Reporter) (i : Inst) : St := (r.fsms.lookup i).getD .none

def Reporter.set (r : Reporter) (i : Inst) (s : St) : Reporter :=
  { fsms := (i, s) :: r.fsms.filter (fun p => p.1 != i) }

def Reporter.report (r : Reporter) (i : Inst) (rep : Report) : Reporter × Option St :=
  let (s, ev) := step (r.cur i) rep
  (r.set i s, ev)

/-- all events, tagged with the instance, in delivery order -/
def Reporter.runAll (r : Reporter) : List (Inst × Report) → List (Inst × St)
  | [] => []
  | (i, rep) :: rest =>
    match (r.report i rep).2 with
    | some e => (i, e) :: (r.report i rep).1.runAll rest
    | Option.none => (r.report i rep).1.runAll rest

/-! ## `isPath`: the executable path checker used as the monitor on implementation traces -/

def isPathIn (tbl : List (St × List St)) : St → List St → Bool
  | _, [] => true
  | cur, e :: es => allowedIn tbl cur e && isPathIn tbl e es

def isPath : St → List St → Bool := isPathIn StatusTable.table

/-- the property's clauses on an event sequence, table-independent (executable; `DocPath` in
`Props/C11.lean` is the `Prop` form, `C11_docPathB_iff` ties them).  Used as the search oracle on
implementation traces, so that it still judges correctly when the regenerated table has changed. -/
def docPathB : St → List St → Bool
  | _, [] => true
  | cur, e :: es =>
    (e != cur) && (e != .none) && (cur != .none || e == .starting) && (cur != .permanent || e == .stopping) &&
    (cur != .fatal) && (cur != .stopped) && docPathB e es

/-- every `OK` in the sequence is immediately preceded by `Starting` (`prev` = status before the
first event): what must hold of an instance whose only source of `OK` is the automatic
`ReportOKIfStarting` -/
def okPred : St → List St → Bool
  | _, [] => true
  | prev, e :: es => (e != .ok || prev == .starting) && okPred e es

/-! ## the service's automatic reports around a component's life (graph.go `StartAll` / `ShutdownAll`,
extensions.go `Start` / `Shutdown`) interleaved with the component's own reports -/

structure Life where
  started : Bool            -- `Start` was reached (an earlier component's failure aborts start-up)
  duringStart : List St     -- reported by the component from inside `Start`
  failStart : Bool
  allStarted : Bool         -- start-up of the whole graph succeeded (then the component runs)
  running : List St         -- reported by the component while running
  duringStop : List St      -- reported from inside `Shutdown` (only possible if it was started: it needs the host)
  failStop : Bool
deriving Repr

/-- the reports the per-instance FSM receives, in order -/
def Life.reports (l : Life) : List Report :=
  (if l.started then
    [Report.status .starting] ++ l.duringStart.map Report.status ++
      (if l.failStart then [Report.status .permanent] else [Report.okIfStarting]) ++
      (if l.allStarted then l.running.map Report.status else [])
   else []) ++
  [Report.status .stopping] ++ (if l.started then l.duringStop.map Report.status else []) ++
  [if l.failStop then Report.status .permanent else Report.status .stopped]

def Life.events (l : Life) : List St := run .none l.reports

/-! ## a component shared by two instances, as the service drives it

`X` is the instance whose `Start` is called first (it starts the single inner component and creates the
host wrapper), `Y` the second one (attached later: the ring is replayed to it).  On shutdown `P` is the
instance whose `Shutdown` is called first (it performs the real shutdown, whichever instance it is) and
`Q` the other one (its `Shutdown` is a no-op returning nil).  Around every call the graph reports for the
instance it is handling (`graph.go StartAll/ShutdownAll`), the shared component reports through the
wrapper to every attached instance (`sharedcomponent.go`). -/
structure SharedLife where
  startedX : Bool        -- `Start` reached the first instance (an earlier component's failure aborts start-up)
  startedY : Bool        -- … and the second one (implies `startedX`)
  duringStart : List St  -- reported by the component from inside its (single) `Start`
  allStarted : Bool
  running : List St
  pIsX : Bool            -- the instance shut down first is the one that was started first
  duringStop : List St
  failStop : Bool
  failStart : Bool := false  -- the component's (single) `Start` fails: the wrapper reports PermanentError to the attached instance, the
                             -- graph reports it again for that instance and aborts start-up (then `startedY = allStarted = false`)
deriving Repr

def lastN (n : Nat) (l : List St) : List St := l.drop (l.length - n)

/-- what the ring holds when `Y` attaches -/
def SharedLife.ringAtAttach (cap : Nat) (l : SharedLife) : List St := lastN cap (St.starting :: l.duringStart)

def SharedLife.final (l : SharedLife) : St := if l.failStop then .permanent else .stopped

/-- reports made through the wrapper during the real shutdown, as received by an attached instance -/
def SharedLife.wrapperStop (l : SharedLife) (attached : Bool) : List Report :=
  if l.startedX && attached then
    [Report.status .stopping] ++ l.duringStop.map Report.status ++ [Report.status l.final]
  else []

def SharedLife.stopPart (l : SharedLife) (attached isP : Bool) : List Report :=
  if isP then [Report.status .stopping] ++ l.wrapperStop attached ++ [Report.status l.final]
  else l.wrapperStop attached ++ [Report.status .stopping, Report.status .stopped]

def SharedLife.reportsX (l : SharedLife) : List Report :=
  (if l.startedX then
    [Report.status .starting, Report.status .starting] ++ l.duringStart.map Report.status ++
      (if l.failStart then [Report.status .permanent, Report.status .permanent] else [Report.okIfStarting]) ++
      (if l.allStarted then l.running.map Report.status else [])
   else []) ++ l.stopPart l.startedX l.pIsX

def SharedLife.reportsY (cap : Nat) (l : SharedLife) : List Report :=
  (if l.startedY then
    [Report.status .starting] ++ (l.ringAtAttach cap).map Report.status ++ [Report.okIfStarting] ++
      (if l.allStarted then l.running.map Report.status else [])
   else []) ++ l.stopPart l.startedY (!l.pIsX)

def SharedLife.eventsX (l : SharedLife) : List St := run .none l.reportsX
def SharedLife.eventsY (cap : Nat) (l : SharedLife) : List St := run .none (l.reportsY cap)

/-! ## shared component host wrapper -/

/-- `hostWrapper`: `sources` are per-instance FSM states (the status reporters of the hosts the
shared component was started with), `ring` holds the last `ringCap` reported events, oldest first. -/
structure Wrapper where
  sources : List St := []
  ring : List St := []
deriving Repr, DecidableEq

def pushRing (cap : Nat) (ring : List St) (e : St) : List St :=
  let r := ring ++ [e]
  r.drop (r.length - cap)

/-- `hostWrapper.Report` -/
def Wrapper.report (cap : Nat) (w : Wrapper) (e : St) : Wrapper :=
  { sources := w.sources.map (fun s => (transition s e).1)
    ring := if w.sources.isEmpty then w.ring else pushRing cap w.ring e }

/-- `hostWrapper.addSource`: replay the ring (oldest first) into the new source, then append it.
The source is the status reporter of one component instance; the graph has already reported
`StatusStarting` for that instance before it calls `Start` (graph.go `StartAll`), so its FSM is in
`starting` when the replay begins. -/
def Wrapper.addSource (w : Wrapper) : Wrapper :=
  { w with sources := w.sources ++ [runState .starting (w.ring.map Report.status)] }

inductive WOp | report (e : St) | attach
deriving DecidableEq, Repr

def Wrapper.apply (cap : Nat) (w : Wrapper) : WOp → Wrapper
  | .report e => w.report cap e
  | .attach => w.addSource

def Wrapper.runOps (cap : Nat) (w : Wrapper) (ops : List WOp) : Wrapper := ops.foldl (Wrapper.apply cap) w


/-! ## the same wrapper, remembering what every source's watcher has been shown

`WrapperE.sources` pairs each source's FSM state with the events delivered for that instance since the graph's own `Starting`
report (which precedes `Start`, hence the attachment). -/

structure WrapperE where
  sources : List (St × List St) := []
  ring : List St := []
deriving Repr, DecidableEq

def WrapperE.report (cap : Nat) (w : WrapperE) (e : St) : WrapperE :=
  { sources := w.sources.map (fun s => ((transition s.1 e).1, s.2 ++ (transition s.1 e).2.toList))
    ring := if w.sources.isEmpty then w.ring else pushRing cap w.ring e }

def WrapperE.addSource (w : WrapperE) : WrapperE :=
  { w with sources := w.sources ++ [(runState .starting (w.ring.map Report.status), run .starting (w.ring.map Report.status))] }

def WrapperE.apply (cap : Nat) (w : WrapperE) : WOp → WrapperE
  | .report e => w.report cap e
  | .attach => w.addSource

def WrapperE.runOps (cap : Nat) (w : WrapperE) (ops : List WOp) : WrapperE := ops.foldl (WrapperE.apply cap) w

end OtelVerif.C11

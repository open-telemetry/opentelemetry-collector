import OtelVerif.Gen.Compression
/-!
# C16 model — confighttp body compression: client round-tripper, server decompressor, body-size limit

Mirrors, branch by branch,
* `config/confighttp/compression.go`: `compressRoundTripper.RoundTrip`, `httpContentDecompressor` (the enable
  loop that builds the `enabled` map), `decompressor.ServeHTTP` / `newBodyReader`;
* `config/confighttp/confighttp.go`: `ToServer` (defaults, `maxRequestBodySizeInterceptor` outside the
  decompressor), `ToClient` (compress only if `IsCompressed`);
* `config/configcompression/compressiontype.go`: `IsCompressed`.

All tables (`availableDecoders`, alias, defaults, writer switch, type constants, reject status, wrapper order,
whether the enable loop installs a nil func for an unknown name) come from `Gen/Compression.lean`, which the
translator regenerates from the Go sources on every run.

The compression libraries are a parameter: `Codec` = what the writer produces (`enc`) and what the reader
yields from a byte stream (`dec`, which may fail in its constructor → `none`).  Core Lean only.
-/
namespace OtelVerif.C16
open OtelVerif.Gen

abbrev Bytes := List UInt8

/-- What an `io.Reader` yields when read to the end: `data`, then a clean EOF (`ok = true`) or an error. -/
structure Stream where
  data : Bytes
  ok : Bool
deriving DecidableEq, Repr

/-- `http.MaxBytesReader(w, r, n)` read to the end: at most `n` bytes; an error iff the source had more.
A source that itself fails within the first `n` bytes passes its error through. -/
def limitRead (n : Nat) (s : Stream) : Stream :=
  if s.data.length ≤ n then s else ⟨s.data.take n, false⟩

/-- A compression library, abstractly. `dec` takes the (possibly failing) compressed stream and returns
`none` if the reader's constructor fails (`gzip.NewReader` reads the header eagerly), else the stream the
reader yields. -/
structure Codec where
  enc : Bytes → Bytes
  dec : Stream → Option Stream

/-- The round-trip law of a compression library (hypothesis of `C16_roundtrip_partial`; validated by the differential). -/
def Codec.Lawful (c : Codec) : Prop := ∀ b, c.dec ⟨c.enc b, true⟩ = some ⟨b, true⟩

/-- association-list lookup with decidable equality (easier to reason about than `List.lookup`) -/
def assoc {β : Type} : List (String × β) → String → Option β
  | [], _ => none
  | (k, v) :: rest, x => if x = k then some v else assoc rest x

/-- value stored in the server's `enabled` map -/
inductive Entry
  | identity            -- the `""` decoder: returns `nil, nil`, body left untouched
  | lib (l : String)    -- a reader of package `l`
  | nilFunc             -- `availableDecoders[unknown]`: the zero value of a func type
deriving DecidableEq, Repr

/-- `availableDecoders[name]` (Go map read: zero value for a missing key) -/
def avail (name : String) : Entry :=
  match assoc Compression.availableDecoders name with
  | some none => .identity
  | some (some l) => .lib l
  | none => .nilFunc

def availHas (name : String) : Bool := (assoc Compression.availableDecoders name).isSome

abbrev EMap := List (String × Entry)

/-- one iteration of `for _, dec := range enableDecoders` (a map write = cons; lookup finds the latest) -/
def enableOne (m : EMap) (dec : String) : EMap :=
  let m1 := if Compression.installsNilForUnknown || availHas dec then (dec, avail dec) :: m else m
  match assoc Compression.aliases dec with
  | some to => (dec, avail to) :: m1
  | none => m1

def buildEnabled (l : List String) : EMap := l.foldl enableOne []

/-- what the loop leaves under `name` if `name` is in the list -/
def resolve (name : String) : Option Entry :=
  match assoc Compression.aliases name with
  | some to => some (avail to)
  | none => if Compression.installsNilForUnknown || availHas name then some (avail name) else none

/-- server settings as written (`compression_algorithms` may be absent = nil; `max_request_body_size` may be ≤ 0) -/
structure ServerConfig where
  algorithms : Option (List String)
  maxBody : Int

/-- effective settings after the defaulting at the top of `ToServer` -/
structure Cfg where
  enabled : List String
  limit : Nat

def ServerConfig.eff (sc : ServerConfig) : Cfg :=
  { enabled := match sc.algorithms with
      | none => Compression.defaultCompressionAlgorithms
      | some l => l,
    limit := if sc.maxBody ≤ 0 then Compression.defaultMaxRequestBodySize else sc.maxBody.toNat }

structure Request where
  encoding : String      -- first `Content-Encoding` value, `""` if absent
  wire : Stream          -- the body as it arrives
deriving DecidableEq, Repr

inductive Outcome
  | rejected (status : Nat)   -- `errHandler` called, base handler NOT run
  | panicked                  -- nil decoder func called (net/http recovers and drops the connection); handler NOT run
  | handled (read : Stream)   -- base handler ran; this is everything it can read from `r.Body`
deriving DecidableEq, Repr

/-- `maxRequestBodySizeInterceptor` ∘ `decompressor.ServeHTTP` -/
def serve (codec : String → Codec) (cfg : Cfg) (r : Request) : Outcome :=
  let outer := if Compression.outerLimitOnWire then limitRead cfg.limit r.wire else r.wire
  match assoc (buildEnabled cfg.enabled) r.encoding with
  | none => .rejected Compression.rejectStatus                 -- "unsupported Content-Encoding"
  | some .nilFunc => .panicked
  | some .identity => .handled outer                            -- newBody == nil: body not re-wrapped
  | some (.lib l) =>
    match (codec l).dec outer with
    | none => .rejected Compression.rejectStatus               -- reader constructor failed
    | some s => .handled (limitRead cfg.limit s)                -- MaxBytesReader over the decoded stream

/-! ## compression levels -/

/-- `configcompression.Type.ValidateParams` (what `ClientConfig.Validate` accepts), for every integer level -/
def levelAccepted (t : String) (l : Int) : Bool :=
  if Compression.anyLevelTypes.contains t then true
  else match assoc Compression.levelRules t with
    | some (singles, ranges) =>
      singles.contains l || ranges.any (fun r => decide (r.1 ≤ l) && decide (l ≤ r.2)) || decide (l = Compression.fallbackLevel)
    | none => decide (l = Compression.fallbackLevel)

/-- `ToClient`: the level the writer factory is given -/
def effLevel (l : Int) : Int := if l = 0 then Compression.unsetLevelBecomes else l

/-- library fact (trusted, `compress/flate`): `gzip/zlib.NewWriterLevel` succeed exactly for `HuffmanOnly (-2) … BestCompression (9)`;
zstd maps any integer to one of its levels; snappy and lz4 take no level. A level outside the range yields a nil writer
(`newWriteCloserResetFunc` drops the constructor's error) and the first request panics. -/
def libLevelOk (lib : String) (l : Int) : Bool :=
  if lib = "gzip" ∨ lib = "zlib" then decide (-2 ≤ l) && decide (l ≤ 9) else true

/-- does the writer of client type `t` come into existence for level `l`? -/
def writerLevelOk (t : String) (l : Int) : Bool :=
  match assoc Compression.writers t with
  | none => false
  | some lib =>
    match assoc Compression.writerPassesLevel t with
    | some true => libLevelOk lib l
    | _ => true

/-! ## how a handler consumes the body -/

/-- the handler's way of reading `r.Body` -/
inductive ReadMode
  | all                 -- to the end (in one go or in chunks of any size: same bytes)
  | upTo (k : Nat)      -- at most `k` bytes (`io.ReadFull` into a `k`-byte buffer)
  | none                -- not at all
deriving DecidableEq, Repr

/-- what the handler has in hand afterwards: a prefix of what the body yields; an error only if it was reached -/
def handlerReads (m : ReadMode) (s : Stream) : Stream :=
  match m with
  | .all => s
  | .upTo k => if k ≤ s.data.length then ⟨s.data.take k, true⟩ else s
  | .none => ⟨[], true⟩

def Outcome.read (m : ReadMode) : Outcome → Outcome
  | .handled s => .handled (handlerReads m s)
  | o => o

/-! ## `WithDecoder` and process-level state -/

/-- a server as `ToServer` builds it: effective settings + the decoders registered with `WithDecoder`
(header name ↦ an identifier of the caller's decoder; a Go map, so names are unique) -/
structure Server extends Cfg where
  custom : List (String × String)

/-- the library name under which a caller-supplied decoder is looked up in the codec family -/
def customLib (id : String) : String := "custom:" ++ id

/-- identifier of a caller-supplied decoder that returns `nil, nil` ("nothing to decode", the convention of the
built-in `""` entry): `ServeHTTP` then leaves `r.Body` alone — only the wire-side wrapper limits it -/
def passThroughId : String := "nil"

/-- `d.decoders` after `for key, dec := range decoders { d.decoders[key] = dec }`: a custom decoder overrides
whatever the enable loop stored under that name, and is present whether or not the name is listed -/
def decoderFor (s : Server) (name : String) : Option Entry :=
  match assoc s.custom name with
  | some id => some (if id = passThroughId then .identity else .lib (customLib id))
  | none => assoc (buildEnabled s.enabled) name

/-- `serve` with custom decoders (same wrappers, same dispatch) -/
def serveS (codec : String → Codec) (s : Server) (r : Request) : Outcome :=
  let outer := if Compression.outerLimitOnWire then limitRead s.limit r.wire else r.wire
  match decoderFor s r.encoding with
  | none => .rejected Compression.rejectStatus
  | some .nilFunc => .panicked
  | some .identity => .handled outer
  | some (.lib l) =>
    match (codec l).dec outer with
    | none => .rejected Compression.rejectStatus
    | some st => .handled (limitRead s.limit st)

/-- `WithErrorHandler`: the caller's handler replaces `defaultErrorHandler`; it is only ever invoked on the
rejection path of `ServeHTTP`, with the message and `Compression.rejectStatus`. `eh = some f`: the status the
caller's handler answers when handed status `st` is `f st`. -/
def Outcome.answeredBy (eh : Option (Nat → Nat)) : Outcome → Outcome
  | .rejected st => .rejected (match eh with | some f => f st | none => st)
  | o => o

def serveE (eh : Option (Nat → Nat)) (codec : String → Codec) (s : Server) (r : Request) : Outcome :=
  (serveS codec s r).answeredBy eh

/-- What earlier server constructions have written into the package-level `availableDecoders`.
The code as it is only reads that map (`Compression.availableDecodersOnlyRead`, checked by the translator over
the whole package), so this stays empty; if it were written (aliasing `enabled`/`d.decoders` with the global),
the custom entries of one server would show through every later lookup of `availableDecoders[name]`. -/
structure Proc where
  overrides : List (String × String)
deriving DecidableEq, Repr

def Proc.clean : Proc := ⟨[]⟩

def Proc.construct (p : Proc) (s : Server) : Proc :=
  if Compression.availableDecodersOnlyRead then p else ⟨s.custom ++ p.overrides⟩

/-- the server as it behaves inside a process: polluted global entries are seen for every name the server enables -/
def Proc.server (p : Proc) (s : Server) : Server :=
  { s with custom := s.custom ++ p.overrides.filter (fun kv => s.enabled.contains kv.1) }

def serveP (p : Proc) (codec : String → Codec) (s : Server) (r : Request) : Outcome :=
  serveS codec (p.server s) r

/-- what the request *looks like* to the base handler (`ServeHTTP`'s rewrites): for a decoded body `Content-Encoding` and
`Content-Length` are deleted and `r.ContentLength = -1` (a handler must not size its read by the compressed length); for an
identity / pass-through body nothing is touched -/
structure ReqView where
  contentLength : Option Nat      -- `none` = -1 (unknown)
  hasEncodingHeader : Bool
deriving DecidableEq, Repr

def handlerView (s : Server) (r : Request) (knownLength : Bool) : ReqView :=
  match decoderFor s r.encoding with
  | some (.lib _) => ⟨none, false⟩
  | _ => ⟨if knownLength then some r.wire.data.length else none, r.encoding != ""⟩

/-- `configcompression.Type.IsCompressed` -/
def isCompressed (t : String) : Bool := !(Compression.uncompressedTypes.contains t)

/-- `ToClient` + `compressRoundTripper.RoundTrip`: `hdr` is a `Content-Encoding` the caller already set
(`""` = none). `none` = `ToClient` fails (unsupported compression type). -/
def clientSend (codec : String → Codec) (compression : String) (hdr : String) (b : Bytes) : Option Request :=
  if !isCompressed compression then some ⟨hdr, ⟨b, true⟩⟩          -- no compressRoundTripper installed
  else match assoc Compression.writers compression with
    | none => none
    | some l =>
      if hdr ≠ "" then some ⟨hdr, ⟨b, true⟩⟩                       -- already encoded: skip
      else some ⟨compression, ⟨(codec l).enc b, true⟩⟩

/-! ## the property, stated on one observed exchange (used by the driver as search oracle) -/

/-- what the harness can see of one exchange -/
structure Exchange where
  enabled : List String        -- effective decoder list
  limit : Nat                  -- effective limit
  encoding : String            -- Content-Encoding on the wire
  sent : Option Bytes          -- the bytes the client was given, when the wire is a lawful encoding of them
                               -- (or the raw body when there is no encoding); `none` for hostile streams
  wireLen : Nat
  outcome : Outcome
  custom : List String         -- names this server registered with `WithDecoder`

/-- names for which some decoder exists at all (a listed but unknown name enables nothing) -/
def decodable (name : String) : Bool :=
  availHas name || (assoc Compression.aliases name).isSome

/-- is the request's encoding one the handler must get to see decoded?  No encoding: always (the property
says such a request passes through untouched); otherwise: registered with `WithDecoder` by THIS server, or listed and decodable. -/
def Exchange.on (x : Exchange) : Bool :=
  x.encoding == "" || x.custom.contains x.encoding || (x.enabled.contains x.encoding && decodable x.encoding)

/-- Executable check of the property's clauses on one exchange, independent of `serve`;
`none` = fine, `some sig` = violated, with a structural signature. -/
def exchangeCheck (x : Exchange) : Option String :=
  match x.outcome with
  | .handled s =>
    if x.limit < s.data.length then some "C16/limit/handler-read-beyond-limit"
    else if !x.on then some "C16/reject/disabled-encoding-reached-handler"
    else match x.sent with
      | some b =>
        if b.length ≤ x.limit && s != ⟨b, true⟩ then
          some (if x.limit < x.wireLen then "C16/roundtrip/wire-exceeds-limit-body-within-limit"
                else if x.encoding == "" then "C16/identity/body-altered"
                else "C16/roundtrip/body-differs")
        else none
      | none => none
  | .rejected st =>
    if x.on then
      match x.sent with
      | some b =>
        if b.length ≤ x.limit then
          some (if x.encoding == "" then
                  (if x.enabled.contains "" then "C16/identity/rejected" else "C16/decoder-list-without-identity")
                else if x.limit < x.wireLen then "C16/roundtrip/wire-exceeds-limit-body-within-limit"
                else "C16/roundtrip/rejected")
        else none
      | none => none
    else if 400 ≤ st && st < 500 then none
    else some "C16/reject/not-a-client-error"
  | .panicked =>
    if x.enabled.contains x.encoding && !decodable x.encoding then some "C16/reject/unknown-name-in-list-nil-decoder-panic"
    else some "C16/panic"

/-- The property on one exchange, declaratively:
1. a handler never reads more than `limit` bytes;
2. an encoding that is not enabled (not listed, or listed with no decoder behind it) is answered with a
   client error and the handler does not run;
3. otherwise (no encoding, or an enabled one) a body within the limit is read by the handler exactly. -/
def PropOn (x : Exchange) : Prop :=
  (∀ s, x.outcome = .handled s → s.data.length ≤ x.limit) ∧
  (x.on = false → ∃ st, x.outcome = .rejected st ∧ 400 ≤ st ∧ st < 500) ∧
  (x.on = true → ∀ b, x.sent = some b → b.length ≤ x.limit → x.outcome = .handled ⟨b, true⟩)

end OtelVerif.C16

import OtelVerif.Model.C05
import OtelVerif.Gen.RetryCfg
/-!
# C05: the bridge between the hand-written model and the definitions REGENERATED from /repo

`Gen/RetryCfg.lean` is written by `translators/cmd/gofunlean c05` on every run: `BackOffConfig`,
`NewDefaultBackOffConfig` (the two library constants read from the cenkalti/backoff version `config/configretry/go.mod`
requires), `BackOffConfig.Validate`, `TimeoutConfig`, `NewDefaultTimeoutConfig`, `TimeoutConfig.Validate`,
`otlpexporter.shouldRetry` (compiled statement by statement), and shape-checked tables: `OnError` of the four request
types, the four partial-failure constructors, the accessors of `internal.Retryable`, the order and conditions under
which `NewBaseExporter` installs the timeout and the retry sender.  This file maps the model's types onto the generated
ones and models the per-signal partial-failure constructors on top of the error trees of `Model/C05.lean`.
-/
namespace OtelVerif.C05
open OtelVerif.Gen

def RawCfg.toGo (r : RawCfg) : RetryCfg.BackOffConfig :=
  { Enabled := r.enabled, InitialInterval := r.initial, RandomizationFactor := ⟨r.rfNum, r.rfDen⟩,
    Multiplier := ⟨r.mulNum, r.mulDen⟩, MaxInterval := r.maxInt, MaxElapsedTime := r.maxElapsed }

def RawCfg.toGoTimeout (r : RawCfg) : RetryCfg.TimeoutConfig := { Timeout := r.timeout }

/-- the model's view of a generated configuration pair -/
def RawCfg.ofGo (b : RetryCfg.BackOffConfig) (t : RetryCfg.TimeoutConfig) : RawCfg :=
  { enabled := b.Enabled, initial := b.InitialInterval, maxInt := b.MaxInterval, maxElapsed := b.MaxElapsedTime,
    mulNum := b.Multiplier.num, mulDen := b.Multiplier.den, rfNum := b.RandomizationFactor.num, rfDen := b.RandomizationFactor.den,
    timeout := t.Timeout }

/-- `configretry.NewDefaultBackOffConfig()` + `NewDefaultTimeoutConfig()` as regenerated from the source -/
def defaultRaw : RawCfg := RawCfg.ofGo RetryCfg.NewDefaultBackOffConfig RetryCfg.NewDefaultTimeoutConfig
def defaultCfg : Cfg := defaultRaw.toCfg

/-! ## the per-signal partial-failure errors

`consumererror.NewLogs / NewTraces / NewMetrics` and `xconsumererror.NewProfiles` build `T{Retryable{Err, Value}}`;
`Retryable.Unwrap` returns `Err` (so `IsPermanent`, `IsShutdownErr`, the throttle search look through it) and
`Retryable.Data` returns `Value`; `<signal>Request.OnError` searches the chain with `errors.As` for ITS OWN error type
only.  On the error trees of `Model/C05.lean` a partial-failure error of the request's own signal is `.partialData`, one
of another signal `.otherSignal`. -/

inductive Signal | logs | traces | metrics | profiles
deriving Repr, DecidableEq

/-- `New<sig>(err, data)` as a request of signal `req` sees it -/
def newSignalErr (req sig : Signal) (e : Err) (data : List Nat) : Err :=
  if req = sig then .partialData data e else .otherSignal e

/-- `<signal>Request.OnError(err)`: the payload of the next attempt -/
def onError (payload : List Nat) (e : Err) : List Nat := e.remainder.getD payload

def Signal.request : Signal → String
  | .logs => "logsRequest" | .traces => "tracesRequest" | .metrics => "metricsRequest" | .profiles => "profilesRequest"
def Signal.errType : Signal → String
  | .logs => "consumererror.Logs" | .traces => "consumererror.Traces" | .metrics => "consumererror.Metrics" | .profiles => "xconsumererror.Profiles"
def Signal.ctor : Signal → String
  | .logs => "consumererror.NewLogs" | .traces => "consumererror.NewTraces" | .metrics => "consumererror.NewMetrics" | .profiles => "xconsumererror.NewProfiles"
def Signal.all : List Signal := [.logs, .traces, .metrics, .profiles]

/-- what the regenerated tables must say for the model of the constructors / `OnError` to be the code's: every request
type searches exactly the error type its own signal's constructor builds; the constructor stores its first parameter in
`Err` and its second in `Value`; `Unwrap` returns `Err`, `Data` returns `Value` -/
def signalTablesOK : Bool :=
  Signal.all.all (fun s =>
    (RetryCfg.onErrorTable.filter (·.1 = s.request)).map (·.2.1) == [s.errType] &&
    (RetryCfg.signalErrTable.filter (·.2.1 = s.errType)) == [(s.ctor, s.errType, 0, 1)]) &&
  RetryCfg.onErrorTable.length == 4 && RetryCfg.signalErrTable.length == 4 &&
  RetryCfg.retryableAccessors == [("Error", "Err.Error()"), ("Unwrap", "Err"), ("Data", "Value")]

/-! ## one iteration of `retrySender.Send` against the regenerated decision chain (`RetryCfg.retryStep`) -/

def optI (o : Option Nat) : Option Int := o.map (fun n => (n : Int))

/-- the inputs of the iteration as the model supplies them: the attempt `a` returned at `fin` (ns since `Send` was entered, so
`maxElapsedTime` = `MaxElapsedTime` itself), the library's `currentInterval` is `cur`.  `backoff.Stop = -1` -/
def stepInOf (c : Cfg) (e : Env) (cur fin : Nat) (a : Attempt) : RetryCfg.StepIn :=
  { errNil := a.ok, permanent := a.perm, hasErrorHandler := true, throttle := optI a.throttle,
    backoff := (backoffDelay c (curInterval c cur) a : Nat), backoffStop := -1, now := (fin : Nat),
    maxElapsed := if c.maxElapsed > 0 then some (c.maxElapsed : Int) else none, deadline := optI e.deadline,
    stopClosed := ole e.shutdown fin, ctxErr := ole e.ctxDone fin }

/-- the four checks of `afterFailure` that come BEFORE the blocking select (budget, deadline, poll of `stopCh`, poll of `ctx.Err()`) -/
def preSelect (c : Cfg) (e : Env) (fin w : Nat) : Option (Reason × Nat) :=
  if c.maxElapsed > 0 ∧ c.maxElapsed < fin + w then some (.exhausted, fin)
  else if olt e.deadline (fin + w) then some (.deadline, fin)
  else if ole e.shutdown fin then some (.shutdown, fin)
  else if ole e.ctxDone fin then some (.cancelled, fin)
  else none

/-- the blocking select of `afterFailure` -/
def blockingSelect (e : Env) (fin w : Nat) : Option (Reason × Nat) :=
  match e.shutdown, e.ctxDone with
  | some s, some d => if s < fin + w ∧ s ≤ d then some (.shutdown, s) else if d < fin + w then some (.cancelled, d) else none
  | some s, none => if s < fin + w then some (.shutdown, s) else none
  | none, some d => if d < fin + w then some (.cancelled, d) else none
  | none, none => none

/-- a pre-select verdict of the model as the Go return it stands for -/
def stepOutOf (w : Nat) : Option (Reason × Nat) → RetryCfg.StepOut
  | some (.exhausted, _) => .retWrap "no more retries left"
  | some (.deadline, _) => .retWrap "request will be cancelled before next retry"
  | some (.shutdown, _) => .retShutdown
  | some (.cancelled, _) => .retWrap "request is cancelled or timed out"
  | _ => .wait (w : Int) true

/-- the model's iteration in the vocabulary of the regenerated step function -/
def modelStep (c : Cfg) (e : Env) (cur fin : Nat) (a : Attempt) : RetryCfg.StepOut :=
  if a.ok then .retNil
  else if a.perm then .retWrap "not retryable error"
  else stepOutOf (waitOf c (curInterval c cur) a) (preSelect c e fin (waitOf c (curInterval c cur) a))

/-! ## the library's random draw -/

/-- `getRandomValueFromInterval(rf, random, iv)` of cenkalti/backoff/v5 over exact fractions (`random = rn/rd ∈ [0,1)`):
`trunc(min + random·(max − min + 1))` with `min = iv − rf·iv`, `max = iv + rf·iv`, i.e.
`⌊(iv·(rfDen − rfNum)·rd + rn·(2·iv·rfNum + rfDen)) / (rfDen·rd)⌋`; `rf = 0` returns the interval itself -/
def libDraw (c : Cfg) (iv rn rd : Nat) : Nat :=
  if c.rfNum = 0 then iv
  else (iv * (c.rfDen - c.rfNum) * rd + rn * (2 * iv * c.rfNum + c.rfDen)) / (c.rfDen * rd)

/-! ## source pins: the statements (tracing / logging removed) of the functions the hand-written model was written from and
that are outside the compiled subset (loops, select, channels, goroutines), and of the three functions of the back-off
library the model idealises. `Props` proves the regenerated skeletons equal to these, so any edit of those functions stops the
build until the model has been re-examined. -/

def pin_retrySend : List String := [
  "expBackoff := backoff.ExponentialBackOff{InitialInterval: rs.cfg.InitialInterval, RandomizationFactor: rs.cfg.RandomizationFactor, Multiplier: rs.cfg.Multiplier, MaxInterval: rs.cfg.MaxInterval}",
  "var maxElapsedTime time.Time",
  "if rs.cfg.MaxElapsedTime > 0 { maxElapsedTime = time.Now().Add(rs.cfg.MaxElapsedTime) }",
  "for {",
  "err := rs.next.Send(ctx, req)",
  "if err == nil { return nil }",
  "if consumererror.IsPermanent(err) { return fmt.Errorf(\"not retryable error: %w\", err) }",
  "if errReq, ok := req.(request.ErrorHandler); ok { req = errReq.OnError(err) }",
  "backoffDelay := expBackoff.NextBackOff()",
  "if backoffDelay == backoff.Stop { return fmt.Errorf(\"no more retries left: %w\", err) }",
  "throttleErr := throttleRetry{}",
  "if errors.As(err, &throttleErr) { backoffDelay = max(backoffDelay, throttleErr.delay) }",
  "nextRetryTime := time.Now().Add(backoffDelay)",
  "if !maxElapsedTime.IsZero() && maxElapsedTime.Before(nextRetryTime) { return fmt.Errorf(\"no more retries left: %w\", err) }",
  "if deadline, has := ctx.Deadline(); has && deadline.Before(nextRetryTime) { return fmt.Errorf(\"request will be cancelled before next retry: %w\", err) }",
  "select { case <-rs.stopCh: return experr.NewShutdownErr(err) | default:  }",
  "if ctx.Err() != nil { return fmt.Errorf(\"request is cancelled or timed out: %w\", err) }",
  "select { case <-ctx.Done(): return fmt.Errorf(\"request is cancelled or timed out: %w\", err) | case <-rs.stopCh: return experr.NewShutdownErr(err) | case <-time.After(backoffDelay):  }",
  "}"
]

def pin_retryShutdown : List String := [
  "close(rs.stopCh)",
  "return nil"
]

def pin_newThrottleRetry : List String := [
  "return throttleRetry{err: err, delay: delay}"
]

def pin_throttleUnwrap : List String := [
  "return t.err"
]

def pin_timeoutSend : List String := [
  "tCtx, cancelFunc := context.WithTimeout(ctx, ts.cfg.Timeout)",
  "defer cancelFunc()",
  "return ts.next.Send(tCtx, req)"
]

def pin_newShutdownErr : List String := [
  "return shutdownErr{err: err}"
]

def pin_shutdownUnwrap : List String := [
  "return s.err"
]

def pin_isShutdownErr : List String := [
  "var sdErr shutdownErr",
  "return errors.As(err, &sdErr)"
]

def pin_newPermanent : List String := [
  "return permanent{err: err}"
]

def pin_permanentUnwrap : List String := [
  "return p.err"
]

def pin_isPermanent : List String := [
  "if err == nil { return false }",
  "return errors.As(err, &permanent{})"
]

def pin_processError : List String := [
  "if err == nil { return nil }",
  "st := status.Convert(err)",
  "if st.Code() == codes.OK { return nil }",
  "retryInfo := statusutil.GetRetryInfo(st)",
  "if !shouldRetry(st.Code(), retryInfo) { return consumererror.NewPermanent(err) }",
  "throttleDuration := retryInfo.GetRetryDelay().AsDuration()",
  "if throttleDuration != 0 { return exporterhelper.NewThrottleRetry(err, throttleDuration) }",
  "return err"
]

def pin_libNextBackOff : List String := [
  "if b.currentInterval == 0 { b.currentInterval = b.InitialInterval }",
  "next := getRandomValueFromInterval(b.RandomizationFactor, rand.Float64(), b.currentInterval)",
  "b.incrementCurrentInterval()",
  "return next"
]

def pin_libIncrement : List String := [
  "if float64(b.currentInterval) >= float64(b.MaxInterval) / b.Multiplier { b.currentInterval = b.MaxInterval } else { b.currentInterval = time.Duration(float64(b.currentInterval) * b.Multiplier) }"
]

def pin_libRandomValue : List String := [
  "if randomizationFactor == 0 { return currentInterval }",
  "var delta = randomizationFactor * float64(currentInterval)",
  "var minInterval = float64(currentInterval) - delta",
  "var maxInterval = float64(currentInterval) + delta",
  "return time.Duration(minInterval + (random * (maxInterval - minInterval + 1)))"
]

/-- all pins at once -/
def SrcPinned : Prop :=
    RetryCfg.skel_retrySend = pin_retrySend ∧
    RetryCfg.skel_retryShutdown = pin_retryShutdown ∧
    RetryCfg.skel_newThrottleRetry = pin_newThrottleRetry ∧
    RetryCfg.skel_throttleUnwrap = pin_throttleUnwrap ∧
    RetryCfg.skel_timeoutSend = pin_timeoutSend ∧
    RetryCfg.skel_newShutdownErr = pin_newShutdownErr ∧
    RetryCfg.skel_shutdownUnwrap = pin_shutdownUnwrap ∧
    RetryCfg.skel_isShutdownErr = pin_isShutdownErr ∧
    RetryCfg.skel_newPermanent = pin_newPermanent ∧
    RetryCfg.skel_permanentUnwrap = pin_permanentUnwrap ∧
    RetryCfg.skel_isPermanent = pin_isPermanent ∧
    RetryCfg.skel_processError = pin_processError ∧
    RetryCfg.skel_libNextBackOff = pin_libNextBackOff ∧
    RetryCfg.skel_libIncrement = pin_libIncrement ∧
    RetryCfg.skel_libRandomValue = pin_libRandomValue

end OtelVerif.C05

import OtelVerif.Model.C16
/-!
# C16 model, part 2 — the CLIENT-SIDE writer pools (`config/confighttp/compressor.go`)

`compressorPools` maps `compressionMapKey{compressionType, compressionParams}` to one `compressor` (a `sync.Pool` of library
writers built by the closure `newWriteCloserResetFunc` returned for THAT key); every `compressRoundTripper` of that key shares
it. `compressor.compress(buf, body)` runs, per request and on any number of goroutines at once:

    writer := pool.Get()          -- any idle writer of this pool, or a new one from the key's constructor
    defer pool.Put(writer)        -- on EVERY return path, also after a failed copy (the writer goes back DIRTY)
    writer.Reset(buf)
    if body != nil { copy body into writer (may fail: return); body.Close() (may fail: return) }
    return writer.Close()

Here this is a labelled transition system: one label per statement and goroutine, `sync.Pool`'s freedom (`get` may return any
idle writer or a new one; `drop` = the GC emptying the pool) is nondeterminism of the labels. OWNERSHIP is linear by
construction: a writer record sits either in one pool or inside the one call that took it — this is the Get / deferred-Put pairing of
`compress` (one `Get`, one `defer Put` of the same variable, nothing else touches the pool: regenerated `Compression.compressSteps`,
pinned by `C16_pool_gen_shape`); a double `Put` is not expressible here and is a translator shape failure. The theorems in `Lemmas/C16Pool.lean`
are invariants over ALL label sequences. The compression library is a parameter: a writer remembers the key it was built
with, the buffer `Reset` pointed it to and the input since that `Reset`; `Close` leaves `enc key input` in that buffer
(LIBRARY LAW, trusted: a Reset writer behaves as a new one; a writer touches no buffer other than its current target).
Buffers are identified with the call that allocated them (`RoundTrip` passes a fresh `bytes.NewBuffer` per request — regenerated
flag `Compression.roundTripFreshBuffer`). Core Lean only.
-/
namespace OtelVerif.C16
open OtelVerif.Gen

structure PKey where
  typ : String
  level : Int
deriving DecidableEq, Repr

structure PWriter where
  key : PKey                 -- the (type, level) its constructor closure was made for
  target : Option Nat        -- buffer (= call id) set by the last `Reset`; `none` right after construction (`NewWriter(nil)`)
  acc : Bytes                -- input written since the last `Reset`
deriving DecidableEq, Repr

inductive PC
  | start | got | reset | copied | bodyClosed | closed | failed | done
deriving DecidableEq, Repr

/-- the call holds a writer taken from the pool and not yet put back -/
def PC.holding : PC → Bool
  | .start | .done => false
  | _ => true

structure PCall where
  key : PKey                 -- key of the compressor the round-tripper was built with
  body : Option Bytes        -- `none` = `req.Body == nil`
  failAt : Option Nat        -- the body reader fails after that many bytes (`copyErr`)
  closeFails : Bool          -- `body.Close()` returns an error
  pc : PC
  writer : Option PWriter    -- the writer it took from the pool (moved out of the pool, moved back by `put`)
  result : Option Bool       -- `some true` = returned nil, `some false` = returned an error
deriving DecidableEq, Repr

def PCall.input (c : PCall) : Bytes := c.body.getD []

structure PState where
  pool : PKey → List PWriter -- `compressorPools[key].pool`: the idle writers of each compressor
  calls : Nat → Option PCall
  bufs : Nat → Option Bytes  -- buffer of call t: what the last `Close` of a writer targeting it left there

def PState.init : PState := ⟨fun _ => [], fun _ => none, fun _ => none⟩

def upd {α : Type} (f : Nat → α) (i : Nat) (v : α) : Nat → α := fun j => if j = i then v else f j
def updK {α : Type} (f : PKey → α) (k : PKey) (v : α) : PKey → α := fun j => if j = k then v else f j

inductive PLabel
  | call (t : Nat) (key : PKey) (body : Option Bytes) (failAt : Option Nat) (closeFails : Bool)   -- RoundTrip enters compress with a fresh buffer
  | get (t i : Nat)          -- pool.Get(): the i-th idle writer of this key's pool, or (i out of range) a new one from the key's constructor
  | reset (t : Nat)          -- writer.Reset(buf)
  | copy (t : Nat)           -- io.Copy (skipped with the whole block when body == nil)
  | closeBody (t : Nat)
  | closeWriter (t : Nat)    -- return writer.Close()
  | put (t : Nat)            -- the deferred pool.Put(writer)
  | drop (k : PKey) (i : Nat)  -- sync.Pool forgets an idle writer (GC)
deriving Repr

variable (enc : PKey → Bytes → Bytes)

/-- `Close` of a writer: its current target buffer receives `enc key input` -/
def closeInto (bufs : Nat → Option Bytes) (wr : PWriter) : Nat → Option Bytes :=
  match wr.target with
  | some b => upd bufs b (some (enc wr.key wr.acc))
  | none => bufs

/-- what happens to call record `c` of goroutine `t` (and the shared state) at its next statement -/
def fire (s : PState) : PLabel → Option PState
  | .call t key body failAt closeFails =>
    match s.calls t with
    | some _ => none
    | none => some { s with calls := upd s.calls t (some ⟨key, body, failAt, closeFails, .start, none, none⟩) }
  | .get t i =>
    match s.calls t with
    | some c =>
      if c.pc = .start then
        match (s.pool c.key)[i]? with
        | some wr => some { s with pool := updK s.pool c.key ((s.pool c.key).eraseIdx i),
                                   calls := upd s.calls t (some { c with pc := .got, writer := some wr }) }
        | none => some { s with calls := upd s.calls t (some { c with pc := .got, writer := some ⟨c.key, none, []⟩ }) }
      else none
    | none => none
  | .reset t =>
    match s.calls t with
    | some c =>
      match c.pc, c.writer with
      | .got, some wr => some { s with calls := upd s.calls t (some { c with pc := .reset, writer := some { wr with target := some t, acc := [] } }) }
      | _, _ => none
    | none => none
  | .copy t =>
    match s.calls t with
    | some c =>
      match c.pc, c.writer with
      | .reset, some wr =>
        match c.body with
        | none => some { s with calls := upd s.calls t (some { c with pc := .bodyClosed }) }     -- `if body != nil` not taken
        | some b =>
          match c.failAt with
          | some k => some { s with calls := upd s.calls t (some { c with pc := .failed, result := some false,
                                                                          writer := some { wr with acc := wr.acc ++ b.take k } }) }
          | none => some { s with calls := upd s.calls t (some { c with pc := .copied, writer := some { wr with acc := wr.acc ++ b } }) }
      | _, _ => none
    | none => none
  | .closeBody t =>
    match s.calls t with
    | some c =>
      if c.pc = .copied then
        if c.closeFails then some { s with calls := upd s.calls t (some { c with pc := .failed, result := some false }) }
        else some { s with calls := upd s.calls t (some { c with pc := .bodyClosed }) }
      else none
    | none => none
  | .closeWriter t =>
    match s.calls t with
    | some c =>
      match c.pc, c.writer with
      | .bodyClosed, some wr =>
        some { s with bufs := closeInto enc s.bufs wr, calls := upd s.calls t (some { c with pc := .closed, result := some true }) }
      | _, _ => none
    | none => none
  | .put t =>
    match s.calls t with
    | some c =>
      match c.writer with
      | some wr =>
        if c.pc = .closed ∨ c.pc = .failed then
          some { s with pool := updK s.pool c.key (wr :: s.pool c.key), calls := upd s.calls t (some { c with pc := .done, writer := none }) }
        else none
      | none => none
    | none => none
  | .drop k i => some { s with pool := updK s.pool k ((s.pool k).eraseIdx i) }

/-- the program the transition system follows, in the vocabulary of the translator (`Gen.Compression.compressSteps`): Get, deferred
Put, Reset, then — only for a non-nil body — copy, close the body, return the copy error first, then the close error; finally
return `writer.Close()`. Pinned to the regenerated list by `C16_pool_gen_shape`. -/
def modelProgram : List String :=
  ["get", "deferPut", "reset", "ifBody[", "copy", "closeBody", "retCopyErr", "retCloseErr", "]", "retCloseWriter"]

/-- run a label sequence; labels that are not enabled are skipped (so EVERY list is a history) -/
def runLabels (s : PState) (ls : List PLabel) : PState :=
  ls.foldl (fun s l => (fire enc s l).getD s) s

/-- a whole `compress` call of goroutine `t` run without interleaving, taking the i-th idle writer -/
def seqCall (t i : Nat) (key : PKey) (body : Option Bytes) (failAt : Option Nat) (closeFails : Bool) : List PLabel :=
  [.call t key body failAt closeFails, .get t i, .reset t, .copy t, .closeBody t, .closeWriter t, .put t]

end OtelVerif.C16

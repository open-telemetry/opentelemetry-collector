import OtelVerif.Gen.PdataState
/-!
# C07 model, part F: the read-only discipline — `internal.State` cells and their propagation through wrappers

`pdata/internal/state.go`: every wrapper (`Logs`, `ResourceLogsSlice`, `LogRecord`, `pcommon.Map`, `pcommon.Value`, …) carries a
`*internal.State`; `New<Payload>()` allocates a fresh mutable cell, `MarkReadOnly` stores `StateReadOnly` into the cell of the
payload, every accessor builds the child wrapper with SOME state pointer, every mutator starts with
`<x>.state.AssertMutable()` which panics iff the cell holds `StateReadOnly`.

Here a wrapper is `(type, cell)`; what a method does with states is NOT hard-wired but read from the regenerated table
`Gen/PdataState.lean` (translator `pdatastate`): whose state each leading `AssertMutable` statement checks, and whose state each
child wrapper constructed in the body is given.  The interpretation below is what those statements do.
-/
namespace OtelVerif.C07.S
open OtelVerif.Gen.PdataState

/-- the `internal.State` cells: `ro c` = cell `c` holds `StateReadOnly`; `next` = first unallocated cell -/
structure Cells where
  ro : Nat → Bool
  next : Nat

/-- a wrapper, as far as the read-only discipline goes: its type (number in `Gen.PdataState.types`) and its `*State` -/
structure W where
  ty : Nat
  cell : Nat
deriving DecidableEq, Repr

/-- `New<Payload>()`: a fresh mutable cell -/
def newRoot (cs : Cells) (ty : Nat) : Cells × W :=
  ({ ro := fun c => if c = cs.next then false else cs.ro c, next := cs.next + 1 }, ⟨ty, cs.next⟩)

/-- `MarkReadOnly()` on a payload wrapper: `*ms.state = StateReadOnly` -/
def markRO (cs : Cells) (w : W) : Cells := { cs with ro := fun c => if c = w.cell then true else cs.ro c }

/-- the state pointer a statement refers to: the receiver's, the destination parameter's, or something else
(`other` = a state the translator could not attribute: modelled as a cell nobody marked, `cs.next`) -/
def cellOf (cs : Cells) (recv param : Nat) : Who → Nat
  | .recv => recv
  | .param => param
  | .other => cs.next

/-- run the leading `AssertMutable` statements of a body, statement numbers from `i`: `some k` = statement `k` panics -/
def runAsserts (cs : Cells) (recv param : Nat) : List Who → Nat → Option Nat
  | [], _ => none
  | w :: ws, i => if cs.ro (cellOf cs recv param w) then some i else runAsserts cs recv param ws (i + 1)

inductive Outcome
  /-- statement `stmt` (an `AssertMutable`, preceded only by other `AssertMutable` statements) panicked: nothing was written -/
  | panicked (stmt : Nat)
  /-- all leading assertions passed: the rest of the body ran (and wrote, if the method writes) -/
  | ran
deriving DecidableEq, Repr

/-- calling method `m` on a receiver with state cell `recv` and (for CopyTo / MoveTo / MoveAndAppendTo) a destination with cell `param` -/
def call (cs : Cells) (m : Meth) (recv param : Nat) : Outcome :=
  match runAsserts cs recv param m.asserts 0 with
  | some k => .panicked k
  | none => .ran

/-- a delegating mutator (`Logs.CopyTo`: body `ms.A().CopyTo(dest.A())`): both accessor calls hand on the state of their own receiver,
then the child's `CopyTo` runs; every other method: `call` -/
def callD (tbl : List Meth) (cs : Cells) (m : Meth) (recv param : Nat) : Outcome :=
  match m.cls with
  | .delegating =>
    match m.children.find? (fun c => c.who == .recv &&
        tbl.any (fun m' => m'.typ == c.typ && m'.role == .copy && m'.cls == .guarded && m'.asserts == [.param])) with
    | some c =>
      match tbl.find? (fun m' => m'.typ == c.typ && m'.role == .copy && m'.cls == .guarded && m'.asserts == [.param]) with
      | some m' => call cs m' (cellOf cs recv param c.who) (cellOf cs param recv c.who)
      | none => .ran
    | none => .ran
  | _ => call cs m recv param

/-- one step of an access path: call `m` on the current wrapper (destination cell `param`, only meaningful for CopyTo) and take
the child wrapper built by constructor call `c` of its body -/
structure Step where
  m : Meth
  c : Child
  param : Nat

/-- the wrapper reached by following an access path from `w` -/
def follow (cs : Cells) (w : W) : List Step → W
  | [] => w
  | s :: ss => follow cs ⟨s.c.typ, cellOf cs w.cell s.param s.c.who⟩ ss

/-- the path uses methods of table `tbl` on the right types and children those methods really construct -/
def Valid (tbl : List Meth) : Nat → List Step → Prop
  | _, [] => True
  | t, s :: ss => s.m ∈ tbl ∧ s.m.typ = t ∧ s.c ∈ s.m.children ∧ Valid tbl s.c.typ ss

/-- accessor paths: no step goes through a `CopyTo` (whose destination-side children belong to the destination) -/
def NoCopy : List Step → Prop
  | [] => True
  | s :: ss => s.m.role ≠ .copy ∧ NoCopy ss

/-! ## what the table must satisfy (decided on the regenerated table: `S.table_decided`, `Lemmas/C07State.lean`) -/

/-- every child wrapper gets the receiver's state; only inside `CopyTo` may one get the destination's -/
def childOk (m : Meth) : Bool :=
  m.children.all (fun c => c.who == .recv || (c.who == .param && m.role == .copy))

/-- a guarded mutator's leading assertions are exactly the ones its role needs, nothing is asserted later -/
def assertsOk (m : Meth) : Bool :=
  match m.cls with
  | .guarded => (match m.role with
      | .copy => m.asserts == [.param]
      | .move => m.asserts == [.recv, .param]
      | .other => m.asserts == [.recv]) && !m.later
  | .reader => m.asserts == [] && !m.later && !m.writes
  | .delegating => m.role == .copy && m.asserts == [] && !m.later && !m.writes
  | .unguarded => false

def methOk (m : Meth) : Bool := childOk m && assertsOk m

/-- a delegating mutator (`Logs.CopyTo` …: body `ms.A().CopyTo(dest.A())`, shape checked by the translator) is a payload method whose
child `A()` has a guarded `CopyTo` asserting the destination -/
def delegOk (tbl : List Meth) (payloads : List Nat) (m : Meth) : Bool :=
  m.cls != .delegating ||
  (payloads.contains m.typ &&
   m.children.any (fun c => c.who == .recv &&
     tbl.any (fun m' => m'.typ == c.typ && m'.role == .copy && m'.cls == .guarded && m'.asserts == [.param])))

/-- no method builds a payload wrapper: payloads are roots only -/
def noPayloadChild (payloads : List Nat) (m : Meth) : Bool := m.children.all (fun c => !payloads.contains c.typ)

end OtelVerif.C07.S

import OtelVerif.Model.C11Sys
/-!
# C11 — sub-step model of `hostWrapper.Report` / `hostWrapper.addSource` under `hostWrapper.lock`

`internal/sharedcomponent/sharedcomponent.go`:

```
func (h *hostWrapper) Report(e) {                       func (h *hostWrapper) addSource(s) {
    h.lock.Lock(); defer h.lock.Unlock()                    h.lock.Lock(); defer h.lock.Unlock()
    if len(h.sources) > 0 { remember e in the ring }        h.previousEvents.Do(func(a) { s.Report(a) })   -- replay, oldest first
    for _, s := range h.sources { s.Report(e) }             h.sources = append(h.sources, s)
}                                                       }
```

Every call is split into `Lock`, the ring update / the start of the loop, ONE sub-step per delivery `s.Report(e)`, the append, and
`Unlock`; any number of goroutines (the component reporting from several goroutines, the graph attaching a late instance) are
interleaved at that granularity by an arbitrary scheduler.  `Lemmas/C11WLock.lean`: with the lock every schedule leaves the wrapper
and the sequence of deliveries exactly as the ATOMIC model (`HW.report` / `HW.addSource` of `Model/C11Sys.lean`) does for the calls in
`Lock` order; without it a late instance can miss a report for good (`C11_wlock_needed`, `Props/C11.lean`).
-/
namespace OtelVerif.C11.WLock
open OtelVerif.C11

inductive WCall
  | report (e : St)
  | attach (i : Inst)
deriving DecidableEq, Repr

inductive WPhase
  | idle
  | locked                                -- `h.lock.Lock()` has returned
  | fanout (e : St) (rest : List Inst)    -- `Report`: ring updated, the `range h.sources` loop still has `rest` to go
  | replay (i : Inst) (rest : List St)    -- `addSource`: `previousEvents.Do` still has `rest` to go
  | finished                              -- body done, the deferred `Unlock` pending
deriving DecidableEq, Repr

structure WThread where
  todo : List WCall
  phase : WPhase := .idle
deriving DecidableEq, Repr

structure WState where
  useLock : Bool
  cap : Nat
  threads : List WThread
  holder : Option Nat := none
  hw : HW := {}
  /-- the deliveries `s.Report(e)`, in the order in which they are made -/
  out : List Op := []
  /-- ghost: the calls in the order in which they passed `Lock` -/
  hist : List (Nat × WCall) := []
deriving Repr

def init (useLock : Bool) (cap : Nat) (hw : HW) (progs : List (List WCall)) : WState :=
  { useLock := useLock, cap := cap, hw := hw, threads := progs.map (fun p => { todo := p }) }

/-- goroutine `t` takes its next sub-step -/
def fire (s : WState) (t : Nat) : Option WState :=
  match s.threads[t]? with
  | Option.none => Option.none
  | some th =>
    match th.todo with
    | [] => Option.none
    | c :: rest =>
      match th.phase, c with
      | .idle, _ =>
        if s.useLock && s.holder.isSome then Option.none
        else some { s with threads := s.threads.set t { todo := c :: rest, phase := .locked }
                           holder := if s.useLock then some t else s.holder
                           hist := s.hist ++ [(t, c)] }
      | .locked, .report e =>
        some { s with threads := s.threads.set t { todo := c :: rest, phase := .fanout e s.hw.sources }
                      hw := { s.hw with ring := if s.hw.sources.isEmpty then s.hw.ring else pushRing s.cap s.hw.ring e } }
      | .locked, .attach i =>
        some { s with threads := s.threads.set t { todo := c :: rest, phase := .replay i s.hw.ring } }
      | .fanout e (i :: is), _ =>
        some { s with threads := s.threads.set t { todo := c :: rest, phase := .fanout e is }
                      out := s.out ++ [(i, Report.status e)] }
      | .fanout _ [], _ => some { s with threads := s.threads.set t { todo := c :: rest, phase := .finished } }
      | .replay i (e :: es), _ =>
        some { s with threads := s.threads.set t { todo := c :: rest, phase := .replay i es }
                      out := s.out ++ [(i, Report.status e)] }
      | .replay i [], _ =>
        some { s with threads := s.threads.set t { todo := c :: rest, phase := .finished }
                      hw := { s.hw with sources := s.hw.sources ++ [i] } }
      | .finished, _ =>
        some { s with threads := s.threads.set t { todo := rest, phase := .idle }
                      holder := if s.useLock then Option.none else s.holder }

def runSched (s : WState) : List Nat → Option WState
  | [] => some s
  | t :: ts => (fire s t).bind (fun s' => runSched s' ts)

def WState.calls (s : WState) : List WCall := s.hist.map (·.2)

/-- the atomic model: one call = `HW.report` / `HW.addSource` -/
def applyCall (cap : Nat) (p : HW × List Op) : WCall → HW × List Op
  | .report e => ((p.1.report cap e).1, p.2 ++ (p.1.report cap e).2)
  | .attach i => ((p.1.addSource i).1, p.2 ++ (p.1.addSource i).2)

def applyCalls (cap : Nat) (p : HW × List Op) (cs : List WCall) : HW × List Op := cs.foldl (applyCall cap) p

end OtelVerif.C11.WLock

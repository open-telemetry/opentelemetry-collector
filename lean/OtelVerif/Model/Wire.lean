/-!
# Protobuf wire primitives as the gogo-generated code implements them (C08; also C04, C15)

Bytes are `Nat`s (`< 256` on every input the drivers feed).  Core Lean only.

* `varint` mirrors `encodeVarintX` (little-endian base-128, continuation bit).
* `decVarint` mirrors the inlined decode loop of every generated `Unmarshal`:
  `for shift := uint(0); ; shift += 7 { if shift >= 64 {overflow}; if iNdEx >= l {EOF}; b := dAtA[iNdEx]; iNdEx++;
  wire |= uint64(b&0x7F) << shift; if b < 0x80 {break} }` — at most ten bytes, bits above 2^64 silently dropped.
* `sov` mirrors `sovX(x) = (bits.Len64(x|1)+6)/7` (`sovBits`), proved equal to the recursive byte count.
* `le k`/`unle k`: `binary.LittleEndian.PutUintNN` / `UintNN`.
* `lenDelim`: the length checks of every length-delimited field
  (`int(len) < 0`, `postIndex < 0`, `postIndex > l`).
-/
namespace OtelVerif.Wire

abbrev Bytes := List Nat

def varint (n : Nat) : Bytes :=
  if h : n < 128 then [n] else (n % 128 + 128) :: varint (n / 128)
termination_by n
decreasing_by omega

/-- number of bytes of `varint n` (recursive form) -/
def sov (n : Nat) : Nat :=
  if h : n < 128 then 1 else 1 + sov (n / 128)
termination_by n
decreasing_by omega

/-- `bits.Len64` -/
def bitLen (n : Nat) : Nat := if n = 0 then 0 else Nat.log2 n + 1

/-- the formula of the generated `sovX` -/
def sovBits (n : Nat) : Nat := (bitLen (n ||| 1) + 6) / 7

def decVarintAux : Nat → Nat → Bytes → Option (Nat × Bytes)
  | _, _, [] => none
  | shift, acc, b :: bs =>
    if shift ≥ 64 then none
    else
      let acc' := acc + (b % 128) * 2 ^ shift
      if b < 128 then some (acc' % 2 ^ 64, bs) else decVarintAux (shift + 7) acc' bs

def decVarint (bs : Bytes) : Option (Nat × Bytes) := decVarintAux 0 0 bs

/-- little-endian fixed width -/
def le : Nat → Nat → Bytes
  | 0, _ => []
  | k + 1, n => n % 256 :: le k (n / 256)

def unle : Nat → Bytes → Option (Nat × Bytes)
  | 0, bs => some (0, bs)
  | _ + 1, [] => none
  | k + 1, b :: bs =>
    match unle k bs with
    | none => none
    | some (v, r) => some (b % 256 + 256 * v, r)

def tag (num wt : Nat) : Bytes := varint (num * 8 + wt)

/-- `varint(len) ++ payload` is split off: the three checks of the generated code
(`intLen < 0` ⇔ `len ≥ 2^63`; `postIndex > l`) -/
def lenDelim (bs : Bytes) : Option (Bytes × Bytes) :=
  match decVarint bs with
  | none => none
  | some (len, r) =>
    if len ≥ 2 ^ 63 then none
    else if len > r.length then none
    else some (r.take len, r.drop len)

def lenPrefixed (p : Bytes) : Bytes := varint p.length ++ p

end OtelVerif.Wire

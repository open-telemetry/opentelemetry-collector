import OtelVerif.Model.C11
/-!
# C11 — sub-step model of `reporter.ReportStatus` / `reporter.ReportOKIfStarting` under `reporter.mu`

`service/internal/status/status.go`:

```
func (r *reporter) ReportStatus(id, ev) {        func (r *reporter) ReportOKIfStarting(id) {
    r.mu.Lock()                                       r.mu.Lock()
    defer r.mu.Unlock()                               defer r.mu.Unlock()
    if err := r.componentFSM(id).transition(ev) …     fsm := r.componentFSM(id)
}                                                     if fsm.current.Status() == StatusStarting { fsm.transition(OK) … }
                                                  }
func (m *fsm) transition(ev) error {
    if _, ok := m.transitions[m.current.Status()][ev.Status()]; !ok { return … }   -- READ
    m.current = ev                                                                  -- WRITE
    m.onTransition(ev)                                                              -- CALLBACK (watchers are notified)
    return nil
}
```

Every call is split into the sub-steps `Lock`, `read` (the FSM's current status is read), `write` (the decision taken on the
value READ EARLIER is applied), `callback` (the watcher is told) and `Unlock`; any number of goroutines, each with its own
program of calls, are interleaved at sub-step granularity by an arbitrary scheduler (`fire s t` = goroutine `t` takes its next
sub-step; `none` = it cannot: finished, or blocked in `Lock`).  `useLock` says whether the two methods take `r.mu` — regenerated
from the source (`Gen.StatusTable.reporterLocked`).  `Lemmas/C11Mutex.lean` proves that with the lock every schedule delivers
exactly what the ATOMIC model (`Reporter.runAll`) delivers for the calls taken in the order in which they passed `Lock`, and
that without it the property is violated by a concrete schedule (`C11_mutex_needed`, `Props/C11.lean`).
-/
namespace OtelVerif.C11.Mutex
open OtelVerif.C11

inductive Phase
  | idle                      -- between two calls
  | locked                    -- `r.mu.Lock()` has returned
  | read (seen : St)          -- `m.current.Status()` has been read
  | wrote (ev : Option St)    -- `m.current = ev` done (`some`), or the report was rejected / skipped (`none`); callback pending
  | notified                  -- `m.onTransition(ev)` has returned; the deferred `Unlock` is pending
deriving DecidableEq, Repr

structure Thread where
  todo : List (Inst × Report)
  phase : Phase := .idle
deriving DecidableEq, Repr

structure MState where
  useLock : Bool
  threads : List Thread
  holder : Option Nat := none
  rep : Reporter := {}
  /-- callbacks delivered to the watcher, in delivery order -/
  log : List (Inst × St) := []
  /-- ghost: the calls (goroutine, instance, report) in the order in which they passed `Lock` -/
  hist : List (Nat × Inst × Report) := []
deriving Repr

def init (useLock : Bool) (progs : List (List (Inst × Report))) : MState :=
  { useLock := useLock, threads := progs.map (fun p => { todo := p }) }

/-- goroutine `t` takes its next sub-step -/
def fire (s : MState) (t : Nat) : Option MState :=
  match s.threads[t]? with
  | Option.none => Option.none
  | some th =>
    match th.todo with
    | [] => Option.none
    | (i, r) :: rest =>
      match th.phase with
      | .idle =>
        if s.useLock && s.holder.isSome then Option.none   -- blocked in `Lock`
        else some { s with threads := s.threads.set t { th with phase := .locked }
                           holder := if s.useLock then some t else s.holder
                           hist := s.hist ++ [(t, i, r)] }
      | .locked => some { s with threads := s.threads.set t { th with phase := .read (s.rep.cur i) } }
      | .read seen =>
        some { s with threads := s.threads.set t { th with phase := .wrote (step seen r).2 }
                      rep := if (step seen r).2.isSome then s.rep.set i (step seen r).1 else s.rep }
      | .wrote ev =>
        some { s with threads := s.threads.set t { th with phase := .notified }
                      log := s.log ++ ev.toList.map (fun e => (i, e)) }
      | .notified =>
        some { s with threads := s.threads.set t { todo := rest, phase := .idle }
                      holder := if s.useLock then Option.none else s.holder }

def runSched (s : MState) : List Nat → Option MState
  | [] => some s
  | t :: ts => (fire s t).bind (fun s' => runSched s' ts)

/-- the calls in the order in which they passed `Lock` -/
def MState.ops (s : MState) : List (Inst × Report) := s.hist.map (·.2)

/-- goroutine `t`'s calls that have passed `Lock`, in that order -/
def MState.taken (s : MState) (t : Nat) : List (Inst × Report) := (s.hist.filter (fun p => p.1 == t)).map (·.2)

/-- the atomic model's reporter after a list of calls -/
def after (r : Reporter) (ops : List (Inst × Report)) : Reporter := ops.foldl (fun r op => (r.report op.1 op.2).1) r

end OtelVerif.C11.Mutex

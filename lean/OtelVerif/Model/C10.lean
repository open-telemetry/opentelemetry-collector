import OtelVerif.Model.C09
/-!
# C10 model: start / stop order of a built service, with failures

Mirrors
* `service/internal/graph/graph.go` `StartAll` (reverse of `topo.Sort`, capabilities/fan-out nodes skipped,
  returns at the first `Start` error) and `ShutdownAll` (order of `topo.Sort`, every component, errors collected),
* `service/extensions/extensions.go` `Start` (in `computeOrder` order, returns at the first error) and
  `Shutdown` (reverse order, every extension, errors collected), `extensions/graph.go computeOrder`,
* `service/service.go` `Start` (extensions, then pipelines) and `Shutdown` (pipelines, then extensions),
* `otelcol/collector.go` `setupConfigurationComponents` (a failed `Start` is followed by `Shutdown`),
* `internal/sharedcomponent` (`startOnce` / `stopOnce`).

`topo.Sort` is a parameter: the three orders (`gorderStart`, `gorderStop` for the component graph, `eorder` for the extensions)
are inputs constrained by `IsTopo`; nothing else about gonum is assumed.  Core Lean only.
-/
namespace OtelVerif.C10
open OtelVerif.C09

/-- an extension and the ids returned by its `Dependencies()` -/
structure Ext where
  id : Nat
  deps : List Nat
deriving DecidableEq, Repr

/-- `extensions.New`: `extMap` is keyed by id — an id listed more than once in `service::extensions` is one
extension (the entries are the same component: same id, same `Dependencies()`) -/
def dedupExts : List Ext → List Ext
  | [] => []
  | e :: l => e :: (dedupExts l).filter (fun x => x.id != e.id)

/-- things that have `Start`/`Shutdown`: pipeline components (graph nodes), extensions, and the single inner
component behind the per-signal instances of a shared receiver -/
inductive Comp
  | node (n : Node)
  | ext (e : Nat)
  | inner (id : CompId)
  /-- the single inner component behind the per-signal instances of an exporter built on `sharedcomponent` -/
  | innerExp (id : CompId)
  /-- … of a connector built on `sharedcomponent` (instances = its (signal, signal) pairs) -/
  | innerConn (id : CompId)
deriving DecidableEq, Repr

/-- `x` occurs before `y` -/
def Before {α : Type} (l : List α) (x y : α) : Prop := ∃ l1 l2 l3, l = l1 ++ x :: l2 ++ y :: l3

/-- a result of `topo.Sort` on (nodes `ns`, edges `E`): every node once, every edge forward -/
structure IsTopo {α : Type} (ns : List α) (E : List (α × α)) (order : List α) : Prop where
  nodup : order.Nodup
  mem : ∀ n, n ∈ order ↔ n ∈ ns
  fwd : ∀ a b, (a, b) ∈ E → Before order a b

/-- `computeOrder`'s graph: an edge from each dependency to its dependent -/
def extEdges (exts : List Ext) : List (Nat × Nat) := exts.flatMap (fun e => e.deps.map (fun d => (d, e.id)))

/-! ## the loops -/

/-- `for … { if err := Start(); err != nil { return err } }` over the planned sequence: outcomes so far -/
def runStarts (failS : Comp → Bool) : List Comp → List (Comp × Bool)
  | [] => []
  | c :: rest => if failS c then [(c, false)] else (c, true) :: runStarts failS rest

def allOk (l : List (Comp × Bool)) : Bool := l.all (·.2)

/-- `for … { if err := Shutdown(); err != nil { errs = append(errs, err); continue } }` -/
def runStops (failT : Comp → Bool) (plan : List Comp) : List (Comp × Bool) := plan.map (fun c => (c, !failT c))

/-- components of the graph in an order, capabilities / fan-out nodes skipped (`node.(component.Component)`) -/
def compsOf (order : List Node) : List Comp := (order.filter Node.isComp).map Comp.node

structure Sys where
  cfg : Cfg
  exts : List Ext
  /-- `topo.Sort(componentGraph)` as returned inside `StartAll` -/
  gorderStart : List Node
  /-- `topo.Sort(componentGraph)` as returned inside `ShutdownAll` -/
  gorderStop : List Node
  /-- `computeOrder` (kept in `extensionIDs`) -/
  eorder : List Nat

structure Outcome where
  starts : List (Comp × Bool)
  startOk : Bool
  stops : List (Comp × Bool)
  stopOk : Bool
deriving Repr

/-- `Extensions.Start` -/
def extStart (sys : Sys) (failS : Comp → Bool) : List (Comp × Bool) := runStarts failS (sys.eorder.map Comp.ext)

def isRecvN : Node → Bool
  | .recv _ _ => true
  | _ => false

/-- `Graph.StartAll` start sequence: reverse topological order, capabilities / fan-out nodes skipped, receivers
moved behind every other component (`startOrder` in the repaired `StartAll`) -/
def startPlan (order : List Node) : List Comp :=
  ((order.reverse.filter Node.isComp).filter (fun n => !(isRecvN n)) ++
   (order.reverse.filter Node.isComp).filter isRecvN).map Comp.node

/-- `Graph.StartAll` -/
def graphStart (sys : Sys) (failS : Comp → Bool) : List (Comp × Bool) := runStarts failS (startPlan sys.gorderStart)

/-- `Graph.ShutdownAll` stop sequence: topological order, capabilities / fan-out nodes skipped, exporters moved
behind every other component (`stopOrder` in the repaired `ShutdownAll`) -/
def stopPlan (order : List Node) : List Comp :=
  ((order.filter Node.isComp).filter (fun n => !(n.isExp)) ++ (order.filter Node.isComp).filter Node.isExp).map Comp.node

/-- `Service.Start`: extensions; only if they all started, the pipelines -/
def serviceStart (sys : Sys) (failS : Comp → Bool) : List (Comp × Bool) :=
  let l1 := extStart sys failS
  if allOk l1 then l1 ++ graphStart sys failS else l1

/-- `Service.Shutdown`: pipelines (topological order), then extensions (reverse start order); never stops early -/
def serviceShutdown (sys : Sys) (failT : Comp → Bool) : List (Comp × Bool) :=
  runStops failT (stopPlan sys.gorderStop) ++ runStops failT (sys.eorder.reverse.map Comp.ext)

/-- the collector: `Start`; `Shutdown` exactly once, whether or not `Start` failed -/
def run (sys : Sys) (failS failT : Comp → Bool) : Outcome :=
  let s := serviceStart sys failS
  let t := serviceShutdown sys failT
  { starts := s, startOk := allOk s, stops := t, stopOk := allOk t }

/-! ## `Service.Start` with its notification hooks

`Service.Start` = `Extensions.Start`; `NotifyConfig` (every `ConfigWatcher` extension is called, the errors are
collected, any error aborts); `Pipelines.StartAll`; `NotifyPipelineReady` (`PipelineWatcher.Ready`, returns at the
first error).  `Start` can therefore fail although no component's `Start` failed.  `failN` / `failR` say which
extension's `NotifyConfig` / `Ready` returns an error (every test extension implements both interfaces). -/

structure StartTrace where
  exts : List (Comp × Bool)
  /-- `NotifyConfig` calls -/
  notifies : List (Nat × Bool)
  graph : List (Comp × Bool)
  /-- `Ready` calls -/
  readies : List (Nat × Bool)
  ok : Bool
deriving Repr

/-- `for … { if err := Ready(); err != nil { return err } }` -/
def runUntil (fail : Nat → Bool) : List Nat → List (Nat × Bool)
  | [] => []
  | e :: rest => if fail e then [(e, false)] else (e, true) :: runUntil fail rest

def serviceStartH (sys : Sys) (failS : Comp → Bool) (failN failR : Nat → Bool) : StartTrace :=
  let l1 := extStart sys failS
  if !(allOk l1) then { exts := l1, notifies := [], graph := [], readies := [], ok := false } else
  let ns := sys.eorder.map (fun e => (e, !(failN e)))
  if !(ns.all (·.2)) then { exts := l1, notifies := ns, graph := [], readies := [], ok := false } else
  let l2 := graphStart sys failS
  if !(allOk l2) then { exts := l1, notifies := ns, graph := l2, readies := [], ok := false } else
  let rs := runUntil failR sys.eorder
  { exts := l1, notifies := ns, graph := l2, readies := rs, ok := rs.all (·.2) }

/-! ## `Service.Shutdown` with its notification hook

`Service.Shutdown` = `NotifyPipelineNotReady` (every `PipelineWatcher` extension's `NotReady` is called in start order,
the errors are collected — the loop never returns early); `Pipelines.ShutdownAll`; `Extensions.Shutdown`; the errors
are joined.  A failing `NotReady` is reported but stops nothing.  `failQ` says which extension's `NotReady` returns an
error. -/

structure StopTrace where
  /-- `NotReady` calls -/
  notreadies : List (Nat × Bool)
  stops : List (Comp × Bool)
  ok : Bool
deriving Repr

def serviceShutdownH (sys : Sys) (failT : Comp → Bool) (failQ : Nat → Bool) : StopTrace :=
  let qs := sys.eorder.map (fun e => (e, !(failQ e)))
  let t := serviceShutdown sys failT
  { notreadies := qs, stops := t, ok := qs.all (·.2) && allOk t }

/-! ## `service.New` and the collector around it -/

inductive NewErr
  | connector    -- graph.Build: connector use without supported counterpart
  | cycle        -- graph.Build: connector cycle
  | extMissing   -- computeOrder: dependency on an extension that is not in the service's list
  | extCycle     -- computeOrder: topo.Sort failed
deriving DecidableEq, Repr

/-- `computeOrder`: `unable to find extension … on which extension … depends` -/
def extMissing (exts : List Ext) : Bool :=
  exts.any (fun e => e.deps.any (fun d => !(exts.any (fun x => x.id == d))))

/-- one peeling round on the extension dependency graph: release every extension all of whose dependencies are released -/
def extPeelStep (exts : List Ext) (done : List Nat) : List Nat :=
  done ++ (exts.filter (fun e => !(decide (e.id ∈ done)) && e.deps.all (fun d => decide (d ∈ done)))).map (·.id)

def extPeel (exts : List Ext) : Nat → List Nat
  | 0 => []
  | k + 1 => extPeelStep exts (extPeel exts k)

/-- `topo.Sort` on the dependency graph succeeds (same modelling of gonum's success condition as `C09.sortable`) -/
def extSortable (exts : List Ext) : Bool := exts.all (fun e => decide (e.id ∈ extPeel exts exts.length))

/-! ### content of `computeOrder`'s two errors

`unable to find extension <d> on which extension <e> depends` and `unable to order extensions by dependencies, cycle found
[a -> b -> … -> a]` (one cycle found by gonum's `topo.DirectedCyclesIn`; which one is not modelled).  The monitors below are
evaluated on the real messages; `Props/C10.lean` proves that whatever they accept is a genuine reason. -/

def extMissingMsgOk (exts : List Ext) (d e : Nat) : Bool :=
  exts.any (fun x => x.id == e && x.deps.contains d) && !(exts.any (fun x => x.id == d))

/-- every hop is an edge of `computeOrder`'s graph (dependency → dependent) -/
def extChainOk (E : List (Nat × Nat)) : Nat → List Nat → Bool
  | _, [] => true
  | a, b :: l => E.contains (a, b) && extChainOk E b l

/-- the printed cycle: at least one hop, returns to its first element, every hop a declared dependency -/
def extCycleMsgOk (exts : List Ext) : List Nat → Bool
  | [] => false
  | a :: rest => !rest.isEmpty && (rest.getLast? == some a) && extChainOk (extEdges exts) a rest

/-- `service.New`: `initGraph` (`graph.Build`) first, then `initExtensions` (`extensions.New` → `computeOrder`:
unknown dependency, then `topo.Sort`).  (An extension depending on *itself* makes gonum's `SetEdge` panic inside
`New`; no extension of this repository implements `Dependencies()`, the case is not modelled.) -/
def newService (cfg : Cfg) (exts : List Ext) : Option NewErr :=
  match build cfg with
  | some .connector => some .connector
  | some .cycle => some .cycle
  | none => if extMissing exts then some .extMissing else if !(extSortable exts) then some .extCycle else none

/-- `service.New` when a component factory may fail: the factories are called inside `graph.Build` (`initGraph`), i.e.
before the extensions are created and ordered -/
inductive NewErrW
  | new (e : NewErr)
  | create
deriving DecidableEq, Repr

def newServiceWith (cfg : Cfg) (exts : List Ext) (failCreate : Node → Bool) : Option NewErrW :=
  match buildWith cfg failCreate with
  | some (.build .connector) => some (.new .connector)
  | some (.build .cycle) => some (.new .cycle)
  | some .create => some .create
  | none => if extMissing exts then some (.new .extMissing) else if !(extSortable exts) then some (.new .extCycle) else none

/-- `service.New` when an EXTENSION factory may fail as well: `initGraph` (all of `graph.Build`, component factories included) comes first,
then `initExtensions` → `extensions.New`: the factory of every listed entry is called in list order and the first error is returned
(`failed to create extension …`) before `computeOrder` looks at the dependencies.  The pipeline components created by `graph.Build`
exist by then; none is ever started. -/
def newServiceWithX (cfg : Cfg) (exts : List Ext) (failCreate : Node → Bool) (failExt : Nat → Bool) : Option NewErrW :=
  match buildWith cfg failCreate with
  | some (.build .connector) => some (.new .connector)
  | some (.build .cycle) => some (.new .cycle)
  | some .create => some .create
  | none =>
    if exts.any (fun e => failExt e.id) then some .create
    else if extMissing exts then some (.new .extMissing) else if !(extSortable exts) then some (.new .extCycle) else none

/-- `otelcol/collector.go setupConfigurationComponents` + shutdown: `service.New`; when it fails the error is
returned and neither `Start` nor `Shutdown` of that service is ever called; otherwise `run` -/
def lifetime (sys : Sys) (failS failT : Comp → Bool) : Outcome :=
  match newService sys.cfg sys.exts with
  | some _ => { starts := [], startOk := false, stops := [], stopOk := true }
  | none => run sys failS failT

/-! ## who sends data to whom -/

def expand (E : List (Node × Node)) (l : List Node) : List Node :=
  l.flatMap (fun n => if n.isComp then [n] else succOf E n)

/-- the components `b` hands data to: its successors, looking through capabilities / fan-out nodes
(at most two in a row: capabilities → fan-out) -/
def compSucc (E : List (Node × Node)) (b : Node) : List Node :=
  (expand E (expand E (succOf E b))).filter Node.isComp

/-- all components of a built service -/
def allComps (sys : Sys) : List Comp :=
  ((nodes sys.cfg).filter Node.isComp).map Comp.node ++ sys.exts.map (fun e => Comp.ext e.id)

/-! ## the monitor: the property's clauses, executable, evaluated on a log (model's or implementation's) -/

def idx {α : Type} [DecidableEq α] (l : List α) (x : α) : Nat := l.idxOf x

/-- `x` and `y` both occur and the first `x` precedes the first `y` -/
def beforeB {α : Type} [DecidableEq α] (l : List α) (x y : α) : Bool :=
  decide (x ∈ l) && decide (y ∈ l) && decide (idx l x < idx l y)

def nodupB {α : Type} [DecidableEq α] : List α → Bool
  | [] => true
  | a :: l => !(decide (a ∈ l)) && nodupB l

/-- executable test for `IsTopo` (used for examples and by the driver on observed orders) -/
def isTopoB {α : Type} [DecidableEq α] (ns : List α) (E : List (α × α)) (order : List α) : Bool :=
  nodupB order && order.all (fun n => decide (n ∈ ns)) && ns.all (fun n => decide (n ∈ order)) &&
    E.all (fun e => beforeB order e.1 e.2)

def isNodeC : Comp → Bool
  | .node _ => true
  | _ => false

def isExtC : Comp → Bool
  | .ext _ => true
  | _ => false

/-! start clauses on the sequence of started components `st` (in order) -/

/-- at most once, and only components of this service -/
def startsOnce (sys : Sys) (st : List Comp) : Bool :=
  nodupB st && st.all (fun c => decide (c ∈ allComps sys))

/-- downstream first: whoever `b` sends data to has started before `b` -/
def startsDownstreamFirst (sys : Sys) (st : List Comp) : Bool :=
  (nodes sys.cfg).all (fun b => !(decide (Comp.node b ∈ st)) ||
    (compSucc (edges sys.cfg) b).all (fun a => beforeB st (Comp.node a) (Comp.node b)))

/-- every extension before every pipeline component -/
def startsExtFirst (sys : Sys) (st : List Comp) : Bool :=
  st.all (fun c => !(isNodeC c) || sys.exts.all (fun e => beforeB st (Comp.ext e.id) c))

/-- dependency before dependent -/
def startsDepFirst (sys : Sys) (st : List Comp) : Bool :=
  sys.exts.all (fun e => !(decide (Comp.ext e.id ∈ st)) || e.deps.all (fun d => beforeB st (Comp.ext d) (Comp.ext e.id)))

def checkStarts (sys : Sys) (st : List Comp) : Bool :=
  startsOnce sys st && startsDownstreamFirst sys st && startsExtFirst sys st && startsDepFirst sys st

/-! stop clauses on the sequence of stopped components `sp` (in order) -/

/-- exactly once: no repetition, every component of the service, nothing else -/
def stopsExactlyOnce (sys : Sys) (sp : List Comp) : Bool :=
  nodupB sp && (allComps sys).all (fun c => decide (c ∈ sp)) && sp.all (fun c => decide (c ∈ allComps sys))

/-- upstream first -/
def stopsUpstreamFirst (sys : Sys) (sp : List Comp) : Bool :=
  (nodes sys.cfg).all (fun b => !(b.isComp) || (compSucc (edges sys.cfg) b).all (fun a => beforeB sp (Comp.node b) (Comp.node a)))

/-- extensions last -/
def stopsExtLast (sys : Sys) (sp : List Comp) : Bool :=
  sp.all (fun c => !(isExtC c) || ((nodes sys.cfg).filter Node.isComp).all (fun n => beforeB sp (Comp.node n) c))

/-- dependent before dependency -/
def stopsDependentFirst (sys : Sys) (sp : List Comp) : Bool :=
  sys.exts.all (fun e => e.deps.all (fun d => beforeB sp (Comp.ext e.id) (Comp.ext d)))

def checkStops (sys : Sys) (sp : List Comp) : Bool :=
  stopsExactlyOnce sys sp && stopsUpstreamFirst sys sp && stopsExtLast sys sp && stopsDependentFirst sys sp

/-- only the last start may have failed (nothing is started after a failed start) -/
def failedStartIsLast (starts : List (Comp × Bool)) : Bool :=
  match starts.reverse with
  | [] => true
  | _ :: earlier => earlier.all (·.2)

/-- failure clauses: nothing is started after a failed start, and the reported results are right -/
def checkFailures (o : Outcome) : Bool :=
  failedStartIsLast o.starts && (o.startOk == allOk o.starts) && (o.stopOk == allOk o.stops)

/-- a successful start started everything -/
def startedAll (sys : Sys) (o : Outcome) : Bool :=
  !o.startOk || (allComps sys).all (fun c => decide (c ∈ o.starts.map (·.1)))

def check (sys : Sys) (o : Outcome) : Bool :=
  checkStarts sys (o.starts.map (·.1)) && checkStops sys (o.stops.map (·.1)) && checkFailures o && startedAll sys o

/-! ## shared component (`internal/sharedcomponent`): what the inner component sees -/

inductive Call | start | stop
deriving DecidableEq, Repr

/-- `Component[V]`: `hostWrapper != nil` / `startOnce` and `stopOnce` -/
structure Shared where
  started : Bool := false
  stopped : Bool := false
deriving DecidableEq, Repr

/-- one `Start`/`Shutdown` call on any of the per-signal instances; the inner call it causes, if any -/
def Shared.step (s : Shared) : Call → Shared × Option Call
  | .start => if s.started then (s, none) else ({ s with started := true }, some .start)
  | .stop => if s.stopped then (s, none) else ({ s with stopped := true }, some .stop)

def Shared.runCalls (s : Shared) : List Call → List Call
  | [] => []
  | c :: rest =>
    match (s.step c).2 with
    | some i => i :: (s.step c).1.runCalls rest
    | none => (s.step c).1.runCalls rest

/-! ## instances of a component built on `sharedcomponent`: where the inner `Start` / `Shutdown` happen -/

/-- one shared component: its inner component and the graph nodes that are its instances -/
structure Group where
  inner : Comp
  insts : List Comp
deriving Repr

/-- walk a start (or stop) log and insert, after the instance call that triggers it, the call on the inner
component: each instance call reaches the `sharedcomponent` wrapper (unless `skip`: the test wrapper's own injected
failure returns before it) and goes through `Shared.step`; `innerOk` is the inner call's own result -/
def withInner (call : Call) (groups : List Group) (skip : Comp → Bool) (innerOk : Comp → Bool) :
    List (Group × Shared) → List (Comp × Bool) → List (Comp × Bool)
  | _, [] => []
  | st, (c, ok) :: rest =>
    match st.find? (fun gs => gs.1.insts.contains c) with
    | some (g, sh) =>
      if skip c then (c, ok) :: withInner call groups skip innerOk st rest else
      let (sh', ev) := sh.step call
      let st' := st.map (fun (gs : Group × Shared) => if gs.1.inner == g.inner then (gs.1, sh') else gs)
      match ev with
      | some _ => (c, ok) :: (g.inner, innerOk g.inner) :: withInner call groups skip innerOk st' rest
      | none => (c, ok) :: withInner call groups skip innerOk st' rest
    | none => (c, ok) :: withInner call groups skip innerOk st rest

/-! ## several service lifetimes in one process over one persistent `sharedcomponent.Map`

A factory may keep its `sharedcomponent.Map` for the life of the process (the otlp receiver does).  `LoadOrStore`
returns the wrapper stored under the key or stores a fresh one; the wrapper's first `Shutdown` (inside `stopOnce`,
whatever the inner `Shutdown` returns) removes it from the map (`removeFunc`). -/

/-- state of a wrapper after a sequence of instance calls -/
def Shared.after (s : Shared) (calls : List Call) : Shared := calls.foldl (fun st c => (st.step c).1) s

/-- one service lifetime seen from one key of the map: the entry before, the instance calls of this lifetime ↦ the entry
after and the calls that reached the inner component -/
def mapLifetime (entry : Option Shared) (calls : List Call) : Option Shared × List Call :=
  let sh := entry.getD {}                       -- LoadOrStore
  let fin := sh.after calls
  (if fin.stopped then none else some fin, sh.runCalls calls)   -- removeFunc runs inside stopOnce

/-- the inner calls of each of several consecutive lifetimes -/
def mapLifetimes : Option Shared → List (List Call) → List (List Call)
  | _, [] => []
  | entry, calls :: rest => (mapLifetime entry calls).2 :: mapLifetimes (mapLifetime entry calls).1 rest

/-- consecutive service lifetimes in one process -/
structure LifetimeIn where
  sys : Sys
  failS : Comp → Bool
  failT : Comp → Bool

def lifetimes (ls : List LifetimeIn) : List Outcome := ls.map (fun l => lifetime l.sys l.failS l.failT)

end OtelVerif.C10

import OtelVerif.Model.C11
import OtelVerif.Gen.StatusGlue
/-!
# C11 — the service's status glue as code-shaped programs

What reaches the per-instance state machines of `service/internal/status` is produced by five pieces of glue code.  This file
models each of them branch by branch, as a generator of the reports `(instance, report)` handed to the reporter, in order:

* `service/internal/graph/graph.go` `StartAll` (loop: `ReportStatus(Starting)`, `comp.Start`, on error `ReportStatus(PermanentError)`
  and **return**, else `ReportOKIfStarting`) and `ShutdownAll` (loop: `Stopping`, `comp.Shutdown`, on error `PermanentError` and
  **continue**, else `Stopped`), `HostWrapper.Report` (a component's own report goes to the reporter under ITS instance id);
* `service/extensions/extensions.go` `Start` / `Shutdown` (the same two loops; extensions are handed the bare host, which is not a
  `componentstatus.Reporter`, so their own reports vanish in `componentstatus.ReportStatus`);
* `service/service.go` `Start` (extensions, then pipelines — not reached when an extension fails) / `Shutdown` (pipelines, then
  extensions in reverse);
* `internal/sharedcomponent/sharedcomponent.go` `Component.Start` / `Shutdown` (`startOnce` / `stopOnce`, the `hostWrapper == nil`
  branches, the not-a-Reporter host branch) and `hostWrapper.Report` / `addSource` (fan-out to the attached instances' reporters,
  replay ring) — any number of shared components, each represented by any number of instances.

`Sys.ops` is the whole report history of a service run; `Sys.events i` what the watchers are shown for instance `i`
(`Reporter.runAll`, the atomic reporter model of `Model/C11.lean`).  `Life` of `Model/C11.lean` is the per-instance projection
(`Props/C11.lean`: `C11_sys_plain_is_life`); `SharedLife` is not derived from `Sys`.
-/
namespace OtelVerif.C11
open OtelVerif.Gen

/-- what a component does on its own: statuses reported from inside `Start`, while running, from inside `Shutdown`; whether
`Start` / `Shutdown` return an error -/
structure Script where
  duringStart : List St := []
  failStart : Bool := false
  running : List St := []
  duringStop : List St := []
  failStop : Bool := false
deriving Repr, DecidableEq

abbrev Op := Inst × Report

/-! ## `internal/sharedcomponent` -/

/-- `hostWrapper`: the attached sources are `componentstatus.Reporter`s of the hosts the instances were started with; in the service
that is `graph.HostWrapper{InstanceID}`, whose `Report` is `host.Reporter.ReportStatus(InstanceID, ev)` — so a source is an
instance id.  `ring` = `previousEvents`, oldest first. -/
structure HW where
  sources : List Inst := []
  ring : List St := []
deriving Repr, DecidableEq

/-- `hostWrapper.Report` -/
def HW.report (cap : Nat) (h : HW) (e : St) : HW × List Op :=
  ({ h with ring := if h.sources.isEmpty then h.ring else pushRing cap h.ring e }, h.sources.map (fun i => (i, Report.status e)))

/-- `hostWrapper.addSource` -/
def HW.addSource (h : HW) (i : Inst) : HW × List Op :=
  ({ h with sources := h.sources ++ [i] }, h.ring.map (fun e => (i, Report.status e)))

def HW.reportAll (cap : Nat) (h : HW) : List St → HW × List Op
  | [] => (h, [])
  | e :: es => let (h1, o1) := h.report cap e; let (h2, o2) := HW.reportAll cap h1 es; (h2, o1 ++ o2)

/-- `sharedcomponent.Component[V]` around an inner component that behaves like `script` -/
structure SC where
  script : Script
  hw : Option HW := Option.none     -- `c.hostWrapper`
  startOnce : Bool := false         -- `c.startOnce` has fired
  stopOnce : Bool := false          -- `c.stopOnce` has fired
  innerStarts : Nat := 0            -- ghost: calls of the inner component's `Start`
  innerStops : Nat := 0             -- ghost: calls of the inner component's `Shutdown`
deriving Repr, DecidableEq

/-- `Component.Start(ctx, host)`; `hostReports` = `host.(componentstatus.Reporter)` succeeds; `i` = the instance id behind that host.
Returns the new state, the reports made, and whether an error is returned. -/
def SC.start (cap : Nat) (c : SC) (i : Inst) (hostReports : Bool) : SC × List Op × Bool :=
  match c.hw with
  | Option.none =>
    if c.startOnce then (c, [], false)          -- `startOnce.Do` does nothing (unreachable: the once sets `hostWrapper` first)
    else
      let h0 : HW := {}
      let (h1, o1) := if hostReports then h0.addSource i else (h0, [])
      let (h2, o2) := HW.reportAll cap h1 StatusGlue.sharedStartPre     -- `c.hostWrapper.Report(NewEvent(StatusStarting))`
      let (h3, o3) := HW.reportAll cap h2 c.script.duringStart          -- the inner `Start`, given the wrapper as its host
      let (h4, o4) := if c.script.failStart then HW.reportAll cap h3 StatusGlue.sharedStartErr else (h3, [])
      ({ c with hw := some h4, startOnce := true, innerStarts := c.innerStarts + 1 }, o1 ++ o2 ++ o3 ++ o4, c.script.failStart)
  | some h =>
    if hostReports then let (h1, o1) := h.addSource i; ({ c with hw := some h1 }, o1, false)
    else (c, [], false)

/-- `Component.Shutdown(ctx)` -/
def SC.shutdown (cap : Nat) (c : SC) : SC × List Op × Bool :=
  if c.stopOnce then (c, [], false)
  else
    match c.hw with
    | Option.none =>
      -- never started: the inner `Shutdown` runs without a host, nothing can be reported
      ({ c with stopOnce := true, innerStops := c.innerStops + 1 }, [], c.script.failStop)
    | some h =>
      let (h1, o1) := HW.reportAll cap h StatusGlue.sharedStopPre
      let (h2, o2) := HW.reportAll cap h1 c.script.duringStop
      let (h3, o3) := HW.reportAll cap h2 (if c.script.failStop then StatusGlue.sharedStopErr else StatusGlue.sharedStopOk)
      ({ c with hw := some h3, stopOnce := true, innerStops := c.innerStops + 1 }, o1 ++ o2 ++ o3, c.script.failStop)

/-- the inner component reports while running (through the wrapper it was given as host; nothing before `Start`) -/
def SC.run (cap : Nat) (c : SC) : SC × List Op :=
  match c.hw with
  | Option.none => (c, [])
  | some h => let (h1, o) := HW.reportAll cap h c.script.running; ({ c with hw := some h1 }, o)

/-! ### the shared component on its own: a labelled transition system over arbitrary call sequences -/

inductive SCLabel
  | start (i : Inst) (hostReports : Bool)
  | shutdown
  | report (e : St)     -- the inner component reports `e` through its host (no effect before the first `Start`)
deriving Repr, DecidableEq

def SC.fire (cap : Nat) (c : SC) : SCLabel → SC × List Op
  | .start i hr => let r := c.start cap i hr; (r.1, r.2.1)
  | .shutdown => let r := c.shutdown cap; (r.1, r.2.1)
  | .report e =>
    match c.hw with
    | Option.none => (c, [])
    | some h => let r := h.report cap e; ({ c with hw := some r.1 }, r.2)

def SC.fireAll (cap : Nat) (c : SC) : List SCLabel → SC × List Op
  | [] => (c, [])
  | l :: ls => let r := c.fire cap l; let r2 := SC.fireAll cap r.1 ls; (r2.1, r.2 ++ r2.2)

/-! ## graph / extensions / service -/

inductive NodeKind
  | plain (sc : Script)     -- an ordinary component
  | shared (k : Nat)        -- one of the instances of shared component `k`
deriving Repr, DecidableEq

/-- a component instance as `StartAll` / `extensions.Start` see it: `instanceIDs[node.ID()]` + the component -/
structure Node where
  inst : Inst
  kind : NodeKind
deriving Repr, DecidableEq

/-- run-time state of the glue: the shared components, and which plain components hold a host (their `Start` was called) -/
structure GState where
  scs : List SC := []
  hosted : List Inst := []
deriving Repr, DecidableEq

def GState.sc (g : GState) (k : Nat) : SC := g.scs.getD k { script := {} }
def GState.setSc (g : GState) (k : Nat) (c : SC) : GState := { g with scs := g.scs.set k c }

/-- a plain component's own reports: `componentstatus.ReportStatus(host, ev)` — dropped unless the host is a Reporter -/
def ownReports (i : Inst) (hostReports : Bool) (l : List St) : List Op :=
  if hostReports then l.map (fun e => (i, Report.status e)) else []

/-- `comp.Start(ctx, &HostWrapper{host, instanceID})` / `ext.Start(ctx, host)` -/
def GState.startNode (cap : Nat) (g : GState) (n : Node) (hostReports : Bool) : GState × List Op × Bool :=
  match n.kind with
  | .plain sc => ({ g with hosted := n.inst :: g.hosted }, ownReports n.inst hostReports sc.duringStart, sc.failStart)
  | .shared k => let r := (g.sc k).start cap n.inst hostReports; (g.setSc k r.1, r.2.1, r.2.2)

/-- `comp.Shutdown(ctx)`: a plain component can report only through the host it was given in `Start` -/
def GState.stopNode (cap : Nat) (g : GState) (n : Node) (hostReports : Bool) : GState × List Op × Bool :=
  match n.kind with
  | .plain sc => (g, if g.hosted.contains n.inst then ownReports n.inst hostReports sc.duringStop else [], sc.failStop)
  | .shared k => let r := (g.sc k).shutdown cap; (g.setSc k r.1, r.2.1, r.2.2)

/-- `Graph.StartAll` / `Extensions.Start`: returns also whether it succeeded (`false` = returned the error of the first failing
`Start`; the remaining nodes are not visited) -/
def startAll (cap : Nat) (hostReports : Bool) (g : GState) : List Node → GState × List Op × Bool
  | [] => (g, [], true)
  | n :: rest =>
    let r := g.startNode cap n hostReports
    if r.2.2 then
      (r.1, [(n.inst, Report.status .starting)] ++ r.2.1 ++ [(n.inst, Report.status .permanent)], false)
    else
      let r2 := startAll cap hostReports r.1 rest
      (r2.1, [(n.inst, Report.status .starting)] ++ r.2.1 ++ [(n.inst, Report.okIfStarting)] ++ r2.2.1, r2.2.2)

/-- `Graph.ShutdownAll` / `Extensions.Shutdown`: every node is visited, errors are collected -/
def stopAll (cap : Nat) (hostReports : Bool) (g : GState) : List Node → GState × List Op
  | [] => (g, [])
  | n :: rest =>
    let r := g.stopNode cap n hostReports
    let r2 := stopAll cap hostReports r.1 rest
    (r2.1, [(n.inst, Report.status .stopping)] ++ r.2.1 ++
      [(n.inst, Report.status (if r.2.2 then .permanent else .stopped))] ++ r2.2)

/-! ### the same loops, INTERPRETED from the regenerated skeletons (`Gen/StatusGlue.lean`) -/

def GAct.op (i : Inst) : GAct → Op
  | .rep s => (i, Report.status s)
  | .okIf => (i, Report.okIfStarting)

/-- one loop of the glue: `isStart` selects `comp.Start` / `comp.Shutdown`; the result says whether every call succeeded -/
def loopAll (cap : Nat) (sk : LoopSkel) (isStart hostReports : Bool) (g : GState) : List Node → GState × List Op × Bool
  | [] => (g, [], true)
  | n :: rest =>
    let r := if isStart then g.startNode cap n hostReports else g.stopNode cap n hostReports
    let head := sk.pre.map (GAct.op n.inst) ++ r.2.1
    if r.2.2 then
      match sk.exit with
      | .ret => (r.1, head ++ sk.onErr.map (GAct.op n.inst), false)
      | .cont =>
        let r2 := loopAll cap sk isStart hostReports r.1 rest
        (r2.1, head ++ sk.onErr.map (GAct.op n.inst) ++ r2.2.1, false)
    else
      let r2 := loopAll cap sk isStart hostReports r.1 rest
      (r2.1, head ++ sk.post.map (GAct.op n.inst) ++ r2.2.1, r2.2.2)

/-- the running phase (only after a successful start-up): every plain component that holds a host and every shared component
reports its `running` statuses.  The order ACROSS instances is immaterial for what each instance's watcher is shown
(`C11_interleaving`); here: plain components in start order, then the shared components. -/
def runPlain (hostReports : Bool) : List Node → List Op
  | [] => []
  | n :: rest =>
    (match n.kind with
     | .plain sc => ownReports n.inst hostReports sc.running
     | .shared _ => []) ++ runPlain hostReports rest

def runShared (cap : Nat) : List SC → List SC × List Op
  | [] => ([], [])
  | c :: cs => let r := c.run cap; let r2 := runShared cap cs; (r.1 :: r2.1, r.2 ++ r2.2)

/-- a service: extensions (start order), pipeline component instances in the order `StartAll` visits them and in the order
`ShutdownAll` visits them (the two topological orders are inputs), the inner components of the shared components -/
structure Sys where
  exts : List Node := []
  startOrder : List Node
  stopOrder : List Node
  shared : List Script := []
deriving Repr

/-- the state before `service.Start`: every shared component fresh -/
def Sys.g0 (s : Sys) : GState := { scs := s.shared.map (fun sc => { script := sc }) }

/-- `Service.Start`: the layers in the regenerated order, each `if err != nil { return }` -/
def Sys.startLayers (cap : Nat) (s : Sys) : List GLayer → GState → GState × List Op × Bool
  | [], g => (g, [], true)
  | l :: ls, g =>
    let r := match l with
      | .extensions => loopAll cap StatusGlue.extStart true StatusGlue.extStart.hostWrapped g s.exts
      | .pipelines => loopAll cap StatusGlue.graphStart true StatusGlue.graphStart.hostWrapped g s.startOrder
    if r.2.2 then let r2 := Sys.startLayers cap s ls r.1; (r2.1, r.2.1 ++ r2.2.1, r2.2.2)
    else (r.1, r.2.1, false)

/-- `Service.Shutdown`: every layer, in the regenerated order, errors collected -/
def Sys.stopLayers (cap : Nat) (s : Sys) : List GLayer → GState → GState × List Op
  | [], g => (g, [])
  | l :: ls, g =>
    let r := match l with
      | .extensions => loopAll cap StatusGlue.extStop false StatusGlue.extStart.hostWrapped g
                         (if StatusGlue.extStopBackwards then s.exts.reverse else s.exts)
      | .pipelines => loopAll cap StatusGlue.graphStop false StatusGlue.graphStart.hostWrapped g s.stopOrder
    let r2 := Sys.stopLayers cap s ls r.1
    (r2.1, r.2.1 ++ r2.2)

/-- `service.Start`, the running phase, `service.Shutdown` — interpreted from the regenerated skeletons -/
def Sys.ops (cap : Nat) (s : Sys) : List Op :=
  let st := Sys.startLayers cap s StatusGlue.serviceStart s.g0
  let rs := if st.2.2 then runShared cap st.1.scs else (st.1.scs, [])
  let rn := if st.2.2 then runPlain StatusGlue.graphStart.hostWrapped s.startOrder ++ rs.2 else []
  let g2 : GState := { st.1 with scs := rs.1 }
  let sp := Sys.stopLayers cap s StatusGlue.serviceStop g2
  st.2.1 ++ rn ++ sp.2

/-- the same run written out with the DOCUMENTED loops `startAll` / `stopAll` (`C11_glue_as_documented`: equal to `Sys.ops` for the
regenerated skeletons) -/
def Sys.opsDoc (cap : Nat) (s : Sys) : List Op :=
  let e := startAll cap false s.g0 s.exts                              -- `ServiceExtensions.Start(ctx, srv.host)`
  let p := if e.2.2 then startAll cap true e.1 s.startOrder else (e.1, [], false)   -- `Pipelines.StartAll`, if reached
  let ok := e.2.2 && p.2.2
  let rs := if ok then runShared cap p.1.scs else (p.1.scs, [])
  let rn := if ok then runPlain true s.startOrder ++ rs.2 else []
  let g2 : GState := { p.1 with scs := rs.1 }
  let sp := stopAll cap true g2 s.stopOrder                           -- `Pipelines.ShutdownAll`
  let se := stopAll cap false sp.1 s.exts.reverse                     -- `ServiceExtensions.Shutdown`
  e.2.1 ++ p.2.1 ++ rn ++ sp.2 ++ se.2

/-- the events an instance is shown before its first `Stopping` -/
def beforeStopping (l : List St) : List St := l.takeWhile (fun e => e != .stopping)

def projOp (i : Inst) (p : Op) : Option Report := if p.1 = i then some p.2 else Option.none

/-- what the watchers are shown for instance `i` -/
def Sys.events (cap : Nat) (s : Sys) (i : Inst) : List St := run .none ((s.ops cap).filterMap (projOp i))

end OtelVerif.C11

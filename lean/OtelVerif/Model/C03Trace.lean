import OtelVerif.Model.C03
/-!
# C03: the observable trace of a run of the LTS

`Rec` runs a schedule through `fire` and records what the harness would log: `acc` when an enqueue completes, `shutReq` when the
shutdown goroutine starts (`shutRetry`), `es`/`ee` around every call of the export function (call ids in order of the calls),
`shutRet` when `Shutdown` returns (`shutWait`).  The bridging theorems (`Props/C03Bridge.lean`) state that the trace of every run that
reaches "returned" is accepted by the monitors `checkMemory` / `checkPersistent` that judge the traces of the real exporter.
-/
namespace OtelVerif.C03

structure Rec where
  s : State
  tr : List Ev := []                 -- oldest first
  calls : Nat := 0                   -- export calls started so far = id of the next call
  pending : List (Nat × Nat) := []   -- (flight, call id) of the calls that have not returned yet
deriving Repr

def Rec.step (r : Rec) (l : Label) : Option Rec :=
  match fire r.s l with
  | none => none
  | some s' =>
    match l with
    | .offer b => some { r with s := s', tr := r.tr ++ [.acc b] }
    | .shutRetry => some { r with s := s', tr := r.tr ++ [.shutReq] }
    | .shutWait => some { r with s := s', tr := r.tr ++ [.shutRet] }
    | .expStart f =>
      some { s := s', tr := r.tr ++ [.es r.calls ((r.s.flights[f]?.map (·.batch)).getD [])], calls := r.calls + 1,
             pending := (f, r.calls) :: r.pending }
    | .expEnd f o _ =>
      match r.pending.lookup f with
      | some c => some { r with s := s', tr := r.tr ++ [.ee c (o != .ok)], pending := r.pending.filter (fun p => p.1 != f) }
      | none => some { r with s := s' }
    | _ => some { r with s := s' }

def Rec.run (r : Rec) : List Label → Option Rec
  | [] => some r
  | l :: ls => match r.step l with
    | some r' => r'.run ls
    | none => none

def Rec.start (cfg : Cfg) (nCons workers : Nat) (timer : Bool) : Rec := { s := init cfg nCons workers timer }

end OtelVerif.C03

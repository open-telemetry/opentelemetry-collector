import OtelVerif.Model.C18
import OtelVerif.Gen.MemLimiter
/-!
# C18: the bridge between the hand-written model and the definitions REGENERATED from /repo

`Gen/MemLimiter.lean` is written by `translators/cmd/gofunlean` on every run: `Config`, `NewDefaultConfig`,
`Config.Validate`, `memUsageChecker.aboveSoftLimit/aboveHardLimit`, `newFixedMemUsageChecker`,
`newPercentageMemUsageChecker`, `getMemUsageChecker`, `MemoryLimiter.doGCandReadMemStats`,
`MemoryLimiter.CheckMemLimits` (compiled statement by statement from the Go source), the decision of
`iruntime.TotalMemory`, the shape table of the four `process*` functions.  This file maps the model's types onto
the generated ones and adds the code around the core: construction with its error path
(`NewMemoryLimiter`), total memory (`TotalMemory`), the factory's limiter cache.  `Props/C18.lean` proves the model
equal to the generated definitions (`C18_src_*`), so a change of the Go source re-checks every theorem.
-/
namespace OtelVerif.C18
open OtelVerif.Gen

def Config.toGo (c : Config) : MemLimiter.Config :=
  { CheckInterval := c.checkInterval, MinGCIntervalWhenSoftLimited := c.gcSoft, MinGCIntervalWhenHardLimited := c.gcHard,
    MemoryLimitMiB := c.limitMiB, MemorySpikeLimitMiB := c.spikeMiB, MemoryLimitPercentage := c.limitPct,
    MemorySpikePercentage := c.spikePct }

def Config.ofGo (g : MemLimiter.Config) : Config :=
  { checkInterval := g.CheckInterval, gcSoft := g.MinGCIntervalWhenSoftLimited, gcHard := g.MinGCIntervalWhenHardLimited,
    limitMiB := g.MemoryLimitMiB, spikeMiB := g.MemorySpikeLimitMiB, limitPct := g.MemoryLimitPercentage,
    spikePct := g.MemorySpikePercentage }

def Checker.toGo (k : Checker) : MemLimiter.memUsageChecker := { memAllocLimit := k.limit, memSpikeLimit := k.spike }

/-- the error variable `Validate` returns for the model's index (order of the checks) -/
def validateErrName : Nat → Option String
  | 1 => some "errCheckIntervalOutOfRange"
  | 2 => some "errInconsistentGCMinInterval"
  | 3 => some "errLimitOutOfRange"
  | 4 => some "errLimitPercentageOutOfRange"
  | 5 => some "errSpikeLimitOutOfRange"
  | 6 => some "errSpikeLimitPercentageOutOfRange"
  | _ => none

/-- name of the error the generated `Validate` returns (index into the declaration order of config.go) -/
def srcErrName (i : Nat) : Option String := if i = 0 then none else MemLimiter.errNames[i - 1]?

def Checker.ofGo (g : MemLimiter.memUsageChecker) : Checker := ⟨g.memAllocLimit, g.memSpikeLimit⟩

/-- `getMemUsageChecker` parametric in the percentage function (`newPercentageMemUsageChecker`) -/
def mkCheckerG (pct : Nat → Nat → Nat → Checker) (c : Config) (total : Nat) : Checker :=
  if c.limitMiB ≠ 0 then newFixed (wmul c.limitMiB mib) (wmul c.spikeMiB mib)
  else pct total c.limitPct c.spikePct

/-- the REPAIRED percentage computation (`percentOf`, fix "memory limiter computes percentage limits without overflowing
uint64"): `pct·(total/100) + pct·(total%100)/100`, every `uint64` operation with its wrap-around -/
def pctOf (total p : Nat) : Nat := (wmul p (total / 100) + wmul p (total % 100) / 100) % W
def newPctSafe (total pl ps : Nat) : Checker := newFixed (pctOf total pl) (pctOf total ps)
def mkCheckerSafe (c : Config) (total : Nat) : Checker := mkCheckerG newPctSafe c total

/-- the percentage function of the source AS IT IS (the regenerated `newPercentageMemUsageChecker`) -/
def srcPct (total pl ps : Nat) : Checker := Checker.ofGo (MemLimiter.newPercentageMemUsageChecker total pl ps)
def mkCheckerSrc (c : Config) (total : Nat) : Checker := mkCheckerG srcPct c total

/-- the source computes percentages the unrepaired way (`pct*total/100`, product in `uint64`) -/
def SrcPctPinned : Prop := ∀ T pl ps, srcPct T pl ps = newPct T pl ps
/-- the source computes percentages the repaired way -/
def SrcPctSafe : Prop := ∀ T pl ps, srcPct T pl ps = newPctSafe T pl ps

/-- `getMemUsageChecker` with its error path: `mem` = what `GetMemoryFn()` returned (`none` = an error);
only consulted on the percentage path -/
def mkCheckerGE (pct : Nat → Nat → Nat → Checker) (c : Config) (mem : Option Nat) : Option Checker :=
  if c.limitMiB ≠ 0 then some (mkCheckerG pct c 0)
  else match mem with
    | none => none
    | some total => some (mkCheckerG pct c total)

def mkCheckerE (c : Config) (mem : Option Nat) : Option Checker := mkCheckerGE newPct c mem

/-- what `NewMemoryLimiter` builds (`none` = it returned the error of `getMemUsageChecker`): the checker, the
two GC intervals and the check interval copied from the config; `mustRefuse = false`, `lastGCDone = now` -/
structure Limiter where
  k : Checker
  gcSoft : Int
  gcHard : Int
  checkInterval : Int
  st : LState
deriving Repr, DecidableEq

def newLimiterG (pct : Nat → Nat → Nat → Checker) (c : Config) (mem : Option Nat) (now : Int) : Option Limiter :=
  (mkCheckerGE pct c mem).map fun k => { k := k, gcSoft := c.gcSoft, gcHard := c.gcHard, checkInterval := c.checkInterval,
                                          st := { mustRefuse := false, lastGC := now } }

def newLimiter (c : Config) (mem : Option Nat) (now : Int) : Option Limiter := newLimiterG newPct c mem now
/-- construction with the percentage function of the source as it is (what the driver runs) -/
def newLimiterSrc (c : Config) (mem : Option Nat) (now : Int) : Option Limiter := newLimiterG srcPct c mem now

def Limiter.toGo (l : Limiter) : MemLimiter.MemoryLimiter :=
  { usageChecker := l.k.toGo, minGCIntervalWhenSoftLimited := l.gcSoft, minGCIntervalWhenHardLimited := l.gcHard }

/-- the world a check of the model's `Reading` runs in: first reading `alloc`, a second one (only taken after a
forced GC) `allocAfterGC` -/
def worldOf (s : LState) (r : Reading) (rest : List Nat) : MemLimiter.World :=
  { mustRefuse := s.mustRefuse, lastGCDone := s.lastGC, now := r.now, reads := r.alloc :: r.allocAfterGC :: rest, gcDur := r.gcDur }

/-! ## `iruntime.TotalMemory` (linux) -/

/-- results of the cgroup reads `TotalMemory` makes: `none` = `IsCGroupV2` / `MemoryQuotaV2` /
`NewCGroupsForCurrentProcess` / `MemoryQuota` returned an error; else `(memoryQuota, defined)` -/
abbrev Quota := Option (Int × Bool)

/-- `TotalMemory`: an error of a cgroup call is returned; a quota that is undefined or the v1 "unlimited"
value falls back to `/proc/meminfo` (`memInfo`, `none` = its error); otherwise `uint64(memoryQuota)` -/
def totalMemory (q : Quota) (memInfo : Option Nat) : Option Nat :=
  match q with
  | none => none
  | some (quota, defined) =>
    if quota = 9223372036854771712 ∨ defined = false then memInfo
    else some (quota % 18446744073709551616).toNat

/-! ## cgroup v2: `cgroups.memoryQuotaV2` (reads `<mount>/memory.max`) -/

/-- ASCII white space as `strings.TrimSpace` sees it -/
def isSpaceCh (c : Char) : Bool := c = ' ' || c = '\t' || c = '\n' || c = '\r' || c.toNat = 11 || c.toNat = 12
def trimSpace (s : List Char) : List Char := ((s.dropWhile isSpaceCh).reverse.dropWhile isSpaceCh).reverse

/-- first token of `bufio.Scanner` with `ScanLines`: up to the first `\n` (dropped), one trailing `\r` dropped;
`none` = empty input (`Scan` returns false) -/
def firstLine (s : List Char) : Option (List Char) :=
  if s.isEmpty then none else
    let l := s.takeWhile (· != '\n')
    some (if l.getLast? = some '\r' then l.dropLast else l)

def digitsVal (ds : List Char) : Nat := ds.foldl (fun a c => a * 10 + (c.toNat - 48)) 0

def parseDigits (neg : Bool) (ds : List Char) : Option Int :=
  if ds.isEmpty || !ds.all Char.isDigit then none
  else if neg then (if digitsVal ds ≤ 9223372036854775808 then some (-(digitsVal ds : Int)) else none)
  else (if digitsVal ds < 9223372036854775808 then some (digitsVal ds : Int) else none)

/-- `strconv.ParseInt(s, 10, 64)`: optional sign, at least one decimal digit and nothing else, `int64` range -/
def parseInt64 : List Char → Option Int
  | '-' :: r => parseDigits true r
  | '+' :: r => parseDigits false r
  | r => parseDigits false r

inductive V2File
  | absent                      -- os.Open: not exist
  | unreadable                  -- os.Open / the read fails otherwise
  | content (s : List Char)
deriving Repr, DecidableEq

/-- `memoryQuotaV2`: no file or `max` → quota undefined; a decimal `int64` → that quota; anything else (empty file,
garbage, out of range, I/O error) → error (`none`) -/
def memoryQuotaV2 : V2File → Quota
  | .absent => some (-1, false)
  | .unreadable => none
  | .content s =>
    match firstLine s with
    | none => none
    | some l =>
      let v := trimSpace l
      if v = ['m', 'a', 'x'] then some (-1, false) else (parseInt64 v).map (fun n => (n, true))

/-- cgroup v1: `CGroups.MemoryQuota` — `mem` = state of `memory.limit_in_bytes` of the process's memory cgroup (`none` = the
process has no memory subsystem entry). `readInt` parses the first line WITHOUT trimming; a value ≤ 0 means "not set" -/
def memoryQuotaV1 : Option V2File → Quota
  | none => some (-1, false)
  | some .absent => none            -- os.Open fails: readInt returns the error
  | some .unreadable => none
  | some (.content s) =>
    match firstLine s with
    | none => none
    | some l =>
      match parseInt64 l with
      | none => none
      | some n => if n > 0 then some (n, true) else some (-1, false)

/-- construction from the machine's state, percentage path included: `GetMemoryFn = iruntime.TotalMemory` -/
def newLimiterOnHost (c : Config) (q : Quota) (memInfo : Option Nat) (now : Int) : Option Limiter :=
  newLimiterSrc c (totalMemory q memInfo) now

/-! ## the factory's cache of limiters (`factory.getMemoryLimiter`): one limiter per configuration KEY
(`map[component.Config]…` — the key is the `*Config` pointer, not its value) -/

structure Factory where
  /-- (config key, id of the limiter) in creation order -/
  cache : List (Nat × Nat) := []
deriving Repr, DecidableEq

def Factory.lookup (f : Factory) (key : Nat) : Option Nat := (f.cache.find? (·.1 = key)).map (·.2)

/-- `getMemoryLimiter`: the cached limiter of this key, else a new one (`ok = false`: `newMemoryLimiterProcessor`
failed — nothing is cached) -/
def Factory.get (f : Factory) (key : Nat) (ok : Bool) : Factory × Option Nat :=
  match f.lookup key with
  | some id => (f, some id)
  | none => if ok then ({ cache := f.cache ++ [(key, f.cache.length)] }, some f.cache.length) else (f, none)

/-- create a sequence of processors `(key, construction succeeds)`; the limiter each one got -/
def Factory.creates : Factory → List (Nat × Bool) → List (Option Nat)
  | _, [] => []
  | f, (k, ok) :: rest => (f.get k ok).2 :: Factory.creates (f.get k ok).1 rest

/-! ## the processor's `process*` functions and their obsreport, read off the regenerated tables -/

def Sig.processFn : Sig → String
  | .logs => "processLogs" | .traces => "processTraces" | .metrics => "processMetrics" | .profiles => "processProfiles"

/-- what `process<sig>` records for `n` items according to the regenerated tables: the row of the function names the signal
it hands to `obsrep.refused` / `obsrep.accepted`; the count lands on an instrument only if `obsReport.<m>` has a case for
that signal -/
def countsFromTables (sig : Sig) (refusing : Bool) (n : Nat) : Counts :=
  match MemLimiter.processTable.find? (·.1 = sig.processFn) with
  | none => {}
  | some (_, _, rsig, asig) =>
    if refusing then { refused := if (MemLimiter.obs_refused.any (·.1 = rsig)) then n else 0 }
    else { accepted := if (MemLimiter.obs_accepted.any (·.1 = asig)) then n else 0 }

/-! ## source pins: the statements (tracing / logging removed) of the functions the hand-written model was written from and
that are outside the compiled subset (loops, select, channels, goroutines). `Props` proves the regenerated skeletons equal to these, so any edit of those functions stops the
build until the model has been re-examined. -/

def pin_start : List String := [
  "ml.refCounterLock.Lock()",
  "defer ml.refCounterLock.Unlock()",
  "ml.refCounter++",
  "if ml.refCounter == 1 { ml.ticker.Reset(ml.memCheckWait); ml.closed = make(chan struct{}); ml.waitGroup.Add(1); go func() { defer ml.waitGroup.Done(); for { select { case <-ml.ticker.C:  | case <-ml.closed: return }; ml.CheckMemLimits() } }() }",
  "return nil"
]

def pin_shutdown : List String := [
  "ml.refCounterLock.Lock()",
  "defer ml.refCounterLock.Unlock()",
  "switch ml.refCounter { case 0: return ErrShutdownNotStarted | case 1: ml.ticker.Stop(); close(ml.closed); ml.waitGroup.Wait() }",
  "ml.refCounter--",
  "return nil"
]

def pin_mustRefuse : List String := [
  "return ml.mustRefuse.Load()"
]

def pin_extStart : List String := [
  "return ml.memLimiter.Start(ctx, host)"
]

def pin_extShutdown : List String := [
  "return ml.memLimiter.Shutdown(ctx)"
]

def pin_extMustRefuse : List String := [
  "return ml.memLimiter.MustRefuse()"
]

def pin_memoryQuotaV2 : List String := [
  "memoryMaxParams, err := os.Open(filepath.Clean(filepath.Join(cgroupv2MountPoint, cgroupv2MemoryMax)))",
  "if err != nil { if os.IsNotExist(err) { return -1, false, nil }; return -1, false, err }",
  "scanner := bufio.NewScanner(memoryMaxParams)",
  "if scanner.Scan() { value := strings.TrimSpace(scanner.Text()); if value == \"max\" { return -1, false, nil }; maxVal, err := strconv.ParseInt(value, 10, 64); if err != nil { return -1, false, err }; return maxVal, true, nil }",
  "if err := scanner.Err(); err != nil { return -1, false, err }",
  "return -1, false, io.ErrUnexpectedEOF"
]

def pin_memoryQuotaV1 : List String := [
  "memCGroup, exists := cg[_cgroupSubsysMemory]",
  "if !exists { return -1, false, nil }",
  "memLimitBytes, err := memCGroup.readInt(_cgroupMemoryLimitBytes)",
  "if defined := memLimitBytes > 0; err != nil || !defined { return -1, defined, err }",
  "return memLimitBytes, true, nil"
]

def pin_readFirstLine : List String := [
  "paramFile, err := os.Open(cg.ParamPath(param))",
  "if err != nil { return \"\", err }",
  "defer paramFile.Close()",
  "scanner := bufio.NewScanner(paramFile)",
  "if scanner.Scan() { return scanner.Text(), nil }",
  "if err := scanner.Err(); err != nil { return \"\", err }",
  "return \"\", io.ErrUnexpectedEOF"
]

def pin_readInt : List String := [
  "text, err := cg.readFirstLine(param)",
  "if err != nil { return 0, err }",
  "return strconv.ParseInt(text, 10, 64)"
]

def pin_getMemoryLimiter : List String := [
  "f.lock.Lock()",
  "defer f.lock.Unlock()",
  "if memLimiter, ok := f.memoryLimiters[cfg]; ok { return memLimiter, nil }",
  "set.TelemetrySettings = telemetry.WithoutAttributes(set.TelemetrySettings, componentattribute.SignalKey, componentattribute.PipelineIDKey, componentattribute.ComponentIDKey)",
  "set.Logger.Debug(\"created singleton logger\")",
  "memLimiter, err := newMemoryLimiterProcessor(set, cfg.(*Config))",
  "if err != nil { return nil, err }",
  "f.memoryLimiters[cfg] = memLimiter",
  "return memLimiter, nil"
]

/-- all pins at once -/
def SrcPinned : Prop :=
    MemLimiter.skel_start = pin_start ∧
    MemLimiter.skel_shutdown = pin_shutdown ∧
    MemLimiter.skel_mustRefuse = pin_mustRefuse ∧
    MemLimiter.skel_extStart = pin_extStart ∧
    MemLimiter.skel_extShutdown = pin_extShutdown ∧
    MemLimiter.skel_extMustRefuse = pin_extMustRefuse ∧
    MemLimiter.skel_memoryQuotaV2 = pin_memoryQuotaV2 ∧
    MemLimiter.skel_memoryQuotaV1 = pin_memoryQuotaV1 ∧
    MemLimiter.skel_readFirstLine = pin_readFirstLine ∧
    MemLimiter.skel_readInt = pin_readInt ∧
    MemLimiter.skel_getMemoryLimiter = pin_getMemoryLimiter

end OtelVerif.C18

import OtelVerif.Model.C19Sender
import OtelVerif.Model.C19Exp
/-!
# C19: a recorded exporter trace as the sequence of `obsReportSender` / `obsQueue` events the per-call model consumes

`senderEvs` turns the trace of the exporter harness into the events of `Model/C19Sender.lean`: one `flightEnd` per chain of export
calls (items of the FIRST call — the count is read before the send —, error of the LAST call), one `offerRet` per `Send` that
returned (queue-ful exporters only: a queue-less exporter has no `obsQueue`).  The exporter driver prints the counters of
`Sender.run signal (senderEvs …)` as its `obs counters` line (diffed with the real meter values); `Props/C19SenderTrace.lean` proves
them equal to `predict`.
-/
namespace OtelVerif.C19

/-- (items of the first call, final call failed) of every chain of calls with a recorded final outcome — the `finals` of `predict` -/
def finalsOf (t : List XEv) : List (Nat × Bool) :=
  let calls := callsOf t
  let roots := calls.filter (fun p => rootOf calls p == p.1)
  roots.filterMap (fun r =>
    match (calls.filter (fun p => rootOf calls p == r.1)).getLast? with
    | some l => (outcomeOf t l.1).map (fun f => (r.2.length, f))
    | none => none)

def offersOf (t : List XEv) : List Sender.Ev :=
  t.filterMap (fun e => match e with
    | .acc is => some (.offerRet is.length false)
    | .rej is => some (.offerRet is.length true)
    | _ => none)

def senderEvs (t : List XEv) (direct : Bool) : List Sender.Ev :=
  (finalsOf t).map (fun p => .flightEnd p.1 p.2) ++ (if direct then [] else offersOf t)

end OtelVerif.C19

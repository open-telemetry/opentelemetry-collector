import OtelVerif.Model.C13
import OtelVerif.Model.C13Types
/-!
# C13 model (faithfulness): decoding a configuration map onto defaults, and encoding the result

`decodeV S d v` mirrors what `confmap.Conf.Unmarshal` does for a type of key-space schema `S` whose
current value (the factory default) is `d`, given the written configuration `v`: scalars, text kinds,
opaque strings, slices and maps take the written value; structs are decoded field by field, a field
whose key is not written keeps its default; a nil pointer used as an optional is allocated (zero value)
when something below it is written.  `encodeV` mirrors `confmap.Conf.Marshal` of the typed result:
opaque leaves are shown as the redaction marker — also as elements of a map or slice of opaque strings.  Other slices
and maps are atoms here.
-/
namespace OtelVerif.C13

/-- typed configuration, seen through its keys -/
inductive TV
  | atom (v : Val)
  | nilp
  | struct (fs : List (String × TV))
deriving Repr

/-- effective configuration -/
inductive EV
  | val (v : Val)
  | redacted
  | nil
  | map (kvs : List (String × EV))
  | list (xs : List EV)
deriving Repr

mutual
def zero : KS → TV
  | .struct fs => .struct (zeroF fs)
  | .ptr _ => .nilp
  | _ => .atom (.scalar 0)
def zeroF : List (String × KS) → List (String × TV)
  | [] => []
  | (k, s) :: fs => (k, zero s) :: zeroF fs
end

mutual
def decodeV : KS → TV → Val → Option TV
  | .scalar, _, .scalar n => some (.atom (.scalar n))
  | .scalar, _, _ => none
  | .opaque, _, .scalar n => some (.atom (.scalar n))
  | .opaque, _, _ => none
  | .text _, _, .scalar n => some (.atom (.scalar n))
  | .text _, _, _ => none
  | .custom _, _, v => some (.atom v)
  | .iface, _, v => some (.atom v)
  | .slice _, _, .list vs => some (.atom (.list vs))
  | .slice _, _, _ => none
  | .map _ _, _, .map kvs => some (.atom (.map kvs))
  | .map _ _, _, _ => none
  | .ptr s, .nilp, v => decodeV s (zero s) v
  | .ptr s, d, v => decodeV s d v
  | .struct fs, .struct dfs, .map kvs =>
    if kvs.all (fun p => (fs.map (·.1)).contains p.1) then (decodeFs fs dfs kvs).map .struct else none   -- ErrorUnused
  | .struct _, _, _ => none
def decodeFs : List (String × KS) → List (String × TV) → List (String × Val) → Option (List (String × TV))
  | [], _, _ => some []
  | (k, s) :: fs, (_, dv) :: dfs, kvs =>
    match lookupVal kvs k with
    | some v =>
      match decodeV s dv v, decodeFs fs dfs kvs with
      | some t, some rest => some ((k, t) :: rest)
      | _, _ => none
    | none =>
      match decodeFs fs dfs kvs with
      | some rest => some ((k, dv) :: rest)
      | none => none
  | _ :: _, [], _ => none
end

mutual
/-- the value at a key path; a nil optional shows the zero value of its type -/
def getPath : KS → TV → List String → Option TV
  | _, t, [] => some t
  | .ptr s, .nilp, k :: p => getPath s (zero s) (k :: p)
  | .ptr s, t, k :: p => getPath s t (k :: p)
  | .struct fs, .struct tfs, k :: p => getF fs tfs k p
  | _, _, _ :: _ => none
def getF : List (String × KS) → List (String × TV) → String → List String → Option TV
  | (k', s) :: fs, (_, t) :: tfs, k, p => if k' == k then getPath s t p else getF fs tfs k p
  | _, _, _, _ => none
end

mutual
/-- the value at a key path, not looking through nil optionals (what the encoder can show) -/
def getS : KS → TV → List String → Option TV
  | _, t, [] => some t
  | .ptr _, .nilp, _ :: _ => none
  | .ptr s, t, k :: p => getS s t (k :: p)
  | .struct fs, .struct tfs, k :: p => getSF fs tfs k p
  | _, _, _ :: _ => none
def getSF : List (String × KS) → List (String × TV) → String → List String → Option TV
  | (k', s) :: fs, (_, t) :: tfs, k, p => if k' == k then getS s t p else getSF fs tfs k p
  | _, _, _, _ => none
end

def isLeafKind : KS → Bool
  | .struct _ => false
  | .ptr s => isLeafKind s
  | _ => true

def isOpaqueKind : KS → Bool
  | .opaque => true
  | .ptr s => isOpaqueKind s
  | _ => false

/-- the written value at a key path -/
def valGet : Val → List String → Option Val
  | v, [] => some v
  | .map kvs, k :: p => (lookupVal kvs k).bind (fun v => valGet v p)
  | _, _ :: _ => none

/-- nothing at or above this path is written -/
def untouched : Val → List String → Bool
  | .map kvs, k :: p =>
    match lookupVal kvs k with
    | none => true
    | some v => untouched v p
  | _, _ => false

mutual
/-- the typed value has the shape of the schema -/
def shape : KS → TV → Bool
  | .struct fs, .struct tfs => shapeF fs tfs
  | .struct _, _ => false
  | .ptr _, .nilp => true
  | .ptr s, t => shape s t
  | _, .atom _ => true
  | _, _ => false
def shapeF : List (String × KS) → List (String × TV) → Bool
  | [], [] => true
  | (_, s) :: fs, (_, t) :: tfs => shape s t && shapeF fs tfs
  | _, _ => false
end

mutual
/-- the kind of hook that sits at a key path -/
def kindAt : KS → List String → Option KS
  | s, [] => some s
  | .ptr s, k :: p => kindAt s (k :: p)
  | .struct fs, k :: p => kindAtF fs k p
  | _, _ :: _ => none
def kindAtF : List (String × KS) → String → List String → Option KS
  | (k', s) :: fs, k, p => if k' == k then kindAt s p else kindAtF fs k p
  | [], _, _ => none
end

mutual
/-- `confmap.Conf.Marshal` of the typed configuration -/
def encodeV : KS → TV → EV
  | .opaque, .atom _ => .redacted
  | .map _ .opaque, .atom (.map kvs) => .map (kvs.map (fun p => (p.1, EV.redacted)))   -- headers: every VALUE redacted, keys shown
  | .slice .opaque, .atom (.list vs) => .list (vs.map (fun _ => EV.redacted))
  | .ptr _, .nilp => .nil
  | .ptr s, t => encodeV s t
  | .struct fs, .struct tfs => .map (encodeF fs tfs)
  | _, .atom v => .val v
  | _, _ => .nil
def encodeF : List (String × KS) → List (String × TV) → List (String × EV)
  | (k, s) :: fs, (_, t) :: tfs => (k, encodeV s t) :: encodeF fs tfs
  | _, _ => []
end

def evGet : EV → List String → Option EV
  | e, [] => some e
  | .map kvs, k :: p => ((kvs.find? (fun q => q.1 == k)).map (·.2)).bind (fun e => evGet e p)
  | _, _ :: _ => none

def keysNodup : List String → Bool
  | [] => true
  | k :: ks => !ks.contains k && keysNodup ks

mutual
/-- every struct level has pairwise distinct keys (after squash inlining): no written key feeds two fields -/
def keysUnique : KS → Bool
  | .struct fs => keysNodup (fs.map (·.1)) && keysUniqueF fs
  | .ptr s => keysUnique s
  | .slice s => keysUnique s
  | .map _ s => keysUnique s
  | _ => true
def keysUniqueF : List (String × KS) → Bool
  | [] => true
  | (_, s) :: fs => keysUnique s && keysUniqueF fs
end

mutual
/-- no map anywhere is keyed by an opaque string -/
def noOpaqueKey : KS → Bool
  | .struct fs => noOpaqueKeyF fs
  | .ptr s => noOpaqueKey s
  | .slice s => noOpaqueKey s
  | .map ko s => !ko && noOpaqueKey s
  | _ => true
def noOpaqueKeyF : List (String × KS) → Bool
  | [] => true
  | (_, s) :: fs => noOpaqueKey s && noOpaqueKeyF fs
end

mutual
/-- positions decoded by a type's own `Unmarshal` (outside the generic theorem): their paths -/
def customPaths : KS → List String → List (String × String)
  | .custom n, p => [("::".intercalate p.reverse, n)]
  | .struct fs, p => customPathsF fs p
  | .ptr s, p => customPaths s p
  | .slice s, p => customPaths s ("[]" :: p)
  | .map _ s, p => customPaths s ("*" :: p)
  | _, _ => []
def customPathsF : List (String × KS) → List String → List (String × String)
  | [], _ => []
  | (k, s) :: fs, p => customPaths s (k :: p) ++ customPathsF fs p
end

/-! ## custom `Unmarshal` hooks

The built-in types with their own `Unmarshal(*confmap.Conf)` all have the same form: the generic
decode, preceded or followed by a small fix-up that looks at which keys are written.  Each fix-up is
a function over the typed tree, expressed with `setPath`. -/

mutual
/-- replace the value at a key path (through optionals; a nil optional on the way is left alone) -/
def setPath : KS → TV → List String → TV → TV
  | _, _, [], x => x
  | .ptr _, .nilp, _ :: _, _ => .nilp
  | .ptr s, t, k :: p, x => setPath s t (k :: p) x
  | .struct fs, .struct tfs, k :: p, x => .struct (setF fs tfs k p x)
  | _, t, _ :: _, _ => t
def setF : List (String × KS) → List (String × TV) → String → List String → TV → List (String × TV)
  | (k', s) :: fs, (kt, t) :: tfs, k, p, x =>
    if k' == k then (kt, setPath s t p x) :: tfs else (kt, t) :: setF fs tfs k p x
  | _, tfs, _, _, _ => tfs
end

/-- is the key path written (at least down to it)? — `conf.IsSet` -/
def isSet (v : Val) (p : List String) : Bool := (valGet v p).isSome

inductive Hook
  /-- queuebatch.Config: `if IsSet(src) && !IsSet(dst) { dst = src }` after the decode (deprecated `blocking`) -/
  | aliasIfUnset (at_ : List String) (src dst : String)
  /-- otlpreceiver.Config: `if !IsSet(k) { field k = nil }` after the decode, for each optional protocol -/
  | dropUnset (paths : List (List String))
  /-- otlpexporter.Config: `if IsSet(k) { field k = <fresh default> }` before the decode (deprecated `batcher`);
  the fresh value only matters for unwritten settings below the written key and is not modelled (zero value) -/
  | resetWhenSet (path : List String)
  /-- otlpreceiver.Config: `sanitizeURLPath` rewrites these *written* leaves (adds the leading "/"): the result is not
  modelled; the positions are excluded from the faithfulness claims (named exception) -/
  | normalizes (paths : List (List String))
deriving Repr

def preHook (S : KS) (v : Val) (d : TV) : Hook → TV
  | .resetWhenSet q => if isSet v q then setPath S d q ((kindAt S q).elim d zero) else d
  | _ => d

def postHook (S : KS) (v : Val) (t : TV) : Hook → TV
  | .aliasIfUnset q src dst =>
    if isSet v (q ++ [src]) && !isSet v (q ++ [dst]) then
      match getS S t (q ++ [src]) with
      | some (.atom a) => setPath S t (q ++ [dst]) (.atom a)
      | _ => t
    else t
  | .dropUnset paths => paths.foldl (fun t q => if isSet v q then t else setPath S t q .nilp) t
  | .resetWhenSet _ => t
  | .normalizes _ => t

/-- a component's `Unmarshal`: fix-ups before, the generic decode, fix-ups after -/
def decodeC (hooks : List Hook) (S : KS) (d : TV) (v : Val) : Option TV :=
  (decodeV S (hooks.foldl (preHook S v) d) v).map (fun t => hooks.foldl (postHook S v) t)

def incomparable (q p : List String) : Bool := !(q.isPrefixOf p) && !(p.isPrefixOf q)

/-- the hook sits on positions of the kinds it expects -/
def Hook.wellPlaced (S : KS) : Hook → Bool
  | .aliasIfUnset q src dst =>
    (kindAt S (q ++ [src])).map isLeafKind == some true && (kindAt S (q ++ [dst])).map isLeafKind == some true
  | .dropUnset paths => paths.all (fun q => match kindAt S q with | some (.ptr _) => true | _ => false)
  | .resetWhenSet q => (kindAt S q).isSome
  | .normalizes paths => paths.all (fun q => (kindAt S q).map isLeafKind == some true)

/-- the hook does not touch the key path `p` for this written configuration: it does not fire, or what it
rewrites is neither above nor below `p` -/
def Hook.compatible (v : Val) (p : List String) : Hook → Bool
  | .aliasIfUnset q src dst => !(isSet v (q ++ [src]) && !isSet v (q ++ [dst])) || incomparable (q ++ [dst]) p
  | .dropUnset paths => paths.all (fun q => isSet v q || incomparable q p)
  | .resetWhenSet _ => true
  | .normalizes paths => paths.all (fun q => incomparable q p)

/-- the key paths a hook may rewrite although they are not written (the named exceptions of "unwritten
settings keep their default") -/
def Hook.targets : Hook → List (List String)
  | .aliasIfUnset q _ dst => [q ++ [dst]]
  | .dropUnset paths => paths
  | .resetWhenSet q => [q]
  | .normalizes paths => paths

/-- the hand-modelled fix-ups of the built-in types with their own `Unmarshal`, by Go type name, for a
position at key path `q` of a component (which type sits where is regenerated: `Gen.ConfigSchemas.customPositions`) -/
def hooksOfType (goType : String) (q : List String) : Option (List Hook) :=
  if goType == "queuebatch.Config" then some [.aliasIfUnset q "blocking" "block_on_overflow"]
  else if goType == "otlpreceiver.Config" then
    some [.dropUnset [q ++ ["protocols", "grpc"], q ++ ["protocols", "http"]],
          .normalizes [q ++ ["protocols", "http", "traces_url_path"], q ++ ["protocols", "http", "metrics_url_path"],
                       q ++ ["protocols", "http", "logs_url_path"]]]
  else if goType == "otlpexporter.Config" then some [.resetWhenSet (q ++ ["batcher"])]
  else none

/-- all fix-ups of a component, from the regenerated list of custom positions; `none` if some position has no model -/
def componentHooks (custom : List (String × List String × String)) (comp : String) : Option (List Hook) :=
  ((custom.filter (fun c => c.1 == comp)).mapM (fun c => hooksOfType c.2.2 c.2.1)).map List.flatten

end OtelVerif.C13

import OtelVerif.Model.C02Pinned
import OtelVerif.Lemmas.C02Check
import OtelVerif.Lemmas.C02Cond
import OtelVerif.Lemmas.C02R
import OtelVerif.Lemmas.C02A
import OtelVerif.Model.C02G
import OtelVerif.Model.C02V
import OtelVerif.Lemmas.C02PFair
/-!
# C02 — sending queue: exactly-once hand-off, FIFO, bounded size, no lost wake-ups

Every theorem quantifies over **all** schedules (`Reachable k s` = reached from the empty queue by any
list of labels: any number of producers, consumers, completions, cancellations, a shutdown, in any
interleaving), all capacities `0 ≤ cap`, both `block_on_overflow` and `wait_for_result` settings, and all
request sizes (`Int`: zero, negative and larger-than-capacity sizes included).  The model
(`Model/C02.lean`) mirrors `memory_queue.go` and the repaired `cond.go`; the invariants are in
`Lemmas/C02.lean`.  After the memory queue: the persistent queue (`pfire`, `Lemmas/C02P.lean`), the consumer side, item keys, the
cond.go before the fix (`Model/C02Pinned.lean`), the oracle clauses (`Model/C02Check.lean`), `cond.go` alone, wait_for_result
converse and arbitrary start (`InvT`), fair runs and per-producer liveness (`C02Fair`), size across lives (`C02R`), the consumer
pool (`C02A`), the persistent queue's termination and fair runs (`C02PFair`), regenerated guards (`C02G`), `Validate`
(`C02V`), example runs.
-/
namespace OtelVerif.C02

variable {k : Cfg} {s : St}

/-! ## hand-off: FIFO and exactly once -/

/-- pop order = push order: everything handed over so far, followed by what is still queued, is the
acceptance sequence.  With a single consumer `handed` is that consumer's hand-off order. -/
theorem C02_fifo (hk : 0 ≤ k.cap) (hr : Reachable k s) : s.handed ++ s.items.map Prod.fst = s.accepted :=
  (Inv.reachable hk hr).H.fifo

/-- every accepted request is handed over at most once and is either handed or still queued; a refused
request is never handed (nor queued) -/
theorem C02_exactly_once (hk : 0 ≤ k.cap) (hr : Reachable k s) :
    s.handed.Nodup ∧ s.accepted.Nodup ∧
    (∀ id, id ∈ s.accepted ↔ (id ∈ s.handed ∨ id ∈ s.items.map Prod.fst)) ∧
    (∀ id ∈ s.handed, id ∉ s.items.map Prod.fst) ∧
    (∀ id ∈ s.refused, id ∉ s.handed ∧ id ∉ s.items.map Prod.fst) :=
  (Inv.reachable hk hr).H.exactly_once

/-- a zero-sized request is answered `nil` without touching the queue, and nothing of size ≤ 0 is ever queued
or handed over -/
theorem C02_zero_size_ignored (hk : 0 ≤ k.cap) (hr : Reachable k s) :
    (∀ p s', fire k s (.offer p 0) = some s' →
      s'.accepted = s.accepted ∧ s'.items = s.items ∧ s'.size = s.size ∧ (s'.ps p).ph = .done .ok) ∧
    (∀ x ∈ s.items ++ s.inflight, 0 < x.2) := by
  have h := (Inv.reachable hk hr).Z
  refine ⟨fun p s' hf => ?_, fun x hx => (List.mem_append.mp hx).elim (h.posI x) (h.posF x)⟩
  cases fire_rule hf with
  | offerZero => exact ⟨rfl, rfl, rfl, by rw [setP_ps, upd_same]⟩
  | offerInvalid _ _ _ h0 => exact absurd h0 (by decide)
  | offerTooLarge _ _ _ h0 => exact absurd h0 (by decide)
  | offer _ _ _ h0 => exact absurd h0 (by decide)

/-! ## size -/

/-- the reported size is exactly the summed size of the accepted-but-unfinished requests (those queued or
handed over and not completed), is never negative and never exceeds the capacity -/
theorem C02_size (hk : 0 ≤ k.cap) (hr : Reachable k s) :
    s.size = sumSz (s.items ++ s.inflight) ∧ 0 ≤ s.size ∧ s.size ≤ k.cap ∧
    ((s.items ++ s.inflight).map Prod.fst).Nodup ∧
    (∀ id, id ∈ (s.items ++ s.inflight).map Prod.fst ↔ (id ∈ s.accepted ∧ id ∉ s.finished)) :=
  have hI := Inv.reachable hk hr
  ⟨by rw [sumSz_append]; exact hI.Z.sizeEq, hI.Z.size_nonneg, hI.Z.le, hI.H.unfinished hI.Z.hperm⟩

/-- the size is zero once every accepted request has finished -/
theorem C02_size_zero_when_all_finished (hk : 0 ≤ k.cap) (hr : Reachable k s)
    (hall : ∀ id ∈ s.accepted, id ∈ s.finished) : s.size = 0 := by
  have hI := Inv.reachable hk hr
  rw [(C02_size hk hr).1, hI.H.all_finished hI.Z.hperm hall]; rfl

/-- an enqueue is refused with "queue is full" exactly when the reported size plus the request's size
exceeds the capacity (and the queue does not block); it is accepted at once exactly when it fits; the
other two refusals are exactly the size guards -/
theorem C02_refusal_exact (hk : 0 ≤ k.cap) (hr : Reachable k s) (p : Nat) (el : Int) (s' : St)
    (hf : fire k s (.offer p el) = some s') :
    ((s'.ps p).ph = .done .full ↔ (k.block = false ∧ 0 < el ∧ el ≤ k.cap ∧ s.size + el > k.cap)) ∧
    (p ∈ s'.accepted ↔ (0 < el ∧ el ≤ k.cap ∧ s.size + el ≤ k.cap ∧ s.stopped = false)) ∧
    ((s'.ps p).ph = .sel ↔ (k.block = true ∧ 0 < el ∧ el ≤ k.cap ∧ s.size + el > k.cap ∧ s.stopped = false)) ∧
    ((s'.ps p).ph = .done .invalid ↔ el < 0) ∧ ((s'.ps p).ph = .done .tooLarge ↔ (0 < el ∧ el > k.cap)) ∧
    ((s'.ps p).ph = .done .stopped ↔
      (0 < el ∧ el ≤ k.cap ∧ s.stopped = true ∧ (s.size + el ≤ k.cap ∨ k.block = true))) := by
  have hH := (Inv.reachable hk hr).H
  have ff : ∀ b : Bool, b = true → b = false → False := fun b h1 h2 => by rw [h1] at h2; cases h2
  -- each rule fixes the producer's new phase and whether it was pushed; its guards are one of the six right-hand sides and
  -- refute the other five
  have hna : p ∉ s.accepted := by
    by_cases hi : (s.ps p).ph = .idle
    · exact (hH.open_not_acc (hi ▸ Ph.open_idle)).1
    · rw [fire, if_neg hi] at hf; cases hf
  cases fire_rule hf with
  | offerZero _ hi =>
    simp [setP, hna]
  | offerInvalid _ _ hi h0 =>
    simp only [refuse, upd_same]
    exact ⟨iff_of_false (by simp) (fun h => by omega), iff_of_false hna (fun h => by omega),
      iff_of_false (by simp) (fun h => by omega), iff_of_true trivial h0, iff_of_false (by simp) (fun h => by omega),
      iff_of_false (by simp) (fun h => by omega)⟩
  | offerTooLarge _ _ hi h0 h1 =>
    simp only [refuse, upd_same]
    exact ⟨iff_of_false (by simp) (fun h => by omega), iff_of_false hna (fun h => by omega),
      iff_of_false (by simp) (fun h => by omega), iff_of_false (by simp) (by omega), iff_of_true trivial ⟨h0, h1⟩,
      iff_of_false (by simp) (fun h => by omega)⟩
  | offer _ _ hi h0 h1 =>
    refine tryAdd_cases k s p el (fun hst hfit => ?_) (fun h3 hb => ?_) (fun h3 hb hst => ?_) (fun h3 hst => ?_)
    · simp only [refuse, upd_same]
      refine ⟨iff_of_false (by simp) ?_, iff_of_false hna (fun h => ff _ hst h.2.2.2), iff_of_false (by simp) (fun h => ff _ hst h.2.2.2.2),
        iff_of_false (by simp) (by omega), iff_of_false (by simp) (by omega), iff_of_true trivial ⟨h0, h1, hst, hfit⟩⟩
      rintro ⟨hb, _, _, hgt⟩
      rcases hfit with a | a
      · omega
      · exact ff _ a hb
    · simp only [refuse, upd_same]
      refine ⟨iff_of_true trivial ⟨hb, h0, h1, h3⟩, iff_of_false hna (fun h => by omega), iff_of_false (by simp) (fun h => ff _ h.1 hb),
        iff_of_false (by simp) (by omega), iff_of_false (by simp) (by omega), iff_of_false (by simp) ?_⟩
      rintro ⟨_, _, _, a | a⟩
      · omega
      · exact ff _ a hb
    · simp only [register, upd_same]
      exact ⟨iff_of_false (by simp) (fun h => ff _ hb h.1), iff_of_false hna (fun h => by omega),
        iff_of_true trivial ⟨hb, h0, h1, h3, hst⟩, iff_of_false (by simp) (by omega), iff_of_false (by simp) (by omega),
        iff_of_false (by simp) (fun h => ff _ h.2.2.1 hst)⟩
    · -- pushed: `p` is accepted, its phase is `waitRes` or `done ok`, and `h3`, `hst` refute the other right-hand sides
      simp only [accept, upd_same]
      cases hw : k.wfr <;> simp [hst] <;> omega

/-- after `Shutdown` nothing is accepted any more, whatever happens: a late `Offer` and a producer released from the
overflow wait are both refused (`errQueueIsStopped`), so no request can be accepted behind the consumers' backs -/
theorem C02_nothing_accepted_after_shutdown (l : Label) (s' : St) (hs : s.stopped = true) (hf : fire k s l = some s') :
    s'.accepted = s.accepted ∧ s'.items.length ≤ s.items.length ∧ s'.stopped = true := by
  have add : ∀ p el, (tryAdd k s p el).accepted = s.accepted ∧ (tryAdd k s p el).items.length ≤ s.items.length ∧
      (tryAdd k s p el).stopped = true := fun p el =>
    tryAdd_cases k s p el (fun _ _ => ⟨rfl, Nat.le_refl _, hs⟩) (fun _ _ => ⟨rfl, Nat.le_refl _, hs⟩)
      (fun _ _ _ => ⟨rfl, Nat.le_refl _, hs⟩) (fun _ hst => by rw [hs] at hst; cases hst)
  induction fire_rule hf with
  | offer p el => exact add p el
  | relockTok p => exact add p _
  | relockCtx p => obtain ⟨w, f, e⟩ := ctxCleanup_frame s p; rw [e]; exact ⟨rfl, Nat.le_refl _, hs⟩
  | readPop c s1 _ hp | recheckPop c s1 _ hp => obtain ⟨id, el, t, hi, rfl⟩ := pop_some hp; exact ⟨rfl, hi ▸ Nat.le_succ _, hs⟩
  | complete => rw [finish_eq]; exact ⟨rfl, Nat.le_refl _, hs⟩
  | shutdown => exact ⟨rfl, Nat.le_refl _, rfl⟩
  | offerZero | offerInvalid | offerTooLarge | cancel | wakeTok | wakeCtx | getRes | resCtx | readStopped | readPark
  | recheckStopped | recheckPark => exact ⟨rfl, Nat.le_refl _, hs⟩

/-! ## wait_for_result -/

/-- a producer that used wait_for_result and got a result got exactly the outcome of its own request (the
only `OnDone` of that id); otherwise it returned its context's error (`Res.ctxErr`) -/
theorem C02_result_routing (hk : 0 ≤ k.cap) (hr : Reachable k s) (p e : Nat) (hp : (s.ps p).ph = .done (.result e)) :
    (p, e) ∈ s.outcomes ∧ ∀ e', (p, e') ∈ s.outcomes → e' = e := by
  have hR := InvR.reachable hr
  have hI := Inv.reachable hk hr
  have hfn := (List.nodup_append.mp ((hI.Z.hperm.nodup_iff).mp hI.H.handed_nodup)).1
  rw [← hR.outFin] at hfn
  exact ⟨hR.routed p e hp, fun e' h' => congrArg Prod.snd (eq_of_nodup_map hfn h' (hR.routed p e hp) rfl)⟩

/-! ## the condition variable -/

/-- a goroutine inside `cond.Wait` is registered exactly when it has not been signalled; the list has no
duplicates; whoever left the select through its channel was signalled -/
theorem C02_cond_inv (hk : 0 ≤ k.cap) (hr : Reachable k s) :
    (∀ p, p ∈ s.waiters ↔ (((s.ps p).ph = .sel ∨ (s.ps p).ph = .wokenCtx) ∧ (s.ps p).sig = false)) ∧
    s.waiters.Nodup ∧ (∀ p, (s.ps p).sig = true → (s.ps p).ph.inCond) ∧ (∀ p, (s.ps p).ph = .wokenTok → (s.ps p).sig = true) ∧
    (∀ p, (s.ps p).ph.inCond → 0 < (s.ps p).el ∧ (s.ps p).el ≤ k.cap ∧ k.block = true) :=
  let h := (Inv.reachable hk hr).C
  ⟨h.wIff, h.wNodup, h.sigPh, h.tokSig, h.elOk⟩

/-- `cond.go` on its own (any client, any interleaving of Wait / Signal / Broadcast / cancellations — the model
the scheduler-controlled cond harness is diffed against): registered ⇔ inside Wait and not signalled; nobody
returns `nil` without having been signalled; a closed channel always belongs to a goroutine still inside Wait -/
theorem C02_cond_alone_inv (ls : List CLabel) (s : CSt) (hr : crun {} ls = some s) :
    (∀ i, i ∈ s.waiters ↔ (((s.ws i).ph = .sel ∨ (s.ws i).ph = .wokenCtx) ∧ (s.ws i).sig = false)) ∧
    s.waiters.Nodup ∧ (∀ i, (s.ws i).sig = true → (s.ws i).ph.inCond) ∧ (∀ i, (s.ws i).ph = .wokenTok → (s.ws i).sig = true) :=
  let h := InvA.run ls InvA.init hr
  ⟨h.wIff, h.wNodup, h.sigPh, h.tokSig⟩

/-- in the repaired cond every step after the select is enabled unconditionally: `Signal`, `Broadcast` and both
re-lock branches never wait for anything (contrast `C02_pinned_cond_deadlock`) -/
theorem C02_cond_alone_never_blocks (s : CSt) :
    (cfire s .signal).isSome = true ∧ (cfire s .broadcast).isSome = true ∧
    (∀ i, (s.ws i).ph = .wokenTok → (cfire s (.relockTok i)).isSome = true) ∧
    (∀ i, (s.ws i).ph = .wokenCtx → (cfire s (.relockCtx i)).isSome = true) := by
  refine ⟨rfl, rfl, ?_, ?_⟩ <;> intro i hi <;> simp [cfire, hi]

/- `Quiescent k s` (no goroutine can take a step of its own) is defined in `Lemmas/C02Live.lean`. -/

/-- no lost wake-up: when everything has come to rest and the queue is empty, no producer is inside
`cond.Wait` — for every schedule, including those in which contexts end while signals are in flight -/
theorem C02_no_lost_wakeup (hk : 0 ≤ k.cap) (hr : Reachable k s) (hs : s.stopped = false) (hq : Quiescent k s)
    (hz : s.size = 0) : ∀ p, ¬ (s.ps p).ph.inCond := by
  obtain ⟨hI, hF, _⟩ := Inv.all_reachable hk hr
  intro p hp
  -- at rest `p` is registered, so it does not fit, although it fits the capacity
  have := hF.size_pos hI.C (List.ne_nil_of_mem (hq.asleep hI.C hp).2.2)
  omega

/-- in particular: once every accepted request has finished, a resting queue has no blocked producer -/
theorem C02_released_when_all_finished (hk : 0 ≤ k.cap) (hr : Reachable k s) (hs : s.stopped = false) (hq : Quiescent k s)
    (hall : ∀ id ∈ s.accepted, id ∈ s.finished) : ∀ p, ¬ (s.ps p).ph.inCond :=
  C02_no_lost_wakeup hk hr hs hq (C02_size_zero_when_all_finished hk hr hall)

/-- why a goroutine that is in the middle of `Offer` may be standing still -/
def LegitWait (s : St) (p : Nat) : Prop :=
  ((s.ps p).ph = .sel ∧ p ∈ s.waiters ∧ (s.ps p).canc = false) ∨          -- registered, will be closed by a later Signal
  ((s.ps p).ph = .waitRes ∧ (s.ps p).canc = false ∧ s.results.lookup p = none)   -- its request has not finished

/-- stuck-freedom (what can be said without a fairness assumption): in every reachable state every
producer that is inside `Offer` either can take a step of its own — in particular the re-lock steps after
the select are always enabled, no critical section of the repaired code waits for anything — or waits for a
legitimate reason; a consumer notified on `hasMoreElements` can always re-take the lock and re-evaluate `Read`
(whether a parked consumer is notified when it should be is `C02_no_request_waits_beside_parked_consumer`);
a ended context always releases its producer -/
theorem C02_deadlock_free_partial (hk : 0 ≤ k.cap) (hr : Reachable k s) :
    (∀ p, (s.ps p).ph = .idle ∨ (∃ r, (s.ps p).ph = .done r) ∨ LegitWait s p ∨
      ∃ l, l.internal = true ∧ (fire k s l).isSome = true) ∧
    (∀ p, (s.ps p).ph.inCond ∨ (s.ps p).ph = .waitRes → (s.ps p).canc = true →
      ∃ l, l.internal = true ∧ (fire k s l).isSome = true) ∧
    (∀ c ∈ s.cwoken, (fire k s (.recheck c)).isSome = true) := by
  have hI := Inv.reachable hk hr
  have hprog : ∀ p, (s.ps p).ph.inCond ∨ (s.ps p).ph = .waitRes →
      LegitWait s p ∨ ∃ l, l.internal = true ∧ (fire k s l).isSome = true := by
    intro p hp
    cases hc : (s.ps p).canc with
    | true =>
      rcases hp with (a | a | a) | a
      · exact Or.inr ⟨.wakeCtx p, rfl, (wakeCtx_isSome k a hc).1⟩
      · exact Or.inr ⟨.relockTok p, rfl, (relockTok_isSome k a).1⟩
      · exact Or.inr ⟨.relockCtx p, rfl, (relockCtx_isSome k a).1⟩
      · exact Or.inr ⟨.resCtx p, rfl, resCtx_isSome k a hc⟩
    | false =>
      rcases hp with hp | a
      · exact (asleep_or_enabled hI.C hp).imp (fun ⟨a, _, w⟩ => Or.inl ⟨a, w, hc⟩) (fun ⟨l, hl, h, _⟩ => ⟨l, hl, h⟩)
      · cases hl : s.results.lookup p with
        | some e => exact Or.inr ⟨.getRes p, rfl, getRes_isSome k a hl⟩
        | none => exact Or.inl (Or.inr ⟨a, hc, hl⟩)
  refine ⟨fun p => ?_, fun p hp hc => ?_, fun c hc => (recheck_isSome k s hc).1⟩
  · cases hph : (s.ps p).ph with
    | idle => exact Or.inl rfl
    | done r => exact Or.inr (Or.inl ⟨r, rfl⟩)
    | sel => exact Or.inr (Or.inr (hprog p (Or.inl (Or.inl hph))))
    | wokenTok => exact Or.inr (Or.inr (hprog p (Or.inl (Or.inr (Or.inl hph)))))
    | wokenCtx => exact Or.inr (Or.inr (hprog p (Or.inl (Or.inr (Or.inr hph)))))
    | waitRes => exact Or.inr (Or.inr (hprog p (Or.inr hph)))
  · rcases hprog p hp with (⟨_, _, c⟩ | ⟨_, c, _⟩) | b
    · rw [hc] at c; cases c
    · rw [hc] at c; cases c
    · exact b

/-- what `C02_deadlock_free_partial` leaves open: the goroutines' own activity always comes to rest (no infinite run of internal
labels; `C02_deadlock_free_full_holds`, ranking `Phi`).  That every run comes to rest and releases every blocked producer needs
fairness of the Go scheduler / `sync.Mutex` and consumers that keep working, as hypotheses: `C02_fair_run_comes_to_rest`,
`C02_fair_run_releases_all` (persistent queue: `C02_persistent_fair_run_*`). -/
def C02_deadlock_free_full : Prop :=
  ∀ (k : Cfg) (s : St), 0 ≤ k.cap → Reachable k s →
    ∃ n, ∀ ls, (∀ l ∈ ls, Label.internal l = true) → (runSched k s ls).isSome = true → ls.length ≤ n

/-! ## liveness without temporal logic: termination of internal activity, and the drain -/

/-- `C02_deadlock_free_full` holds: from every reachable state the goroutines can take only boundedly many steps
on their own (the bound is the explicit measure `Phi`: 6/5/4/3/1 per thread by phase, +1 per notified consumer) -/
theorem C02_deadlock_free_full_holds : C02_deadlock_free_full := by
  intro k s hk hr
  obtain ⟨L, hc⟩ := (mem k).covers_exists hr
  exact ⟨Phi L s, fun ls hi hs => internal_run_bounded hk ls s hr hc hi hs⟩

/-- the goroutines' own activity always comes to rest: some finite internal schedule reaches a quiescent state -/
theorem C02_quiescence_reachable (hk : 0 ≤ k.cap) (hr : Reachable k s) :
    ∃ ls s', (∀ l ∈ ls, Label.internal l = true) ∧ runSched k s ls = some s' ∧ Quiescent k s' := by
  obtain ⟨L, hc⟩ := (mem k).covers_exists hr
  obtain ⟨ls, s', h1, h2, h3, _⟩ := (mem k).exists_quiesce (fun _ h => (Inv.reachable hk h).C) s hr hc
  exact ⟨ls, s', h1, h2, h3⟩

/-- whenever a producer is still inside `cond.Wait` after everything has come to rest, some accepted request is still
unfinished (`size > 0`), so a further completion — and with it a further `Broadcast` — is still to come.  No schedule leaves a
producer blocked with no completion pending. -/
theorem C02_blocked_implies_pending_completion (hk : 0 ≤ k.cap) (hr : Reachable k s) (hs : s.stopped = false) (hq : Quiescent k s)
    (p : Nat) (hp : (s.ps p).ph.inCond) : 0 < s.size ∧ s.items ++ s.inflight ≠ [] := by
  have hz : s.size ≠ 0 := fun h0 => C02_no_lost_wakeup hk hr hs hq h0 p hp
  obtain ⟨h1, h2, _, _, _⟩ := C02_size hk hr
  refine ⟨by omega, ?_⟩
  intro he
  rw [he] at h1
  exact hz (by rw [h1]; rfl)

/-- **the drain theorem** (existence form of "a blocked producer is released once earlier requests finish"): from
every reachable state there is a finite schedule consisting only of the goroutines' own steps, consumer reads
and completions — no new Offer, no cancellation, no shutdown (the queue is running: `stopped = false`; after `Shutdown`
blocked producers are refused when released) — after which **no** producer is inside `cond.Wait`,
and every producer that was waiting for space with a live context has been **enqueued** (not refused).
What remains to be assumed for "eventually" in a real run is only fairness: the scheduler eventually runs every
enabled goroutine step (weak fairness of internal labels, incl. `sync.Mutex` hand-over), and the consumers keep
reading and completing what they were handed. -/
theorem C02_drain_releases_all (hk : 0 ≤ k.cap) (hr : Reachable k s) (hs : s.stopped = false) :
    ∃ ls s', (∀ l ∈ ls, Label.drain l = true) ∧ runSched k s ls = some s' ∧ (∀ p, ¬ (s'.ps p).ph.inCond) ∧
      (∀ p, ((s.ps p).ph = .sel ∨ (s.ps p).ph = .wokenTok) → (s.ps p).canc = false → p ∈ s'.accepted) := by
  obtain ⟨L, hc⟩ := (mem k).covers_exists hr
  obtain ⟨ls, s', h1, h2, h3⟩ := drain_aux hk L (Omega L s + 1) s hr hc (Nat.lt_succ_self _)
  refine ⟨ls, s', h1, h2, h3, ?_⟩
  intro p hp hcn
  exact (drain_run hk ls hr h1 h2 p (.of_waiting hp hcn hs)).accepted_of_not_inCond (h3 p)

/-! ## the persistent queue (`Model/C02P.lean`, `pfire`): same clauses, its own size bookkeeping -/

theorem C02_persistent_fifo (hk : 0 ≤ k.cap) (hr : PReachable k s) : s.handed ++ s.items.map Prod.fst = s.accepted :=
  (Invp.reachable hk hr).H.fifo

theorem C02_persistent_exactly_once (hk : 0 ≤ k.cap) (hr : PReachable k s) :
    s.handed.Nodup ∧ s.accepted.Nodup ∧
    (∀ id, id ∈ s.accepted ↔ (id ∈ s.handed ∨ id ∈ s.items.map Prod.fst)) ∧
    (∀ id ∈ s.handed, id ∉ s.items.map Prod.fst) ∧
    (∀ id ∈ s.refused, id ∉ s.handed ∧ id ∉ s.items.map Prod.fst) :=
  (Invp.reachable hk hr).H.exactly_once

/-- persistent size: within `[0, cap]`, never more than the summed size of the accepted-but-unfinished requests
(it is reset to 0 whenever the last queued item is read, and clamped at 0 in `onDone`), and the unfinished requests
are exactly the queued and in-flight ones -/
theorem C02_persistent_size (hk : 0 ≤ k.cap) (hr : PReachable k s) :
    0 ≤ s.size ∧ s.size ≤ k.cap ∧ s.size ≤ sumSz (s.items ++ s.inflight) ∧
    ((s.items ++ s.inflight).map Prod.fst).Nodup ∧
    (∀ id, id ∈ (s.items ++ s.inflight).map Prod.fst ↔ (id ∈ s.accepted ∧ id ∉ s.finished)) :=
  have hI := Invp.reachable hk hr
  ⟨hI.Z.nonneg, hI.Z.le, by rw [sumSz_append]; exact hI.Z.szLe, hI.H.unfinished hI.Z.hperm⟩

theorem C02_persistent_size_zero_when_all_finished (hk : 0 ≤ k.cap) (hr : PReachable k s)
    (hall : ∀ id ∈ s.accepted, id ∈ s.finished) : s.size = 0 := by
  have hI := Invp.reachable hk hr
  have h1 := (C02_persistent_size hk hr).2.2.1
  rw [hI.H.all_finished hI.Z.hperm hall] at h1
  exact Int.le_antisymm h1 hI.Z.nonneg

/-- the refusal rule needs no history at all: in ANY state (whatever size was restored) an `Offer` is answered "full" ⇔
not blocking ∧ size+el > cap, "too large" ⇔ blocking ∧ size+el > cap ∧ el > cap, waits ⇔ blocking ∧ size+el > cap ∧ el ≤ cap -/
theorem C02_persistent_refusal_exact_any_state (k : Cfg) (s s' : St) (p : Nat) (el : Int)
    (hf : pfire k s (.offer p el) = some s') :
    ((s'.ps p).ph = .done .full ↔ (k.block = false ∧ s.size + el > k.cap)) ∧
    ((s'.ps p).ph = .done .tooLarge ↔ (k.block = true ∧ s.size + el > k.cap ∧ el > k.cap)) ∧
    ((s'.ps p).ph = .sel ↔ (k.block = true ∧ s.size + el > k.cap ∧ el ≤ k.cap)) ∧
    ((s'.ps p).ph = .done .ok ↔ s.size + el ≤ k.cap) := by
  have ff : ∀ b : Bool, b = true → b = false → False := fun b h1 h2 => by rw [h1] at h2; cases h2
  cases pfire_rule hf with
  | offer =>
    refine ptryAdd_cases k s p el (fun h3 hb hl => ?_) (fun h3 hb => ?_) (fun h3 hb hl => ?_) (fun h3 => ?_)
    · simp only [refuse, upd_same]
      exact ⟨iff_of_false (by simp) (fun h => ff _ hb h.1), iff_of_true trivial ⟨hb, h3, hl⟩,
        iff_of_false (by simp) (fun h => by omega), iff_of_false (by simp) (by omega)⟩
    · simp only [refuse, upd_same]
      exact ⟨iff_of_true trivial ⟨hb, h3⟩, iff_of_false (by simp) (fun h => ff _ h.1 hb),
        iff_of_false (by simp) (fun h => ff _ h.1 hb), iff_of_false (by simp) (by omega)⟩
    · simp only [register, upd_same]
      exact ⟨iff_of_false (by simp) (fun h => ff _ hb h.1), iff_of_false (by simp) (fun h => by omega),
        iff_of_true trivial ⟨hb, h3, hl⟩, iff_of_false (by simp) (by omega)⟩
    · simp only [paccept, upd_same]
      exact ⟨iff_of_false (by simp) (fun h => by omega), iff_of_false (by simp) (fun h => by omega),
        iff_of_false (by simp) (fun h => by omega), iff_of_true trivial h3⟩

/-- persistent refusal rule, exactly: "queue is full" ⇔ not blocking ∧ size+el > cap; "too large" ⇔ blocking ∧
size+el > cap ∧ el > cap (the repair: such a request never waits); waits ⇔ blocking ∧ size+el > cap ∧ el ≤ cap;
enqueued at once ⇔ size+el ≤ cap -/
theorem C02_persistent_refusal_exact (hk : 0 ≤ k.cap) (hr : PReachable k s) (p : Nat) (el : Int) (s' : St)
    (hf : pfire k s (.offer p el) = some s') :
    ((s'.ps p).ph = .done .full ↔ (k.block = false ∧ s.size + el > k.cap)) ∧
    ((s'.ps p).ph = .done .tooLarge ↔ (k.block = true ∧ s.size + el > k.cap ∧ el > k.cap)) ∧
    ((s'.ps p).ph = .sel ↔ (k.block = true ∧ s.size + el > k.cap ∧ el ≤ k.cap)) ∧
    (p ∈ s'.accepted ↔ s.size + el ≤ k.cap) := by
  obtain ⟨a, b, c, d⟩ := C02_persistent_refusal_exact_any_state k s s' p el hf
  refine ⟨a, b, c, Iff.trans ?_ d⟩
  cases pfire_rule hf with
  | offer _ _ hi =>
    have hna := ((Invp.reachable hk hr).H.open_not_acc (hi ▸ Ph.open_idle)).1
    refine ptryAdd_cases k s p el (fun _ _ _ => ?_) (fun _ _ => ?_) (fun _ _ _ => ?_) (fun _ => ?_)
    · simp only [refuse, upd_same]; exact iff_of_false hna (by simp)
    · simp only [refuse, upd_same]; exact iff_of_false hna (by simp)
    · simp only [register, upd_same]; exact iff_of_false hna (by simp)
    · simp only [paccept, upd_same]; exact iff_of_true (List.mem_append_right _ (List.mem_singleton.mpr rfl)) trivial

/-- a request larger than the capacity never waits on the cond (contrast the pinned tree, where it waited forever) -/
theorem C02_persistent_oversize_never_waits (hk : 0 ≤ k.cap) (hr : PReachable k s) (p : Nat)
    (hp : (s.ps p).ph.inCond) : 0 < (s.ps p).el ∧ (s.ps p).el ≤ k.cap :=
  let h := (Invp.reachable hk hr).C.elOk p hp
  ⟨h.1, h.2.1⟩

/- `PQuiescent k s` (the persistent queue is at rest) is defined in `Lemmas/C02P.lean`. -/

/-- persistent no-lost-wake-up: at rest, with nothing queued and nothing in flight (every accepted request
finished), no producer is inside `cond.Wait`.  More generally a registered waiter at rest implies an unfinished
request, whose `onDone` will signal. -/
theorem C02_persistent_no_lost_wakeup (hk : 0 ≤ k.cap) (hr : PReachable k s) (hq : PQuiescent k s) :
    (∀ p, (s.ps p).ph.inCond → s.items ≠ [] ∨ s.inflight ≠ []) ∧
    (s.items = [] → s.inflight = [] → ∀ p, ¬ (s.ps p).ph.inCond) := by
  obtain ⟨hI, hF⟩ := Invp.all_reachable hk hr
  have main : ∀ p, (s.ps p).ph.inCond → s.items ≠ [] ∨ s.inflight ≠ [] := fun p hp =>
    unfinished_of_pos hI.Z (hF.size_pos hI.C (List.ne_nil_of_mem (hq.asleep hI.C hp).2.2))
  exact ⟨main, fun hi hf p hp => (main p hp).elim (fun a => a hi) (fun a => a hf)⟩

/-! ## consumer side (`hasMoreElements`): no accepted request waits beside a parked consumer -/

/-- memory queue, every schedule: while a consumer is parked in `Read`, at least as many consumers have been notified
(and are on their way to the lock) as there are queued requests; after `Shutdown` nobody stays parked -/
theorem C02_consumer_wakeups_conserved (hr : Reachable k s) :
    (s.cwait = [] ∨ s.items.length ≤ s.cwoken.length) ∧ (s.stopped = true → s.cwait = []) :=
  let h := InvK.reachable hr
  ⟨h.woken, h.stop⟩

/-- memory queue: once everything has come to rest, no accepted request sits in the queue while a consumer is parked
in `Read` — for every schedule, any number of consumers, back-to-back enqueues included -/
theorem C02_no_request_waits_beside_parked_consumer (hr : Reachable k s) (hq : Quiescent k s) :
    s.cwoken = [] ∧ (s.cwait = [] ∨ s.items = []) :=
  ⟨hq.cwoken_nil, (InvK.reachable hr).at_rest hq.cwoken_nil⟩

theorem C02_persistent_consumer_wakeups_conserved (hr : PReachable k s) :
    (s.cwait = [] ∨ s.items.length ≤ s.cwoken.length) ∧ (s.stopped = true → s.cwait = []) :=
  let h := (pers k).invK hr
  ⟨h.woken, h.stop⟩

/-- persistent queue: the same statement for `pfire` (this is what the seeded "signal only when the queue was empty
before the write" change breaks) -/
theorem C02_persistent_no_request_waits_beside_parked_consumer (hr : PReachable k s) (hq : PQuiescent k s) :
    s.cwoken = [] ∧ (s.cwait = [] ∨ s.items = []) :=
  ⟨hq.cwoken_nil, ((pers k).invK hr).at_rest hq.cwoken_nil⟩

/-! ## persistent queue: request identity — item keys never collide with the queue's metadata keys

The persistent model identifies a stored request by the id of its Offer ("storage is outside").  What that abstraction
needs from the code is regenerated on every run (`Gen/PQKeys.lean`, translator `pqkeys`): the radix of `getItemKey` and the
four metadata key names that share the key space with the items. -/

/-- for EVERY index, the key under which a request is stored is none of "ri", "wi", "di", "si" (the names in the
source): a request is never written over the queue's read/write index, its dispatched-items list or its size snapshot, and
none of those is ever decoded as a request.  Fails to type-check when the radix exceeds 10 or a metadata key
becomes a digit string. -/
theorem C02_item_keys_never_collide_with_metadata (i : Nat) :
    itemKey Gen.PQKeys.itemKeyRadix i ≠ Gen.PQKeys.readIndexKey ∧ itemKey Gen.PQKeys.itemKeyRadix i ≠ Gen.PQKeys.writeIndexKey ∧
    itemKey Gen.PQKeys.itemKeyRadix i ≠ Gen.PQKeys.dispatchedKey ∧ itemKey Gen.PQKeys.itemKeyRadix i ≠ Gen.PQKeys.queueSizeKey := by
  refine ⟨?_, ?_, ?_, ?_⟩
  · exact itemKey_ne_of_nondigit _ i (by decide) (by decide) _ _ _ (by decide : Gen.PQKeys.readIndexKey.toList = 'r' :: ['i']) (by decide)
  · exact itemKey_ne_of_nondigit _ i (by decide) (by decide) _ _ _ (by decide : Gen.PQKeys.writeIndexKey.toList = 'w' :: ['i']) (by decide)
  · exact itemKey_ne_of_nondigit _ i (by decide) (by decide) _ _ _ (by decide : Gen.PQKeys.dispatchedKey.toList = 'd' :: ['i']) (by decide)
  · exact itemKey_ne_of_nondigit _ i (by decide) (by decide) _ _ _ (by decide : Gen.PQKeys.queueSizeKey.toList = 's' :: ['i']) (by decide)

/-- the key is the decimal form of the index -/
example : itemKey Gen.PQKeys.itemKeyRadix 486 = "486" ∧ itemKey Gen.PQKeys.itemKeyRadix 0 = "0" := by decide

/-! ## the pinned cond.go (before the fix commit) deadlocks -/

/-- about `Model/C02Pinned.lean`, the cond.go BEFORE the fix commit, not about the checked tree.
Two waiters whose contexts ended and that queue for the lock, two `Signal`s in a row: the second
`Signal` blocks on the full channel while holding the lock — no label at all is enabled any more, four
goroutines are mid-operation.  Same schedule as corpus case 0 of the cond harness. -/
theorem C02_pinned_cond_deadlock :
    ∃ s, Pinned.run (Pinned.init 2 2) Pinned.witness = some s ∧ Pinned.stuck s = true := by
  refine ⟨_, rfl, ?_⟩
  decide

/-! ## soundness of the search oracle's FIFO / exactly-once core -/

/-- if the oracle accepts a recorded trace of (ids handed in the step, queue after the step), then on that
trace "handed so far ++ queue = pushed so far" holds at the end: hand-off order is push order and nothing
is handed twice or skipped -/
theorem C02_check_fifo_sound (tr : List (List Nat × List Nat)) (acc handed q acc' handed' q' : List Nat)
    (h0 : handed ++ q = acc) (hrun : Check.fifoRun (acc, handed, q) tr = some (acc', handed', q')) :
    handed' ++ q' = acc' := by
  induction tr generalizing acc handed q with
  | nil => simp [Check.fifoRun] at hrun; obtain ⟨rfl, rfl, rfl⟩ := hrun; exact h0
  | cons x rest ih =>
    obtain ⟨h, qn⟩ := x
    simp only [Check.fifoRun] at hrun
    split at hrun
    · rename_i a ha
      refine ih (acc ++ a) (handed ++ h) qn ?_ hrun
      rw [← h0]; simp only [List.append_assoc]; rw [fifoStep_sound _ _ _ _ ha]
    · cases hrun

/-! ## soundness of the remaining oracle clauses (`Model/C02Check.lean`): what the driver's verdict is computed
from implies the property's clause on the observed values, in the same shape as the LTS theorems above -/

theorem C02_check_size_sound (persistent : Bool) (cap size sum : Int) (none : Bool)
    (h : Check.sizeClause persistent cap size sum none = true) :
    0 ≤ size ∧ size ≤ cap ∧ (persistent = false → size = sum) ∧
    (persistent = true → size ≤ sum ∧ (none = true → size = 0)) := by
  simp only [Check.sizeClause, Bool.and_eq_true, decide_eq_true_eq] at h
  refine ⟨h.1.1, h.1.2, fun hp => ?_, fun hp => ?_⟩
  · simpa [hp] using h.2
  · have h2 : size ≤ sum ∧ (none = false ∨ size = 0) := by simpa [hp] using h.2
    exact ⟨h2.1, fun hn => h2.2.resolve_left (by rw [hn]; exact Bool.noConfusion)⟩

theorem C02_check_refusal_sound_memory (block stopped : Bool) (cap sizeBefore el : Int) (st : String)
    (h : Check.refusalClause false block stopped cap sizeBefore el st = true) :
    (st = "full" ↔ (block = false ∧ 0 < el ∧ el ≤ cap ∧ sizeBefore + el > cap)) ∧
    (st = "inv" ↔ el < 0) ∧ (st = "big" ↔ (0 < el ∧ el > cap)) ∧
    (st = "stopped" ↔ (stopped = true ∧ 0 < el ∧ el ≤ cap ∧ (sizeBefore + el ≤ cap ∨ block = true))) := by
  rw [refusalClause_iff h (Or.inl rfl), refusalClause_iff h (Or.inr (Or.inl rfl)), refusalClause_iff h (Or.inr (Or.inr (Or.inl rfl))),
    refusalClause_iff h (Or.inr (Or.inr (Or.inr rfl)))]
  unfold Check.expectedRefusal
  simp only [Bool.false_eq_true, if_false, beq_iff_eq]
  -- the case splits follow the branches of `expectedRefusal` one by one; in each, one of the four strings is the answer
  by_cases h0 : el = 0
  · subst h0; simp
  · by_cases h1 : el < 0
    · simp [h0, h1]; omega
    · by_cases h2 : el > cap
      · simp [h0, h1, h2]; omega
      · by_cases h3 : sizeBefore + el > cap
        · cases block <;> cases stopped <;> simp [h0, h1, h2, h3] <;> omega
        · cases stopped <;> simp [h0, h1, h2, h3] <;> omega

theorem C02_check_fits_sound (cap size : Int) (els : List Int) (h : Check.fitsClause cap size els = true) :
    ∀ el ∈ els, size + el > cap := by
  intro el hel
  simp only [Check.fitsClause, List.all_eq_true, decide_eq_true_eq] at h
  exact h el hel

theorem C02_check_refusal_sound_persistent (block stopped : Bool) (cap sizeBefore el : Int) (st : String)
    (h : Check.refusalClause true block stopped cap sizeBefore el st = true) :
    (st = "full" ↔ (block = false ∧ sizeBefore + el > cap)) ∧
    (st = "big" ↔ (block = true ∧ sizeBefore + el > cap ∧ el > cap)) ∧ st ≠ "inv" := by
  rw [ne_eq, refusalClause_iff h (Or.inl rfl), refusalClause_iff h (Or.inr (Or.inl rfl)),
    refusalClause_iff h (Or.inr (Or.inr (Or.inl rfl)))]
  unfold Check.expectedRefusal
  simp only [if_true]
  by_cases h3 : sizeBefore + el > cap
  · cases block
    · simp [h3]
    · by_cases h2 : el > cap <;> simp [h3, h2]
  · simp [h3]

theorem C02_check_blocked_sound (persistent : Bool) (size : Int) (none : Bool) (blocked : Nat)
    (h : Check.blockedClause persistent size none blocked = true) (hb : blocked ≠ 0) :
    (persistent = false → size ≠ 0) ∧ (persistent = true → none = false) := by
  unfold Check.blockedClause at h
  cases persistent <;> cases none <;> simp [hb] at h <;> simp [h]

theorem C02_check_routing_sound (outcomes : List (Nat × Nat)) (p : Nat) (st : String)
    (h : Check.routingClause outcomes p st = true) :
    ∃ e, outcomes.lookup p = some e ∧ (e = 0 → st = "nil") ∧ (e ≠ 0 → st = s!"e{e}") := by
  unfold Check.routingClause at h
  cases hl : outcomes.lookup p with
  | none => simp [hl] at h
  | some e =>
    cases e with
    | zero => simp [hl] at h; exact ⟨0, rfl, fun _ => h, fun a => absurd rfl a⟩
    | succ n => simp [hl] at h; exact ⟨n + 1, rfl, fun a => by omega, fun _ => h⟩

/-- the soak monitor: if it accepts an event log of a native-scheduler run then on that log nothing was handed over
twice, everything handed over came from an Offer that was not refused (and was not zero-sized for the memory queue),
every request whose Offer reported success was handed over, every sampled size was within `[0, cap]` and the size after
the drain was 0 -/
theorem C02_check_soak_sound (c : Check.SCfg) (evs : List Check.SEv) (h : Check.soakAll c evs = true) :
    (Check.handedOf evs).Nodup ∧
    (∀ id ∈ Check.handedOf evs, ∃ r ∈ Check.retsOf evs, r.1 = id ∧ Check.mayBeQueued c r = true) ∧
    (∀ r ∈ Check.retsOf evs, Check.surelyQueued c r = true → r.1 ∈ Check.handedOf evs) ∧
    (∀ n ∈ Check.sizesOf evs, 0 ≤ n ∧ n ≤ c.cap) ∧ (∀ n ∈ Check.finalsOf evs, n = 0) ∧
    (∀ hd w, Check.SEv.stall hd w ∈ evs → w ≤ hd) := by
  simp only [Check.soakAll, Bool.and_eq_true] at h
  obtain ⟨⟨⟨⟨⟨⟨h1, h2⟩, h3⟩, h4⟩, _⟩, _⟩, h7⟩ := h
  refine ⟨nodupB_sound _ h1, ?_, ?_, ?_, ?_, ?_⟩
  · intro id hid
    simp only [Check.soakOnlyAccepted, List.all_eq_true, List.any_eq_true] at h2
    obtain ⟨r, hr, hrr⟩ := h2 id hid
    simp only [Bool.and_eq_true, beq_iff_eq] at hrr
    exact ⟨r, hr, hrr.1, hrr.2⟩
  · intro r hr hs
    simp only [Check.soakAllHanded, List.all_eq_true] at h3
    have := h3 r hr
    simpa [hs] using this
  · intro n hn
    simp only [Check.soakSizes, Bool.and_eq_true, List.all_eq_true] at h4
    simpa using h4.1 n hn
  · intro n hn
    simp only [Check.soakSizes, Bool.and_eq_true, List.all_eq_true] at h4
    simpa using h4.2 n hn
  · intro hd w hm
    simp only [Check.soakStall, List.all_eq_true] at h7
    simpa using h7 _ hm

theorem C02_check_parked_sound (queued parked : Nat) (h : Check.parkedClause queued parked = true) :
    queued = 0 ∨ parked = 0 := by
  simpa [Check.parkedClause] using h

/-! ## what the cond-level oracle `CMon` simulates is the LTS's own signal accounting

Signal conservation follows from the cond invariant alone (`InvA.conserved`), so it holds after EVERY schedule, `Broadcast` included
(the queues broadcast on `hasMoreSpace`). -/

/-- `#registered + #unconsumed signals = #goroutines inside Wait` after ANY schedule of Wait / Signal / Broadcast / cancellations
and for every finite cover `L` of the goroutines that have called Wait.  This is the accounting `CMon` replays from the
implementation's returns (`credits` = unconsumed signals, `inside`). -/
theorem C02_cond_signal_conservation_all (ls : List CLabel) (s : CSt) (hr : crun {} ls = some s)
    (L : List Nat) (hn : L.Nodup) (hc : ∀ i, (s.ws i).ph ≠ .idle → i ∈ L) :
    s.waiters.length + cntF creditW s.ws L = cntF insideW s.ws L :=
  (InvA.run ls InvA.init hr).conserved L hn hc

/-- consequences used by `CMon`, for every schedule: a `Signal` is effective exactly when fewer signals than waiting goroutines are
outstanding (`credits < inside`), and once the select exits have been taken (run-to-quiescence) every unconsumed
signal belongs to a goroutine queued for the lock — so `credits ≤ #queued` on every conforming run, and a waiter
asleep in the select while `credits > #queued` is a lost wake-up -/
theorem C02_cond_credits_are_queued_all (ls : List CLabel) (s : CSt) (hr : crun {} ls = some s)
    (L : List Nat) (hn : L.Nodup) (hc : ∀ i, (s.ws i).ph ≠ .idle → i ∈ L) :
    (s.waiters ≠ [] ↔ cntF creditW s.ws L < cntF insideW s.ws L) ∧
    ((∀ i, cfire s (.wakeTok i) = none) → ∀ i, (s.ws i).sig = true → (s.ws i).ph = .wokenTok ∨ (s.ws i).ph = .wokenCtx) := by
  have hcons := C02_cond_signal_conservation_all ls s hr L hn hc
  have hA := InvA.run ls InvA.init hr
  refine ⟨⟨fun hne => ?_, fun hlt hnil => ?_⟩, fun hq i hs => ?_⟩
  · have : 0 < s.waiters.length := List.length_pos_iff.mpr hne
    omega
  · rw [hnil, List.length_nil] at hcons
    omega
  · rcases hA.sigPh i hs with a | a | a
    · have := hq i
      simp [cfire, a, hs] at this
    · exact Or.inl a
    · exact Or.inr a

theorem C02_cond_signal_conservation (ls : List CLabel) (s : CSt) (hl : ∀ l ∈ ls, l ≠ .broadcast) (hr : crun {} ls = some s)
    (L : List Nat) (hn : L.Nodup) (hc : ∀ i, (s.ws i).ph ≠ .idle → i ∈ L) :
    s.waiters.length + cntF creditW s.ws L = cntF insideW s.ws L :=
  C02_cond_signal_conservation_all ls s hr L hn hc

theorem C02_cond_credits_are_queued (ls : List CLabel) (s : CSt) (hl : ∀ l ∈ ls, l ≠ .broadcast) (hr : crun {} ls = some s)
    (L : List Nat) (hn : L.Nodup) (hc : ∀ i, (s.ws i).ph ≠ .idle → i ∈ L) :
    (s.waiters ≠ [] ↔ cntF creditW s.ws L < cntF insideW s.ws L) ∧
    ((∀ i, cfire s (.wakeTok i) = none) → ∀ i, (s.ws i).sig = true → (s.ws i).ph = .wokenTok ∨ (s.ws i).ph = .wokenCtx) :=
  C02_cond_credits_are_queued_all ls s hr L hn hc

/-- non-vacuity: two waiters, a Broadcast, one of them cancelled meanwhile: 0 registered + 2 credits = 2 inside -/
example : (crun {} [.wait 0, .wait 1, .cancel 1, .broadcast]).map
    (fun s => (s.waiters, (s.ws 0).sig, (s.ws 1).sig, (s.ws 0).ph, (s.ws 1).ph)) = some ([], true, true, .sel, .sel) := by rfl

/-! ## wait_for_result, converse; the persistent queue from an arbitrary start; the literal release clause -/

/-- wait_for_result, converse of `C02_result_routing`: once a request has finished, its outcome is in the channel until
its producer takes it — so a producer whose context is alive has `getRes` enabled and returns exactly that outcome;
it can stay in `Offer` only while its request is unfinished -/
theorem C02_result_delivered {k : Cfg} {s : St} (hk : 0 ≤ k.cap) (hw : k.wfr = true) (hr : Reachable k s) (p : Nat)
    (hp : (s.ps p).ph = .waitRes) (hf : p ∈ s.finished) :
    ∃ e, s.results.lookup p = some e ∧ (p, e) ∈ s.outcomes ∧ (fire k s (.getRes p)).isSome = true := by
  have hQ := InvQ.reachable (k := k) hr
  have hs := hQ.waiting hw p hp hf
  cases hl : s.results.lookup p with
  | none => rw [hl] at hs; cases hs
  | some e =>
    exact ⟨e, rfl, hQ.resOut _ (mem_of_lookup hl), getRes_isSome k hp hl⟩

/-- **persistent queue started on arbitrary storage** (restart with stored items, stale `si` snapshot, lowered capacity):
the reported size is never negative; it never exceeds `max(capacity, restored size)` — so it is within the capacity from
the first moment it is (the queue only ever grows up to the capacity); whenever nothing is queued it is at most the summed
size of what is in flight, hence 0 once everything has finished; FIFO / exactly-once hold as from an empty start.
What does NOT survive a stale or oversized start: `size ≤ capacity` and `size ≤ Σ unfinished` before the queue has been
read empty once. -/
theorem C02_persistent_size_any_start {k : Cfg} (hk : 0 ≤ k.cap) {s0 s : St} (h0 : PStart s0) (hr : PReachableFrom k s0 s) :
    0 ≤ s.size ∧ (s.size ≤ k.cap ∨ s.size ≤ s0.size) ∧ (s.items = [] → s.size ≤ sumSz s.inflight) ∧
    (s.items = [] → s.inflight = [] → s.size = 0) ∧ s.handed ++ s.items.map Prod.fst = s.accepted ∧ s.handed.Nodup := by
  obtain ⟨hH, hS⟩ := h0.reachableFrom hk hr
  exact ⟨hS.nonneg, hS.bound, hS.emptied, fun hi hf => Int.le_antisymm (by simpa [hf, sumSz] using hS.emptied hi) hS.nonneg,
    hH.fifo, hH.handed_nodup⟩

/-- non-vacuity: two stored requests (sizes 3 and 4), restored size 50 (stale), capacity 5 -/
def sRestart : St :=
  { items := [(100, 3), (101, 4)], size := 50, accepted := [100, 101],
    ps := fun p => if p = 100 ∨ p = 101 then { ph := .done .ok } else {} }

example : PStart sRestart := by
  refine ⟨⟨rfl, ?_, by simp [sRestart], by decide, by simp [sRestart]⟩, ?_, rfl, rfl, rfl, rfl, ?_, by decide, by simp [sRestart]⟩
  · intro p hp
    simp only [sRestart, List.mem_cons, List.not_mem_nil, or_false] at hp
    right; exact ⟨.ok, by simp [sRestart, hp]⟩
  · intro p
    simp only [sRestart]
    split <;> simp [Ph.inCond]
  · intro x hx
    simp only [sRestart, List.mem_cons, List.not_mem_nil, or_false] at hx
    rcases hx with rfl | rfl <;> decide

example : (prunSched { cap := 5, block := false, wfr := false } sRestart [.offer 1 1, .read 0, .read 0, .offer 2 2]).map
    (fun s => (s.size, (s.ps 1).ph, (s.ps 2).ph)) = some (2, .done .full, .done .ok) := by rfl

def k10 : Cfg := { cap := 10, block := true, wfr := false }
def hol : List Label := [.offer 0 9, .offer 1 5, .offer 2 2, .read 7, .complete 0 0, .wakeTok 1, .relockTok 1]

/-- the literal reading of the release clause: at rest, whoever is still blocked does not fit -/
def C02_release_on_space_full : Prop :=
  ∀ (k : Cfg) (s : St), 0 ≤ k.cap → Reachable k s → Quiescent k s →
    ∀ p, (s.ps p).ph.inCond → s.size + (s.ps p).el > k.cap

/-- **the release clause as worded holds for the repaired code** (space is freed with `Broadcast`: every waiter
re-checks its own size): in every reachable state at rest, a producer that is still inside `cond.Wait` does not fit —
"released once earlier requests finish and free enough space".  (With one `Signal` per completion it would fail on the
head-of-line schedule `hol` above.) -/
theorem C02_release_on_space_full_holds : C02_release_on_space_full :=
  fun _ _ hk hr hq p hp => (InvF.reachable hk hr).1 p (hq.asleep (Inv.reachable hk hr).C hp).2.2

/-- the same for the persistent queue (both places where it frees space broadcast) -/
theorem C02_persistent_release_on_space (hk : 0 ≤ k.cap) (hr : PReachable k s) (hq : PQuiescent k s) :
    ∀ p, (s.ps p).ph.inCond → s.size + (s.ps p).el > k.cap :=
  fun p hp => InvF.preachable hk hr p (hq.asleep (Invp.reachable hk hr).C hp).2.2

/-- `Shutdown` releases the producers blocked on overflow: on a stopped memory queue nobody is registered on
`hasMoreSpace`, and at rest nobody is inside `cond.Wait` at all (they were refused with `errQueueIsStopped`) -/
theorem C02_nobody_waits_after_shutdown (hk : 0 ≤ k.cap) (hr : Reachable k s) (hs : s.stopped = true) :
    s.waiters = [] ∧ (Quiescent k s → ∀ p, ¬ (s.ps p).ph.inCond) := by
  have hw := (InvF.reachable hk hr).2 hs
  refine ⟨hw, fun hq p hp => ?_⟩
  have := (hq.asleep (Inv.reachable hk hr).C hp).2.2
  rw [hw] at this; cases this

/-! ## liveness over infinite runs, under explicit fairness hypotheses

`IsRun`, `SchedFair` (scheduler / mutex: minimal progress of the goroutines' own steps), `ConsFair` (the consumers keep
taking and completing requests) and `OnlyFrom` are defined in `Lemmas/C02Fair.lean`.  These two theorems are the
"in EVERY fair run" counterparts of `C02_quiescence_reachable` and of the existential `C02_drain_releases_all`; they are
what `C02_deadlock_free_partial` leaves open. -/

section fair
variable {ρ : Nat → St} {lab : Nat → Option Label}

/-- **every fair run comes to rest once the environment is quiet**: if from instant `n0` on only goroutine steps or
stutters happen (no Offer, cancel, read, completion, shutdown) and the scheduler is fair (minimal progress), the run
reaches a state at rest and stays in it for ever; in that state the release clause holds as worded: whoever is still
inside `cond.Wait` does not fit (`size + el > cap`), on a running and non-empty queue.  No bound on the number of
threads, no assumption on the run before `n0`. -/
theorem C02_fair_run_comes_to_rest (hk : 0 ≤ k.cap) (hr : IsRun k ρ lab) (hf : SchedFair k ρ lab) (n0 : Nat)
    (hq : OnlyFrom lab n0 Label.internal) :
    ∃ m, n0 ≤ m ∧ Quiescent k (ρ m) ∧ (∀ j, m ≤ j → ρ j = ρ m) ∧
      (∀ p, ((ρ m).ps p).ph.inCond →
        (ρ m).size + ((ρ m).ps p).el > k.cap ∧ (ρ m).stopped = false ∧ 0 < (ρ m).size) := by
  obtain ⟨m, hm, hqu, hst, hrm⟩ := (mem k).fair_run_rests (fun _ h => (Inv.reachable hk h).C) hr.1 hr.2 hf n0 hq
  refine ⟨m, hm, hqu, hst, fun p hp => ?_⟩
  · have hrun : (ρ m).stopped = false := by
      cases hs : (ρ m).stopped with
      | false => rfl
      | true => exact absurd hp ((C02_nobody_waits_after_shutdown hk hrm hs).2 hqu p)
    exact ⟨C02_release_on_space_full_holds k (ρ m) hk hrm hqu p hp, hrun,
      (C02_blocked_implies_pending_completion hk hrm hrun hqu p hp).1⟩

/-- **every fair run releases every blocked producer** (the liveness clause of the property, for every run instead of
some schedule): if from instant `n0` on there is no new Offer, no cancellation and no shutdown, the queue is running,
the scheduler is fair (minimal progress) and the consumers keep working (`ConsFair`), then at some later instant NO
producer is inside `cond.Wait`, and every producer that was waiting for space at `n0` with a live context has been
ENQUEUED (not refused).  Lexicographic ranking (`Omega`, `PPhi`): reads/completions decrease `Omega`, goroutine steps
decrease `PPhi` without increasing `Omega`, nothing else happens. -/
theorem C02_fair_run_releases_all (hk : 0 ≤ k.cap) (hr : IsRun k ρ lab) (hf : SchedFair k ρ lab) (hc : ConsFair ρ)
    (n0 : Nat) (hq : OnlyFrom lab n0 Label.drain) (hs : (ρ n0).stopped = false) :
    ∃ m, n0 ≤ m ∧ (∀ p, ¬ ((ρ m).ps p).ph.inCond) ∧
      ∀ p, (((ρ n0).ps p).ph = .sel ∨ ((ρ n0).ps p).ph = .wokenTok) → ((ρ n0).ps p).canc = false →
        p ∈ (ρ m).accepted := by
  have reach := (mem k).run_reach hr.1 hr.2
  obtain ⟨L, hcov⟩ := (mem k).covers_exists (reach n0)
  -- along the drain: reachable, covered, running, and whoever was tracked at `n0` still is
  obtain ⟨m, hm, hnc, _, _, _, htr⟩ := fair_drain (f := fire k) hr.2
    (I := fun s => Reachable k s ∧ Covers L s ∧ s.stopped = false ∧ ∀ p, Tracked (ρ n0) p → Tracked s p)
    (ok := Label.drain) (a := Omega L) (b := PPhi L) (R := fun s s' => served s < served s') (fun _ => Nat.lt_irrefl _)
    (fun s l s' ⟨h1, h2, h3, h4⟩ hl hf =>
      have hC := (Inv.reachable hk h1).C
      have ⟨y, z, w⟩ := proto_drain hC h2 hl (fire_proto hf)
      ⟨⟨(mem k).reach_step h1 hf, h2.drain hl (fire_proto hf), by rw [stopped_step (fire_proto hf) (drain_ne_shutdown l hl)]; exact h3,
          fun p hp => tracked_step hC hl hf (h4 p hp)⟩,
        y, z.imp id (fun e => ⟨e.1, by rw [e.2.1]; exact Nat.lt_irrefl _⟩), w⟩)
    n0 ⟨reach n0, hcov, hs, fun _ a => a⟩ hq
    (Done := fun n => ∀ p, ¬ ((ρ n).ps p).ph.inCond) (fun n _ ⟨h1, _, h3, _⟩ hnd => by
      obtain ⟨p, hp'⟩ := Classical.not_forall.mp hnd
      have hp := Classical.not_not.mp hp'
      -- at rest a blocked producer means unfinished work, which the consumers serve; otherwise some goroutine takes a step
      by_cases hqu : Quiescent k (ρ n)
      · obtain ⟨m, hm, hsv⟩ := hc n (C02_blocked_implies_pending_completion hk h1 h3 hqu p hp).2
        exact ⟨m, hm, Or.inr hsv⟩
      · obtain ⟨m, hm, l, hl, hli⟩ := hf n hqu
        exact ⟨m, hm, Or.inl ⟨l, hl, hli⟩⟩)
  refine ⟨m, hm, hnc, fun p hp hcn => ?_⟩
  exact (htr p (.of_waiting hp hcn hs)).accepted_of_not_inCond (hnc p)

end fair

/-! ## per-producer liveness under weak fairness of the producer's own goroutine (`Pending`, `ProdFair`: `Lemmas/C02Fair.lean`) -/

/-- **a signalled or cancelled waiter re-takes the lock** (per-producer liveness): in every run in which the goroutine of producer
`p` is treated with weak fairness (a step of its own that stays enabled is eventually taken), a producer whose channel has been
closed (by the `Broadcast` of a completion or of `Shutdown`, or by a forwarded `Signal`) or whose context has ended, and every
producer that is already between the `select` and `L.Lock()`, eventually re-locks: `relockTok p` (it re-evaluates its overflow loop
under the lock: enqueued iff `size + el ≤ cap` at that moment and the queue is running) or `relockCtx p` (it returns its context's
error).  No assumption on the other goroutines or on the environment. -/
theorem C02_fair_waiter_rechecks {k : Cfg} {ρ : Nat → St} {lab : Nat → Option Label} (hr : IsRun k ρ lab) (p : Nat)
    (hf : ProdFair k ρ lab p) (n : Nat) (hp : Pending (ρ n) p) :
    ∃ m, n ≤ m ∧ (lab m = some (.relockTok p) ∨ lab m = some (.relockCtx p)) := by
  apply Classical.byContradiction
  intro hno
  have hno' : ∀ m, n ≤ m → ∀ l, lab m = some l → l ≠ .relockTok p ∧ l ≠ .relockCtx p := fun m hm l e =>
    ⟨fun x => hno ⟨m, hm, Or.inl (x ▸ e)⟩, fun x => hno ⟨m, hm, Or.inr (x ▸ e)⟩⟩
  -- as `p` never re-locks, a step of its own goroutine out of a Pending state leaves the select
  have own : ∀ m, n ≤ m → Pending (ρ m) p → ∀ l, lab m = some l → l.tid = some p → l.internal = true →
      ((ρ m).ps p).ph = .sel ∧ (((ρ (m+1)).ps p).ph = .wokenTok ∨ ((ρ (m+1)).ps p).ph = .wokenCtx) := fun m hm h l e ht hi => by
    rcases hr.2 m with ⟨e', _⟩ | ⟨l', e1, hfl⟩
    · rw [e] at e'; cases e'
    · obtain rfl : l = l' := Option.some.inj (e.symm.trans e1)
      rcases own_step (fire_proto hfl) ht hi with a | ⟨a, _⟩ | ⟨a, _⟩ | a
      · exact a
      · exact absurd a (hno' m hm l e).1
      · exact absurd a (hno' m hm l e).2
      · rcases h with ⟨b, _⟩ | b | b <;> rw [b] at a <;> cases a
  have allP : ∀ m, n ≤ m → Pending (ρ m) p := from_on hp (fun m hm h => by
    rcases hr.2 m with ⟨_, e⟩ | ⟨l, e1, hfl⟩
    · rw [e]; exact h
    · by_cases hown : l.tid = some p ∧ l.internal = true
      · exact Or.inr (own m hm h l e1 hown.1 hown.2).2
      · exact pending_step (fire_proto hfl) p hown h)
  -- first own step: leaves the select
  obtain ⟨m1, hm1, l1, hl1, ht1, hi1⟩ := hf n (fun m hm => pending_enabled k _ p (allP m hm))
  -- from then on it stays between the select and the lock
  have stay : ∀ m, m1 + 1 ≤ m → ((ρ m).ps p).ph = .wokenTok ∨ ((ρ m).ps p).ph = .wokenCtx :=
    from_on (own m1 hm1 (allP m1 hm1) l1 hl1 ht1 hi1).2 (fun m hm ih => by
      rcases hr.2 m with ⟨_, e⟩ | ⟨l, e1, hfl⟩
      · rw [e]; exact ih
      · have hn := hno' m (Nat.le_trans hm1 (Nat.le_trans (Nat.le_succ _) hm)) l e1
        rw [woken_step (fire_proto hfl) ih hn.1 hn.2]; exact ih)
  -- second own step: would start from the select again
  obtain ⟨m2, hm2, l2, hl2, ht2, hi2⟩ := hf (m1 + 1) (fun m hm =>
    pending_enabled k _ p (allP m (Nat.le_trans hm1 (Nat.le_trans (Nat.le_succ _) hm))))
  have hn2 := Nat.le_trans hm1 (Nat.le_trans (Nat.le_succ _) hm2)
  have hsel := (own m2 hn2 (allP m2 hn2) l2 hl2 ht2 hi2).1
  rcases stay m2 hm2 with a | a <;> rw [a] at hsel <;> cases hsel

/-! ## persistent queue: what `Size()` reports across lives (`Model/C02R.lean`: back-up cadence, restart, re-enqueue)

Every theorem is over ALL scripts of offers, reads, completions (also with a shutdown error), shutdowns and restarts
(with or without a preceding shutdown, with any new capacity and sizer), from an empty storage. -/

/-- the reported size is never negative, in any life, after any history -/
theorem C02_pq_size_never_negative (c : R.RCfg) (ops : List R.ROp) : 0 ≤ (R.run c {} ops).2.size :=
  (R.RInv.run R.RInv.init ops).nonneg

/-- requests sizer: right after EVERY (re)start — clean or not, whatever sizer, capacity and back-ups the earlier lives
had — the reported size is exactly the number of stored requests `wi - ri` (the stale `si` snapshot is not consulted and
every re-enqueued dispatched request counts 1).  Hence the observation "restored size > capacity" can only come from
more requests being stored than the (new) capacity, never from a wrong count. -/
theorem C02_pq_requests_sized_restart_exact (c : R.RCfg) (ops : List R.ROp) (c' : R.RCfg) (hc : c'.reqSized = true) :
    let s := (R.run c {} (ops ++ [.restart c'])).2
    s.size = ((s.wi - s.ri : Nat) : Int) := by
  have e : ∀ (ops : List R.ROp) (c : R.RCfg) (s0 : R.RSt),
      (R.run c s0 (ops ++ [.restart c'])).2 = R.restart c' (R.run c s0 ops).2 := by
    intro ops
    induction ops with
    | nil => intro c s0; rfl
    | cons o os ih => intro c s0; simp only [List.cons_append, R.run]; exact ih _ _
  have h := R.RInv.run (c := c) R.RInv.init ops
  simp only [e]
  exact R.restart_req_exact hc h

/-- every sizer: a (re)started queue with nothing queued reports 0 — the `si` snapshot is only consulted when something
is stored (this is the field `PStart.emptyZero` that `C02_persistent_size_any_start` asks of its start state, here for the constructor) -/
theorem C02_pq_restart_on_nothing_is_zero (c : R.RCfg) (ops : List R.ROp) (c' : R.RCfg) :
    let s := R.restart c' (R.run c {} ops).2
    s.wi = s.ri → s.size = 0 :=
  fun he => R.restart_empty_zero (R.RInv.run R.RInv.init ops) he

/-- a new life sees exactly the read and write index the previous one had (storage never fails), in particular
`ri ≤ wi`: the unsigned subtraction `wi - ri` of `initPersistentContiguousStorage` cannot wrap -/
theorem C02_pq_restart_recovers_indexes (c : R.RCfg) (ops : List R.ROp) :
    let s := (R.run c {} ops).2
    R.restartIdx s = (s.ri, s.wi) ∧ s.ri ≤ s.wi ∧ s.sDi = s.disp :=
  let h := R.RInv.run (c := c) R.RInv.init ops
  ⟨R.restartIdx_eq h, h.le, h.syncD⟩

/-- an `Offer` is either refused and stores NOTHING (write index, stored requests and size unchanged: the request can never be
handed over), or it is accepted and the write is committed — also when the periodic back-up of the size that follows it fails
(`siFails`): a failing back-up never turns a committed write into a refusal -/
theorem C02_pq_offer_refused_iff_nothing_stored (c : R.RCfg) (s : R.RSt) (n : Nat) :
    ((R.offer c s n).2 = false → (R.offer c s n).1.wi = s.wi ∧ (R.offer c s n).1.store = s.store ∧ (R.offer c s n).1.size = s.size) ∧
    ((R.offer c s n).2 = true → (R.offer c s n).1.wi = s.wi + 1 ∧ (R.offer c s n).1.size = s.size + R.sizeOf c n) := by
  unfold R.offer
  simp only []
  split
  · exact ⟨fun _ => ⟨rfl, rfl, rfl⟩, fun h => (by cases h)⟩
  · refine ⟨fun h => (by cases h), fun _ => ?_⟩
    obtain ⟨a1, _, a3, _⟩ := R.writeInternal_fields c { s with next := s.next + 1 } s.next n
    exact ⟨a3, a1⟩

/-- soundness of the clause functions the `pqsize` verdict is computed from -/
theorem C02_check_pqsize_sound (cap sizeBefore el size sumU sumF : Int) (full reqSized : Bool) (nQ : Nat) :
    (R.refusalClause cap sizeBefore el full = true → (full = true ↔ sizeBefore + el > cap)) ∧
    (R.restartClause reqSized size nQ = true → (nQ = 0 → size = 0) ∧ (reqSized = true → size = (nQ : Int))) ∧
    (R.freshClause cap size sumU = true → 0 ≤ size ∧ size ≤ cap ∧ size ≤ sumU) ∧
    (R.anyClause size sumF nQ = true → 0 ≤ size ∧ (nQ = 0 → size ≤ sumF)) := by
  refine ⟨?_, ?_, ?_, ?_⟩
  · intro h
    simp only [R.refusalClause, beq_iff_eq] at h
    rw [h]; simp
  · intro h
    simp only [R.restartClause, Bool.and_eq_true, Bool.or_eq_true, bne_iff_ne, beq_iff_eq, Bool.not_eq_true'] at h
    refine ⟨fun h0 => ?_, fun hr => ?_⟩
    · rcases h.1 with a | a
      · exact absurd h0 a
      · exact a
    · rcases h.2 with a | a
      · rw [hr] at a; cases a
      · exact a
  · intro h
    simp only [R.freshClause, Bool.and_eq_true, decide_eq_true_eq] at h
    exact ⟨h.1.1, h.1.2, h.2⟩
  · intro h
    simp only [R.anyClause, Bool.and_eq_true, Bool.or_eq_true, bne_iff_ne, decide_eq_true_eq] at h
    refine ⟨h.1, fun h0 => ?_⟩
    rcases h.2 with a | a
    · exact absurd h0 a
    · exact a

/-- non-vacuity: capacity 2, requests sizer: two requests accepted and read (the size is reset to 0 at `ri = wi`), two more
accepted, the process is killed: the new life re-enqueues the two dispatched requests and reports 4 > 2 — exact count,
above the capacity -/
example : (R.run { cap := 2, reqSized := true } {}
    [.offer 1, .offer 1, .read, .read, .offer 1, .offer 1, .restart { cap := 2, reqSized := true }]).2.size = 4 := by rfl

/-- non-vacuity: items sizer, a stale snapshot: the 5th write backs up size 5, three more writes, killed: restored 5 ≠ 8 -/
example : (R.run { cap := 100, reqSized := false } {}
    [.offer 1, .offer 1, .offer 1, .offer 1, .offer 1, .offer 1, .offer 1, .offer 1, .restart { cap := 100, reqSized := false }]).2.size = 5 := by rfl

/-! ## the consumer pool of `async_queue.go` (`Model/C02A.lean`): any number of consumers, memory or persistent queue -/

/-- the pool refines the queue: the queue behind a pool is a reachable state of `fire` (memory) / `pfire` (persistent), so
every theorem above (FIFO, exactly-once, size, refusal, wake-ups) holds for the queue as the exporter's consumers drive it -/
theorem C02_async_refines_queue {pl : A.Pool} {a : A.ASt} (hr : A.AReachable k pl a) :
    (pl.persistent = false → Reachable k a.q) ∧ (pl.persistent = true → PReachable k a.q) :=
  A.areach_queue hr

/-- the consumers' phases are consistent with the queue, in every reachable state: the consumers sleeping inside `Read`
(parked or notified) are exactly the pool's consumers in phase `parked`, none of them twice; a consumer has left its loop only
if the queue was shut down -/
theorem C02_async_consumer_phases {pl : A.Pool} {a : A.ASt} (hr : A.AReachable k pl a) :
    (∀ c, c ∈ a.q.cwait ++ a.q.cwoken ↔ a.cs c = .parked) ∧ (∀ c, c ∈ a.q.cwait ++ a.q.cwoken → c < pl.n) ∧
    (a.q.cwait ++ a.q.cwoken).Nodup ∧ (∀ c, a.cs c = .exited → a.q.stopped = true) :=
  let h := A.AInv.reachable hr
  ⟨fun c => ⟨fun hc => (h.inW c hc).1, h.parked c⟩, fun c hc => (h.inW c hc).2, h.nodup, h.exited⟩

/-- **the pool is work-conserving** ("every accepted request is handed to a consumer" at pool level): in every reachable
state at rest — no consumer and no producer goroutine can take a step of its own — of a running queue, a request is queued
only while EVERY one of the `numConsumers` consumers is inside `consumeFunc`.  Memory and persistent queue, any number of
consumers, every schedule. -/
theorem C02_async_work_conserving {pl : A.Pool} {a : A.ASt} (hr : A.AReachable k pl a) (hq : A.AQuiescent k pl a)
    (hs : a.q.stopped = false) (hi : a.q.items ≠ []) : ∀ c, c < pl.n → ∃ id, a.cs c = .busy id :=
  A.work_conserving hr hq hs hi

/-- **exactly-once at the level of `consumeFunc`**: in every reachable state of the pool, whoever is inside `consumeFunc`
holds a request that was handed over by the queue, and no two consumers hold the same request (with `C02_exactly_once` /
`C02_persistent_exactly_once` behind the pool: handed over once, to one consumer) -/
theorem C02_async_exactly_once {pl : A.Pool} {a : A.ASt} (hk : 0 ≤ k.cap) (hr : A.AReachable k pl a) :
    (∀ c id, a.cs c = .busy id → id ∈ a.q.handed) ∧ (∀ c c' id, a.cs c = .busy id → a.cs c' = .busy id → c = c') ∧
    a.q.handed.Nodup :=
  let h := A.BInv.reachable hk hr
  ⟨h.sub, h.inj, A.handed_nodup_of hk hr⟩

/-- soundness of the clause functions the `async` verdict is computed from -/
theorem C02_check_async_sound (n queued busy : Nat) (persistent deferred stopped : Bool) (left bs : List Nat) :
    (A.workClause n persistent deferred stopped queued busy = true → stopped = false → queued ≠ 0 → deferred = false ∧ busy = n) ∧
    (A.onceClause left bs = true → ∀ id ∈ bs, id ∉ left) := by
  refine ⟨?_, ?_⟩
  · intro h hs hq
    simp only [A.workClause, hs, Bool.and_false, Bool.false_or, Bool.or_eq_true, beq_iff_eq, Bool.and_eq_true,
      Bool.not_eq_true'] at h
    rcases h with h | h
    · exact absurd h hq
    · exact h
  · intro h id hid hl
    simp only [A.onceClause, Bool.and_eq_true, List.all_eq_true, Bool.not_eq_true'] at h
    have := h.1 id hid
    simp [hl] at this

/-- non-vacuity: two consumers, capacity 3: both park at start; three requests of size 1: the first two are taken, the
third waits while both consumers are inside `consumeFunc` (the `example` below evaluates the end state) -/
def poolDemo : List A.ALabel :=
  [.cread 0, .cread 1, .q (.offer 0 1), .crecheck 0, .q (.offer 1 1), .crecheck 1, .q (.offer 2 1)]

example : (A.arun { cap := 3, block := true, wfr := false } { n := 2, persistent := false } {} poolDemo).map
    (fun a => (a.q.items.map Prod.fst, a.cs 0, a.cs 1, a.q.cwait, a.q.cwoken, a.q.stopped)) =
    some ([2], .busy 0, .busy 1, [], [], false) := by rfl

/-! ## persistent queue: termination of the goroutines' own activity, and rest in every fair run (`Lemmas/C02PFair.lean`) -/

/-- persistent counterpart of `C02_deadlock_free_full`: from every reachable state the goroutines can take only boundedly
many steps on their own -/
def C02_persistent_deadlock_free_full : Prop :=
  ∀ (k : Cfg) (s : St), 0 ≤ k.cap → PReachable k s →
    ∃ n, ∀ ls, (∀ l ∈ ls, Label.internal l = true) → (prunSched k s ls).isSome = true → ls.length ≤ n

/-- it holds; the ranking `PPhi` weighs every notified consumer and every producer inside `cond.Wait` with `2·|threads|+1`,
because in the persistent queue a consumer's own step (reading the last stored request) broadcasts to all waiting producers -/
theorem C02_persistent_deadlock_free_full_holds : C02_persistent_deadlock_free_full := by
  intro k s hk hr
  obtain ⟨L, hc⟩ := (pers k).covers_exists hr
  exact ⟨PPhi L s, fun ls hi hs => (pers k).internal_run_bounded (fun _ h => (Invp.reachable hk h).C) ls s hr hc hi hs⟩

/-- the persistent queue's own activity always comes to rest: some finite internal schedule reaches a state at rest, where
`C02_persistent_release_on_space`, `C02_persistent_no_lost_wakeup` and
`C02_persistent_no_request_waits_beside_parked_consumer` apply -/
theorem C02_persistent_quiescence_reachable (hk : 0 ≤ k.cap) (hr : PReachable k s) :
    ∃ ls s', (∀ l ∈ ls, Label.internal l = true) ∧ prunSched k s ls = some s' ∧ PQuiescent k s' := by
  obtain ⟨L, hc⟩ := (pers k).covers_exists hr
  obtain ⟨ls, s', h1, h2, h3, _⟩ := (pers k).exists_quiesce (fun _ h => (Invp.reachable hk h).C) s hr hc
  exact ⟨ls, s', h1, h2, h3⟩

/-- **every fair run of the persistent queue comes to rest once the environment is quiet** and stays there; in that state
whoever is still inside `cond.Wait` does not fit, and something is still queued or in flight (whose completion will
broadcast) — the release clause as worded, for every run under scheduler fairness (minimal progress) -/
theorem C02_persistent_fair_run_comes_to_rest {ρ : Nat → St} {lab : Nat → Option Label} (hk : 0 ≤ k.cap)
    (hr : PIsRun k ρ lab) (hf : PSchedFair k ρ lab) (n0 : Nat) (hq : InternalFrom lab n0) :
    ∃ m, n0 ≤ m ∧ PQuiescent k (ρ m) ∧ (∀ j, m ≤ j → ρ j = ρ m) ∧
      (∀ p, ((ρ m).ps p).ph.inCond →
        (ρ m).size + ((ρ m).ps p).el > k.cap ∧ ((ρ m).items ≠ [] ∨ (ρ m).inflight ≠ [])) := by
  obtain ⟨m, hm, hqu, hst, hrm⟩ := (pers k).fair_run_rests (fun _ h => (Invp.reachable hk h).C) hr.1 hr.2 hf n0 hq
  refine ⟨m, hm, hqu, hst, fun p hp => ?_⟩
  exact ⟨C02_persistent_release_on_space hk hrm hqu p hp, (C02_persistent_no_lost_wakeup hk hrm hqu).1 p hp⟩

/-- **every fair run of the persistent queue releases every blocked producer**: if from instant `n0` on there is no new
Offer, no cancellation and no shutdown, the queue is running, the scheduler is fair (minimal progress) and the consumers keep
working (`PConsFair`: whenever a request is stored or in flight, eventually one is taken or completed), then at some later
instant NO producer is inside `cond.Wait`.  Lexicographic ranking (`Omega`, `PPhi`). -/
theorem C02_persistent_fair_run_releases_all {ρ : Nat → St} {lab : Nat → Option Label} (hk : 0 ≤ k.cap) (hr : PIsRun k ρ lab)
    (hf : PSchedFair k ρ lab) (hc : PConsFair ρ) (n0 : Nat) (hq : DrainFrom lab n0) (hs : (ρ n0).stopped = false) :
    ∃ m, n0 ≤ m ∧ ∀ p, ¬ ((ρ m).ps p).ph.inCond := by
  have reach := (pers k).run_reach hr.1 hr.2
  obtain ⟨L, hcov⟩ := (pers k).covers_exists (reach n0)
  obtain ⟨m, hm, hnc, _⟩ := fair_drain (f := pfire k) hr.2 (I := fun s => PReachable k s ∧ Covers L s)
    (ok := Label.drain) (a := Omega L) (b := PPhi L) (R := fun s s' => backlog s' < backlog s) (fun _ => Nat.lt_irrefl _)
    (fun s l s' ⟨h1, h2⟩ hl hf =>
      have ⟨y, z, w⟩ := proto_drain (Invp.reachable hk h1).C h2 hl (pfire_proto hf)
      ⟨⟨(pers k).reach_step h1 hf, h2.drain hl (pfire_proto hf)⟩, y, z.imp id (fun e => ⟨e.1, Nat.not_lt.mpr e.2.2⟩), w⟩)
    n0 ⟨reach n0, hcov⟩ hq
    (Done := fun n => ∀ p, ¬ ((ρ n).ps p).ph.inCond) (fun n _ ⟨h1, _⟩ hnd => by
      obtain ⟨p, hp'⟩ := Classical.not_forall.mp hnd
      have hp := Classical.not_not.mp hp'
      by_cases hqu : PQuiescent k (ρ n)
      · obtain ⟨m, hm, hsv⟩ := hc n ((C02_persistent_no_lost_wakeup hk h1 hqu).1 p hp)
        exact ⟨m, hm, Or.inr hsv⟩
      · obtain ⟨m, hm, l, hl, hli⟩ := hf n hqu
        exact ⟨m, hm, Or.inl ⟨l, hl, hli⟩⟩)
  exact ⟨m, hm, hnc⟩

/-- non-vacuity: capacity 2, blocking: the consumer parks, request 0 (size 2) is stored and taken (the size is reset to 0 at
`ri = wi`), requests 1 and 2 fill the queue, producer 3 (size 1) blocks; the completion of request 0 (size 2 - 2 = 0) broadcasts:
producer 3 still has to wake up and re-lock — a reachable state NOT at rest, from which only goroutine steps follow -/
example : (prunSched { cap := 2, block := true, wfr := false } {}
    [.read 0, .offer 0 2, .recheck 0, .offer 1 1, .offer 2 1, .offer 3 1, .complete 0 0]).map
    (fun s => (s.size, (s.ps 3).ph, (s.ps 3).sig, s.items.map Prod.fst)) = some (0, .sel, true, [1, 2]) := by rfl

/-! ## the model's guards and wake-up calls are the ones REGENERATED from the source (`Gen/QueueGuards.lean`, `Model/C02G.lean`) -/

/-- **`memoryQueue.Offer`'s guards are the regenerated ones**: the `offer` transition of the LTS is the interpretation of the
guard table extracted from the current source (`== 0 → nil`, `<= 0 → errInvalidSize`, `> cap → errSizeTooLarge`, in this order),
followed by `add` -/
theorem C02_offer_guards_regenerated (k : Cfg) (s : St) (p : Nat) (el : Int) (h : (s.ps p).ph = .idle) :
    fire k s (.offer p el) = some (
      match G.first ⟨el, k.cap, s.size, k.block, s.stopped⟩ Gen.QueueGuards.memOffer with
      | some (some .ok) => setP s p { s.ps p with ph := .done .ok }
      | some (some r) => refuse s p r
      | some none => tryAdd k s p el
      | none => s) := by
  -- the table is interpreted once, symbolically (its tokens are literals); what is left are the three comparisons
  simp only [fire, h, if_true, G.first, G.holds, G.opnd, G.cmp, G.ret, Gen.QueueGuards.memOffer]
  by_cases h0 : el = 0
  · simp [h0]
  · by_cases h1 : el < 0
    · simp [h0, h1, Int.le_of_lt h1]
    · by_cases h2 : el > k.cap <;> simp [h0, h1, h2, show ¬ el ≤ 0 by omega]

/-- **the overflow loop of `memoryQueue.add` is the regenerated one** -/
theorem C02_add_loop_regenerated (k : Cfg) (s : St) (p : Nat) (el : Int) :
    tryAdd k s p el =
      match G.holds ⟨el, k.cap, s.size, k.block, s.stopped⟩ Gen.QueueGuards.memLoopCond with
      | some true =>
        (match G.first ⟨el, k.cap, s.size, k.block, s.stopped⟩ Gen.QueueGuards.memLoopBody with
         | some (some r) => refuse s p r
         | some none => register s p el
         | none => s)
      | some false =>
        (match G.first ⟨el, k.cap, s.size, k.block, s.stopped⟩ Gen.QueueGuards.memAfterLoop with
         | some (some r) => refuse s p r
         | some none => accept k s p el
         | none => s)
      | none => s := by
  simp only [G.first, G.holds, G.opnd, G.cmp, G.ret, Gen.QueueGuards.memLoopCond, Gen.QueueGuards.memLoopBody,
    Gen.QueueGuards.memAfterLoop]
  unfold tryAdd
  by_cases h1 : s.size + el > k.cap <;> cases k.block <;> cases s.stopped <;> simp [h1]

/-- **the overflow loop of `persistentQueue.putInternal` is the regenerated one** -/
theorem C02_put_loop_regenerated (k : Cfg) (s : St) (p : Nat) (el : Int) :
    ptryAdd k s p el =
      match G.holds ⟨el, k.cap, s.size, k.block, s.stopped⟩ Gen.QueueGuards.pqLoopCond with
      | some true =>
        (match G.first ⟨el, k.cap, s.size, k.block, s.stopped⟩ Gen.QueueGuards.pqLoopBody with
         | some (some r) => refuse s p r
         | some none => register s p el
         | none => s)
      | some false =>
        (match G.first ⟨el, k.cap, s.size, k.block, s.stopped⟩ Gen.QueueGuards.pqAfterLoop with
         | some (some r) => refuse s p r
         | some none => paccept s p el
         | none => s)
      | none => s := by
  simp only [G.first, G.holds, G.opnd, G.cmp, G.ret, Gen.QueueGuards.pqLoopCond, Gen.QueueGuards.pqLoopBody,
    Gen.QueueGuards.pqAfterLoop]
  unfold ptryAdd
  by_cases h1 : s.size + el > k.cap <;> cases k.block <;> by_cases h2 : el > k.cap <;> simp [h1, h2]

/-- **every wake-up call of the source is a transition of the model and vice versa**: the regenerated list of all
Signal / Broadcast call sites on the two condition variables is exactly the list the LTS was written for -
`accept`/`paccept` notify ONE consumer (`hasMoreElements.Signal`), `finish`/`pfinish` and `ppop`'s reset wake ALL producers
(`hasMoreSpace.Broadcast`), `shutdown` wakes all consumers (and, memory queue only, all producers) -/
theorem C02_wakeup_sites_regenerated :
    Gen.QueueGuards.condSites =
      [("memoryQueue.add", "hasMoreElements", "Signal"),
       ("memoryQueue.onDone", "hasMoreSpace", "Broadcast"),
       ("memoryQueue.Shutdown", "hasMoreElements", "Broadcast"),
       ("memoryQueue.Shutdown", "hasMoreSpace", "Broadcast"),
       ("persistentQueue.Shutdown", "hasMoreElements", "Broadcast"),
       ("persistentQueue.writeInternal", "hasMoreElements", "Signal"),
       ("persistentQueue.Read", "hasMoreSpace", "Broadcast"),
       ("persistentQueue.onDone", "hasMoreSpace", "Broadcast")] := rfl

/-! ## `Config.Validate` (`Model/C02V.lean`): the hypotheses of the queue theorems hold for every validated configuration -/

/-- every ENABLED configuration that passes `Validate` has a positive `queue_size` (so `0 ≤ k.cap`, the hypothesis of all the
theorems above, holds for the queue built from it), at least one consumer (the pool of `C02_async_work_conserving` is not
empty), with `storage` the requests sizer and no `wait_for_result` (the persistent LTS has no result channel), and with
`batch` the items or bytes sizer -/
theorem C02_validated_config_meets_hypotheses (c : V.QCfg) (h : V.validate c = .ok) (he : c.enabled = true) :
    0 < c.queueSize ∧ 0 < c.numConsumers ∧ (c.storage = true → c.sizer = .requests ∧ c.wfr = false) ∧
    (c.batch.isSome = true → c.sizer = .items ∨ c.sizer = .bytes) := by
  unfold V.validate at h
  simp only [he, Bool.not_true, Bool.false_eq_true, if_false] at h
  by_cases h1 : c.numConsumers ≤ 0
  · rw [if_pos h1] at h; cases h
  rw [if_neg h1] at h
  by_cases h2 : c.queueSize ≤ 0
  · rw [if_pos h2] at h; cases h
  rw [if_neg h2] at h
  by_cases h3 : (c.storage && c.wfr) = true
  · rw [if_pos h3] at h; cases h
  rw [if_neg h3] at h
  by_cases h4 : (c.storage && c.sizer != .requests) = true
  · rw [if_pos h4] at h; cases h
  rw [if_neg h4] at h
  by_cases h5 : (c.batch.isSome && (c.sizer != .items && c.sizer != .bytes)) = true
  · rw [if_pos h5] at h; cases h
  refine ⟨by omega, by omega, fun hs => ?_, fun hb => ?_⟩
  · simp only [hs, Bool.true_and, Bool.not_eq_true] at h3 h4
    exact ⟨by cases hz : c.sizer <;> simp [hz] at h4 ⊢, h3⟩
  · simp only [hb, Bool.true_and, Bool.not_eq_true] at h5
    cases hz : c.sizer <;> simp [hz] at h5 ⊢

/-- soundness of the clause the `validate` verdict is computed from -/
theorem C02_check_validate_sound (enabled storage wfr reqSizer : Bool) (nc qs : Int)
    (h : V.acceptClause true enabled nc qs storage wfr reqSizer = true) (he : enabled = true) :
    0 < nc ∧ 0 < qs ∧ (storage = true → reqSizer = true ∧ wfr = false) := by
  simp only [V.acceptClause, he, Bool.and_self, Bool.not_true, Bool.false_or, Bool.and_eq_true, decide_eq_true_eq,
    Bool.or_eq_true, Bool.not_eq_true'] at h
  refine ⟨h.1.1, h.1.2, fun hs => ?_⟩
  rcases h.2 with a | a
  · rw [hs] at a; cases a
  · exact a

/-- non-vacuity: a persistent-queue configuration that passes, and the edge that does not -/
example : V.validate { enabled := true, numConsumers := 2, queueSize := 5, storage := true, wfr := false, sizer := .requests, batch := none } = .ok ∧
    V.validate { enabled := true, numConsumers := 2, queueSize := 0, storage := false, wfr := false, sizer := .items, batch := none } = .queueSize := by
  decide

/-! ## non-vacuity: concrete schedules -/

/-- the head-of-line schedule `hol`: the completion of request 0 wakes producers 1 AND 2; both get in -/
example : (runSched k10 {} (hol ++ [.wakeTok 2, .relockTok 2])).map
    (fun s => ((s.ps 1).ph, (s.ps 2).ph, s.size, s.waiters)) = some (.done .ok, .done .ok, 7, []) := by rfl

/-- `Shutdown` with two blocked producers: both are woken and refused, nobody is left behind on the stopped queue -/
example : (runSched { cap := 2, block := true, wfr := false } {}
    [.offer 0 2, .offer 1 1, .offer 2 1, .read 7, .shutdown, .wakeTok 1, .relockTok 1, .wakeTok 2, .relockTok 2]).map
    (fun s => ((s.ps 1).ph, (s.ps 2).ph, s.waiters)) = some (.done .stopped, .done .stopped, []) := by rfl

def k2 : Cfg := { cap := 2, block := true, wfr := false }

/-- capacity 2: producer 0 (size 2) is accepted, producers 1 and 2 (size 1, 2) block; consumer takes 0;
producer 1's context ends while the completion's signal is already addressed to it; it forwards the
signal, producer 2 is released and accepted: nobody is left in the cond -/
def demo : List Label :=
  [.offer 0 2, .offer 1 1, .offer 2 2, .read 7, .complete 0 0, .cancel 1, .wakeCtx 1, .relockCtx 1, .wakeTok 2, .relockTok 2]

example : (runSched k2 {} demo).map (fun s => (s.size, s.accepted, s.refused, s.handed, s.waiters, (s.ps 2).ph)) =
    some (2, [0, 2], [1], [0], [], .done .ok) := by rfl

/-- a reachable state in which a producer is legitimately blocked (hypotheses of the theorems are met by
non-trivial states) -/
example : (runSched k2 {} [.offer 0 2, .offer 1 1]).map (fun s => (s.waiters, (s.ps 1).ph, s.size)) =
    some ([1], .sel, 2) := by rfl

example : Check.fifoRun ([], [], []) [([], [0]), ([], [0, 1]), ([0], [1]), ([1], [2])] = some ([0, 1, 2], [0, 1], [2]) := by decide

/-! ## non-vacuity of the fair-run theorems: concrete runs meeting every hypothesis

Capacity 2, `block_on_overflow`: producer 0 (size 2) is accepted, producer 1 (size 1) blocks; the consumer takes and
completes request 0 (Broadcast), producer 1 wakes, re-locks and is enqueued; its request is taken and completed; then the
run stutters for ever (`playStates` / `playLabs`, `Lemmas/C02Fair.lean`). -/

def fairSched : List Label :=
  [.offer 0 2, .offer 1 1, .read 7, .complete 0 0, .wakeTok 1, .relockTok 1, .read 7, .complete 1 0]

theorem fairSched_offers (n : Nat) : ∀ l ∈ fairSched.take n, ∀ q el, l = .offer q el → q ∈ [0, 1] := by
  intro l hl q el e
  have all : ∀ l ∈ fairSched, (match l with | .offer q _ => decide (q ∈ [0, 1]) | _ => true) = true := by decide
  have := all l (List.mem_of_mem_take hl)
  rw [e] at this
  exact of_decide_eq_true this

theorem fairSched_ok : (runSched k2 {} fairSched).isSome = true := by rfl

theorem fair_final : runSched k2 {} fairSched = some (playStates k2 {} fairSched 8) :=
  play_take k2 fairSched {} 8 fairSched_ok

/-- from instant 6 on the example run is at rest at every instant -/
theorem fair_rest (n : Nat) (hn : 6 ≤ n) : Quiescent k2 (playStates k2 {} fairSched n) := by
  -- both producers have returned and no consumer is on its way: one evaluation of the run per instant
  have obs : ∀ m, m ≤ 8 → 6 ≤ m → (∀ p ∈ [0, 1], ((playStates k2 {} fairSched m).ps p).ph = .done .ok) ∧
      (playStates k2 {} fairSched m).cwoken = [] := by decide +kernel
  have rest : ∀ m, m ≤ 8 → 6 ≤ m → Quiescent k2 (playStates k2 {} fairSched m) := fun m h1 h2 =>
    (mem k2).rest_of_sched [0, 1] _ _ (play_take k2 fairSched {} m fairSched_ok) (fun p hp => ⟨_, (obs m h1 h2).1 p hp⟩) (obs m h1 h2).2
      (fairSched_offers m)
  by_cases h : n ≤ 8
  · exact rest n h hn
  · rw [play_after fair_final n (Nat.le_of_lt (Nat.lt_of_not_le h))]
    exact rest 8 (Nat.le_refl _) (by decide)

example : ∃ (ρ : Nat → St) (lab : Nat → Option Label),
    IsRun k2 ρ lab ∧ SchedFair k2 ρ lab ∧ ConsFair ρ ∧ OnlyFrom lab 2 Label.drain ∧ (ρ 2).stopped = false ∧
    ((ρ 2).ps 1).ph = .sel ∧ ((ρ 2).ps 1).canc = false := by
  refine ⟨playStates k2 {} fairSched, playLabs fairSched, play_isRun ⟨[], rfl⟩ fairSched_ok, ?_, ?_,
    onlyFrom_play _ _ _ (by decide), rfl, rfl, rfl⟩
  · intro n hq
    by_cases h4 : n ≤ 4
    · exact ⟨4, h4, .wakeTok 1, rfl, rfl⟩
    by_cases h5 : n ≤ 5
    · exact ⟨5, h5, .relockTok 1, rfl, rfl⟩
    exact absurd (fair_rest n (Nat.lt_of_not_le h5)) hq
  · intro n hne
    have obs : ∀ m, m ≤ 7 → 6 ≤ m → served (playStates k2 {} fairSched m) < served (playStates k2 {} fairSched (m+1)) := by
      decide +kernel
    by_cases h : n ≤ 7
    · exact ⟨max n 6, Nat.le_max_left _ _, obs _ (Nat.max_le.mpr ⟨h, by decide⟩) (Nat.le_max_right _ _)⟩
    · rw [play_after fair_final n (Nat.lt_of_not_le h)] at hne
      exact absurd rfl hne

def restSched : List Label := fairSched.take 6

theorem restSched_ok : (runSched k2 {} restSched).isSome = true := by rfl

theorem rest_final : runSched k2 {} restSched = some (playStates k2 {} restSched 6) :=
  play_take k2 restSched {} 6 restSched_ok

/-- hypotheses of `C02_fair_run_comes_to_rest` are met by a run that is NOT at rest at `n0 = 4` (producer 1 has just been
signalled by the completion's Broadcast and still has to wake up and re-lock) -/
example : ∃ (ρ : Nat → St) (lab : Nat → Option Label),
    IsRun k2 ρ lab ∧ SchedFair k2 ρ lab ∧ OnlyFrom lab 4 Label.internal ∧
    (fire k2 (ρ 4) (.wakeTok 1)).isSome = true ∧ ((ρ 4).ps 1).ph = .sel := by
  refine ⟨playStates k2 {} restSched, playLabs restSched, play_isRun ⟨[], rfl⟩ restSched_ok, ?_,
    onlyFrom_play _ _ _ (by decide), rfl, rfl⟩
  intro n hq
  by_cases h4 : n ≤ 4
  · exact ⟨4, h4, .wakeTok 1, rfl, rfl⟩
  by_cases h5 : n ≤ 5
  · exact ⟨5, h5, .relockTok 1, rfl, rfl⟩
  refine absurd ?_ hq
  rw [play_after rest_final n (Nat.lt_of_not_le h5)]
  exact (mem k2).rest_of_sched [0, 1] restSched _ rest_final (fun p hp => ⟨.ok, (by decide +kernel :
    ∀ p ∈ [0, 1], ((playStates k2 {} restSched 6).ps p).ph = .done .ok) p hp⟩) rfl (fairSched_offers 6)

/-! ## non-vacuity of the persistent fair-run theorems -/

/-- capacity 2, blocking: the consumer parks; request 0 (size 2) is stored and taken (the size is reset to 0 at `ri = wi`);
request 1 (size 2) is stored; producer 2 (size 1) blocks; request 0 completes (2 - 2 = 0, Broadcast): producer 2 wakes, re-locks and
is stored; everything is taken and completed; then the run stutters for ever -/
def pfairSched : List Label :=
  [.read 0, .offer 0 2, .recheck 0, .offer 1 2, .offer 2 1, .complete 0 0, .wakeTok 2, .relockTok 2,
   .read 0, .complete 1 0, .read 0, .complete 2 0]

theorem pfairSched_ok : (prunSched k2 {} pfairSched).isSome = true := by rfl

theorem pfair_final : prunSched k2 {} pfairSched = some (pplayStates k2 {} pfairSched 12) :=
  pplay_take k2 pfairSched {} 12 pfairSched_ok

theorem pfairSched_offers (n : Nat) : ∀ l ∈ pfairSched.take n, ∀ q el, l = .offer q el → q ∈ [0, 1, 2] := by
  intro l hl q el e
  have all : ∀ l ∈ pfairSched, (match l with | .offer q _ => decide (q ∈ [0, 1, 2]) | _ => true) = true := by decide
  have := all l (List.mem_of_mem_take hl)
  rw [e] at this
  exact of_decide_eq_true this

/-- from instant 8 on the example run is at rest at every instant -/
theorem pfair_rest (n : Nat) (hn : 8 ≤ n) : PQuiescent k2 (pplayStates k2 {} pfairSched n) := by
  have obs : ∀ m, m ≤ 12 → 8 ≤ m → (∀ p ∈ [0, 1, 2], ((pplayStates k2 {} pfairSched m).ps p).ph = .done .ok) ∧
      (pplayStates k2 {} pfairSched m).cwoken = [] := by decide +kernel
  have rest : ∀ m, m ≤ 12 → 8 ≤ m → PQuiescent k2 (pplayStates k2 {} pfairSched m) := fun m h1 h2 =>
    (pers k2).rest_of_sched [0, 1, 2] _ _ (pplay_take k2 pfairSched {} m pfairSched_ok) (fun p hp => ⟨_, (obs m h1 h2).1 p hp⟩) (obs m h1 h2).2
      (pfairSched_offers m)
  by_cases h : n ≤ 12
  · exact rest n h hn
  · rw [pplay_after pfair_final n (Nat.le_of_lt (Nat.lt_of_not_le h))]
    exact rest 12 (Nat.le_refl _) (by decide)

/-- non-vacuity of `C02_persistent_fair_run_releases_all`: every hypothesis holds for this run from `n0 = 5`, where producer 2
is inside `cond.Wait`; at instant 8 it has been stored -/
example : ∃ (ρ : Nat → St) (lab : Nat → Option Label),
    PIsRun k2 ρ lab ∧ PSchedFair k2 ρ lab ∧ PConsFair ρ ∧ DrainFrom lab 5 ∧ (ρ 5).stopped = false ∧
    ((ρ 5).ps 2).ph = .sel ∧ ((ρ 8).ps 2).ph = .done .ok := by
  refine ⟨pplayStates k2 {} pfairSched, playLabs pfairSched, pplay_isRun ⟨[], rfl⟩ pfairSched_ok, ?_, ?_,
    ?_, rfl, rfl, rfl⟩
  · intro n hq
    by_cases h2 : n ≤ 2
    · exact ⟨2, h2, .recheck 0, rfl, rfl⟩
    by_cases h6 : n ≤ 6
    · exact ⟨6, h6, .wakeTok 2, rfl, rfl⟩
    by_cases h7 : n ≤ 7
    · exact ⟨7, h7, .relockTok 2, rfl, rfl⟩
    exact absurd (pfair_rest n (Nat.lt_of_not_le h7)) hq
  · intro n hne
    have obs : ∀ m, m ≤ 11 → 8 ≤ m →
        backlog (pplayStates k2 {} pfairSched (m+1)) < backlog (pplayStates k2 {} pfairSched m) := by decide +kernel
    by_cases h : n ≤ 11
    · exact ⟨max n 8, Nat.le_max_left _ _, obs _ (Nat.max_le.mpr ⟨h, by decide⟩) (Nat.le_max_right _ _)⟩
    · rw [pplay_after pfair_final n (Nat.lt_of_not_le h)] at hne
      rcases hne with h | h <;> exact absurd rfl h
  · exact onlyFrom_play _ _ _ (by decide)

/-! ## non-vacuity of `C02_fair_waiter_rechecks` -/

/-- non-vacuity: in the run `fairSched` producer 1 is signalled by the completion at instant 3 (`Pending` at 4) and its goroutine is
treated fairly (it takes `wakeTok 1`, `relockTok 1` at instants 4, 5; `ProdFair` is shown through its premise: no step of producer 1
stays enabled for ever, since it has returned from instant 6 on) -/
example : IsRun k2 (playStates k2 {} fairSched) (playLabs fairSched) ∧
    ProdFair k2 (playStates k2 {} fairSched) (playLabs fairSched) 1 ∧ Pending (playStates k2 {} fairSched 4) 1 := by
  refine ⟨play_isRun ⟨[], rfl⟩ fairSched_ok, ?_, Or.inl ⟨rfl, Or.inl rfl⟩⟩
  intro n hall
  exfalso
  have hdone : ∀ m, 6 ≤ m → ((playStates k2 {} fairSched m).ps 1).ph = .done .ok := by
    intro m hm
    match m, hm with
    | 6, _ => rfl
    | 7, _ => rfl
    | m+8, _ => rw [play_after fair_final (m+8) (Nat.le_add_left 8 m)]; rfl
  obtain ⟨l, ht, hi, he⟩ := hall (max n 6) (Nat.le_max_left _ _)
  have hd := hdone (max n 6) (Nat.le_max_right _ _)
  obtain ⟨s', hf⟩ := Option.isSome_iff_exists.mp he
  rcases own_step (fire_proto hf) ht hi with ⟨a, _⟩ | ⟨_, a⟩ | ⟨_, a⟩ | a <;> rw [hd] at a <;> cases a

end OtelVerif.C02

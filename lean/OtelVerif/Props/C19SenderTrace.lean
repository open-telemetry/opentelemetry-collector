import OtelVerif.Lemmas.C19SenderTrace
/-! # C19: the per-call sender model run on a recorded trace computes exactly `predict` -/
namespace OtelVerif.C19

/-- **The driver's `obs counters` line comes from the per-call model of the code**: for each recording signal, running
`obsReportSender.endOp` / `obsQueue.Offer` over the events of a recorded trace gives exactly the counters `predict` computes
(the trace-level predictor the exporter theorems and the balance oracle are stated with); a queue-less exporter has no `obsQueue`
and therefore no enqueue-failed count. -/
theorem C19_sender_trace_eq_predict (sig : Sig) (hs : sig ≠ .profiles) (t : List XEv) (direct : Bool) :
    (Sender.run sig (senderEvs t direct)).sent = (predict t).sent ∧ (Sender.run sig (senderEvs t direct)).failed = (predict t).failed ∧
    (Sender.run sig (senderEvs t direct)).enq = if direct then 0 else (predict t).enqFailed := by
  obtain ⟨h1, h2, h3⟩ := C19_sender_totals sig hs (senderEvs t direct)
  obtain ⟨f1, f2, f3⟩ := sums_finals (finalsOf t)
  obtain ⟨o1, o2, o3⟩ := sums_offers t
  rw [h1, h2, h3, predict_sent, predict_failed, predict_enq]
  -- the events are finals ++ offers (no offers when `direct`): finals add nothing to enq, offers nothing to sent / failed
  cases direct
  · simp only [sentSum, failedSum, enqSum, senderEvs, Bool.false_eq_true, if_false, sumBy_append] at f1 f2 f3 o1 o2 o3 ⊢
    simp only [f1, f2, f3, o1, o2, o3]
    exact ⟨by omega, by omega, by omega⟩
  · clear h1 h2 h3
    simp only [sentSum, failedSum, enqSum, senderEvs, ↓reduceIte, sumBy_append, sumBy] at f1 f2 f3 ⊢
    simp only [f1, f2, f3]
    exact ⟨by omega, by omega, trivial⟩

end OtelVerif.C19

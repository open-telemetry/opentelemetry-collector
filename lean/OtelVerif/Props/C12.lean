import OtelVerif.Lemmas.C12
import OtelVerif.Lemmas.C12Merge
import OtelVerif.Lemmas.C12Append
import OtelVerif.Lemmas.C12Loc
/-!
# C12 — config resolution: right-biased merge; exact, escapable, terminating expansion

Property theorems about the model in `Model/C12.lean` (the *repaired* `confmap/expand.go`; `Mode.pinned`
keeps the two pinned behaviours so that the defects are kernel-checked counterexamples), then about the gate-on list
merge of `Model/C12Append.lean` and about `NewResolver`, the locations and the `closers` of `Model/C12Loc.lean`.
The definitions the statements use beyond the model stand at the head of `Lemmas/C12.lean`, `Lemmas/C12Merge.lean` and
`Lemmas/C12Append.lean`; `refStr`, `resStr` and `C12_tokens_full` are here.  Some `C12_*` theorems restate a lemma under its
public name, their proof is that lemma (for `resolve` / `resolveAppend`: the gate-parametric one at `false` / `true`).
Termination needs no theorem of its own: every function of the model is structurally recursive (Lean accepted them as total),
the only loop, `expandRec`, recurses on the loop bound, and `C12_cycle_error` shows what the bound reports.
-/
namespace OtelVerif.C12

/-! ## the provider table of the examples -/

def exEnv (mode : Mode) : Env :=
  { mode := mode, schemes := [['e', 'n', 'v']], fuel := 10,
    prov := fun sc nm =>
      if sc = ['e', 'n', 'v'] ∧ nm = ['X'] then some ⟨.str ['f', 'o', 'o'], some ['f', 'o', 'o']⟩
      else if sc = ['e', 'n', 'v'] ∧ nm = ['P'] then some ⟨.int 8080, some ['8', '0', '8', '0']⟩
      else if sc = ['e', 'n', 'v'] ∧ nm = ['A'] then
        some ⟨.str ['$', '{', 'e', 'n', 'v', ':', 'A', '}'], some ['$', '{', 'e', 'n', 'v', ':', 'A', '}']⟩
      else if sc = ['e', 'n', 'v'] ∧ nm = ['M'] then
        some ⟨.map (.cons ['a'] (.int 1) (.cons ['l'] (.list (.cons (.str ['x']) .nil)) .nil)), some ['{', 'a', ':', ' ', '1', '}']⟩
      else none }

/-! ## merge -/

theorem C12_merge_lookup : ∀ (a b : KVs) (k : Str), a.keys.Nodup →
    (mergeKVs a b).lookup k = mergeAt (a.lookup k) (b.lookup k) :=
  keyWise_merge.lookup

theorem C12_merge_empty_source (b : KVs) : mergeKVs .nil b = b := by rw [mergeKVs]

/-- `Resolve` merges the URI list AS GIVEN, one entry after the other: no hypothesis on `srcs` — the same source may
occur any number of times, adjacent or not, and is merged again each time (the resolver must not de-duplicate) -/
theorem C12_merge_sources_snoc (srcs : List KVs) (s : KVs) :
    mergeSources (srcs ++ [s]) = mergeKVs s (mergeSources srcs) := by
  have h := mergeSourcesGate_snoc false srcs s
  rwa [if_neg Bool.false_ne_true, mergeSourcesGate_false, mergeSourcesGate_false] at h

/-- … so whatever came before (including an earlier occurrence of the same source and anything merged in between),
the scalars, lists and nils of the last entry win again -/
theorem C12_merge_last_source_wins (srcs : List KVs) (s : KVs) (k : Str) (v : Val) (hk : s.keys.Nodup)
    (hv : s.lookup k = some v) (hm : ∀ m, v ≠ .map m) :
    (mergeSources (srcs ++ [s])).lookup k = some v := by
  rw [C12_merge_sources_snoc, C12_merge_lookup s _ k hk, hv, mergeAt_of_not_map hm]

theorem C12_merge_sources_empty (srcs : List KVs) : mergeSources (srcs ++ [.nil]) = mergeSources srcs := by
  rw [C12_merge_sources_snoc, C12_merge_empty_source]

example : (mergeKVs (.cons ['a'] (.map (.cons ['y'] (.int 2) .nil)) .nil)
            (.cons ['a'] (.map (.cons ['x'] (.int 1) .nil)) (.cons ['b'] (.str ['k']) .nil))).lookup ['b'] = some (.str ['k']) := by
  rw [C12_merge_lookup _ _ _ (by decide +kernel)]; rfl

/-- `[A, B, A]` is not `[A, B]`: the repeated location restores A's scalar -/
example :
    let a : KVs := .cons ['s'] (.int 1) .nil
    let b : KVs := .cons ['s'] (.int 2) .nil
    (mergeSources [a, b, a]).lookup ['s'] = some (.int 1) ∧ (mergeSources [a, b]).lookup ['s'] = some (.int 2) :=
  ⟨rfl, rfl⟩

/-! ## what `findURI` returns -/

/-- `findURI` returns a genuine decomposition of its input around a `${…}` occurrence -/
theorem C12_findURI_sound {mode : Mode} {hd : Bool} {s b body a : Str}
    (h : findURI mode hd s = some (b, body, a)) : s = b ++ '$' :: '{' :: body ++ '}' :: a := findURI_sound h

/-- **the heart of the escaping clause**: on the rendering of any well-formed token list, the (repaired)
`findURI` returns exactly the first real reference token — with its exact position — no matter how many
escaped look-alikes, stray braces or `$` runs precede it; and nothing if there is no reference token -/
theorem C12_findURI_first_ref (env : Env) (ts : List Tok) (h : tokOK env ts = true) :
    findURI .fixed env.defaultScheme.isSome (render ts) =
      (splitFirstRef ts).map (fun r => (render r.1, Tok.body r.2.1 r.2.2.1, render r.2.2.2)) :=
  findURI_first_ref env ts h

/-! ## text with neither `$$` nor a complete reference is unchanged -/

theorem C12_literal_unchanged (env : Env) (s : Str) (hfuel : 0 < env.fuel)
    (hesc : hasEsc s = false) (href : ¬ HasCompleteRef s) :
    resolveValue env (.str s) = .ok (.str s) := by
  rw [resolveValue_done hfuel ((expandValue_str env s).trans (expandStr_of_noRef env s href)), escapeDollarSigns,
    unescape_of_noEsc s hesc]

example : hasEsc ['a', '$', '{', 'x', ' ', '$', 'b'] = false ∧ ¬ HasCompleteRef ['a', '$', '{', 'x', ' ', '$', 'b'] := by
  refine ⟨by decide +kernel, ?_⟩
  exact not_hasCompleteRef_of_noClose (by decide +kernel)

/-! ## a whole-value reference -/

/-- `${body}` as the whole value, for ANY provider value `raw` without `$` that is not a string — scalars of every YAML
type, null, maps, lists (the `${file:…}` / `${yaml:…}` case): the result is `expandedValue{raw, original text}`; every
string-kind target (string, named string, `*string`) receives the original text, an `any` target / `ToStringMap` the
typed value -/
theorem C12_typed_whole_any (env : Env) (body : Str) (r : Retrieved) (v : Str)
    (hb : hasDollar body = false) (hc : hasClose body = false)
    (hs : env.defaultScheme.isSome = true ∨ hasColon body = true)
    (hexp : expandURI env body = .ok r) (hstr : r.asString = some v) (hv : hasDollar v = false)
    (hraw : noDollarVal r.raw = true) (hns : ∀ s, r.raw ≠ .str s) (hfuel : 2 ≤ env.fuel) :
    resolveValue env (.str ('$' :: '{' :: body ++ ['}'])) = .ok (.expanded r.raw v) ∧
    decodeString (.expanded r.raw v) = some v ∧ decodePtrString (.expanded r.raw v) = some (some v) ∧
    decodeAny (.expanded r.raw v) = r.raw := by
  obtain ⟨n, hn⟩ := Nat.exists_eq_add_of_le' hfuel
  -- round 1 substitutes the typed value, round 2 finds nothing to do in it or in the original text
  have h1 : expandValue env (.str ('$' :: '{' :: body ++ ['}'])) = .ok (.expanded r.raw v, true) := by
    rw [expandValue_str, expandStr_bare_ref env body r hb hc hs hexp, hstr]
  have h2 := expandValue_expanded_other (expandValue_inert env r.raw hraw) hns
    (fun w p h => by rw [h] at hraw; cases hraw) (expandStr_noDollar env v hv)
  refine ⟨?_, rfl, rfl, ?_⟩
  · rw [resolveValue_of_expandRec (v' := .expanded r.raw v) (by rw [hn, expandRec_changed _ h1, expandRec_done _ h2]),
      escapeDollarSigns, escape_inert _ hraw, unescape_of_noEsc v (hasEsc_of_noDollar v hv)]
  · rw [decodeAny, sanitize]; exact sanitize_inert false r.raw hraw

/-- a map-valued provider result as the whole value -/
example : decodeString (.expanded (.map (.cons ['a'] (.int 1) (.cons ['l'] (.list (.cons (.str ['x']) .nil)) .nil)))
    ['{', 'a', ':', ' ', '1', '}']) = some ['{', 'a', ':', ' ', '1', '}'] ∧
    resolveValue (exEnv .fixed) (.str ['$', '{', 'e', 'n', 'v', ':', 'M', '}']) =
      .ok (.expanded (.map (.cons ['a'] (.int 1) (.cons ['l'] (.list (.cons (.str ['x']) .nil)) .nil))) ['{', 'a', ':', ' ', '1', '}']) :=
  ⟨rfl, (C12_typed_whole_any (exEnv .fixed) ['e', 'n', 'v', ':', 'M'] ⟨_, _⟩ _
    (by decide +kernel) (by decide +kernel) (by decide +kernel) rfl rfl (by decide +kernel) (by decide +kernel) (by intro s h; cases h) (by decide +kernel)).1⟩

/-- the scalar case of `C12_typed_whole_any` -/
theorem C12_typed_whole (env : Env) (body : Str) (r : Retrieved) (v : Str)
    (hb : hasDollar body = false) (hc : hasClose body = false)
    (hs : env.defaultScheme.isSome = true ∨ hasColon body = true)
    (hexp : expandURI env body = .ok r) (hstr : r.asString = some v) (hv : hasDollar v = false)
    (hraw : r.raw.isScalar = true) (hfuel : 2 ≤ env.fuel) :
    resolveValue env (.str ('$' :: '{' :: body ++ ['}'])) = .ok (.expanded r.raw v) :=
  (C12_typed_whole_any env body r v hb hc hs hexp hstr hv (noDollarVal_of_isScalar hraw)
    (fun s h => by rw [h] at hraw; cases hraw) hfuel).1

example : resolveValue (exEnv .fixed) (.str ['$', '{', 'e', 'n', 'v', ':', 'P', '}']) = .ok (.expanded (.int 8080) ['8', '0', '8', '0']) :=
  C12_typed_whole (exEnv .fixed) ['e', 'n', 'v', ':', 'P'] ⟨.int 8080, some ['8', '0', '8', '0']⟩ _
    (by decide +kernel) (by decide +kernel) (by decide +kernel) rfl rfl (by decide +kernel) rfl (by decide +kernel)

/-- … so a Go `string` field receives the original text and an `int` field the parsed number -/
theorem C12_string_target_gets_original (env : Env) (body : Str) (r : Retrieved) (v : Str) (i : Int)
    (hb : hasDollar body = false) (hc : hasClose body = false)
    (hs : env.defaultScheme.isSome = true ∨ hasColon body = true)
    (hexp : expandURI env body = .ok r) (hstr : r.asString = some v) (hv : hasDollar v = false)
    (hraw : r.raw = .int i) (hfuel : 2 ≤ env.fuel) :
    ∃ res, resolveValue env (.str ('$' :: '{' :: body ++ ['}'])) = .ok res ∧
      decodeString res = some v ∧ decodeInt res = some i ∧ sanitize false res = .int i := by
  refine ⟨_, C12_typed_whole env body r v hb hc hs hexp hstr hv (by rw [hraw]; rfl) hfuel, ?_⟩
  rw [hraw]; exact ⟨rfl, rfl, by simp [sanitize]⟩

/-! ## `$` in a name -/

theorem C12_dollar_in_name_error (env : Env) (s b a sc nm : Str) (hfuel : 0 < env.fuel)
    (hf : findURI env.mode env.defaultScheme.isSome s = some (b, sc ++ ':' :: nm, a))
    (hv : validScheme sc = true) (hd : hasDollar nm = true) :
    resolveValue env (.str s) = .error [.dollarInName] :=
  resolveValue_error hfuel ((expandValue_str env s).trans
    (expandStr_ref_error hf ((expandURI_scheme env sc nm hv).trans (retrieve_dollar hd))))

example : resolveValue (exEnv .fixed) (.str ['a', '$', '{', 'e', 'n', 'v', ':', 'a', '$', 'b', '}']) = .error [.dollarInName] :=
  C12_dollar_in_name_error (exEnv .fixed) _ ['a'] [] ['e', 'n', 'v'] ['a', '$', 'b'] (by decide +kernel) (by decide +kernel) (by decide +kernel) (by decide +kernel)

/-- the same for a reference without scheme (`${a$b}`) under a default scheme -/
theorem C12_dollar_in_name_error_default (env : Env) (s b a d nm : Str) (hfuel : 0 < env.fuel)
    (hf : findURI env.mode env.defaultScheme.isSome s = some (b, nm, a))
    (hdflt : env.defaultScheme = some d) (hnc : hasColon nm = false)
    (hv : validScheme d = true) (hd : hasDollar nm = true) :
    resolveValue env (.str s) = .error [.dollarInName] :=
  resolveValue_error hfuel ((expandValue_str env s).trans
    (expandStr_ref_error hf ((expandURI_default env d nm hdflt hnc hv).trans (retrieve_dollar hd))))

example : resolveValue { exEnv .fixed with defaultScheme := some ['e', 'n', 'v'] } (.str ['$', '{', 'a', '$', 'b', '}']) =
    .error [.dollarInName] :=
  C12_dollar_in_name_error_default _ _ [] [] ['e', 'n', 'v'] ['a', '$', 'b'] (by decide +kernel) (by decide +kernel) rfl (by decide +kernel)
    (by decide +kernel) (by decide +kernel)

/-! ## an embedded reference -/

/-- an EMBEDDED reference is replaced, in place, by the provider's string **whatever that string contains** (references,
escapes, braces): the round reports `changed` and resolution goes on with the substituted string, so the provider's text is
expanded and un-escaped like any other (and a self-reference cannot be mistaken for a fixed point) -/
theorem C12_embedded_substituted (env : Env) (hmode : env.mode = .fixed) (s before body after v : Str) (r : Retrieved)
    (hf : findURI env.mode env.defaultScheme.isSome s = some (before, body, after))
    (hemb : (before.isEmpty && after.isEmpty) = false)
    (hexp : expandURI env body = .ok r) (hstr : r.asString = some v) :
    expandValue env (.str s) = .ok (.str (before ++ v ++ after), true) ∧
    ∀ n, expandRec env (n + 1) (.str s) = expandRec env n (.str (before ++ v ++ after)) := by
  have h1 := (expandValue_str env s).trans (expandStr_ref_embedded hmode hf hemb hexp hstr)
  exact ⟨h1, fun n => expandRec_changed n h1⟩

/-! ## cycles of any length -/

/-- the text `${body}` -/
def refStr (body : Str) : Str := '$' :: '{' :: body ++ ['}']

theorem refStr_append (p body q : Str) : p ++ refStr body ++ q = p ++ '$' :: '{' :: body ++ '}' :: q := by
  simp [refStr]

/-- if every round reports `changed`, resolution ends with "too many recursive expansions", for every loop bound -/
theorem C12_always_changed_error (env : Env) (P : Val → Prop)
    (hstep : ∀ v, P v → ∃ v', expandValue env v = .ok (v', true) ∧ P v') :
    ∀ (n : Nat) (v : Val), P v → expandRec env n v = .error [.tooMany]
  | 0, _, _ => rfl
  | n + 1, v, hv => by
    obtain ⟨v', h1, h2⟩ := hstep v hv
    rw [expandRec_changed n h1]
    exact C12_always_changed_error env P hstep n v' h2

/-- reference CYCLES OF ANY LENGTH through whole values -/
theorem C12_whole_value_chain_error (env : Env) (b : Nat → Str)
    (hb : ∀ j, hasDollar (b j) = false ∧ hasClose (b j) = false ∧
      (env.defaultScheme.isSome = true ∨ hasColon (b j) = true))
    (hexp : ∀ j, ∃ r, expandURI env (b j) = .ok r ∧ r.raw = .str (refStr (b (j + 1))) ∧
      r.asString = some (refStr (b (j + 1)))) :
    resolveValue env (.str (refStr (b 0))) = .error [.tooMany] := by
  -- every value met is the reference to some link of the chain, bare (first round) or as a substituted typed value
  let P : Val → Prop := fun v => ∃ j, v = .str (refStr (b j)) ∨ v = .expanded (.str (refStr (b j))) (refStr (b j))
  have hstr : ∀ j, expandValue env (.str (refStr (b j))) =
      .ok (.expanded (.str (refStr (b (j + 1)))) (refStr (b (j + 1))), true) := by
    intro j
    obtain ⟨r, h1, h2, h3⟩ := hexp j
    have := expandStr_bare_ref env (b j) r (hb j).1 (hb j).2.1 (hb j).2.2 h1
    rw [h3, h2] at this
    exact (expandValue_str env _).trans this
  have hstep : ∀ v, P v → ∃ v', expandValue env v = .ok (v', true) ∧ P v' := by
    rintro v ⟨j, rfl | rfl⟩
    · exact ⟨_, hstr j, j + 1, .inr rfl⟩
    · exact ⟨_, expandValue_expanded_verbatim (hstr j) (.inr ⟨_, _, rfl⟩), j + 1, .inr rfl⟩
  rw [resolveValue, C12_always_changed_error env P hstep env.fuel _ ⟨0, .inl rfl⟩]

/-- a provider that answers a reference with the same reference never converges: reported as an error,
for every value of the loop bound -/
theorem C12_cycle_error (env : Env) (body : Str) (r : Retrieved)
    (hb : hasDollar body = false) (hc : hasClose body = false)
    (hs : env.defaultScheme.isSome = true ∨ hasColon body = true)
    (hexp : expandURI env body = .ok r)
    (hraw : r.raw = .str ('$' :: '{' :: body ++ ['}'])) (hstr : r.asString = some ('$' :: '{' :: body ++ ['}'])) :
    resolveValue env (.str ('$' :: '{' :: body ++ ['}'])) = .error [.tooMany] :=
  C12_whole_value_chain_error env (fun _ => body) (fun _ => ⟨hb, hc, hs⟩) (fun _ => ⟨r, hexp, hraw, hstr⟩)

example : resolveValue (exEnv .fixed) (.str ['$', '{', 'e', 'n', 'v', ':', 'A', '}']) = .error [.tooMany] :=
  C12_cycle_error (exEnv .fixed) ['e', 'n', 'v', ':', 'A']
    ⟨.str ['$', '{', 'e', 'n', 'v', ':', 'A', '}'], some ['$', '{', 'e', 'n', 'v', ':', 'A', '}']⟩
    (by decide +kernel) (by decide +kernel) (by decide +kernel) rfl rfl rfl

/-- … and through EMBEDDED references -/
theorem C12_embedded_chain_error (env : Env) (hmode : env.mode = .fixed) (b vpre vpost : Nat → Str)
    (hb : ∀ j, hasDollar (b j) = false ∧ hasClose (b j) = false ∧
      (env.defaultScheme.isSome = true ∨ hasColon (b j) = true))
    (hexp : ∀ j, ∃ r, expandURI env (b j) = .ok r ∧
      r.asString = some (vpre j ++ refStr (b (j + 1)) ++ vpost j))
    (hv : ∀ j, hasDollar (vpre j) = false ∧ hasClose (vpre j) = false)
    (pre post : Str) (hp : hasDollar pre = false) (hpc : hasClose pre = false)
    (hemb : (pre.isEmpty && post.isEmpty) = false) :
    resolveValue env (.str (pre ++ refStr (b 0) ++ post)) = .error [.tooMany] := by
  -- every value met holds the reference to some link after a prefix in which `findURI` has nothing to find
  let P : Val → Prop := fun v => ∃ j p q, v = .str (p ++ refStr (b j) ++ q) ∧
    hasDollar p = false ∧ hasClose p = false ∧ (p.isEmpty && q.isEmpty) = false
  have hstep : ∀ v, P v → ∃ v', expandValue env v = .ok (v', true) ∧ P v' := by
    rintro v ⟨j, p, q, rfl, h1, h2, h3⟩
    obtain ⟨r, hr1, hr2⟩ := hexp j
    have hf := findURI_found env.mode env.defaultScheme.isSome p (b j) q h2 (oddDollarRun_noDollar p h1) (hb j).1 (hb j).2.1 (hb j).2.2
    rw [← refStr_append] at hf
    refine ⟨_, (C12_embedded_substituted env hmode _ p (b j) q _ r hf h3 hr1 hr2).1,
      j + 1, p ++ vpre j, vpost j ++ q, by simp only [List.append_assoc], ?_, ?_, embedded_append _ _ h3⟩
    · rw [hasDollar_append, h1, (hv j).1]; rfl
    · rw [hasClose_append, h2, (hv j).2]; rfl
  rw [resolveValue, C12_always_changed_error env P hstep env.fuel _ ⟨0, pre, post, rfl, hp, hpc, hemb⟩]

/-- an EMBEDDED self-reference (`http://${env:H}:4317` with `H = ${env:H}`, `HOST = host-${env:HOST}`, …): the provider's
text contains the reference again, so every round finds it again and reports `changed`: always the cycle error, never a
fixed point, never a hang -/
theorem C12_embedded_cycle_error (env : Env) (hmode : env.mode = .fixed) (body vpre vpost : Str) (r : Retrieved)
    (hb : hasDollar body = false) (hc : hasClose body = false)
    (hs : env.defaultScheme.isSome = true ∨ hasColon body = true)
    (hexp : expandURI env body = .ok r)
    (hstr : r.asString = some (vpre ++ '$' :: '{' :: body ++ '}' :: vpost))
    (hvp : hasDollar vpre = false) (hvc : hasClose vpre = false)
    (pre post : Str) (hp : hasDollar pre = false) (hpc : hasClose pre = false)
    (hemb : (pre.isEmpty && post.isEmpty) = false) :
    resolveValue env (.str (pre ++ '$' :: '{' :: body ++ '}' :: post)) = .error [.tooMany] := by
  have h := C12_embedded_chain_error env hmode (fun _ => body) (fun _ => vpre) (fun _ => vpost) (fun _ => ⟨hb, hc, hs⟩)
    (fun _ => ⟨r, hexp, by rw [refStr_append]; exact hstr⟩) (fun _ => ⟨hvp, hvc⟩) pre post hp hpc hemb
  rwa [refStr_append] at h

/-- `x${env:A}` with `A = ${env:A}`: an embedded one-element cycle -/
example : resolveValue (exEnv .fixed) (.str ['x', '$', '{', 'e', 'n', 'v', ':', 'A', '}']) = .error [.tooMany] :=
  C12_embedded_cycle_error (exEnv .fixed) rfl ['e', 'n', 'v', ':', 'A'] [] []
    ⟨.str ['$', '{', 'e', 'n', 'v', ':', 'A', '}'], some ['$', '{', 'e', 'n', 'v', ':', 'A', '}']⟩
    (by decide +kernel) (by decide +kernel) (by decide +kernel) rfl rfl (by decide +kernel) (by decide +kernel) ['x'] [] (by decide +kernel) (by decide +kernel) (by decide +kernel)

/-! non-vacuity of the chain theorems: the 2-cycle A → B → A, through whole values and embedded -/

def cycB (j : Nat) : Str := if j % 2 = 0 then ['e', 'e', ':', 'A'] else ['e', 'e', ':', 'B']
def cycEnv (emb : Bool) : Env :=
  { schemes := [['e', 'e']], defaultScheme := none,
    prov := fun _ nm =>
      let w := fun (s : Str) => if emb then 'x' :: s ++ ['y'] else s
      if nm = ['A'] then some ⟨.str (w (refStr (cycB 1))), some (w (refStr (cycB 1)))⟩
      else if nm = ['B'] then some ⟨.str (w (refStr (cycB 0))), some (w (refStr (cycB 0)))⟩
      else none }

theorem cycB_succ (j : Nat) : (j % 2 = 0 ∧ cycB j = cycB 0 ∧ cycB (j + 1) = cycB 1) ∨
    (j % 2 = 1 ∧ cycB j = cycB 1 ∧ cycB (j + 1) = cycB 0) := by
  rcases Nat.mod_two_eq_zero_or_one j with h | h
  · exact .inl ⟨h, if_pos h, if_neg (by rw [Nat.add_mod, h]; decide)⟩
  · exact .inr ⟨h, if_neg (by rw [h]; decide), if_pos (by rw [Nat.add_mod, h])⟩

example : resolveValue (cycEnv false) (.str (refStr ['e', 'e', ':', 'A'])) = .error [.tooMany] :=
  C12_whole_value_chain_error (cycEnv false) cycB
    (fun j => by rcases cycB_succ j with ⟨_, h, _⟩ | ⟨_, h, _⟩ <;> rw [h] <;> decide +kernel)
    (fun j => by
      rcases cycB_succ j with ⟨_, h1, h2⟩ | ⟨_, h1, h2⟩ <;> rw [h1, h2] <;> exact ⟨_, rfl, rfl, rfl⟩)

example : resolveValue (cycEnv true) (.str ('h' :: refStr ['e', 'e', ':', 'A'] ++ [])) = .error [.tooMany] :=
  C12_embedded_chain_error (cycEnv true) rfl cycB (fun _ => ['x']) (fun _ => ['y'])
    (fun j => by rcases cycB_succ j with ⟨_, h, _⟩ | ⟨_, h, _⟩ <;> rw [h] <;> decide +kernel)
    (fun j => by
      rcases cycB_succ j with ⟨_, h1, h2⟩ | ⟨_, h1, h2⟩ <;> rw [h1, h2] <;> exact ⟨_, rfl, rfl⟩)
    (fun _ => by decide +kernel) ['h'] [] (by decide +kernel) (by decide +kernel) (by decide +kernel)

/-! ## one round of expansion, and the final un-escaping -/

/-- one round on a well-formed token string with an embedded first reference: exactly that occurrence is
replaced by the provider's string, everything before and after it (escaped look-alikes included) is kept -/
theorem C12_tokens_round (env : Env) (hmode : env.mode = .fixed) (ts pre post : List Tok) (sc : Option Str) (nm : Str)
    (h : tokOK env ts = true) (hs : splitFirstRef ts = some (pre, sc, nm, post))
    (hne : (render pre).isEmpty = false ∨ (render post).isEmpty = false) :
    ∃ v, refString env sc nm = some v ∧
      expandStr env (render ts) = .ok (.str (render pre ++ v ++ render post), true) := by
  have hw : ((render pre).isEmpty && (render post).isEmpty) = false := by
    rcases hne with h1 | h1 <;> simp [h1]
  obtain ⟨v, hrs, -, -, hround⟩ := expandStr_first_ref env hmode h hs hw
  exact ⟨v, hrs, hround⟩

/-- full statement for strings without reference tokens (escapes, escaped references, stray braces, lone `$`):
the resolved value is the meaning of the token list -/
theorem C12_tokens_noref (env : Env) (hmode : env.mode = .fixed) (hfuel : 0 < env.fuel) (ts : List Tok) (w : Str)
    (h : tokOK env ts = true) (hn : numRefs ts = 0) (hs : sem env ts = some w) :
    resolveValue env (.str (render ts)) = .ok (.str w) := by
  rw [resolveValue_done hfuel ((expandValue_str env _).trans (expandStr_tokens_noref env hmode ts h hn)), escapeDollarSigns,
    Option.some.inj ((unescape_tokens env ts h hn).symm.trans hs)]

/-! ## the full token statement, what is proved of it, and the pinned code's counterexamples -/

/-- what a string field sees of a resolution result -/
def resStr : Except Errs Val → Option Str
  | .ok v => decodeString v
  | .error _ => none

/-- FULL statement of the expansion clause on the unambiguous token fragment: every reference replaced by the
provider's string, `$$` ↦ `$` protecting what follows, for every well-formed token list whose number of
references is below the loop bound and that holds some non-reference text (with references only, an empty provider
value can leave a bare reference, whose value is typed) -/
def C12_tokens_full (mode : Mode) : Prop :=
  ∀ (env : Env) (toks : List Tok) (w : Str), env.mode = mode → tokOK env toks = true →
    numRefs toks < env.fuel → 0 < nonRefLen toks → sem env toks = some w →
    resStr (resolveValue env (.str (render toks))) = some w

theorem C12_tokens_full_fixed : C12_tokens_full .fixed := by
  intro env toks w hmode hok hfuel hlen hsem
  obtain ⟨s', h1, h2⟩ := expandRec_tokens env hmode (numRefs toks) toks env.fuel rfl hfuel hok hlen
  rw [resolveValue_of_expandRec h1]
  exact h2.symm.trans hsem

def refX : Tok := .ref (some ['e', 'n', 'v']) ['X']

/-- `$${env:X} ${env:X}` (DESIGN finding 1) -/
def wit1 : List Tok := [.esc, .lit ['{', 'e', 'n', 'v', ':', 'X'], .close, .lit [' '], refX]

/-- `${env:X} $${env:X}` (DESIGN finding 2) -/
def wit2 : List Tok := [refX, .lit [' '], .esc, .lit ['{', 'e', 'n', 'v', ':', 'X'], .close]

/-- the code at the pinned commit violates the full statement: an escaped reference stops the search … -/
theorem pinned_tokens_full_fails : ¬ C12_tokens_full .pinned := by
  intro h
  have := h (exEnv .pinned) wit1 ['$', '{', 'e', 'n', 'v', ':', 'X', '}', ' ', 'f', 'o', 'o'] rfl (by decide +kernel) (by decide +kernel) (by decide +kernel) (by decide +kernel)
  revert this
  decide +kernel

/-- … and `ReplaceAll` also rewrites the escaped occurrence -/
theorem pinned_replaceAll_witness :
    resStr (resolveValue (exEnv .pinned) (.str (render wit2))) = some ['f', 'o', 'o', ' ', '$', 'f', 'o', 'o'] ∧
    sem (exEnv .pinned) wit2 = some ['f', 'o', 'o', ' ', '$', '{', 'e', 'n', 'v', ':', 'X', '}'] := by
  decide +kernel

/-- the repaired code resolves both witnesses to their meaning (kernel evaluation of the model) -/
theorem fixed_tokens_witnesses :
    resStr (resolveValue (exEnv .fixed) (.str (render wit1))) = sem (exEnv .fixed) wit1 ∧
    resStr (resolveValue (exEnv .fixed) (.str (render wit2))) = sem (exEnv .fixed) wit2 := by
  decide +kernel

example : resStr (resolveValue (exEnv .fixed) (.str (render wit1))) =
    some ['$', '{', 'e', 'n', 'v', ':', 'X', '}', ' ', 'f', 'o', 'o'] :=
  C12_tokens_full_fixed (exEnv .fixed) wit1 _ rfl (by decide +kernel) (by decide +kernel) (by decide +kernel) (by decide +kernel)

example : tokOK (exEnv .fixed) wit1 = true ∧ tokOK (exEnv .fixed) wit2 = true := by decide +kernel

example : splitFirstRef wit1 = some ([.esc, .lit ['{', 'e', 'n', 'v', ':', 'X'], .close, .lit [' ']], some ['e', 'n', 'v'], ['X'], []) := by
  decide +kernel

example : findURI .fixed false (render wit1) = some (render (wit1.take 4), ['e', 'n', 'v', ':', 'X'], []) :=
  C12_findURI_first_ref (exEnv .fixed) wit1 (by decide +kernel)

/-! ## the leftover oracle -/

/-- whatever the leftover oracle flags, the output string holds a complete reference: a flagged output violates "every
reference is replaced" -/
theorem C12_leftover_sound (env : Env) : ∀ (s : Str) (k : Str × Str), leftoverRef env s = some k → HasCompleteRef s
  | [], _, h => by simp [leftoverRef] at h
  | c :: r, k, h => by
    have lift : HasCompleteRef r → HasCompleteRef (c :: r) := fun ⟨a, b, d, e⟩ => ⟨c :: a, b, d, by rw [e]; rfl⟩
    rw [leftoverRef] at h
    cases hb : refBodyAt (c :: r) with
    | none => simp only [hb] at h; exact lift (C12_leftover_sound env r k h)
    | some body =>
      obtain ⟨rest, hr⟩ := refBodyAt_sound hb
      simp only [hb] at h
      by_cases hd : hasDollar body = true
      · simp only [hd, if_true] at h; exact lift (C12_leftover_sound env r k h)
      · simp only [hd] at h
        cases hk : knownRef env body with
        | some k' => exact ⟨[], body, rest, by rw [hr]; rfl⟩
        | none => simp only [hk] at h; exact lift (C12_leftover_sound env r k h)

example : leftoverRef (exEnv .fixed) ['a', '$', '{', 'e', 'n', 'v', ':', 'X', '}'] = some (['e', 'n', 'v'], ['X']) := by decide +kernel

/-! ## nested references -/

/-- NESTED references are resolved innermost first: in `pre ++ "${" ++ outer ++ "${body}" ++ post` (`outer` without `}`
and not ending in an odd run of `$`), `findURI` returns the inner reference -/
theorem C12_nested_innermost_first (mode : Mode) (hd : Bool) (pre outer body post : Str)
    (hpc : hasClose pre = false) (hoc : hasClose outer = false)
    (hodd : oddDollarRun (pre ++ '$' :: '{' :: outer) = false)
    (hb : hasDollar body = false) (hc : hasClose body = false) (hs : hd = true ∨ hasColon body = true) :
    findURI mode hd (pre ++ '$' :: '{' :: outer ++ '$' :: '{' :: body ++ '}' :: post) =
      some (pre ++ '$' :: '{' :: outer, body, post) := by
  have hseg : hasClose (pre ++ '$' :: '{' :: outer) = false := by
    rw [hasClose_append, hpc]; exact hoc
  exact findURI_found mode hd (pre ++ '$' :: '{' :: outer) body post hseg hodd hb hc hs

/-- `${env:${env:X}}`: the inner reference is found first -/
example : findURI .fixed false ['$', '{', 'e', 'n', 'v', ':', '$', '{', 'e', 'n', 'v', ':', 'X', '}', '}'] =
    some (['$', '{', 'e', 'n', 'v', ':'], ['e', 'n', 'v', ':', 'X'], ['}']) :=
  C12_nested_innermost_first .fixed false [] ['e', 'n', 'v', ':'] ['e', 'n', 'v', ':', 'X'] ['}']
    (by decide +kernel) (by decide +kernel) (by decide +kernel) (by decide +kernel) (by decide +kernel) (by decide +kernel)

/-! ## `resolve` by stages -/

/-- what `Resolve` returns, stage by stage: every source is a map (or null); the leaves of the merge in sorted key order
(a permutation of the flattened merge); `resolveValue` leaf by leaf under the same path; unflatten -/
theorem C12_resolve_ok (env : Env) (srcs : List Val) (m : KVs) (h : resolve env srcs = .ok m) :
    ∃ ms leaves, srcs.mapM asConf = some ms ∧
      (sortedLeaves (mergeSources ms)).Perm (flatten [] (mergeSources ms)) ∧
      Pointwise (fun l o => o.1 = l.1 ∧ resolveValue env l.2 = .ok o.2) (sortedLeaves (mergeSources ms)) leaves ∧
      m = unflatten leaves := by
  rw [resolve_eq] at h
  cases hm : srcs.mapM asConf with
  | none => rw [hm] at h; cases h
  | some ms =>
    rw [hm] at h
    obtain ⟨leaves, hl, rfl⟩ := resolveMerged_ok h
    exact ⟨ms, leaves, rfl, sortedLeaves_perm _, resolveLeaves_ok env _ _ hl, rfl⟩

/-- a source that is not a map (and not null) makes `Resolve` fail; it never silently drops it -/
theorem C12_resolve_not_map (env : Env) (srcs : List Val) (h : srcs.mapM asConf = none) :
    resolve env srcs = .error [.notMap] := by
  rw [resolve_eq, h]

/-- sources whose merged leaves need no expansion (no `$$`, no complete reference — `C12_literal_unchanged` — or
non-string values) resolve to the un-flattened sorted leaves of the right-biased merge of the URI list -/
theorem C12_resolve_plain (env : Env) (srcs : List Val) (ms : List KVs) (hm : srcs.mapM asConf = some ms)
    (hplain : ∀ l ∈ flatten [] (mergeSources ms), resolveValue env l.2 = .ok l.2) :
    resolve env srcs = .ok (unflatten (sortedLeaves (mergeSources ms))) := by
  rw [resolve_eq, hm]; exact resolveMerged_plain hplain

/-- a null (empty document) or empty source appended to the URI list changes nothing, at the level of `Resolve` -/
theorem C12_resolve_null_source (env : Env) (srcs : List Val) :
    resolve env (srcs ++ [.null]) = resolve env srcs ∧ resolve env (srcs ++ [.map .nil]) = resolve env srcs := by
  have key : ∀ v, asConf v = some .nil → resolve env (srcs ++ [v]) = resolve env srcs := by
    intro v hv
    rw [resolve_eq, resolve_eq, List.mapM_append]
    -- `mapM` over `srcs ++ [v]` appends `.nil` to the maps, and an empty last source merges to nothing
    cases hm : srcs.mapM asConf with
    | none => simp
    | some ms => simp [hv, C12_merge_sources_empty]
  exact ⟨key _ rfl, key _ rfl⟩

example : resolve (exEnv .fixed) [.map (.cons ['k'] (.str ['v']) .nil), .null] =
    .ok (unflatten (sortedLeaves (mergeSources [.cons ['k'] (.str ['v']) .nil, .nil]))) :=
  C12_resolve_plain (exEnv .fixed) _ _ rfl (by
    intro l hl
    simp [mergeSources, mergeKVs, KVs.lookup, KVs.set, flatten] at hl
    subst hl
    exact C12_literal_unchanged _ _ (by decide +kernel) (by decide +kernel) (not_hasCompleteRef_of_noClose (by decide +kernel)))

/-! ## the flatten/unflatten round trip and `resolve` end to end -/

/-- un-flattening the flattened leaves of a tree with unique keys — **in any order** (`Resolve` uses the
sorted key order) — gives a tree that holds, under every leaf path, exactly what the original tree holds there -/
theorem C12_unflatten_flatten_lookup (m : KVs) (hn : HNK m) (L : List Leaf) (hp : L.Perm (flatten [] m)) :
    ∀ a ∈ flatten [] m, lookupPath a.1 (unflatten L) = some a.2 ∧ lookupPath a.1 m = some a.2 := by
  intro a ha
  obtain ⟨_, _, h, _, hl⟩ := flatten_leaf m [] hn a ha
  exact ⟨unflatten_lookup L ((flatten_pathsOK hn).perm (hp.map _)) a (hp.mem_iff.2 ha), h ▸ hl⟩

/-- `Resolve` END TO END: if it succeeds with `m`, then for every leaf `(path, v)` of the right-biased merge of the URI list
`m` holds under `path` exactly `resolveValue v` — through `asConf`, flatten, the sorted key order, the per-key loop and
unflatten -/
theorem C12_resolve_lookup (env : Env) (srcs : List Val) (ms : List KVs) (m : KVs)
    (h : resolve env srcs = .ok m) (hm : srcs.mapM asConf = some ms) (hs : ∀ s ∈ ms, HNK s) :
    ∀ a ∈ flatten [] (mergeSources ms), ∃ v', resolveValue env a.2 = .ok v' ∧ lookupPath a.1 m = some v' := by
  rw [← resolveGate_false] at h
  rw [← mergeSourcesGate_false]
  exact resolveGate_lookup false env srcs ms m h hm hs

def exTree : KVs :=
  .cons ['b'] (.int 1) (.cons ['a'] (.map (.cons ['y'] (.str ['v']) (.cons ['x'] (.map .nil) .nil))) .nil)

/-- the sorted order differs from the original order; the lookups agree -/
example : ∀ a ∈ flatten [] exTree, lookupPath a.1 (unflatten (sortedLeaves exTree)) = some a.2 := fun a ha =>
  (C12_unflatten_flatten_lookup exTree (by simp [exTree, HNK, HN, KVs.keys]) _ (List.mergeSort_perm _ _) a ha).1
example : (flatten [] exTree).map (·.1) = [[['b']], [['a'], ['y']], [['a'], ['x']]] := by decide +kernel

/-! ## merge first, then expand -/

/-- `Resolve` can only fail because a source is not a map or because a value that SURVIVES the merge fails to resolve:
a reference that a later source replaces is never looked at — its unknown scheme, failing provider, cycle or `$` in the
name cannot fail the resolution (and, by `C12_resolve_lookup`, what it refers to cannot leak into the result) -/
theorem C12_resolve_error_from_merged_leaf (env : Env) (srcs : List Val) (e : Errs) (h : resolve env srcs = .error e) :
    srcs.mapM asConf = none ∨
    ∃ ms, srcs.mapM asConf = some ms ∧ ∃ l ∈ flatten [] (mergeSources ms), resolveValue env l.2 = .error e := by
  rw [← resolveGate_false] at h
  simp only [← mergeSourcesGate_false]
  exact resolveGate_error_from_merged_leaf false env srcs e h

/-- an earlier `k: ${zz:A}` (unknown scheme) replaced by a later `k: 1`: resolution succeeds, with the merged leaves -/
example : resolve (exEnv .fixed) [.map (.cons ['k'] (.str ['$', '{', 'z', 'z', ':', 'A', '}']) .nil),
    .map (.cons ['k'] (.int 1) .nil)] =
    .ok (unflatten (sortedLeaves (mergeSources [.cons ['k'] (.str ['$', '{', 'z', 'z', ':', 'A', '}']) .nil,
      .cons ['k'] (.int 1) .nil]))) :=
  C12_resolve_plain (exEnv .fixed) _ _ rfl (by
    intro l hl
    simp [mergeSources, mergeKVs, KVs.lookup, KVs.set, flatten] at hl
    subst hl
    rfl)
/-- … while the same reference in a value that survives fails it -/
example : resolveValue (exEnv .fixed) (.str ['$', '{', 'z', 'z', ':', 'A', '}']) = .error [.unsupportedScheme] := rfl

/-! ## the feature-gated list-merge path (`confmap.enableMergeAppendOption`, `confmap/merge.go`) -/

/-- key-wise characterisation of `mergeAppend(src = a, dest = b)`: untouched keys survive; two lists are combined by
`mergeSlice`; two maps merge key by key; everything else (scalars, nil, different kinds) is replaced by the later source -/
theorem C12_mergeAppend_lookup : ∀ (a b : KVs) (k : Str), a.keys.Nodup →
    (mergeAppendKVs a b).lookup k = appendAt (a.lookup k) (b.lookup k) :=
  keyWise_mergeAppend.lookup

/-- `mergeSlice(src, dest)` for ALL lists: the old list survives as a prefix; what is appended is a sub-list of `src`, each
element new with respect to everything before it (duplicates inside `src` are dropped too); no element of `src` is lost:
it is appended or was present -/
theorem C12_mergeSlice_spec (src dest : List Val) :
    ∃ t, mergeSlice src dest = dest ++ t ∧ t.Sublist src ∧ distinctFrom dest t ∧
      ∀ v ∈ src, isPresent (dest ++ t) v = true ∨ v ∈ t := by
  induction src generalizing dest with
  | nil => exact ⟨[], (List.append_nil _).symm, .slnil, distinctFrom_nil _, fun _ h => nomatch h⟩
  | cons x s ih =>
    rw [mergeSlice, List.foldl_cons, appendNew]
    by_cases hp : isPresent dest x = true
    · obtain ⟨t, h1, h2, h3, h4⟩ := ih dest
      rw [if_pos hp]
      refine ⟨t, h1, h2.cons x, h3, fun v hv => ?_⟩
      rcases List.mem_cons.1 hv with rfl | hv
      · exact .inl (isPresent_append_left dest t _ hp)
      · exact h4 v hv
    · obtain ⟨t, h1, h2, h3, h4⟩ := ih (dest ++ [x])
      rw [List.append_assoc] at h1 h4
      rw [if_neg hp]
      refine ⟨x :: t, h1, h2.cons_cons x, distinctFrom_cons.2 ⟨by simpa using hp, h3⟩, fun v hv => ?_⟩
      rcases List.mem_cons.1 hv with rfl | hv
      · exact .inr (List.mem_cons_self ..)
      · exact (h4 v hv).imp id (List.mem_cons_of_mem _)

/-- all elements present already: nothing changes (the same source given twice is harmless) … -/
theorem C12_mergeSlice_all_present (src dest : List Val) (h : ∀ v ∈ src, isPresent dest v = true) :
    mergeSlice src dest = dest := by
  induction src with
  | nil => rfl
  | cons x s ih =>
    rw [mergeSlice, List.foldl_cons, appendNew, if_pos (h x (List.mem_cons_self ..))]
    exact ih (fun v hv => h v (List.mem_cons_of_mem _ hv))

/-- … and a list of pairwise different, new elements is appended as it is -/
theorem C12_mergeSlice_all_new (src dest : List Val) (h : distinctFrom dest src) :
    mergeSlice src dest = dest ++ src := by
  induction src generalizing dest with
  | nil => exact (List.append_nil _).symm
  | cons x s ih =>
    rw [distinctFrom_cons] at h
    rw [mergeSlice, List.foldl_cons, appendNew, h.1, if_neg Bool.false_ne_true]
    exact (ih _ h.2).trans (List.append_cons ..).symm

/-- the URI list is folded as given also with the gate on; an empty source changes nothing -/
theorem C12_mergeAppend_sources (srcs : List KVs) (s : KVs) :
    mergeSourcesAppend (srcs ++ [s]) = mergeAppendKVs s (mergeSourcesAppend srcs) ∧
    mergeSourcesAppend (srcs ++ [.nil]) = mergeSourcesAppend srcs := by
  have h (s : KVs) := mergeSourcesGate_snoc true srcs s
  simp only [if_pos, mergeSourcesGate_true] at h
  exact ⟨h s, (h .nil).trans (by rw [mergeAppendKVs])⟩

/-- with the gate on, scalars and nils of the last source still win (lists are combined, see `C12_mergeAppend_lookup`) -/
theorem C12_mergeAppend_last_source_wins (srcs : List KVs) (s : KVs) (k : Str) (v : Val) (hk : s.keys.Nodup)
    (hv : s.lookup k = some v) (hm : ∀ m, v ≠ .map m) (hl : ∀ l, v ≠ .list l) :
    (mergeSourcesAppend (srcs ++ [s])).lookup k = some v := by
  rw [(C12_mergeAppend_sources srcs s).1, C12_mergeAppend_lookup s _ k hk, hv, appendAt_of_not_map_not_list hm hl]

/-- `Resolve` END TO END with the gate on: under every leaf path of the `mergeAppend`-merged sources the result holds
`resolveValue` of the merged value -/
theorem C12_resolveAppend_lookup (env : Env) (srcs : List Val) (ms : List KVs) (m : KVs)
    (h : resolveAppend env srcs = .ok m) (hm : srcs.mapM asConf = some ms) (hs : ∀ s ∈ ms, HNK s) :
    ∀ a ∈ flatten [] (mergeSourcesAppend ms), ∃ v', resolveValue env a.2 = .ok v' ∧ lookupPath a.1 m = some v' := by
  rw [← resolveGate_true] at h
  rw [← mergeSourcesGate_true]
  exact resolveGate_lookup true env srcs ms m h hm hs

/-- … and it can only fail as with the gate off -/
theorem C12_resolveAppend_error_from_merged_leaf (env : Env) (srcs : List Val) (e : Errs)
    (h : resolveAppend env srcs = .error e) :
    srcs.mapM asConf = none ∨
    ∃ ms, srcs.mapM asConf = some ms ∧ ∃ l ∈ flatten [] (mergeSourcesAppend ms), resolveValue env l.2 = .error e := by
  rw [← resolveGate_true] at h
  simp only [← mergeSourcesGate_true]
  exact resolveGate_error_from_merged_leaf true env srcs e h

/-! non-vacuity: `extensions: [a, b]` + `extensions: [a, {m: 1}, c, c]` under the gate -/
def exListD : Vals := .cons (.str ['a']) (.cons (.str ['b']) .nil)
def exListS : Vals := .cons (.str ['a']) (.cons (.map (.cons ['m'] (.int 1) .nil)) (.cons (.str ['c']) (.cons (.str ['c']) .nil)))
example : mergeSlice exListS.toList exListD.toList =
    [.str ['a'], .str ['b'], .map (.cons ['m'] (.int 1) .nil), .str ['c']] := by rfl
example : (mergeAppendKVs (.cons ['e'] (.list exListS) (.cons ['x'] (.int 2) .nil))
    (.cons ['e'] (.list exListD) (.cons ['x'] (.list exListD) .nil))).lookup ['e'] =
    some (.list (Vals.ofList [.str ['a'], .str ['b'], .map (.cons ['m'] (.int 1) .nil), .str ['c']])) := by rfl
example : distinctFrom exListD.toList [.str ['c'], .int 1] := ⟨rfl, rfl, trivial⟩
example : ∀ v ∈ [Val.str ['a'], .str ['b']], isPresent exListD.toList v = true := by decide +kernel
/-- map elements compare key-wise, whatever the key order -/
example : valEq (.map (.cons ['a'] (.int 1) (.cons ['b'] .null .nil))) (.map (.cons ['b'] .null (.cons ['a'] (.int 1) .nil))) = true := by
  decide +kernel
example : mergeSourcesAppend [.cons ['l'] (.list exListD) .nil, .cons ['l'] (.list exListS) .nil] =
    .cons ['l'] (.list (Vals.ofList [.str ['a'], .str ['b'], .map (.cons ['m'] (.int 1) .nil), .str ['c']])) .nil := by rfl
example : [Val.map (.cons ['l'] (.list exListD) .nil), .map (.cons ['l'] (.list exListS) .nil)].mapM asConf =
    some [.cons ['l'] (.list exListD) .nil, .cons ['l'] (.list exListS) .nil] ∧
    ∀ s ∈ [KVs.cons ['l'] (.list exListD) .nil, .cons ['l'] (.list exListS) .nil], HNK s := by
  refine ⟨rfl, ?_⟩
  intro s hs
  simp only [List.mem_cons, List.not_mem_nil, or_false] at hs
  rcases hs with rfl | rfl <;> simp [HNK, HN, KVs.keys]

/-! ## `NewResolver` — locations of the URI list -/

open OtelVerif.Gen

/-- TIE of the hand-written scheme test to the source: `validScheme` is the anchored match of the `schemePattern`
classes regenerated from `confmap/expand.go` by `translators/cmd/c12consts` (a change of the pattern breaks this proof) -/
theorem C12_validScheme_is_schemePattern (s : Str) : validScheme s = matchClasses C12Consts.schemeClasses s :=
  match s with
  | [] => rfl
  | [_] => by simp [validScheme, matchClasses, C12Consts.schemeClasses]
  | c :: d :: r => by
    have h1 : isSchemeChar = inRanges [(65, 90), (97, 122), (48, 57), (43, 43), (46, 46), (45, 45)] :=
      funext isSchemeChar_eq_gen
    simp only [validScheme, matchClasses, C12Consts.schemeClasses, List.all_cons, isLetter_eq_gen, h1]

/-- a URI with a `:` that is not a drive-letter path is handed to its provider VERBATIM (`location.asString` gives the URI
back), its scheme is a valid scheme (the text before the FIRST `:`) and is registered -/
theorem C12_location_verbatim (provs : List Str) (uri : Str) (l : Loc)
    (hd : driverLetter uri = false) (hc : hasColon uri = true) (h : uriLocation provs uri = .ok l) :
    l.asString = uri ∧ validScheme l.scheme = true ∧ provs.contains l.scheme = true := by
  obtain ⟨hn, hp⟩ := uriLocation_ok hd hc h
  obtain ⟨hu, hv⟩ := newLocation_some hn
  exact ⟨hu.symm, hv, hp⟩

/-- a location without `:` or with a drive letter (`C:\…`) becomes `file:<the whole text>`; `NewResolver` never rejects it -/
theorem C12_location_file (provs : List Str) (uri : Str) (h : driverLetter uri = true ∨ hasColon uri = false) :
    uriLocation provs uri = .ok ⟨C12Consts.fileScheme, uri⟩ ∧
    (Loc.mk C12Consts.fileScheme uri).asString = C12Consts.fileScheme ++ ':' :: uri :=
  ⟨by unfold uriLocation; rcases h with h | h <;> simp [h], rfl⟩

/-- the backwards-compatibility rule `^[A-z]:` never shadows a URI that has a scheme: whatever it captures (the class also
holds `[ \ ] ^ _` and the back-quote) could not have been parsed by `newLocation` — a scheme has at least two characters -/
theorem C12_driveletter_never_shadows_scheme (uri : Str) (h : driverLetter uri = true) : newLocation uri = none := by
  match uri, h with
  | c :: d :: r, h =>
    simp only [driverLetter, Bool.and_eq_true, beq_iff_eq] at h
    obtain ⟨h1, rfl⟩ := h
    have hc : c ≠ ':' := by
      rintro rfl
      exact absurd h1 (by decide)
    -- `splitColon` yields the scheme `[c]`, and a valid scheme has two characters
    simp [newLocation, splitColon, hc, validScheme]

/-- `NewResolver` keeps the URI list as given: one location per URI, in order (no de-duplication, no re-ordering) -/
theorem C12_newResolver_locations (set : Settings) (locs : List Loc) (h : newResolver set = .ok locs) :
    Pointwise (fun u l => uriLocation set.provSchemes u = .ok l) set.uris locs ∧
    set.uris ≠ [] ∧ set.provSchemes ≠ [] ∧
    (set.defaultScheme = [] ∨ set.provSchemes.contains set.defaultScheme = true) := by
  obtain ⟨h1, h2, -, h4, h5⟩ := newResolver_ok h
  exact ⟨uriLocations_pointwise _ _ _ h5, h1, h2, h4⟩

/-- `Resolve` retrieves the locations in the given order, each with its `asString`, none skipped, while their schemes are
registered (only a `file` location can lack a provider: `NewResolver` does not check it) -/
theorem C12_retrieveAll_in_order (provs : List Str) : ∀ (locs : List Loc),
    (∀ l ∈ locs, provs.contains l.scheme = true) → retrieveAll provs locs = (locs.map Loc.asString, true)
  | [], _ => rfl
  | l :: ls, h => by
    have h1 := h l (List.mem_cons_self ..)
    simp only [retrieveAll, h1, if_true, List.map_cons]
    rw [C12_retrieveAll_in_order provs ls (fun x hx => h x (List.mem_cons_of_mem _ hx))]

/-! ## the `closers` bookkeeping -/

/-- for EVERY sequence of `Resolve` (succeeding, failing half-way, or failing to close) and `Shutdown` calls: the ids of all
successful `Retrieve` calls so far are `closed ++ pending`, each exactly once and in retrieval order — no `Close` is called
twice, none before its value was retrieved, none is forgotten -/
theorem C12_closers_exactly_once (ls : List LifeLabel) :
    let s := Life.run {} ls
    s.closed ++ s.pending = List.range s.next ∧ (s.closed ++ s.pending).Nodup := by
  have h := Life.run_inv ls
  exact ⟨h, h ▸ List.nodup_range⟩

/-- after `Shutdown` nothing is pending: every value retrieved during the resolver's life was closed exactly once -/
theorem C12_closers_after_shutdown (ls : List LifeLabel) :
    let s := Life.run {} (ls ++ [.shutdown])
    s.pending = [] ∧ s.closed = List.range s.next := by
  have h := Life.run_inv (ls ++ [.shutdown])
  -- the last label is `shutdown`: `closeAll` leaves nothing pending
  have hp : (Life.run {} (ls ++ [.shutdown])).pending = [] := by rw [Life.run_append]; rfl
  refine ⟨hp, ?_⟩
  rw [hp, List.append_nil] at h
  exact h

/-- a re-`Resolve` first closes everything the previous calls retrieved (before it retrieves anything), and what is pending
afterwards are exactly its own `n` retrievals (none when closing failed) -/
theorem C12_closers_reresolve (ls : List LifeLabel) (cf : Bool) (n : Nat) :
    let s := Life.run {} ls
    let s' := s.fire (.resolve cf n)
    s'.closed = List.range s.next ∧ s'.pending = if cf then [] else (List.range n).map (s.next + ·) := by
  have h := Life.run_inv ls
  -- `closeAll` moves `pending` behind `closed`; by the invariant that makes `closed` the whole `range next`
  cases cf <;> simp [Life.fire, Life.closeAll, h]

/-! non-vacuity -/
example : uriLocation [['e', 'n', 'v'], ['f', 'i', 'l', 'e']] ['e', 'n', 'v', ':', 'A', ':', 'b'] = .ok ⟨['e', 'n', 'v'], ['A', ':', 'b']⟩ := by rfl
example : driverLetter ['C', ':', '\\', 'x'] = true ∧ driverLetter ['_', ':', 'x'] = true ∧ driverLetter ['e', 'n', 'v', ':'] = false := by decide +kernel
example : newResolver ⟨[['C', ':', '\\', 'x'], ['c', 'f', 'g'], ['e', 'n', 'v', ':', 'A']], [['e', 'n', 'v']], []⟩ =
    .ok [⟨['f', 'i', 'l', 'e'], ['C', ':', '\\', 'x']⟩, ⟨['f', 'i', 'l', 'e'], ['c', 'f', 'g']⟩, ⟨['e', 'n', 'v'], ['A']⟩] := by rfl
/-- the unanchored provider-scheme check: `1ab` passes (it contains `ab`), `a` does not -/
example : checkProviders [] [['1', 'a', 'b']] = none ∧ checkProviders [] [['a']] = some .invalidProviderScheme := by decide +kernel
example : Life.run {} [.resolve false 2, .resolve false 3, .resolve true 1, .resolve false 1, .shutdown] =
    { next := 6, pending := [], closed := [0, 1, 2, 3, 4, 5] } := by decide +kernel

/-! ## the public entry point end to end -/

/-- END-TO-END REFINEMENT: whenever `NewResolver(settings)` + `Resolve` (gate off or on) succeeds with `m`, the URIs became
locations in the given order (`C12_newResolver_locations`), every location was retrieved from a registered provider with
`location.asString`, and `m` is `resolve` / `resolveAppend` of the values retrieved, in that order — so `resolveGate_lookup`
and `resolveGate_error_from_merged_leaf` speak of what the public API returns -/
theorem C12_resolveSettings_refines (gate : Bool) (set : Settings) (fetch : Str → Option Val) (env : Env) (m : KVs)
    (h : resolveSettings gate set fetch env = .ok m) :
    ∃ locs srcs, newResolver set = .ok locs ∧ locs.mapM (fun l => fetch l.asString) = some srcs ∧
      (∀ l ∈ locs, set.provSchemes.contains l.scheme = true) ∧ resolveGate gate env srcs = .ok m := by
  rw [resolveSettings_eq] at h
  cases hn : newResolver set with
  | error e => simp [hn] at h
  | ok locs =>
    simp only [hn] at h
    cases hr : retrieveMerge gate set.provSchemes fetch locs .nil with
    | error e => simp [hr] at h
    | ok merged =>
      simp only [hr] at h
      obtain ⟨srcs, ms, h1, h2, h3, h4⟩ := retrieveMerge_ok gate _ fetch locs .nil merged hr
      refine ⟨locs, srcs, rfl, h1, h3, ?_⟩
      have hm : mergeSourcesGate gate ms = merged := (mergeSourcesGate_eq gate ms).trans h4.symm
      simp only [resolveGate_eq, h2, hm]
      cases hr' : resolveMerged env merged with
      | error e => simp [hr'] at h
      | ok m' => simpa [hr'] using h

def exSet : Settings := ⟨[['s', 'r', ':', 'x'], ['c', 'f', 'g']], [['s', 'r'], ['f', 'i', 'l', 'e']], []⟩
def exFetch : Str → Option Val := fun u => if u = ['s', 'r', ':', 'x'] then some (.map (.cons ['k'] (.int 1) .nil)) else some .null
example : resolveSettings true exSet exFetch (exEnv .fixed) = .ok (.cons ['k'] (.int 1) .nil) := by
  have h1 : newResolver exSet = .ok [⟨['s', 'r'], ['x']⟩, ⟨['f', 'i', 'l', 'e'], ['c', 'f', 'g']⟩] := by rfl
  have h2 : retrieveMerge true exSet.provSchemes exFetch [⟨['s', 'r'], ['x']⟩, ⟨['f', 'i', 'l', 'e'], ['c', 'f', 'g']⟩] .nil =
      .ok (.cons ['k'] (.int 1) .nil) := by rfl
  have h3 : sortedLeaves (.cons ['k'] (.int 1) .nil) = [([['k']], .int 1)] := by
    simp [sortedLeaves, flatten]
  simp only [resolveSettings, h1, h2, h3]
  rfl
/-- `s:x` looks like a drive letter: it becomes `file:s:x`, and without a `file` provider `Resolve` cannot retrieve it -/
example : resolveSettings false ⟨[['s', ':', 'x']], [['s', 'r']], []⟩ (fun _ => some .null) (exEnv .fixed) =
    .error .cannotRetrieve := by rfl

end OtelVerif.C12

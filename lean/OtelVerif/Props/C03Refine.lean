import OtelVerif.Lemmas.C03Refine
import OtelVerif.Props.C03
/-!
# C03 — the shutdown LTS refines the abstract specification `Model/C03Spec.lean`

Forward simulation through `abs`: an offer is the spec's `accept` / `lateAccept`, `shutRetry` its `request`, `shutWait` its `ret` (guards
from the state theorems of `Props/C03.lean`), every other step its `work` (`work_step`).  The clause theorems `C03_spec_*_clause` read the property back off the spec's invariant: the `ret`
case rests on the state theorems, so they check that `abs` loses nothing, they are not independent evidence.
-/
namespace OtelVerif.C03
open Spec

/-- **Spec invariant.** In every abstract state reachable from an initial one: once `Shutdown` has returned nothing is active,
nothing is owed (memory queue) / everything owed is still stored (persistent queue) — and this stays so for ever
(`AReach` is closed under `AStep`). -/
theorem C03_spec_invariant {a : AState} (h : AReach a) (hr : a.returned = true) :
    a.active = 0 ∧ (a.persistent = false → a.owed = []) ∧ (a.persistent = true → ∀ x ∈ a.owed, x ∈ a.stored) :=
  (specInv_reach h hr).2

theorem returned_only_offer {s s' : State} {l : Label} (h : Reachable s) (hp : s.phase = 5) (hs : Step s l s') : ∃ b, l = .offer b := by
  obtain ⟨hall, _, _, htimer, hdone, _⟩ := C03_quiet h hp
  have hc : ∀ {i : Nat} {c : CSt}, s.cons[i]? = some c → c = .exited := fun hc => hall _ (List.mem_of_getElem? hc)
  have hd : ∀ {f : Nat} {fl : Flight}, s.flights[f]? = some fl → fl.st = .done := fun hf => hdone _ (List.mem_of_getElem? hf)
  cases hs with
  | offer b => exact ⟨b, rfl⟩
  | read i b late rest hc' hq hg | exit i hc' hp' hq | sendSync i b hc' hb | consume i b flush keep hc' hb hp' | spawn i b rest hc' hw =>
    exact absurd (hc hc') (by simp)
  | timerTake b ht hc' | timerSpawn b ht hw | timerExit ht hp' => rw [ht] at htimer; cases htimer
  | expStart f fl hfl hst =>
    have := hd hfl
    cases hst with
    | inl h1 => rw [h1] at this; cases this
    | inr h1 => rw [h1] at this; cases this
  | expEndDrop f fl o hfl hst | expEndAgain f fl hfl hst hr hp0 | expEndKeep f fl hfl hst hr hp' | giveUp f fl kept hfl hst hk =>
    have := hd hfl; rw [hst] at this; cases this
  | _ => omega

/-- **Refinement.** Every step of the LTS from a reachable state (with at least one consumer) is a step of the specification or
leaves the abstract state unchanged.  The `shutWait` step (Shutdown returns) is the spec's `ret`, whose guard is discharged by
`C03_quiet`, `C03_memory_drained` and `C03_persistent_kept`. -/
theorem C03_refines_spec {s s' : State} {l : Label} (h : Reachable s) (hf : fire s l = some s') (hn : s.cons ≠ []) :
    AStep (abs s) (abs s') ∨ abs s' = abs s := by
  have hs := fire_step hf
  cases l with
  | offer b =>
    cases hs with
    | offer b hopen =>
      rw [abs_offer s b]
      by_cases hp0 : s.phase = 0
      · left
        have e : ({ abs s with owed := (if s.phase = 0 then s.early ++ b else s.early).filter (fresh (abs s).ended)
                               stored := if s.cfg.persistent then s.stored ++ b else s.stored } : AState) =
            { abs s with owed := (abs s).owed ++ b.filter (fresh (abs s).ended)
                         stored := if (abs s).persistent then (abs s).stored ++ b else (abs s).stored } := by
          simp [abs, hp0, List.filter_append]
        exact e ▸ AStep.accept (abs s) b (by simp [abs, hp0])
      · by_cases hpers : s.cfg.persistent = true
        · left
          have e : ({ abs s with owed := (if s.phase = 0 then s.early ++ b else s.early).filter (fresh (abs s).ended)
                                 stored := if s.cfg.persistent then s.stored ++ b else s.stored } : AState) =
              { abs s with stored := (abs s).stored ++ b } := by
            simp [abs, hp0, hpers]
          exact e ▸ AStep.lateAccept (abs s) b (by simp [abs]; omega) (by simp [abs, hpers])
        · right
          simp [abs, hp0, hpers]
  | shutRetry =>
    cases hs with
    | shutRetry hp =>
      left
      have e : abs { s with phase := 1 } = { abs s with requested := true } := by
        rw [abs_phase]; simp [abs, hp]
      rw [e]
      exact AStep.request _ (by simp [abs, hp])
  | shutWait =>
    have hr' : Reachable s' := Reachable.step _ h hf
    cases hs with
    | shutWait hp hb =>
      left
      obtain ⟨hall, hcur, hhand, htimer, hdone, _⟩ := C03_quiet hr' rfl
      have hcur : s.cur = none := hcur
      have hhand : s.shutHand = none := hhand
      have htimer : s.timer = .dead := htimer
      have e : abs { s with phase := 5 } = { abs s with returned := true } := by
        rw [abs_phase]; simp [abs, hp]
      rw [e]
      refine AStep.ret _ (by simp [abs, hp]) (by simp [abs, hp]) ?_ ?_ ?_
      · exact activeCount_eq_zero.mpr ⟨hall, htimer, hdone, hhand, hcur⟩
      · intro hm
        have hm' : s.cfg.persistent = false := hm
        show s.early.filter (fresh (settledItems s.cfg.persistent s.flights)) = []
        apply List.filter_eq_nil_iff.mpr
        intro x hx
        obtain ⟨fl, hfl, hxb, hd, _⟩ := C03_memory_drained hr' rfl hm' hn x hx
        have : x ∈ settledItems s.cfg.persistent s.flights := mem_settledItems.mpr ⟨fl, hfl, by simp [settled, hd, hm'], hxb⟩
        simp [fresh, this]
      · intro hpers x hx
        have hpers' : s.cfg.persistent = true := hpers
        have hx' : x ∈ s.early.filter (fresh (settledItems s.cfg.persistent s.flights)) := hx
        obtain ⟨hxe, hxf⟩ := List.mem_filter.mp hx'
        cases C03_persistent_kept h hpers' x hxe with
        | inl h1 => exact h1
        | inr h1 =>
          obtain ⟨fl, hfl, hxb, hd, hk, _⟩ := h1
          have : x ∈ settledItems s.cfg.persistent s.flights := mem_settledItems.mpr ⟨fl, hfl, by simp [settled, hd, hk], hxb⟩
          simp [fresh, this] at hxf
  | _ =>
    exact .inl (work_step hs (by simp) (by simp) (by simp) (fun hp => by have := returned_only_offer h hp hs; simp at this))

theorem run_refines {s0 s : State} (ls : List Label) (h : Reachable s0) (hn : s0.cons ≠ []) (hr : runFrom s0 ls = some s) :
    AStar (abs s0) (abs s) :=
  (run_induction (I := fun s => Reachable s ∧ s.cons ≠ [] ∧ AStar (abs s0) (abs s)) (ok := fun _ => True) runFrom_nil runFrom_step
    (fun _ l _ ⟨hre, hne, hst⟩ _ hf =>
      ⟨.step l hre hf, cons_ne_nil_step hf hne, (C03_refines_spec hre hf hne).elim (.tail hst) (fun e => e ▸ hst)⟩)
    ls s0 s ⟨h, hn, .refl _⟩ (fun _ _ => trivial) hr).2.2

/-- **Every run of the LTS is a run of the spec.** -/
theorem C03_run_refines_spec (cfg : Cfg) (n w : Nat) (t : Bool) (ls : List Label) (s : State) (hn : 0 < n)
    (hr : runFrom (init cfg n w t) ls = some s) : AStar (abs (init cfg n w t)) (abs s) := by
  refine run_refines ls (Reachable.init cfg n w t) ?_ hr
  cases n with
  | zero => omega
  | succ k => simp [init, List.replicate_succ]

theorem abs_areach {cfg : Cfg} {n w : Nat} {t : Bool} {ls : List Label} {s : State} (hn : 0 < n)
    (hr : runFrom (init cfg n w t) ls = some s) : AReach (abs s) :=
  ⟨_, abs_init_AInit cfg n w t, C03_run_refines_spec cfg n w t ls s hn hr⟩

/-- **Memory queue.** Shutdown returned ⇒ nothing is owed ⇒ every early item lies in a flight that has ended. -/
theorem C03_spec_memory_clause {cfg : Cfg} {n w : Nat} {t : Bool} {ls : List Label} {s : State} (hn : 0 < n)
    (hr : runFrom (init cfg n w t) ls = some s) (hp : s.phase = 5) (hm : s.cfg.persistent = false) (x : Item) (hx : x ∈ s.early) :
    ∃ fl ∈ s.flights, fl.st = .done ∧ x ∈ fl.batch := by
  have hnil : s.early.filter (fresh (settledItems s.cfg.persistent s.flights)) = [] :=
    (C03_spec_invariant (abs_areach hn hr) (by simp [abs, hp])).2.1 hm
  have := List.filter_eq_nil_iff.mp hnil x hx
  simp only [fresh, Bool.not_eq_true', Bool.not_eq_false, List.contains_iff_mem] at this
  obtain ⟨fl, hfl, hs, hxb⟩ := mem_settledItems.mp this
  simp only [settled, Bool.and_eq_true, beq_iff_eq] at hs
  exact ⟨fl, hfl, hs.1, hxb⟩

/-- **Quiet.** Shutdown returned ⇒ `active = 0` ⇒ every consumer has exited, the timer goroutine is gone, every flight has ended,
no batch is in hand. -/
theorem C03_spec_quiet_clause {cfg : Cfg} {n w : Nat} {t : Bool} {ls : List Label} {s : State} (hn : 0 < n)
    (hr : runFrom (init cfg n w t) ls = some s) (hp : s.phase = 5) :
    (∀ c ∈ s.cons, c = .exited) ∧ s.timer = .dead ∧ (∀ fl ∈ s.flights, fl.st = .done) ∧ s.shutHand = none ∧ s.cur = none :=
  activeCount_eq_zero.mp (C03_spec_invariant (abs_areach hn hr) (by simp [abs, hp])).1

/-- **Persistent queue.** Shutdown returned ⇒ everything owed is stored ⇒ every early item is still durably stored or lies in a
flight that ended without a shutdown error. -/
theorem C03_spec_persistent_clause {cfg : Cfg} {n w : Nat} {t : Bool} {ls : List Label} {s : State} (hn : 0 < n)
    (hr : runFrom (init cfg n w t) ls = some s) (hp : s.phase = 5) (hpq : s.cfg.persistent = true) (x : Item) (hx : x ∈ s.early) :
    x ∈ s.stored ∨ ∃ fl ∈ s.flights, fl.st = .done ∧ fl.kept = false ∧ x ∈ fl.batch := by
  have hsub : ∀ x ∈ s.early.filter (fresh (settledItems s.cfg.persistent s.flights)), x ∈ s.stored :=
    (C03_spec_invariant (abs_areach hn hr) (by simp [abs, hp])).2.2 hpq
  by_cases hs : x ∈ settledItems s.cfg.persistent s.flights
  · right
    obtain ⟨fl, hfl, hst, hxb⟩ := mem_settledItems.mp hs
    simp only [settled, hpq, Bool.true_and, Bool.and_eq_true, beq_iff_eq, Bool.not_eq_true'] at hst
    exact ⟨fl, hfl, hst.1, hst.2, hxb⟩
  · left
    exact hsub x (List.mem_filter.mpr ⟨hx, by simp [fresh, hs]⟩)

example : absTrace (init { persistent := false, batching := true, retry := true } 1 1 true) demoSchedule 9 =
    some (false, false, [1, 2, 3, 4, 5], 4) := by decide +kernel
example : absTrace (init { persistent := false, batching := true, retry := true } 1 1 true) demoSchedule 13 =
    some (true, false, [4, 5], 3) := by decide +kernel
example : absTrace (init { persistent := false, batching := true, retry := true } 1 1 true) demoSchedule 23 =
    some (true, true, [], 0) := by decide +kernel
/-- persistent queue: at the return items 1 (shutdown-interrupted) and 3 (never read) are owed and stored -/
example : (demoPFinal.map (fun s => ((abs s).returned, (abs s).owed, (abs s).stored, (abs s).active))) =
    some (true, [1, 3], [1, 3], 0) := by decide +kernel

theorem demo_run_exists : ∃ s, runFrom (init { persistent := false, batching := true, retry := true } 1 1 true) demoSchedule = some s ∧
    s.phase = 5 ∧ s.cfg.persistent = false ∧ 3 ∈ s.early := by
  have h : (runFrom (init { persistent := false, batching := true, retry := true } 1 1 true) demoSchedule).map
      (fun s => (s.phase, s.cfg.persistent, decide (3 ∈ s.early))) = some (5, false, true) := by decide +kernel
  cases hr : runFrom (init { persistent := false, batching := true, retry := true } 1 1 true) demoSchedule with
  | none => rw [hr] at h; cases h
  | some s =>
    rw [hr] at h
    simp only [Option.map_some, Option.some.injEq, Prod.mk.injEq, decide_eq_true_eq] at h
    exact ⟨s, rfl, h.1, h.2.1, h.2.2⟩
/-- … so `C03_spec_invariant` applies to a reachable abstract state that HAS returned, and `C03_refines_spec` to its last step -/
example : ∃ a, AReach a ∧ a.returned = true ∧ a.persistent = false := by
  obtain ⟨s, hr, hp, hm, _⟩ := demo_run_exists
  exact ⟨abs s, abs_areach Nat.one_pos hr, by simp [abs, hp], hm⟩
example : ∃ s s' l, Reachable s ∧ fire s l = some s' ∧ s.cons ≠ [] ∧ (abs s').returned = true ∧ (abs s).returned = false := by
  refine ⟨{ init { persistent := false, batching := false, retry := false } 1 0 false with phase := 4, cons := [.exited] },
   { init { persistent := false, batching := false, retry := false } 1 0 false with phase := 5, cons := [.exited] }, .shutWait,
   ?_, rfl, by simp, rfl, rfl⟩
  exact reachable_of_runFrom [.shutRetry, .shutQueue, .exit 0, .join, .shutBatcher]
    (Reachable.init { persistent := false, batching := false, retry := false } 1 0 false) rfl
/-- the spec is not degenerate: `ret` is refused while something is owed by a memory queue -/
example : ¬ AStep { persistent := false, requested := true, returned := false, owed := [1], ended := [], stored := [], active := 0 }
    { persistent := false, requested := true, returned := true, owed := [1], ended := [], stored := [], active := 0 } := by
  intro h
  cases h
  next _ _ _ h4 _ => exact absurd (h4 rfl) (by decide +kernel)

end OtelVerif.C03

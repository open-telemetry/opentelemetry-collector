import OtelVerif.Lemmas.C06DagFlat
import OtelVerif.Lemmas.C06Src
/-!
# C06 — fan-out never lets one consumer's mutation reach another consumer

All statements quantify over **every** capability vector `caps` (any number and ordering of
consumers), read-only or mutable input, every content `c0`, and every behaviour of the consumers:
`syncW` (what a consumer writes while it is being called) and `ws` (what is written afterwards,
asynchronously) are arbitrary unless a hypothesis says otherwise.
-/
namespace OtelVerif.C06

/-! ## one fan-out call -/

def isMut (caps : List Bool) (c : Nat) : Prop := caps[c]? = some true
def isRO (caps : List Bool) (c : Nat) : Prop := caps[c]? = some false

/-- every consumer is invoked exactly once — whatever earlier ones returned (the loop has no early
exit: `errorsOf` is computed from the same, complete call list) -/
theorem C06_all_called (caps : List Bool) (inputRO : Bool) :
    ((deliveries caps inputRO).map (·.consumer)).Perm (List.range caps.length) := by
  rw [deliveries_consumers, List.range_eq_range']
  exact idxWhere_perm caps 0

/-- the returned error aggregates all failures: a consumer is in it exactly when it failed -/
theorem C06_errors_aggregate (caps : List Bool) (inputRO : Bool) (fails : Nat → Bool) (c : Nat) (hc : c < caps.length) :
    c ∈ errorsOf (deliveries caps inputRO) fails ↔ fails c = true := by
  have hp := C06_all_called caps inputRO
  simp only [errorsOf, List.mem_filter]
  constructor
  · exact fun h => h.2
  · intro h; exact ⟨hp.mem_iff.2 (List.mem_range.2 hc), h⟩

/-- content delivered to each consumer equals the content sent — **for any behaviour of the
consumers during their calls**, declared or not -/
theorem C06_equal_at_call (caps : List Bool) (inputRO : Bool) (c0 : Nat) (syncW : Nat → Option Nat) :
    ∀ s ∈ (runFan caps inputRO c0 syncW).2, s.atCall = some c0 :=
  (runFan_spec caps inputRO c0 syncW).shown

/-- each mutating consumer works on an object nobody else is handed; and the original is handed to
a mutating consumer only if it was not read-only -/
theorem C06_exclusive (caps : List Bool) (inputRO : Bool) :
    (deliveries caps inputRO).Pairwise
      (fun a b => (isMut caps a.consumer ∨ isMut caps b.consumer) → a.obj ≠ b.obj) ∧
    (∀ d ∈ deliveries caps inputRO, isMut caps d.consumer → d.obj = .orig → inputRO = false) := by
  constructor
  · simp only [deliveries, List.pairwise_append]
    refine ⟨(mutDeliveries_pairwise ..).imp fun h _ => h.2, ?_, ?_⟩
    · simp only [roDeliveries, List.pairwise_map]
      refine List.Pairwise.imp_of_mem ?_ (List.pairwise_of_forall (R := fun _ _ => True) (fun _ _ => trivial))
      intro a b ha hb _ hab
      have h1 := (mem_readonlyIdx caps a).1 ha
      have h2 := (mem_readonlyIdx caps b).1 hb
      rcases hab with h | h <;> simp [isMut, h1, h2] at h
    · intro a ha b hb _
      simp only [roDeliveries, List.mem_map] at hb
      obtain ⟨c, hc, rfl⟩ := hb
      rcases mutDeliveries_obj _ _ _ a ha with ⟨_, hL⟩ | ⟨j, hj, _⟩
      · rw [(lastGetsOrig_eq_true.1 hL).1] at hc; cases hc
      · simp [hj]
  · exact fun d hd hm ho => (orig_to_mut hd hm ho).2

/-- a consumer that does not declare mutation is handed the original … -/
theorem C06_readonly_gets_orig (caps : List Bool) (inputRO : Bool) (c : Nat) (hc : isRO caps c) :
    objOf (deliveries caps inputRO) c = some .orig := by
  refine objOf_ro _ _ c (fun d hd e => ?_) ((mem_readonlyIdx caps c).2 hc)
  have hm := mem_mutDeliveries_cap hd
  rw [e, hc] at hm
  cases hm

/-- … and **never observes a change made by any other consumer**, during the calls or at any later
time: for every behaviour `syncW`/`ws` of all the *other* consumers (declared mutators or not), the
object a non-mutating consumer `c` holds still has the content that was sent.  (Only `c` itself is
assumed not to write.) -/
theorem C06_noninterference (caps : List Bool) (inputRO : Bool) (c0 : Nat) (syncW : Nat → Option Nat)
    (ws : List (Nat × Nat)) (c : Nat) (hc : isRO caps c)
    (hself : syncW c = none) (hws : ∀ p ∈ ws, p.1 ≠ c) :
    (asyncWrites (deliveries caps inputRO) (runFan caps inputRO c0 syncW).1 ws).read .orig = some c0 := by
  have hr : c ∈ readonlyIdx caps := (mem_readonlyIdx caps c).2 hc
  have hS := runFan_spec caps inputRO c0 syncW
  -- whoever else is handed the original is a second non-mutating consumer, so it is read-only
  have hsh : ∀ d ∈ deliveries caps inputRO, d.obj = .orig → d.consumer ≠ c →
      (inputRO || decide ((readonlyIdx caps).length > 1)) = true := by
    intro d hd ho hne
    rcases mem_deliveries hd with ⟨hm, _⟩ | ⟨hro, _⟩
    · rw [(orig_to_mut hd hm ho).1] at hr; cases hr
    · have hc' := (mem_readonlyIdx caps _).2 hro
      have : (readonlyIdx caps).length > 1 := by
        cases hl : readonlyIdx caps with
        | nil => rw [hl] at hr; cases hr
        | cons a rest =>
          cases rest with
          | nil => rw [hl] at hr hc'; exact absurd ((List.mem_singleton.1 hc').trans (List.mem_singleton.1 hr).symm) hne
          | cons b rest' => simp
      simp [this]
  simp only [Heap.read, Option.some.injEq]
  rw [asyncWrites_orig, hS.orig fun d hd ho => ?_]
  · by_cases e : d.consumer = c
    · exact Or.inr (e ▸ hself)
    · exact Or.inl (hsh d hd ho e)
  · intro p hp ho
    obtain ⟨d, hd, hdc, hdo⟩ := objOf_mem ho
    rw [hS.origRO]
    exact hsh d hd hdo (hdc ▸ hws p hp)

/-- data shared by several non-mutating consumers is marked read-only (every one of them sees
`IsReadOnly() = true`), so an undeclared mutation panics and changes nothing -/
theorem C06_ro_marked (caps : List Bool) (inputRO : Bool) (c0 : Nat) (syncW : Nat → Option Nat)
    (hmany : (readonlyIdx caps).length > 1) :
    (runFan caps inputRO c0 syncW).1.origRO = true ∧
    (∀ s ∈ (runFan caps inputRO c0 syncW).2, isRO caps s.consumer → s.ro = true) ∧
    (∀ v, (runFan caps inputRO c0 syncW).1.write .orig v = ((runFan caps inputRO c0 syncW).1, true)) := by
  have hS := runFan_spec caps inputRO c0 syncW
  have hfin : (runFan caps inputRO c0 syncW).1.origRO = true := by rw [hS.origRO]; simp [hmany]
  refine ⟨hfin, fun s hs hsro => ?_, fun v => write_ro_noop _ v hfin⟩
  rw [hS.flags s hs, seenRO, show caps[s.consumer]? = some false from hsro]
  simp [hmany]

/-- the fan-out advertises itself as mutating exactly when it may hand the caller's own object to
a mutating consumer -/
theorem C06_fan_cap (caps : List Bool) :
    fanCap caps = true ↔ ∃ d ∈ deliveries caps false, d.obj = .orig ∧ isMut caps d.consumer := by
  constructor
  · intro h
    obtain ⟨hmu, hro⟩ := fanCap_eq_true.1 h
    obtain ⟨d, hd, ho⟩ := mutDeliveries_true_orig hmu 0
    have hL : lastGetsOrig caps false = true := lastGetsOrig_eq_true.2 ⟨hro, rfl⟩
    exact ⟨d, List.mem_append_left _ (hL ▸ hd), ho, mem_mutDeliveries_cap hd⟩
  · rintro ⟨d, hd, ho, hm⟩
    exact fanCap_eq_true.2 ⟨List.ne_nil_of_mem ((mem_mutableIdx caps _).2 hm), (orig_to_mut hd hm ho).1⟩

/-- the fan-out's capability does not depend on the order of its consumers (the graph hands them
over in map-iteration order): it is "there is a consumer and all of them mutate" -/
theorem C06_fanCap_all (caps : List Bool) : fanCap caps = (!caps.isEmpty && caps.all id) := by
  rw [fanCap_eq, List.not_any_eq_all_not]
  cases caps with
  | nil => rfl
  | cons c cs => cases c <;> simp <;> rfl

theorem C06_fanCap_perm (a b : List Bool) (h : a.Perm b) : fanCap a = fanCap b := by
  rw [C06_fanCap_all, C06_fanCap_all]
  have h1 : a.isEmpty = b.isEmpty := by
    cases a <;> cases b <;> simp_all
  have h2 : a.all id = b.all id := by
    rw [Bool.eq_iff_iff]; simp only [List.all_eq_true]; exact ⟨fun hh x hx => hh x (h.mem_iff.2 hx), fun hh x hx => hh x (h.mem_iff.1 hx)⟩
  rw [h1, h2]

/-! ## pipeline level -/

/-- a pipeline advertises itself as mutating exactly when one of its processors mutates or its
exporter stage may mutate the original payload -/
theorem C06_pipeline_cap (procs exporters : List Bool) :
    pipelineCap procs exporters = true ↔
      (∃ p ∈ procs, p = true) ∨ ∃ d ∈ deliveries exporters false, d.obj = .orig ∧ isMut exporters d.consumer := by
  simp only [pipelineCap, Bool.or_eq_true, C06_fan_cap, List.any_eq_true, id]
  constructor
  · rintro (h | h); exact Or.inr h; exact Or.inl h
  · rintro (h | h); exact Or.inr h; exact Or.inl h

/-- two-level isolation: a pipeline that does **not** advertise mutation has no mutating processor
and its exporter stage hands the payload it received only to non-mutating exporters (every mutating
exporter works on a clone) — so whoever feeds several pipelines may share one object among the
non-advertising ones, and `C06_exclusive` gives each advertising pipeline its own copy -/
theorem C06_two_level (procs exporters : List Bool) (inputRO : Bool) (h : pipelineCap procs exporters = false) :
    (∀ p ∈ procs, p = false) ∧
    ∀ d ∈ deliveries exporters inputRO, isMut exporters d.consumer → ∃ j, d.obj = .clone j := by
  simp only [pipelineCap, Bool.or_eq_false_iff, List.any_eq_false, id] at h
  obtain ⟨hf, hp⟩ := h
  refine ⟨fun p hp' => by simpa using hp p hp', ?_⟩
  intro d hd hm
  cases ho : d.obj with
  | clone j => exact ⟨j, rfl⟩
  | orig =>
    -- the original goes to a mutating exporter only if the fan-out advertises mutation
    rw [fanCap_eq_true.2 ⟨List.ne_nil_of_mem ((mem_mutableIdx _ _).2 hm), (orig_to_mut hd hm ho).1⟩] at hf
    cases hf

/-- a pipeline as the graph sees it: declared `MutatesData` of its processors (in order) and of its
exporter stage (exporters and connectors) -/
structure Pipe where
  procs : List Bool
  exps : List Bool
deriving Repr

def Pipe.cap (p : Pipe) : Bool := pipelineCap p.procs p.exps

/-- read-only state of the object a pipeline is handed by the upstream fan-out -/
def objRO (caps : List Bool) (inputRO : Bool) : Obj → Bool
  | .clone _ => false
  | .orig => inputRO || marksRO caps inputRO

/-- **End-to-end isolation.**  A fan-out (receiver or connector router) hands one payload to the
pipelines `pipes`, each advertising `Pipe.cap`.  If anything in pipeline `i` may write to the object the
pipeline was handed — a processor that declares mutation, or a mutating exporter/connector that the
pipeline's own fan-out hands that very object — then that object is handed to no other pipeline and is
not read-only: the write cannot panic and cannot be seen by any other pipeline. -/
theorem C06_end_to_end (pipes : List Pipe) (inputRO : Bool) (i : Nat) (p : Pipe) (hp : pipes[i]? = some p)
    (o : Obj) (ho : objOf (deliveries (pipes.map Pipe.cap) inputRO) i = some o)
    (hw : (∃ b ∈ p.procs, b = true) ∨
      ∃ d ∈ deliveries p.exps (objRO (pipes.map Pipe.cap) inputRO o), d.obj = .orig ∧ isMut p.exps d.consumer) :
    (∀ j, j ≠ i → objOf (deliveries (pipes.map Pipe.cap) inputRO) j ≠ some o) ∧
      objRO (pipes.map Pipe.cap) inputRO o = false := by
  have hcap : p.cap = true := by
    rw [Pipe.cap, C06_pipeline_cap]
    rcases hw with h | ⟨d, hd, hdo, hdm⟩
    · exact Or.inl h
    · have hro := (C06_exclusive _ _).2 d hd hdm hdo
      exact Or.inr ⟨d, hro ▸ hd, hdo, hdm⟩
  have hmut : isMut (pipes.map Pipe.cap) i := by
    simp only [isMut, List.getElem?_map, hp, Option.map_some, hcap]
  obtain ⟨di, hdi, hdic, hdio⟩ := objOf_mem ho
  have hex := C06_exclusive (pipes.map Pipe.cap) inputRO
  constructor
  · intro j hj hoj
    obtain ⟨dj, hdj, hdjc, hdjo⟩ := objOf_mem hoj
    obtain ⟨a, ha⟩ := List.getElem?_of_mem hdi
    obtain ⟨b, hb⟩ := List.getElem?_of_mem hdj
    have hab : a ≠ b := fun e => hj (by rw [← hdjc, ← hdic, Option.some.inj (ha.symm.trans (e ▸ hb))])
    have := pairwise_at_ne_index (R := fun a b => (isMut (pipes.map Pipe.cap) a.consumer ∨ isMut (pipes.map Pipe.cap) b.consumer) → a.obj ≠ b.obj)
      (fun a b h hab => fun e => h (hab.symm) e.symm) hex.1 hab ha hb
    exact this (Or.inl (by rw [hdic]; exact hmut)) (by rw [hdio, hdjo])
  · cases o with
    | clone k => rfl
    | orig =>
      -- nobody shares the original and the input is writable, hence no marking
      obtain ⟨hnone, hin⟩ := orig_to_mut hdi (hdic ▸ hmut) hdio
      simp [objRO, hin, marksRO, hnone]

/-- conversely, a pipeline that does not advertise mutation never writes to the object it was handed
(`C06_two_level`), so sharing that object among such pipelines — read-only when there are several —
is safe -/
theorem end_to_end_quiet (pipes : List Pipe) (i : Nat) (p : Pipe) (hp : pipes[i]? = some p) (hc : p.cap = false) (ro : Bool) :
    (∀ b ∈ p.procs, b = false) ∧ ∀ d ∈ deliveries p.exps ro, isMut p.exps d.consumer → ∃ k, d.obj = .clone k := by
  have _ := hp
  exact C06_two_level p.procs p.exps ro hc

/-- non-vacuity of `ho` in `C06_end_to_end`: the first pipeline (a mutating processor) is handed clone 0, the second the original -/
example : objOf (deliveries ([(⟨[true], [false]⟩ : Pipe), ⟨[], [false, false]⟩].map Pipe.cap) false) 0 = some (.clone 0) ∧
    objOf (deliveries ([(⟨[true], [false]⟩ : Pipe), ⟨[], [false, false]⟩].map Pipe.cap) false) 1 = some .orig := by decide +kernel

example : deliveries [true, false, true, false] false =
    [⟨0, .clone 0⟩, ⟨2, .clone 1⟩, ⟨1, .orig⟩, ⟨3, .orig⟩] := by decide +kernel
example : deliveries [true, true] false = [⟨0, .clone 0⟩, ⟨1, .orig⟩] := by decide +kernel
example : deliveries [true, true] true = [⟨0, .clone 0⟩, ⟨1, .clone 1⟩] := by decide +kernel
example : (runFan [true, false, false] false 7 (fun c => if c = 0 then some 9 else none)).1.origRO = true := by decide +kernel
example : isRO [true, false, false] 1 ∧ (readonlyIdx [true, false, false]).length > 1 := ⟨rfl, by decide +kernel⟩

/-! ## whole graphs: one payload travelling through ANY tree of pipelines, connectors and exporters

No bound on depth, width, number of processors, sharing pattern; any heap, any object. -/

/-- **Refinement.**  What every exporter anywhere below a fan-out is shown at its call is exactly what the private-copy
semantics prescribes — the payload that was sent plus the tags of the declared mutators on ITS OWN path, nothing written by
any sibling, cousin or other pipeline — in serving order (`specFan`) and, order-free, as a permutation of `specAll`. -/
theorem C06_dag_refines (f : Dag.Forest) (o : Nat) (h : Dag.Heap) (ho : o < h.next) :
    (Dag.fan f o h).2.map Dag.Obs.proj = Dag.specFan f (h.content o) ∧
    ((Dag.fan f o h).2.map Dag.Obs.proj).Perm (Dag.specAll f (h.content o)) := by
  have F := Dag.fan_good f o h ho
  exact ⟨F.obs, by rw [F.obs]; exact Dag.specFan_perm f _⟩

/-- … and it stays so: after the whole graph has run (all siblings at every level, everything downstream of them), the object
each exporter was handed holds exactly what it was shown plus its own declared write. -/
theorem C06_dag_final (f : Dag.Forest) (o : Nat) (h : Dag.Heap) (ho : o < h.next) :
    ∀ ob ∈ (Dag.fan f o h).2, (Dag.fan f o h).1.content ob.obj = ob.content ++ ob.own :=
  (Dag.fan_good f o h ho).final

/-- no declared mutator at any depth (processor, connector, exporter) is ever handed a read-only object: nothing panics, and
a mutating exporter sees `IsReadOnly() = false` -/
theorem C06_dag_no_panic (f : Dag.Forest) (o : Nat) (h : Dag.Heap) (ho : o < h.next) :
    (Dag.fan f o h).1.panics = h.panics ∧ ∀ ob ∈ (Dag.fan f o h).2, ob.own ≠ [] → ob.ro = false :=
  ⟨(Dag.fan_good f o h ho).panics, (Dag.fan_good f o h ho).wr⟩

/-- frame: a fan-out call touches no object that existed before except the one it was given, and it does not change even that
one's content unless it advertises mutation (`fanCap`: some consumer mutates and none is non-mutating) — `C06_two_level` at
any depth -/
theorem C06_dag_frame (f : Dag.Forest) (o : Nat) (h : Dag.Heap) (ho : o < h.next) :
    (∀ x, x < h.next → x ≠ o → (Dag.fan f o h).1.content x = h.content x ∧ (Dag.fan f o h).1.ro x = h.ro x) ∧
    (fanCap (Dag.caps f) = false → (Dag.fan f o h).1.content o = h.content o) ∧
    (h.ro o = true → (Dag.fan f o h).1.ro o = true) := by
  have F := Dag.fan_good f o h ho
  refine ⟨F.frame, fun hc => F.quiet ?_, F.roKeep⟩
  exact fanCap_false _ hc

/-- a pipeline / connector that does not advertise mutation never changes the object it is handed, whatever is below it -/
theorem C06_dag_quiet_node (k : Dag.Kind) (ws : List (Nat × Bool)) (kids : Dag.Forest) (o : Nat) (h : Dag.Heap) (ho : o < h.next)
    (hc : Dag.innerCap k ws (Dag.caps kids) = false) :
    (Dag.fan kids o (Dag.writeAll ws o h)).1.content o = h.content o := by
  obtain ⟨hw, hq⟩ := Dag.innerCap_false k ws kids hc
  rw [(Dag.writeAll_none ws o h hw).1]
  exact (Dag.fan_good kids o h ho).quiet hq

/-- **shared ⇒ read-only, anywhere in the graph**: any two exporter calls (same fan-out, different pipelines, different depth …) that
are handed the SAME object both see it read-only — an undeclared mutation by either panics (`Dag.Heap.write` on a read-only object
only records the panic) instead of corrupting the other -/
theorem C06_dag_shared_readonly (f : Dag.Forest) (o : Nat) (h : Dag.Heap) (ho : o < h.next) :
    (Dag.fan f o h).2.Pairwise (fun a b => a.obj = b.obj → a.ro = true ∧ b.ro = true) :=
  (Dag.fan_good f o h ho).pw

/-- **exclusive**: the object of an exporter that declares mutation is handed to no other exporter call of the whole graph -/
theorem C06_dag_exclusive (f : Dag.Forest) (o : Nat) (h : Dag.Heap) (ho : o < h.next) :
    (Dag.fan f o h).2.Pairwise (fun a b => (a.own ≠ [] ∨ b.own ≠ []) → a.obj ≠ b.obj) := by
  have F := Dag.fan_good f o h ho
  -- same object ⇒ both saw it read-only (`pw`); a declared writer saw it writable (`wr`)
  refine List.Pairwise.imp_of_mem (fun {a b} ha hb hab hown e => ?_) F.pw
  rcases hown with hw | hw
  · exact Bool.false_ne_true ((F.wr a ha hw).symm.trans (hab e).1)
  · exact Bool.false_ne_true ((F.wr b hb hw).symm.trans (hab e).2)

/-- **asynchronous mutation**: whatever the declared mutators write LATER (any number of writes, any order, after the whole graph
has returned) to the objects they hold, every other exporter call's object still holds exactly what that call was shown plus its
own write -/
theorem C06_dag_async (f : Dag.Forest) (o : Nat) (h : Dag.Heap) (ho : o < h.next) (ws : List (Nat × Nat)) (j : Nat) (ob : Dag.Obs)
    (hj : (Dag.fan f o h).2[j]? = some ob) (hws : ∀ w ∈ ws, w.1 ≠ j) :
    (Dag.later (Dag.fan f o h).2 (Dag.fan f o h).1 ws).content ob.obj = ob.content ++ ob.own := by
  rw [Dag.later_content _ ob.obj ws _ fun w hw ob' hob' hown => ?_]
  · exact C06_dag_final f o h ho ob (List.mem_of_getElem? hj)
  · exact pairwise_at_ne_index (R := fun a b => (a.own ≠ [] ∨ b.own ≠ []) → a.obj ≠ b.obj)
      (fun a b hab hor e => hab hor.symm e.symm) (C06_dag_exclusive f o h ho) (hws w hw) hob' hj (Or.inl hown)

/-- every exporter below is called whatever its siblings return, and the error the caller gets back aggregates every failing call:
the failing calls are exactly (as a multiset) the failing entries of the private-copy semantics -/
theorem C06_dag_errors (f : Dag.Forest) (o : Nat) (h : Dag.Heap) (ho : o < h.next) (fails : Nat → Bool) :
    (((Dag.fan f o h).2.filter (fun ob => fails ob.id)).map Dag.Obs.proj).Perm
      ((Dag.specAll f (h.content o)).filter (fun e => fails e.1)) := by
  have hp := ((C06_dag_refines f o h ho).2).filter (fun e => fails e.1)
  have : ((Dag.fan f o h).2.filter (fun ob => fails ob.id)).map Dag.Obs.proj =
      ((Dag.fan f o h).2.map Dag.Obs.proj).filter (fun e => fails e.1) := by
    rw [List.filter_map]; rfl
  rw [this]; exact hp

/-- **the whole-graph semantics is built from the code-tied fan-out model**: one fan-out of `Dag.fan` over plain exporters with
capabilities `caps` hands every consumer exactly the object `deliveries caps` says (the caller's object, or the `k`-th object
allocated from `h.next` on for `.clone k`), in the same order, and shows it the read-only flag `seenRO` says — for every heap -/
theorem C06_dag_flat (caps : List Bool) (o : Nat) (h : Dag.Heap) (ho : o < h.next) :
    (Dag.fan (Dag.ofCaps caps 0) o h).2.map (fun ob => (ob.id, ob.obj)) =
      (deliveries caps (h.ro o)).map (fun d => (d.consumer, Dag.objNum o h.next d.obj)) ∧
    (∀ ob ∈ (Dag.fan (Dag.ofCaps caps 0) o h).2, ob.ro = seenRO caps (h.ro o) ob.id) ∧
    Dag.caps (Dag.ofCaps caps 0) = caps :=
  ⟨(Dag.fan_ofCaps caps o h ho).1, (Dag.fan_ofCaps caps o h ho).2, Dag.caps_ofCaps caps 0⟩

example : (Dag.fan (Dag.ofCaps [true, false, true, false] 0) 0 (Dag.Heap.init [] false)).2.map (fun ob => (ob.id, ob.obj, ob.ro)) =
    [(0, 1, false), (2, 2, false), (1, 0, true), (3, 0, true)] := by decide +kernel

/-- the driver's oracle on the implementation's observations is sound: it accepts only permutations of the private-copy semantics -/
theorem C06_dag_check_sound (f : Dag.Forest) (t : Dag.Trail) (seen : List (Nat × Dag.Trail))
    (h : Dag.checkLeaves f t seen = true) : seen.Perm (Dag.specAll f t) := by
  simpa [Dag.checkLeaves, List.isPerm_iff] using h

/-- non-vacuity: receiver → [pipeline A (mutating processor 1; exporters 2 (mutating), 3; connector 4 → pipeline B (exporters 5, 6)),
pipeline C (exporter 7)].  A advertises mutation and gets a clone; C shares the original. -/
def Dag.ex1 : Dag.Forest :=
  .inner .pipe [(1, true)]
    (.exp 2 true (.exp 3 false (.inner .conn [(4, false)] (.inner .pipe [] (.exp 5 false (.exp 6 false .nil)) .nil) .nil)))
    (.inner .pipe [] (.exp 7 false .nil) .nil)

example : Dag.caps Dag.ex1 = [true, false] := by decide +kernel
example : (Dag.later (Dag.fan Dag.ex1 0 (Dag.Heap.init [] false)).2 (Dag.fan Dag.ex1 0 (Dag.Heap.init [] false)).1 [(0, 2), (0, 2)]).content 2 =
    [1, 2, 2, 2] := by decide +kernel
example : (Dag.fan Dag.ex1 0 (Dag.Heap.init [] false)).2 =
    [⟨2, 2, [1], false, [2]⟩, ⟨3, 1, [1], true, []⟩, ⟨5, 1, [1], true, []⟩, ⟨6, 1, [1], true, []⟩, ⟨7, 0, [], false, []⟩] := by
  decide +kernel
example : Dag.specAll Dag.ex1 [] = [(2, [1]), (3, [1]), (5, [1]), (6, [1]), (7, [])] := by decide +kernel
example : Dag.checkLeaves Dag.ex1 [] [(7, []), (2, [1]), (3, [1]), (5, [1]), (6, [1])] = true := by decide +kernel
example : Dag.checkLeaves Dag.ex1 [] [(7, [1]), (2, [1]), (3, [1]), (5, [1]), (6, [1])] = false := by decide +kernel

/-! ## the source of the four fan-out files (`Gen.FanoutShape`) means the model -/

/-- for EACH of the four signals and every capability vector: running the translated `Consume*` on the slices the translated
`New*` builds performs exactly the calls / clones / marking of the model, with the model's effect on every heap and every
behaviour of the consumers; the translated `Capabilities()` is `fanCap`; a clone is a fresh copy -/
theorem C06_src_fanout (name : String) (p : Src.Fan) (hp : (name, p) ∈ Gen.FanoutShape.all)
    (caps : List Bool) (inputRO : Bool) (c0 : Nat) (syncW : Nat → Option Nat) :
    Src.part p.part caps 0 = (mutableIdx caps, readonlyIdx caps) ∧
    (Src.exec p.consume (Src.part p.part caps 0).1 (Src.part p.part caps 0).2 ⟨[], 0, inputRO⟩).evs = Src.planEvs caps inputRO ∧
    Src.runEvs syncW { orig := c0, origRO := inputRO }
        (Src.exec p.consume (Src.part p.part caps 0).1 (Src.part p.part caps 0).2 ⟨[], 0, inputRO⟩).evs =
      runFan caps inputRO c0 syncW ∧
    (∀ r, Src.evalB p.capExp (Src.part p.part caps 0).1 (Src.part p.part caps 0).2 r = fanCap caps) ∧
    p.cloneIsFreshCopy = true := by
  have hcanon : p = Src.canon := by
    obtain ⟨h1, h2, h3, h4⟩ := Src.gen_eq_canon
    simp only [Gen.FanoutShape.all, List.mem_cons, Prod.mk.injEq, List.mem_nil_iff, or_false] at hp
    rcases hp with ⟨_, rfl⟩ | ⟨_, rfl⟩ | ⟨_, rfl⟩ | ⟨_, rfl⟩ <;> assumption
  subst hcanon
  have hpart : Src.part Src.canon.part caps 0 = (mutableIdx caps, readonlyIdx caps) := Src.part_canon caps 0
  refine ⟨hpart, ?_, ?_, ?_, rfl⟩
  · rw [hpart]; exact Src.exec_canon caps inputRO
  · rw [hpart]; simp only []; rw [Src.exec_canon, Src.runEvs_plan]
  · intro r; rw [hpart]; exact Src.evalB_canon_cap caps r

/-- `New*` returns the single consumer itself when it does not mutate (every one of the four files does): unobservable — the
wrapper would call it exactly once with the caller's object, never mark, and advertise non-mutating -/
theorem C06_src_unwrap_unobservable (inputRO : Bool) :
    (∀ p ∈ Gen.FanoutShape.all, p.2.unwrapSingleRO = true) ∧
    deliveries [false] inputRO = [⟨0, .orig⟩] ∧ marksRO [false] inputRO = false ∧ fanCap [false] = false := by
  refine ⟨by decide +kernel, ?_, ?_, rfl⟩ <;> cases inputRO <;> rfl

/-- the graph's capability glue, regenerated from `connector.go` / `graph.go` / `capabilityconsumer`: `aggregateCap`'s loop is
`aggregateCap`, the capabilities node's loop is `pipelineCap` (of the fan-out node's capability), and for every signal the
same-signal connector arm / the capabilities node arm expose a consumer that advertises exactly that value, while every
cross-signal connector arm exposes the connector unwrapped (its own declared capability: for the pipeline that feeds it, it is a leaf
of the whole-graph model) -/
theorem C06_src_graph_glue (base : Bool) (nexts procs exporters : List Bool) (fo : Bool) :
    Src.evalCap Gen.FanoutShape.aggregateCapExp base fo nexts procs = aggregateCap base nexts ∧
    Src.evalCap Gen.FanoutShape.capNodeExp base (fanCap exporters) nexts procs = pipelineCap procs exporters ∧
    (∀ s ∈ ["logs", "metrics", "traces", "profiles"],
      Gen.FanoutShape.connectorWraps.lookup s = some true ∧ Gen.FanoutShape.capNodeWraps.lookup s = some true ∧
      Gen.FanoutShape.capConsumerAdvertisesRequested.lookup s = some true ∧
      Gen.FanoutShape.connectorCrossUnwrapped.lookup s = some true) := by
  refine ⟨?_, ?_, by decide +kernel⟩
  · simp [Gen.FanoutShape.aggregateCapExp, Src.evalCap, Src.orLoop_eq, aggregateCap]
  · simp [Gen.FanoutShape.capNodeExp, Src.evalCap, Src.orLoop_eq, pipelineCap]

example : ("metrics", Gen.FanoutShape.metrics) ∈ Gen.FanoutShape.all := by decide +kernel

/-! ## connector routers (`connector/*_router.go`, `connector/internal/router.go`, `xconnector/profiles_router.go`) -/

/-- for EACH of the four signals the router's `Consumer(ids…)` accepts exactly the non-empty selections of known pipelines
(`routerSelect`, what the router differential runs), and the consumer it returns is the signal's fan-out over the selected
pipelines' consumers in the order given, repeats included — so everything proved about `deliveries`/`runFan` applies to it with
`caps` = the capabilities of the selection; the router itself consumes through the fan-out over all its pipelines -/
theorem C06_src_router (name : String) (r : Src.Route) (hr : (name, r) ∈ Gen.FanoutShape.routers) (n : Nat) (sel : List Nat) :
    r.select n sel = routerSelect n sel ∧ (∀ l, routerSelect n sel = some l → l = sel ∧ sel ≠ [] ∧ ∀ i ∈ sel, i < n) ∧
    r.lookupInOrder = true ∧ r.fanoutOverFound = true ∧ r.defaultOverAll = true := by
  have hall : r = ⟨true, true, true, true, true⟩ := by
    simp only [Gen.FanoutShape.routers, List.mem_cons, Prod.mk.injEq, List.mem_nil_iff, or_false] at hr
    rcases hr with ⟨_, rfl⟩ | ⟨_, rfl⟩ | ⟨_, rfl⟩ | ⟨_, rfl⟩ <;> rfl
  subst hall
  refine ⟨?_, ?_, rfl, rfl, rfl⟩
  · simp only [Src.Route.select, routerSelect, Bool.true_and]
    split
    · rfl
    · by_cases ha : sel.all (fun x => decide (x < n)) = true
      · have hf : sel.filter (fun x => decide (x < n)) = sel := List.filter_eq_self.2 (by simpa using ha)
        simp [ha, hf]
      · have hl : (sel.filter (fun x => decide (x < n))).length ≠ sel.length :=
          fun h => ha (List.all_eq_true.2 (List.length_filter_eq_length_iff.1 h))
        simp [ha, hl]
  · intro l hl
    simp only [routerSelect] at hl
    split at hl
    · cases hl
    · next he =>
      split at hl
      · next ha => cases hl; exact ⟨rfl, by simpa using he, by simpa using ha⟩
      · cases hl

example : routerSelect 3 [2, 0, 2] = some [2, 0, 2] ∧ routerSelect 3 [] = none ∧ routerSelect 3 [1, 3] = none := by decide +kernel

/-! ## declared → advertised capability through the helpers -/

/-- a processor built with the processor helper (either flavour) advertises its LAST own declaration, and **mutation when it
declares nothing** — so the fan-out in front of a pipeline with such a processor always gives that pipeline its own copy -/
theorem C06_helper_processor (decls : List Bool) :
    processorCapH Gen.FanoutShape.consumerDefaultMutates Gen.FanoutShape.processorHelperDefaults decls = decls.getLast?.getD true ∧
    processorCapH Gen.FanoutShape.consumerDefaultMutates Gen.FanoutShape.xprocessorHelperDefaults decls = decls.getLast?.getD true :=
  ⟨applyCaps_last true decls, applyCaps_last true decls⟩

/-- an exporter built with the exporter helper that batches advertises mutation whatever it declared; otherwise its last own
declaration, non-mutating by default (`exporterCap`, the closed form the exporter differential runs) -/
theorem C06_helper_exporter (decls : List Bool) (batching : Bool) :
    exporterCapH Gen.FanoutShape.consumerDefaultMutates Gen.FanoutShape.exporterBatchingDeclares decls true = true ∧
    exporterCapH Gen.FanoutShape.consumerDefaultMutates Gen.FanoutShape.exporterBatchingDeclares decls false = decls.getLast?.getD false ∧
    exporterCapH Gen.FanoutShape.consumerDefaultMutates Gen.FanoutShape.exporterBatchingDeclares decls batching =
      exporterCap decls.getLast? batching ∧
    Gen.FanoutShape.exporterBatchingCond = "be.batcherCfg.Enabled || be.queueCfg.Batch != nil" := by
  have on : ∀ d, exporterCapH d true decls true = true := fun d => by
    simp [exporterCapH, applyCaps_last, List.getLast?_append]
  have off : ∀ d, exporterCapH d true decls false = decls.getLast?.getD d := fun d => by
    simp [exporterCapH, applyCaps_last]
  refine ⟨on _, off _, ?_, rfl⟩
  cases batching
  · exact (off _).trans (by simp [exporterCap, Gen.FanoutShape.consumerDefaultMutates])
  · exact (on _).trans (by simp [exporterCap])

example : processorCapH false [true] [] = true ∧ processorCapH false [true] [true, false] = false ∧
    exporterCapH false true [false] true = true ∧ exporterCapH false true [true, false] false = false := by decide +kernel

/-! ## order-independent summary (`Model/C06.lean`) -/

/-- the read-only flag every consumer sees at its call, for every behaviour of the consumers: a mutating consumer never sees a
read-only object; a non-mutating one sees read-only iff the input was, or several non-mutating consumers share it -/
theorem C06_seen_ro (caps : List Bool) (inputRO : Bool) (c0 : Nat) (syncW : Nat → Option Nat) :
    ∀ s ∈ (runFan caps inputRO c0 syncW).2, s.ro = seenRO caps inputRO s.consumer := by
  intro s hs
  exact (runFan_spec caps inputRO c0 syncW).flags s hs

/-- at most one mutating consumer is handed the original: exactly one when there is a mutating consumer, no non-mutating one
and the input is mutable; none otherwise -/
theorem C06_origMut (caps : List Bool) (inputRO : Bool) :
    origMut caps inputRO = if lastGetsOrig caps inputRO && !(mutableIdx caps).isEmpty then 1 else 0 :=
  mutDeliveries_origCount _ _ _

theorem C06_summary_perm (a b : List Bool) (h : a.Perm b) (inputRO : Bool) :
    origMut a inputRO = origMut b inputRO ∧ (readonlyIdx a).length = (readonlyIdx b).length ∧
      (mutableIdx a).length = (mutableIdx b).length := by
  have len : ∀ c, (idxWhere c a 0).length = (idxWhere c b 0).length := fun c => by
    rw [idxWhere_length, idxWhere_length, h.count_eq]
  have emp : ∀ c, (idxWhere c a 0).isEmpty = (idxWhere c b 0).isEmpty := fun c => by
    rw [idxWhere_isEmpty, idxWhere_isEmpty, h.contains_eq]
  refine ⟨?_, len false, len true⟩
  rw [C06_origMut, C06_origMut]
  simp only [lastGetsOrig, readonlyIdx, mutableIdx, emp]
  rfl

example : origMut [true, true] false = 1 ∧ origMut [true, false] false = 0 ∧ origMut [true, true] true = 0 ∧
    seenRO [false, false, true] false 0 = true ∧ seenRO [false, true] false 0 = false := by decide +kernel

end OtelVerif.C06

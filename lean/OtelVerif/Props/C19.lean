import OtelVerif.Lemmas.C19
import OtelVerif.Lemmas.C19Exp
import OtelVerif.Props.C03
import OtelVerif.Props.C03ReplaySound
/-!
# C19 — self-telemetry item counters balance with what actually happened

Receiver, scraper, processor, obsconsumer and exporter clauses (helper lemmas: `Lemmas/C19`, `Lemmas/C19Exp`; further exporter theorems:
`Props/C19Balance`, `C19PGauge`, `C19SenderTrace`, `Lemmas/C19Sender`; the per-signal duplicates: `Lemmas/C19SigDup`).
`Gen.ScrapeSignal` is regenerated from `scraper/scraperhelper/controller.go` and
`receiver/receiverhelper/obsreport.go` on every run, so `C19_scraper_logs`, `C19_scraper_metrics`,
`C19_recordMetrics_table` and `C19_endOp_signals` are re-checked against what the code says.
-/
namespace OtelVerif.C19
open OtelVerif.Gen

/-! ## ties over the regenerated data -/

/-- every case of the `recordMetrics` switch selects the accepted and the refused instrument of its own
signal, and every signal has a case -/
theorem C19_recordMetrics_table :
    (∀ r ∈ ScrapeSignal.recordTable, r.2.1 = r.1 ∧ r.2.2 = r.1) ∧
    (∀ s ∈ Signal.all, s.code ∈ ScrapeSignal.recordTable.map (·.1)) := by decide +kernel

/-- `End<X>Op` hands `pipeline.Signal<X>` to `endOp` -/
theorem C19_endOp_signals : ∀ s ∈ Signal.all, ScrapeSignal.endOpSignal.lookup s.code = some s.code := by decide +kernel

/-- the codes emitted for the scrape functions denote signals (the fallback of `Ctrl.used` is never taken) -/
theorem C19_scrape_codes_valid : ∀ k ∈ [Ctrl.metrics, Ctrl.logs], (Signal.ofCode? k.usedCode).isSome = true := by decide +kernel

/-! ## receiver -/

/-- **per operation, at any point of any history** (`c` = counters so far): the offered items go to
accepted when the downstream result is success and to refused when it is an error, under the
operation's own signal, and the counters of the other signals do not move -/
theorem C19_receiver_op (c : Recv) (op : RecvOp) : RecvStepOK c (c.endOp op) op := by
  refine ⟨?_, ?_, ?_⟩
  · intro h; simp [Recv.endOp, add, numAccepted, numRefused, h]
  · intro h; simp [Recv.endOp, add, numAccepted, numRefused, h]
  · intro t ht; simp [Recv.endOp, add, ht]

/-- which of the two moved tells the downstream result (for a non-empty payload; with `n = 0` neither moves) -/
theorem C19_receiver_op_iff (c : Recv) (op : RecvOp) (hn : 0 < op.n) :
    (op.err = false ↔ ((c.endOp op).refused op.sig = c.refused op.sig ∧ (c.endOp op).accepted op.sig = c.accepted op.sig + op.n)) ∧
    (op.err = true ↔ ((c.endOp op).accepted op.sig = c.accepted op.sig ∧ (c.endOp op).refused op.sig = c.refused op.sig + op.n)) := by
  cases h : op.err <;> simp [Recv.endOp, add, numAccepted, numRefused, h] <;> omega

/-- the hypothesis `0 < op.n` is needed: a failed operation that offered nothing moves neither counter, so
"refused unchanged and accepted grown by n" holds for it as well -/
example : let c : Recv := {}; let op : RecvOp := ⟨.logs, 0, true⟩
    (c.endOp op).refused op.sig = c.refused op.sig ∧ (c.endOp op).accepted op.sig = c.accepted op.sig + op.n := by decide +kernel

example : let c : Recv := Recv.run {} [⟨.metrics, 4, false⟩]; let op : RecvOp := ⟨.metrics, 3, true⟩
    0 < op.n ∧ (c.endOp op).accepted .metrics = 4 ∧ (c.endOp op).refused .metrics = 3 := by decide +kernel

/-- **every history of receive operations over all signals**: for each signal, accepted = items offered
by its successful operations, refused = items offered by its failed operations, and so
accepted + refused = items offered to that signal — operations of the other signals contribute nothing -/
theorem C19_receiver (ops : List RecvOp) (s : Signal) :
    (Recv.run {} ops).accepted s = offeredOk s ops ∧
    (Recv.run {} ops).refused s = offeredErr s ops ∧
    (Recv.run {} ops).accepted s + (Recv.run {} ops).refused s = offered s ops := by
  obtain ⟨ha, hr⟩ := Recv.run_counts {} ops s
  have hs := offered_split s ops
  simp only [Nat.zero_add] at ha hr
  exact ⟨ha, hr, by omega⟩

theorem C19_receiver_trace (c : Recv) (ops : List RecvOp) : RecvTraceOK c (c.trace ops) := by
  induction ops generalizing c with
  | nil => trivial
  | cons op ops ih => exact ⟨C19_receiver_op c op, ih _⟩

example : (Recv.run {} [⟨.traces, 5, false⟩, ⟨.logs, 3, true⟩, ⟨.traces, 2, true⟩, ⟨.metrics, 0, false⟩]).accepted .traces = 5 ∧
    (Recv.run {} [⟨.traces, 5, false⟩, ⟨.logs, 3, true⟩, ⟨.traces, 2, true⟩, ⟨.metrics, 0, false⟩]).refused .traces = 2 ∧
    (Recv.run {} [⟨.traces, 5, false⟩, ⟨.logs, 3, true⟩, ⟨.traces, 2, true⟩, ⟨.metrics, 0, false⟩]).refused .logs = 3 ∧
    offered .traces [⟨.traces, 5, false⟩, ⟨.logs, 3, true⟩, ⟨.traces, 2, true⟩, ⟨.metrics, 0, false⟩] = 7 := by decide +kernel

/-! ### search oracle on implementation observations -/

theorem C19_recv_check_sound (before : Recv) (tr : List (RecvOp × Recv)) (h : recvCheck before tr = true) : RecvTraceOK before tr := by
  induction tr generalizing before with
  | nil => trivial
  | cons p rest ih =>
    obtain ⟨op, after⟩ := p
    simp only [recvCheck, Bool.and_eq_true] at h
    exact ⟨recvStepB_sound h.1, ih after h.2⟩

def lastSnap (before : Recv) : List (RecvOp × Recv) → Recv
  | [] => before
  | (_, after) :: rest => lastSnap after rest

/-- … and therefore balances: on any observed trace that satisfies the per-operation clause, the final
accepted + refused of every signal is the starting value plus the items offered to that signal -/
theorem C19_recv_trace_balance (before : Recv) (tr : List (RecvOp × Recv)) (h : RecvTraceOK before tr) (s : Signal) :
    (lastSnap before tr).accepted s + (lastSnap before tr).refused s =
      before.accepted s + before.refused s + offered s (tr.map (·.1)) := by
  induction tr generalizing before with
  | nil => simp [lastSnap, offered, sumBy]
  | cons p rest ih =>
    obtain ⟨op, after⟩ := p
    obtain ⟨⟨h1, h2, h3⟩, hrest⟩ := h
    have := ih after hrest
    simp only [lastSnap, List.map_cons, offered, sumBy] at this ⊢
    rw [this]
    by_cases hs : s = op.sig
    · subst hs
      cases he : op.err
      · obtain ⟨a, r⟩ := h1 he; simp; omega
      · obtain ⟨a, r⟩ := h2 he; simp; omega
    · obtain ⟨a, r⟩ := h3 s hs
      have hs' : ¬ op.sig = s := fun e => hs e.symm
      simp [hs']; omega

/-- the oracle is not trivially true: counting refused items as accepted is rejected, so is touching a foreign signal -/
example : recvCheck {} [(⟨.logs, 3, true⟩, { accepted := add (fun _ => 0) .logs 3 })] = false := by decide +kernel
example : recvCheck {} [(⟨.logs, 3, false⟩, { accepted := add (fun _ => 0) .metrics 3 })] = false := by decide +kernel
example : recvCheck {} (Recv.trace {} [⟨.logs, 3, true⟩, ⟨.traces, 1, false⟩]) = true := by decide +kernel

/-! ## scraper controller -/

theorem scr_obsTrace_ok (sig : Signal) (c : Scr) (ts : List Tick) : RecvTraceOK c.recv (Scr.obsTrace sig sig c ts) := by
  induction ts generalizing c with
  | nil => trivial
  | cons t ts ih => exact ⟨C19_receiver_op c.recv ⟨sig, t.count, t.sinkErr⟩, ih _⟩

/-- a scrape function that reports through the receiver operation of the controller's own signal
satisfies the scraper clause — every history, any number of scrapers, any mix of ok / partial / failed
scrapers and next-consumer results -/
theorem C19_scraper_own (s : Signal) : ScraperClause s s := by
  intro ts
  refine ⟨scr_obsTrace_ok s {} ts, ?_⟩
  have h1 := (C19_receiver (tickOps s ts) s).2.2
  rw [scr_recv, scr_sink, h1, offered_tickOps]
  simp [sumBy]

/-- a scrape function that reports through the operation of a **different** signal violates it: one
scrape, one scraper returning one item -/
def scraperWitness : List Tick := [⟨[.ok 1 1], false⟩]

theorem C19_scraper_foreign_fails (own used : Signal) (h : used ≠ own) : ¬ ScraperClause own used := by
  intro hc
  have := (hc scraperWitness).2
  have h' : ¬ own = used := fun e => h e.symm
  simp [scraperWitness, Scr.run, Scr.scrape, Recv.endOp, add, numAccepted, numRefused, Tick.count, sumBy,
    ScrapeRes.kept, h'] at this

/-- full statement for the logs scraper controller, as a function of the signal whose receiver operation
`scrapeLogs` ends: log records handed to the next consumer are recorded under the **log record** counters -/
def C19_scraper_logs_full (used : Signal) : Prop := ScraperClause .logs used

/-- the pinned code (`scrapeLogs` calls `EndMetricsOp`) violates it: the scraped log records land in
`otelcol_receiver_accepted_metric_points` (witness `scraperWitness`, replayed on the real controller by
the harness: `viol sig=C19/scraper/logs-counted-as-metric-points`) -/
theorem C19_scraper_logs_full_fails : ¬ C19_scraper_logs_full .metrics :=
  C19_scraper_foreign_fails .logs .metrics (by decide +kernel)

theorem C19_scraper_logs_repaired : C19_scraper_logs_full .logs := C19_scraper_own .logs

/-- **the logs scraper controller of the current source** (`scrapeLogsSignal` is computed from the
regenerated `Gen.ScrapeSignal.scrapeLogsEndSig`): checks on the repaired tree, does not build on the pinned one -/
theorem C19_scraper_logs : C19_scraper_logs_full scrapeLogsSignal := by
  have h : scrapeLogsSignal = .logs := by decide +kernel
  rw [h]; exact C19_scraper_logs_repaired

theorem C19_scraper_metrics : ScraperClause .metrics scrapeMetricsSignal := by
  have h : scrapeMetricsSignal = .metrics := by decide +kernel
  rw [h]; exact C19_scraper_own .metrics

/-- per-scraper counters (`wrapObsMetrics` / `wrapObsLogs`): scraper `i`'s scraped counter is the sum of the
units of its ok and partial results, its errored counter the sum of the `Failed` of its partial errors;
a failed scrape adds nothing to either -/
theorem C19_scraper_per_scraper (sig : Signal) (ts : List Tick) (i : Nat) :
    (Scr.run sig {} ts).scraped i = sumBy (fun t => resAt t.results ScrapeRes.scraped i) ts ∧
    (Scr.run sig {} ts).errored i = sumBy (fun t => resAt t.results ScrapeRes.errored i) ts := by
  have h1 := foldl_sumBy (Scr.scrape sig) (·.scraped i) (fun t => resAt t.results ScrapeRes.scraped i) (fun _ _ => rfl) ts {}
  have h2 := foldl_sumBy (Scr.scrape sig) (·.errored i) (fun t => resAt t.results ScrapeRes.errored i) (fun _ _ => rfl) ts {}
  exact ⟨by simpa [Scr.run] using h1, by simpa [Scr.run] using h2⟩

/-- non-vacuity: two scrapes of three scrapers (ok, partial, failed); the failed scraper's 9 items are dropped -/
example : let c := Scr.run .logs {} [⟨[.ok 3 3, .partialErr 2 2 4, .fail 9], false⟩, ⟨[.fail 1, .ok 1 1, .ok 0 0], true⟩]
    c.recv.accepted .logs = 5 ∧ c.recv.refused .logs = 1 ∧ c.recv.accepted .metrics = 0 ∧ c.sink = [5, 1] ∧
    c.scraped 1 = 3 ∧ c.errored 1 = 4 ∧ c.scraped 2 = 0 := by decide +kernel

/-- the pinned behaviour, concretely: one log record scraped, counted as an accepted metric point -/
example : (Scr.run .metrics {} scraperWitness).recv.accepted .metrics = 1 ∧ (Scr.run .metrics {} scraperWitness).recv.accepted .logs = 0 ∧
    (Scr.run .metrics {} scraperWitness).sink = [1] := by decide +kernel

/-! ## processor helper -/

/-- **every processor history, every signal**: incoming (attribute `otel.signal = s`) = the items the
processor was given for `s`; outgoing = the items its next consumer actually received (the ledger
`fwdItems`) = the sizes of the payloads the process function returned without error.  Payloads whose
process function failed or asked to skip count as incoming and add nothing to outgoing. -/
theorem C19_processor (ops : List ProcOp) (s : Signal) :
    (Proc.run {} ops).incoming s = given s ops ∧
    (Proc.run {} ops).outgoing s = (Proc.run {} ops).fwdItems s ∧
    (Proc.run {} ops).outgoing s = forwardedBy s ops := by
  obtain ⟨h1, h2, h3⟩ := proc_run {} ops s
  simp only [Nat.zero_add] at h1 h2 h3
  exact ⟨h1, by rw [h2, h3], h2⟩

/-- what the caller gets back: the process function's error, nothing for a skip, otherwise the next consumer's result -/
theorem C19_processor_ret (p : Proc) (op : ProcOp) :
    (op.outcome = .err → (p.consume op).2 = .funcErr) ∧
    (op.outcome = .skip → (p.consume op).2 = .nil) ∧
    (∀ o e, op.outcome = .ok o e → (p.consume op).2 = (if e then .nextErr else .nil) ∧
      (p.consume op).1.fwdCalls op.sig = p.fwdCalls op.sig + 1) := by
  refine ⟨?_, ?_, ?_⟩
  · intro h; simp [Proc.consume, h]
  · intro h; simp [Proc.consume, h]
  · intro o e h; simp [Proc.consume, h, add]

example : let p := Proc.run {} [⟨.logs, 5, .ok 3 false⟩, ⟨.logs, 4, .err⟩, ⟨.metrics, 7, .skip⟩, ⟨.logs, 2, .ok 6 true⟩, ⟨.traces, 1, .ok 1 false⟩]
    p.incoming .logs = 11 ∧ p.outgoing .logs = 9 ∧ p.fwdItems .logs = 9 ∧ p.incoming .metrics = 7 ∧ p.outgoing .metrics = 0 ∧
    p.fwdCalls .logs = 2 ∧ p.outgoing .traces = 1 := by decide +kernel

/-- whatever observed trace (counter snapshots + the sink's ledger) `procCheck` accepts satisfies
"incoming moved by the items given, outgoing by the items the next consumer received, nothing else moved" -/
theorem C19_proc_check_sound (before : ProcSnap) (tr : List ProcObs) (h : procCheck before tr = true) : ProcTraceOK before tr := by
  induction tr generalizing before with
  | nil => trivial
  | cons o rest ih =>
    simp only [procCheck, procStepB, Bool.and_eq_true, Option.isNone_iff_eq_none] at h
    obtain ⟨⟨⟨hi, ho⟩, hf⟩, hr⟩ := h
    refine ⟨⟨?_, ?_, fun t ht => procForeign_none hf t ht⟩, ih _ hr⟩
    · simpa [procIncomingB] using hi
    · simpa [procOutgoingB] using ho

theorem C19_proc_model_checks (p : Proc) (ops : List ProcOp) : ProcTraceOK p.snap (p.obsTrace ops) := by
  induction ops generalizing p with
  | nil => trivial
  | cons op ops ih =>
    refine ⟨⟨?_, ?_, ?_⟩, ih _⟩
    · simp [Proc.snap, (consume_counts p op op.sig).1]
    · cases ho : op.outcome <;> simp [Proc.snap, (consume_counts p op op.sig).2.1, ho, ProcOutcome.out]
    · intro t ht
      have ht' : ¬ op.sig = t := fun e => ht e.symm
      simp [Proc.snap, (consume_counts p op t).1, (consume_counts p op t).2.1, ht']

example : procCheck {} (Proc.obsTrace {} [⟨.logs, 5, .ok 3 false⟩, ⟨.logs, 4, .err⟩, ⟨.metrics, 7, .skip⟩]) = true := by decide +kernel
/-- outgoing recorded as 5 while the next consumer received 3 is rejected -/
example : procCheck {} [{ sig := .logs, inp := 5, sink := some 3, after := { incoming := add (fun _ => 0) .logs 5, outgoing := add (fun _ => 0) .logs 5 } }] = false := by decide +kernel

/-! ## concurrent receive operations -/

/-- **order independence**: the counters after a set of receive operations do not depend on the order in
which they took effect — any two schedules of the same operations end in the same counters -/
theorem C19_receiver_perm (c : Recv) {ops₁ ops₂ : List RecvOp} (h : ops₁.Perm ops₂) : c.run ops₁ = c.run ops₂ := by
  apply Recv.ext'
  · intro s; rw [(Recv.run_counts c ops₁ s).1, (Recv.run_counts c ops₂ s).1]; simp only [offeredOk, sumBy_perm _ h]
  · intro s; rw [(Recv.run_counts c ops₁ s).2, (Recv.run_counts c ops₂ s).2]; simp only [offeredErr, sumBy_perm _ h]

/-- **concurrent histories**: goroutines `threads` each perform their own list of operations on shared
`ObsReport`s; every counter addition is atomic, so what happened is *some* schedule `sched` containing exactly
the operations of all threads (any interleaving is such a permutation).  Whatever the schedule, every signal's
final accepted / refused is the starting value plus what the successful / failed operations of that signal
offered, and accepted + refused grows by everything offered to that signal. -/
theorem C19_receiver_concurrent (c : Recv) (threads : List (List RecvOp)) (sched : List RecvOp)
    (h : sched.Perm threads.flatten) (s : Signal) :
    (c.run sched).accepted s = c.accepted s + offeredOk s threads.flatten ∧
    (c.run sched).refused s = c.refused s + offeredErr s threads.flatten ∧
    (c.run sched).accepted s + (c.run sched).refused s = c.accepted s + c.refused s + offered s threads.flatten := by
  rw [C19_receiver_perm c h]
  obtain ⟨ha, hr⟩ := Recv.run_counts c threads.flatten s
  have hs := offered_split s threads.flatten
  exact ⟨ha, hr, by omega⟩

theorem C19_recv_batch_sound (before after : Recv) (ops : List RecvOp) (h : recvBatchB before after ops = true) (s : Signal) :
    after.accepted s = before.accepted s + offeredOk s ops ∧ after.refused s = before.refused s + offeredErr s ops ∧
    after.accepted s + after.refused s = before.accepted s + before.refused s + offered s ops := by
  have := List.all_eq_true.mp h s (Signal.mem_all s)
  simp only [Bool.and_eq_true, beq_iff_eq] at this
  have hs := offered_split s ops
  exact ⟨this.1, this.2, by omega⟩

theorem C19_recv_batch_model (c : Recv) (ops sched : List RecvOp) (h : sched.Perm ops) : recvBatchB c (c.run sched) ops = true := by
  apply List.all_eq_true.mpr
  intro s _
  rw [C19_receiver_perm c h, (Recv.run_counts c ops s).1, (Recv.run_counts c ops s).2]
  simp

example : Recv.run {} [⟨.logs, 3, true⟩, ⟨.traces, 1, false⟩, ⟨.logs, 2, false⟩] = Recv.run {} [⟨.logs, 2, false⟩, ⟨.logs, 3, true⟩, ⟨.traces, 1, false⟩] :=
  C19_receiver_perm {} (by decide +kernel)
/-- a lost update (one of two concurrent additions of 2 and 3 log records missing) is rejected -/
example : recvBatchB {} { accepted := add (fun _ => 0) .logs 3 } [⟨.logs, 2, false⟩, ⟨.logs, 3, false⟩] = false := by decide +kernel

/-! ## scraper cross-balance: per-scraper scraped counters against the receiver counters -/

/-- for a controller with `k` scrapers, the per-scraper scraped counters add up to everything the scrapers
reported as scraped, in the unit `wrapObs*` counts (`MetricCount()` / `LogRecordCount()`) … -/
theorem scraped_total (sig : Signal) (ts : List Tick) (k : Nat) (hk : ∀ t ∈ ts, t.results.length ≤ k) :
    sumRange k (Scr.run sig {} ts).scraped = totalUnits ts := by
  have h : (Scr.run sig {} ts).scraped = fun i => sumBy (fun t => resAt t.results ScrapeRes.scraped i) ts :=
    funext (fun i => (C19_scraper_per_scraper sig ts i).1)
  rw [h, sumRange_sumBy, sumBy_sumRange_resAt _ _ _ hk]
  rfl

/-- … while accepted + refused of the signal the scrape function reports under is everything that was kept
for the next consumer, in items -/
theorem recv_total (sig : Signal) (ts : List Tick) :
    (Scr.run sig {} ts).recv.accepted sig + (Scr.run sig {} ts).recv.refused sig = totalItems ts := by
  have h1 := (C19_receiver (tickOps sig ts) sig).2.2
  rw [scr_recv, h1, offered_tickOps]; rfl

/-- **cross-balance, exactly**: the scraped counters of the `k` scrapers add up to accepted + refused of the
controller's signal **iff** the scrapers' payloads reported as many units as items over the history -/
theorem C19_scraper_cross_iff (sig : Signal) (ts : List Tick) (k : Nat) (hk : ∀ t ∈ ts, t.results.length ≤ k) :
    (sumRange k (Scr.run sig {} ts).scraped =
      (Scr.run sig {} ts).recv.accepted sig + (Scr.run sig {} ts).recv.refused sig) ↔ totalUnits ts = totalItems ts := by
  rw [scraped_total sig ts k hk, recv_total]

/-- **cross-balance** for a controller whose scraped-counter unit *is* the item (the logs controller: both
are `LogRecordCount()`): for every history, Σᵢ scraped log records of the scrapers = accepted + refused log
records of the receiver; failed scrapers contribute to neither side, partial ones to both -/
theorem C19_scraper_cross_balance (sig : Signal) (ts : List Tick) (k : Nat) (hk : ∀ t ∈ ts, t.results.length ≤ k)
    (hu : UnitsAreItems ts) :
    sumRange k (Scr.run sig {} ts).scraped =
      (Scr.run sig {} ts).recv.accepted sig + (Scr.run sig {} ts).recv.refused sig :=
  (C19_scraper_cross_iff sig ts k hk).mpr (units_items_of ts hu)

theorem C19_scraper_logs_cross (ts : List Tick) (k : Nat) (hk : ∀ t ∈ ts, t.results.length ≤ k) (hu : UnitsAreItems ts) :
    sumRange k (Scr.run scrapeLogsSignal {} ts).scraped =
      (Scr.run scrapeLogsSignal {} ts).recv.accepted .logs + (Scr.run scrapeLogsSignal {} ts).recv.refused .logs := by
  have h : scrapeLogsSignal = .logs := by decide +kernel
  rw [h]; exact C19_scraper_cross_balance .logs ts k hk hu

/-- **watch point, not a finding**: `otelcol_scraper_scraped_metric_points` is fed `MetricCount()` (metrics,
not points), so for the metrics controller the cross-balance fails as soon as a metric carries a number of
points other than one — witness: one scrape of one scraper returning 2 points in 1 metric: scraped = 1,
accepted = 2.  (The statement's receiver/scraper clause is about accepted/refused only, which balance:
`C19_scraper_metrics`.) -/
def crossWitness : List Tick := [⟨[.ok 2 1], false⟩]

theorem C19_scraper_metrics_cross_watch :
    sumRange 1 (Scr.run .metrics {} crossWitness).scraped = 1 ∧
    (Scr.run .metrics {} crossWitness).recv.accepted .metrics + (Scr.run .metrics {} crossWitness).recv.refused .metrics = 2 ∧
    ¬ UnitsAreItems crossWitness := by
  refine ⟨by decide +kernel, by decide +kernel, ?_⟩
  intro h
  have := h ⟨[.ok 2 1], false⟩ (by simp [crossWitness]) (.ok 2 1) (by simp)
  simp [ScrapeRes.scraped, ScrapeRes.kept] at this

/-- non-vacuity of the hypotheses: three scrapers (ok, partial, failed with data that is dropped), two scrapes -/
example : let ts : List Tick := [⟨[.ok 3 3, .partialErr 2 2 4, .fail 9], false⟩, ⟨[.fail 1, .ok 1 1, .ok 0 0], true⟩]
    (∀ t ∈ ts, t.results.length ≤ 3) ∧ (∀ t ∈ ts, ∀ r ∈ t.results, r.scraped = r.kept) ∧
    sumRange 3 (Scr.run .logs {} ts).scraped = 6 ∧ (Scr.run .logs {} ts).recv.accepted .logs + (Scr.run .logs {} ts).recv.refused .logs = 6 := by
  decide +kernel

/-! ## profiles next to the counted signals -/

/-- **profiles move no item counter**: in every history that mixes payloads of the three counted signals with
profiles payloads (any outcome of the profiles process function and next consumer), incoming / outgoing of
every signal are exactly what the counted payloads alone account for (`C19_processor` on `sigOps`) — the
profiles helper has no `otel.signal = profiles` series and does not leak into the others -/
theorem C19_processor_profiles (xs : List XOp) (s : Signal) :
    (Proc.runX {} xs).incoming s = given s (sigOps xs) ∧
    (Proc.runX {} xs).outgoing s = (Proc.runX {} xs).fwdItems s ∧
    (Proc.runX {} xs).outgoing s = forwardedBy s (sigOps xs) := by
  rw [runX_eq]; exact C19_processor (sigOps xs) s

/-- one profiles payload, seen from outside, is a step in which nothing was given and nothing forwarded under any signal -/
theorem C19_profiles_step (p : Proc) (n : Nat) (o : ProcOutcome) (s : Signal) :
    ProcStepOK p.snap { sig := s, inp := 0, sink := none, after := ((p.consumeX (.prof n o)).1).snap } ∧
    (p.consumeX (.prof n o)).2 = profRet o := by
  refine ⟨⟨?_, ?_, ?_⟩, rfl⟩ <;> simp [Proc.consumeX]

example : let p := Proc.runX {} [.sig ⟨.logs, 5, .ok 3 false⟩, .prof 7 (.ok 9 false), .prof 2 .err, .sig ⟨.logs, 1, .skip⟩, .prof 4 .skip]
    p.incoming .logs = 6 ∧ p.outgoing .logs = 3 ∧ p.incoming .traces = 0 ∧ p.incoming .metrics = 0 := by decide +kernel

/-! ## obsconsumer (service/internal/obsconsumer): consumed items per outcome, any number of static attributes -/

open Obs in
/-- **obsconsumer.** For every history of calls through any number of wrapper instances (any signal, any static attributes): the
items the downstream consumer accepted are counted under outcome=success of that instance, the refused ones under outcome=failure,
success + failure = items offered (counted at call entry), nothing appears under any other attribute set, other instances untouched. -/
theorem C19_obsconsumer (ops : List Op) (i : Nat) :
    (run (fun _ => {}) ops i).success = okItems i ops ∧ (run (fun _ => {}) ops i).failure = errItems i ops ∧
    (run (fun _ => {}) ops i).other = 0 ∧
    (run (fun _ => {}) ops i).success + (run (fun _ => {}) ops i).failure = okItems i ops + errItems i ops := by
  obtain ⟨h1, h2, h3⟩ := run_counts ops (fun _ => {}) i
  refine ⟨by simpa using h1, by simpa using h2, by simpa using h3, ?_⟩
  simp at h1 h2; omega

open Obs in
theorem C19_obsconsumer_step (s : St) (op : Op) :
    (op.err = false → (consume s op op.inst).success = (s op.inst).success + op.n ∧ (consume s op op.inst).failure = (s op.inst).failure) ∧
    (op.err = true → (consume s op op.inst).failure = (s op.inst).failure + op.n ∧ (consume s op op.inst).success = (s op.inst).success) ∧
    (∀ j, j ≠ op.inst → consume s op j = s j) := by
  refine ⟨fun h => by simp [consume, h], fun h => by simp [consume, h], fun j hj => by simp [consume, hj]⟩

open Obs in
theorem C19_obs_check_sound (i : Nat) (ops : List Op) (c : Cnt) (h : check i ops c = true) :
    c.success = okItems i ops ∧ c.failure = errItems i ops ∧ c.other = 0 ∧ c.success + c.failure = okItems i ops + errItems i ops := by
  simp only [check, Bool.and_eq_true, beq_iff_eq] at h
  obtain ⟨⟨h1, h2⟩, h3⟩ := h
  exact ⟨h1, h2, h3, by omega⟩

open Obs in
theorem C19_obs_model_checks (ops : List Op) (i : Nat) : check i ops (run (fun _ => {}) ops i) = true := by
  obtain ⟨h1, h2, h3, _⟩ := C19_obsconsumer ops i
  simp [check, h1, h2, h3]

open Obs in
example : check 0 [⟨0, 3, false⟩, ⟨1, 9, true⟩, ⟨0, 2, true⟩] { success := 3, failure := 2 } = true := by decide +kernel
open Obs in
/-- everything counted as failed (the outcome attribute of the success set overwritten) is rejected -/
example : check 0 [⟨0, 3, false⟩, ⟨0, 2, true⟩] { success := 0, failure := 5 } = false := by decide +kernel

/-! ## exporter: sent + send-failed (+ enqueue-failed) against what was given, over the shutdown LTS of property C03

All theorems are about every reachable state of `C03.fire` (every interleaving, configuration, re-partition, backend outcome).
A refused `Offer` does not change the LTS state; its items go to *enqueue-failed* and to *given* alike, so they cancel in the
balance and do not appear below: `given − enqueueFailed = accepted.length`. -/

open OtelVerif.C03 in
/-- **Counted exactly once.** When shutdown has returned, every accepted item has been added exactly once to *sent* or to
*send-failed*, or still sits in the queue (never dispatched): batching, splitting and retries neither drop nor double count. -/
theorem C19_exporter_once {s : State} (h : Reachable s) (hp : s.phase = 5) :
    sentOf s + failedOf s + (queueItems s.queue).length = s.accepted.length := by
  have inv := inv_reachable h
  obtain ⟨hall, hcur, hhand, htimer, hdone, _⟩ := C03_quiet h hp
  have hperm : s.accepted.Perm (places s) := List.perm_iff_count.mpr inv.conserved
  have hlen := hperm.length_eq
  have hsplit := flights_length_split s.flights hdone
  simp only [places, all_exited_items hall, hcur, hhand, htimer, optItems, TSt.items, List.length_append, List.length_nil] at hlen
  simp only [sentOf, failedOf]
  omega

open OtelVerif.C03 in
/-- **Memory queue balance**, in the form that does not use the refusal of a stopped memory queue: sent + send-failed = accepted − what
is left in the queue, and only late requests can be left.  (With the refusal the queue is empty: `C19_exporter_balance_memory_full_holds`.) -/
theorem C19_exporter_balance_memory {s : State} (h : Reachable s) (hp : s.phase = 5) (hm : s.cfg.persistent = false) (hn : s.cons ≠ []) :
    sentOf s + failedOf s = s.accepted.length - (queueItems s.queue).length ∧ ∀ p ∈ s.queue, p.2 = true := by
  have inv := inv_reachable h
  have hall := (C03_quiet h hp).1
  have hex := exists_exited hall hn
  have := C19_exporter_once h hp
  exact ⟨by omega, (inv.late hm hex).2⟩

open OtelVerif.C03 in
/-- the statement's exporter clause for a MEMORY queue, literally: nothing may be subtracted (only a persistent queue keeps items):
sent + send-failed = accepted (= given − enqueue-failed) -/
def C19_exporter_balance_memory_full : Prop :=
  ∀ s : State, Reachable s → s.phase = 5 → s.cfg.persistent = false → s.cons ≠ [] → sentOf s + failedOf s = s.accepted.length

open OtelVerif.C03 in
/-- **Memory-queue balance, literally** (proved for the repaired code: `memory_queue.add` refuses once the queue is stopped, commit
"fix: exporterhelper memory queue refuses elements offered after Shutdown"; the refusal is an `Offer` error, hence counted
enqueue-failed): when shutdown has returned the queue is empty and every accepted item was counted exactly once as sent or
send-failed (finding `C19/exporter/accepted-after-shutdown-dropped-uncounted` is about the code without that refusal). -/
theorem C19_exporter_balance_memory_full_holds : C19_exporter_balance_memory_full := by
  intro s h hp hm hn
  obtain ⟨hall, _⟩ := C03_quiet h hp
  have hex := exists_exited hall hn
  have hq := ((good_reachable h).mem hm hex).2
  have := C19_exporter_once h hp
  simp [hq, queueItems] at this; exact this

open OtelVerif.C03 in
/-- the literal clause from `C19_exporter_balance_memory` under the hypothesis that the queue is empty at the return (which
`C19_exporter_balance_memory_full_holds` derives) -/
theorem C19_exporter_balance_memory_no_late {s : State} (h : Reachable s) (hp : s.phase = 5) (hm : s.cfg.persistent = false)
    (hn : s.cons ≠ []) (hq : s.queue = []) : sentOf s + failedOf s = s.accepted.length := by
  have := (C19_exporter_balance_memory h hp hm hn).1
  simp [hq, queueItems] at this; exact this

open OtelVerif.C03 in
/-- the statement's exporter clause for a persistent queue: sent + send-failed = given − enqueue-failed − stored -/
def C19_exporter_balance_full : Prop :=
  ∀ s : State, Reachable s → s.phase = 5 → s.cfg.persistent = true → sentOf s + failedOf s + storedOf s = s.accepted.length

open OtelVerif.C03 in
/-- what the code does instead: the requests whose retry was interrupted by the shutdown are counted send-failed AND stay stored -/
theorem C19_exporter_double_count {s : State} (h : Reachable s) (hp : s.phase = 5) :
    sentOf s + failedOf s + storedOf s = s.accepted.length + keptOf s := by
  have := C19_exporter_once h hp
  simp only [storedOf]; omega

open OtelVerif.C03 in
/-- proved part: histories in which no retry was interrupted by the shutdown (no flight ended with a shutdown error) balance -/
theorem C19_exporter_balance_partial {s : State} (h : Reachable s) (hp : s.phase = 5) (hk : keptOf s = 0) :
    sentOf s + failedOf s + storedOf s = s.accepted.length := by
  have := C19_exporter_double_count h hp; omega

open OtelVerif.C03 in
/-- the full statement fails for the code as it is: persistent queue, retry enabled, shutdown during the back-off of request `[1]`
(`C03.demoPersistent`): given 3, sent 1, send-failed 1, stored 2 (`[1]` kept, `[3]` never dispatched) — 1 + 1 + 2 ≠ 3 -/
theorem C19_exporter_balance_full_fails : ¬ C19_exporter_balance_full := by
  intro hfull
  obtain ⟨s, hr, hv⟩ := exists_of_run_map (Reachable.init { persistent := true, batching := false, retry := true } 2 0 false)
    (ls := demoPersistent) (f := fun s => (s.phase, s.cfg.persistent, sentOf s, failedOf s, storedOf s, s.accepted.length))
    (a := (5, true, 1, 1, 2, 3)) (by decide +kernel)
  simp only [Prod.mk.injEq] at hv
  obtain ⟨h1, h2, h3, h4, h5, h6⟩ := hv
  have := hfull s hr h1 h2
  omega

/-- **Queue size gauge.** The memory queue's `size` after any sequence of `add`/`onDone` is what was added minus what was
finished. -/
theorem C19_gauge_size (size : Int) (es : List QEv) : qSizeAfter size es = size + added es - finished es := by
  induction es generalizing size with
  | nil => simp [qSizeAfter, added, finished]
  | cons e es ih =>
    cases e with
    | add n | done n => simp only [qSizeAfter, added, finished, ih]; omega

/-- non-vacuity of the trace predictor: a retried flight counts once, by its last call; a refused send counts as enqueue-failed -/
example : predict [.acc [1, 2], .es 0 [1, 2], .ee 0 true, .es 1 [1, 2], .ee 1 false, .rej [7, 8, 9], .acc [3], .es 2 [3], .ee 2 true] =
    { sent := 2, failed := 1, enqFailed := 3 } := by decide +kernel

/-- items handed to `Send` in a recorded trace -/
def givenOf (t : List XEv) : Nat := (t.map (fun e => match e with | .acc is => is.length | .rej is => is.length | _ => 0)).sum

/-- the exporter clause read on a trace in which nothing stays queued or stored -/
def C19_exporter_trace_balance_full : Prop :=
  ∀ t : List XEv, (predict t).sent + (predict t).failed + (predict t).enqFailed = givenOf t

/-- the code as it is violates it with `wait_for_result` (also the legacy batcher without a queue): the export error comes back
through `Offer`, so `obsQueue` adds the items to enqueue-failed after `obsReportSender` added them to send-failed
(trace recorded from the real exporter, corpus case 1 of the exporter harness: 4 items fail permanently, 3 are sent) -/
theorem C19_exporter_trace_balance_full_fails : ¬ C19_exporter_trace_balance_full := by
  intro h
  have := h [.es 0 [100, 101, 102, 103], .ee 0 true, .rej [100, 101, 102, 103], .es 1 [200, 201, 202], .ee 1 false, .acc [200, 201, 202]]
  revert this; decide +kernel

/-! ### over the LTS: queue-size gauge, `wait_for_result` -/

open OtelVerif.C03 in
/-- **Queue-size gauge over the LTS** (memory queue, every schedule): what `Size()` returns — and the gauge observes — is the sum
of the sizes of the enqueued requests whose `Done` has not fired: queued, in a consumer's hands, batched, waiting for a worker, in
flight or in back-off.  (Unique item ids, non-empty requests; a persistent queue resets its size when everything was dispatched.) -/
theorem C19_gauge_lts {s : State} (h : Reachable s) (hm : s.cfg.persistent = false) (hu : s.accepted.Nodup)
    (hne : ∀ r ∈ s.reqs, r ≠ []) :
    s.qsize = ((s.reqs.filter (fun r => !reqDone s.flights r)).map (reqSize s.cfg)).sum :=
  gaugeInv_reachable h hm hu hne

open OtelVerif.C03 in
/-- the statement's exporter clause with `wait_for_result` (memory queue): sent + send-failed + enqueue-failed = given − stuck -/
def C19_exporter_balance_wfr_full : Prop :=
  ∀ s : State, Reachable s → s.phase = 5 → s.cfg.persistent = false → s.cfg.wfr = true →
    sentOf s + failedOf s + enqFailedWfrOf s + (queueItems s.queue).length = s.accepted.length

open OtelVerif.C03 in
/-- exact law of the code: the items of the requests whose `Done` received an error are counted a second time -/
theorem C19_exporter_wfr_double_count {s : State} (h : Reachable s) (hp : s.phase = 5) :
    sentOf s + failedOf s + enqFailedWfrOf s + (queueItems s.queue).length = s.accepted.length + enqFailedWfrOf s := by
  have := C19_exporter_once h hp; omega

open OtelVerif.C03 in
/-- proved part: histories in which no flight ended with an error balance also under `wait_for_result` -/
theorem C19_exporter_balance_wfr_partial {s : State} (h : Reachable s) (hp : s.phase = 5) (hf : failedOf s = 0) :
    sentOf s + failedOf s + enqFailedWfrOf s + (queueItems s.queue).length = s.accepted.length := by
  have hz : enqFailedWfrOf s = 0 := by
    simp only [enqFailedWfrOf]
    split
    · have hnone : s.results.filter (·.2) = [] := by
        apply List.filter_eq_nil_iff.mpr
        intro p hp' ht
        obtain ⟨fl, hfl, hd, ha, hb⟩ := resInv_reachable h p hp' ht
        have := le_failedOf hfl hd ha
        have : 0 < fl.batch.length := List.length_pos_iff.mpr hb
        omega
      simp [hnone]
    · rfl
  have := C19_exporter_wfr_double_count h hp; omega

/-- `wait_for_result`, disabled batcher: request `[1,2]` fails permanently, `[3]` is sent -/
def demoWfr : List OtelVerif.C03.Label :=
  [.offer [1, 2], .offer [3], .read 0, .sendSync 0, .expStart 0, .expEnd 0 .perm .drop, .read 0, .sendSync 0, .expStart 1,
   .expEnd 1 .ok .drop, .shutRetry, .shutQueue, .exit 0, .join, .shutBatcher, .shutWait]

open OtelVerif.C03 in
/-- the full statement fails for the code as it is (given 3: sent 1, send-failed 2, enqueue-failed 2) -/
theorem C19_exporter_balance_wfr_full_fails : ¬ C19_exporter_balance_wfr_full := by
  intro hfull
  obtain ⟨s, hr, hv⟩ := exists_of_run_map (Reachable.init { persistent := false, batching := false, retry := false, wfr := true } 1 0 false)
    (ls := demoWfr) (f := fun s => ((s.phase, s.cfg.persistent, s.cfg.wfr, sentOf s), (failedOf s, enqFailedWfrOf s,
      (queueItems s.queue).length, s.accepted.length))) (a := ((5, false, true, 1), (2, 2, 0, 3))) (by decide +kernel)
  simp only [Prod.mk.injEq] at hv
  obtain ⟨⟨h1, h2, h3, h4⟩, h5, h6, h7, h8⟩ := hv
  have := hfull s hr h1 h2 h3
  omega

open OtelVerif.C03 OtelVerif.C03.Replay in
/-- **Closing the loop.** The counters the exporter driver compares with the real meter provider (`prop lts`) are those of the state
reached by replaying the recorded trace through `fire`; that state is reachable, so when the replay ends with `Shutdown` returned
they balance: sent + send-failed + (still queued) = accepted — for every recorded trace and configuration. -/
theorem C19_replayed_counters_balance (rc : RCfg) (t : List TEv) (hp : (replay rc t).s.phase = 5) :
    sentOf (replay rc t).s + failedOf (replay rc t).s + (queueItems (replay rc t).s.queue).length = (replay rc t).s.accepted.length :=
  C19_exporter_once (C03_replay_reachable rc t) hp

open OtelVerif.C03 OtelVerif.C03.Replay in
/-- the gauge comparison (`prop gaugelts`) is made with the `qsize` of a reachable state: `C19_gauge_lts` applies to it -/
theorem C19_replayed_gauge (rc : RCfg) (t : List TEv)
    (hm : (goUntilShutreq rc { s := init rc.cfg rc.nCons rc.workers rc.timer } t).s.cfg.persistent = false)
    (hu : (goUntilShutreq rc { s := init rc.cfg rc.nCons rc.workers rc.timer } t).s.accepted.Nodup)
    (hne : ∀ r ∈ (goUntilShutreq rc { s := init rc.cfg rc.nCons rc.workers rc.timer } t).s.reqs, r ≠ []) :
    (goUntilShutreq rc { s := init rc.cfg rc.nCons rc.workers rc.timer } t).s.qsize =
      (((goUntilShutreq rc { s := init rc.cfg rc.nCons rc.workers rc.timer } t).s.reqs.filter
          (fun r => !reqDone (goUntilShutreq rc { s := init rc.cfg rc.nCons rc.workers rc.timer } t).s.flights r)).map
        (reqSize (goUntilShutreq rc { s := init rc.cfg rc.nCons rc.workers rc.timer } t).s.cfg)).sum :=
  C19_gauge_lts (C03_replay_prefix_reachable rc t) hm hu hne

/-! ### the clause as written: three counters against what the exporter was given -/

open OtelVerif.C03 in
theorem C19_exporter_given {x : XState} (h : XReachable x) : x.given = x.s.accepted.length + x.refused :=
  (xreachable_inv h).2

open OtelVerif.C03 in
/-- **Three-counter balance, exact law of the code** (every schedule, refusal pattern, configuration):
sent + send-failed + enqueue-failed + (still queued) = given + (items of `wait_for_result` requests whose export failed).
`C19_exporter_three_counter_partial` and the `_full_fails` theorems read off when the statement's clause holds. -/
theorem C19_exporter_three_counter {x : XState} (h : XReachable x) (hp : x.s.phase = 5) :
    sentOf x.s + failedOf x.s + enqFailedOf x + (queueItems x.s.queue).length = x.given + enqFailedWfrOf x.s := by
  obtain ⟨hr, hg⟩ := xreachable_inv h
  have := C19_exporter_once hr hp
  simp only [enqFailedOf]; omega

open OtelVerif.C03 in
/-- **The clause as written** (PARTIAL: the three recorded deviations excluded by hypothesis): without `wait_for_result` errors
(`enqFailedWfrOf = 0`), with nothing left in the queue that is not stored (memory queue: no request accepted after the stop;
persistent queue: `stored` = queue remainder, no kept flight):  sent + send-failed + enqueue-failed = given − stored. -/
theorem C19_exporter_three_counter_partial {x : XState} (h : XReachable x) (hp : x.s.phase = 5)
    (hw : enqFailedWfrOf x.s = 0) (hk : keptOf x.s = 0)
    (hq : x.s.cfg.persistent = false → x.s.queue = []) :
    sentOf x.s + failedOf x.s + enqFailedOf x =
      x.given - (if x.s.cfg.persistent then storedOf x.s else 0) := by
  have h3 := C19_exporter_three_counter h hp
  cases hpq : x.s.cfg.persistent with
  | true => simp only [storedOf, hk, if_true]; omega
  | false =>
    have := hq hpq
    simp [this, queueItems] at h3
    simp only [Bool.false_eq_true, if_false]; omega

open OtelVerif.C03 in
/-- **The clause as written, memory queue** (repaired code): sent + send-failed + enqueue-failed = given, for every schedule and
refusal pattern, provided no `wait_for_result` request saw an export error (the open finding). -/
theorem C19_exporter_three_counter_memory {x : XState} (h : XReachable x) (hp : x.s.phase = 5)
    (hm : x.s.cfg.persistent = false) (hn : x.s.cons ≠ []) (hw : enqFailedWfrOf x.s = 0) :
    sentOf x.s + failedOf x.s + enqFailedOf x = x.given := by
  obtain ⟨hr, hg⟩ := xreachable_inv h
  have := C19_exporter_balance_memory_full_holds x.s hr hp hm hn
  simp only [enqFailedOf]; omega

example :
    let x0 : XState := { s := OtelVerif.C03.init { persistent := false, batching := false, retry := false } 1 0 false }
    ((xfire x0 (.lts (.offer [1, 2]))).bind (fun x => xfire x (.refuse [3, 4, 5]))).map (fun x => (x.given, x.refused, x.s.accepted.length)) =
      some (5, 3, 2) := by decide +kernel

end OtelVerif.C19

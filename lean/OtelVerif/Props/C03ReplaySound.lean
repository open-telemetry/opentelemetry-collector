import OtelVerif.Lemmas.C03ReplaySound
/-! # C03: whatever the replayer reaches is reachable in the LTS -/
namespace OtelVerif.C03.Replay

/-- not vacuous: a concrete trace (one request sent, accepted, exported, shutdown) is replayed without error by 11 fired labels
up to the returned shutdown (phase 5); the theorems below say that this state is `Reachable`, by a schedule from `init` -/
example :
    let rc : RCfg := { cfg := { persistent := false, batching := false, retry := false }, nCons := 1, workers := 0,
                       timer := false, stored := [], sends := [(0, [1, 2])] }
    let r := replay rc [.ss 0 [1, 2], .acc 0 [1, 2], .es 0 [1, 2], .ee 0 false false false, .shutreq, .shutret]
    r.err = none ∧ r.steps = 11 ∧ r.s.phase = 5 ∧ r.retSeen = true := by decide +kernel

/-- **Replay soundness.** Whatever state the replayer reaches on whatever recorded trace, it reached it by firing enabled labels of
the LTS from the initial state of the case's configuration: `prop refine=ok` means "the recorded trace is explained by a run of the
model", and every theorem about reachable states applies to the state the drivers compare with the implementation. -/
theorem C03_replay_reachable (rc : RCfg) (t : List TEv) : Reachable (replay rc t).s :=
  (replay_steps rc t).reachable (Reachable.init _ _ _ _)

theorem C03_replay_schedule (rc : RCfg) (t : List TEv) :
    ∃ ls, runFrom (init rc.cfg rc.nCons rc.workers rc.timer) ls = some (replay rc t).s := replay_steps rc t

theorem C03_replay_prefix_reachable (rc : RCfg) (t : List TEv) :
    Reachable (goUntilShutreq rc { s := init rc.cfg rc.nCons rc.workers rc.timer } t).s :=
  (goUntilShutreq_steps rc _ t (Steps.refl _)).reachable (Reachable.init _ _ _ _)

end OtelVerif.C03.Replay

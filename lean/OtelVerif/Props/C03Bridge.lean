import OtelVerif.Lemmas.C03Bridge
import OtelVerif.Props.C03
/-! # C03 bridge: the trace of every run that reaches "returned" is accepted by the trace monitors -/
namespace OtelVerif.C03

theorem bridge_common {cfg : Cfg} {n : Nat} {r : Rec} (h : RInv cfg n r) (hp : r.s.phase = 5) :
    (verdict r.tr).returned = true ∧ (verdict r.tr).openCalls = [] ∧ (verdict r.tr).lateCalls = [] := by
  obtain ⟨h1, h2, h3, h4⟩ := h.shape.ret5 hp
  have hdone := (good_reachable h.reach).wf.flights_done hp
  refine ⟨h1, ?_, ?_⟩
  · simp only [verdict, h2, h3]
    rw [List.filter_eq_nil_iff]
    intro c hc
    obtain ⟨p, hp1, hp2⟩ := List.mem_map.mp hc
    obtain ⟨c0, b⟩ := p
    simp only at hp2; subst hp2
    have hes := mem_startsOf.mp hp1
    cases h.calls.opn c0 b hes with
    | inl h5 =>
      obtain ⟨fd, h5⟩ := h5
      have : c0 ∈ (endsOf r.tr).map (·.1) := List.mem_map.mpr ⟨(c0, fd), mem_endsOf.mpr h5, rfl⟩
      simp [this]
    | inr h5 =>
      obtain ⟨f, h5⟩ := h5
      obtain ⟨fl, h6, h7, _⟩ := h.calls.pend f c0 h5
      have := hdone fl (List.mem_of_getElem? h6)
      rw [h7] at this; simp at this
  · simp only [verdict, h4, List.map_nil]

/-- **Bridge, memory queue.** The observable trace of EVERY run of the LTS that reaches "Shutdown returned" (any schedule,
configuration, re-partition, backend behaviour; unique item ids) is accepted by the monitor that judges the traces of the real
exporter. -/
theorem C03_bridge_memory (cfg : Cfg) (n w : Nat) (t : Bool) (ls : List Label) (r : Rec)
    (hm : cfg.persistent = false) (hn : 0 < n)
    (hr : (Rec.start cfg n w t).run ls = some r) (hp : r.s.phase = 5) (hu : r.s.accepted.Nodup) :
    checkMemory r.tr = true := by
  have h := rinv_run ls (rinv_start cfg n w t) hr
  obtain ⟨h1, h4, h5⟩ := bridge_common h hp
  obtain ⟨_, hS, hE, _⟩ := h.shape.ret5 hp
  have hmem : r.s.cfg.persistent = false := by rw [h.cfg]; exact hm
  have hcons := h.cons_ne_nil hn
  have h2 : (verdict r.tr).undrained = [] := by
    simp only [verdict]
    rw [List.filter_eq_nil_iff]
    intro x hx
    rw [h.shape.early] at hx
    obtain ⟨fl, hfl, hxb, _, hat, _⟩ := C03_memory_drained h.reach hp hmem hcons x hx
    have := attempts_le_attemptsOf h hfl hxb
    rw [attemptsOf_pre hS]
    simp; omega
  have h3 : (verdict r.tr).duplicated = [] := by
    simp only [verdict]
    rw [List.filter_eq_nil_iff]
    intro x hx
    rw [h.shape.early] at hx
    rw [attemptsOf_pre hS, failedFor_pre hS hE]
    cases hfail : failedFor r.tr x with
    | true => simp
    | false =>
      obtain ⟨fl, hfl, hxb, _, _, hone⟩ := C03_memory_drained h.reach hp hmem hcons x hx
      have hf0 : fl.failures = 0 := by
        cases hfa : fl.failures with
        | zero => rfl
        | succ k =>
          obtain ⟨f, hf⟩ := List.mem_iff_getElem?.mp hfl
          obtain ⟨c, hc1, hc2⟩ := h.calls.fail f fl hf (by omega)
          rw [failedFor_of_mem hc1 hc2 hxb] at hfail; simp at hfail
      have hacc : r.s.accepted.count x = 1 := by
        rw [hu.count, if_pos ((inv_reachable h.reach).sub x hx)]
      have hcnt := C03_memory_no_duplication h.reach hp hmem hcons x hx hacc
      have hatt : attemptsOf r.tr x = 1 := by
        rw [h.calls.att x, sum_attW_unique x _ fl hfl hxb hcnt]; exact hone hf0
      simp [hatt]
  simp [checkMemory, h1, h2, h3, h4, h5]

/-- **Bridge, persistent queue** ("recovered" = what is still in storage). -/
theorem C03_bridge_persistent (cfg : Cfg) (n w : Nat) (t : Bool) (ls : List Label) (r : Rec)
    (hpq : cfg.persistent = true)
    (hr : (Rec.start cfg n w t).run ls = some r) (hp : r.s.phase = 5) :
    checkPersistent r.tr r.s.stored = true := by
  have h := rinv_run ls (rinv_start cfg n w t) hr
  obtain ⟨h1, h4, h5⟩ := bridge_common h hp
  have h2 : lostPersistent r.tr r.s.stored = [] := by
    obtain ⟨_, hS, _, _⟩ := h.shape.ret5 hp
    simp only [lostPersistent]
    rw [List.filter_eq_nil_iff]
    intro x hx
    rw [h.shape.early] at hx
    rw [attemptsOf_pre hS]
    cases C03_persistent_kept h.reach (by rw [h.cfg]; exact hpq) x hx with
    | inl hst => simp [hst]
    | inr hfl =>
      obtain ⟨fl, hfl, hxb, _, _, hat⟩ := hfl
      have := attempts_le_attemptsOf h hfl hxb
      have hne : attemptsOf r.tr x ≠ 0 := by omega
      simp [hne]
  simp [checkPersistent, h1, h2, h4, h5]

/-! ## non-vacuity: the hypotheses are met by concrete runs (the demo schedules of `Props/C03.lean`) -/

def demoRec : Option Rec := (Rec.start { persistent := false, batching := true, retry := true } 1 1 true).run demoSchedule

example : (demoRec.map (fun r => (r.s.phase, decide r.s.accepted.Nodup, r.pending))) = some (5, true, []) := by decide +kernel
example : (demoRec.map (·.tr)) =
    some [.acc [1, 2], .acc [3, 4, 5], .es 0 [1, 2, 3], .ee 0 true, .shutReq, .acc [9], .es 1 [4, 5, 9], .ee 1 false, .shutRet] := by
  decide +kernel
example : (demoRec.map (fun r => checkMemory r.tr)) = some true := by decide +kernel

def demoPRec : Option Rec := (Rec.start { persistent := true, batching := false, retry := true } 2 0 false).run demoPersistent

example : (demoPRec.map (fun r => (r.s.phase, r.s.stored))) = some (5, [1, 3]) := by decide +kernel
example : (demoPRec.map (·.tr)) =
    some [.acc [1], .acc [2], .acc [3], .es 0 [1], .ee 0 true, .es 1 [2], .shutReq, .ee 1 false, .shutRet] := by decide +kernel
example : (demoPRec.map (fun r => checkPersistent r.tr r.s.stored)) = some true := by decide +kernel

end OtelVerif.C03

import OtelVerif.Lemmas.C07Slice
import OtelVerif.Lemmas.C07Map
import OtelVerif.Lemmas.C07NestRoot
import OtelVerif.Lemmas.C07NestAll
import OtelVerif.Lemmas.C07Prim
import OtelVerif.Lemmas.C07Msg
import OtelVerif.Lemmas.C07State
import OtelVerif.Gen.PdataCensus
import OtelVerif.Gen.PdataSlices
/-!
# C07 — data-model copy, move, remove and read-only operations have value semantics

Parts: A generated pointer slices (lemmas in `Lemmas/C07Slice.lean`), B `pcommon.Map`, C nested values (from-raw, move-and-append),
D primitive slices, E message structs, ties to the regenerated census, F the read-only discipline over state cells, the bundle.
-/
namespace OtelVerif.C07

/-! ## part A: generated pointer slices (`Model/C07.lean`) -/

/-- **separation / independence invariant**: from any well-separated state, every program of public
operations (copy and move between distinct values) leads to a state in which distinct slices share
no element — whatever garbage the backing arrays hold beyond `len` -/
theorem C07_separation (prog : List Op) (s : St) (hi : Inv s) (hw : ∀ op ∈ prog, WfOp op) : Inv (run s prog) :=
  (run_spec prog s hi hw).1

/-- **refinement**: what the readers show after any program is what plain lists with assignment
semantics give -/
theorem C07_refines (prog : List Op) (s : St) (hi : Inv s) (hw : ∀ op ∈ prog, WfOp op) :
    abs (run s prog) = prun (abs s) prog :=
  (run_spec prog s hi hw).2

/-- … and after every step of it (every prefix), for every handle -/
theorem C07_refines_every_step (pre suf : List Op) (s : St) (hi : Inv s) (hw : ∀ op ∈ pre ++ suf, WfOp op) (a : Nat) :
    (abs (run s pre)).val a = (prun (abs s) pre).val a := by
  rw [C07_refines pre s hi (fun o ho => hw o (List.mem_append_left _ ho))]

/-- panics are exactly those of the specification (mutator on read-only data, index out of range) -/
theorem C07_step_panics (s : St) (hi : Inv s) (op : Op) (hw : WfOp op) : (step s op).2 = (pstep (abs s) op).2 :=
  (step_spec hi op hw).2.2

/-- copying makes the destination equal to the source, whatever the destination was (empty, shorter,
longer, previously filtered, pre-sized), and changes nothing else -/
theorem C07_copy_eq (s : St) (hi : Inv s) (a b : Nat) (hab : a ≠ b) (hro : s.ro b = false) :
    (abs (step s (.copyTo a b)).1).val b = (abs s).val a ∧
    ∀ c, c ≠ b → (abs (step s (.copyTo a b)).1).val c = (abs s).val c := by
  have h := (step_spec hi (.copyTo a b) hab).2.1
  rw [h]
  have : (abs s).ro b = false := hro
  simp only [pstep, this]
  exact ⟨upd_same _ _ _, fun c hc => upd_other _ _ _ _ hc⟩

/-- an operation changes only the values it targets: mutation of one value never changes another -/
theorem C07_independent (s : St) (hi : Inv s) (op : Op) (hw : WfOp op) (c : Nat) (hc : c ∉ targets op) :
    (abs (step s op).1).val c = (abs s).val c := by
  rw [(step_spec hi op hw).2.1]; exact pstep_frame _ op c hc

/-- full independence after a copy (or at any time): a value is what it was as long as no later
operation of an arbitrary program targets it -/
theorem C07_frame_run (prog : List Op) (s : St) (hi : Inv s) (hw : ∀ op ∈ prog, WfOp op) (c : Nat)
    (hc : ∀ op ∈ prog, c ∉ targets op) : (abs (run s prog)).val c = (abs s).val c := by
  induction prog generalizing s with
  | nil => rfl
  | cons op ops ih =>
    have hwo := hw op List.mem_cons_self
    simp only [run]
    rw [ih _ (step_spec hi op hwo).1 (fun o ho => hw o (List.mem_cons_of_mem _ ho)) (fun o ho => hc o (List.mem_cons_of_mem _ ho))]
    exact C07_independent s hi op hwo c (hc op List.mem_cons_self)

/-- the copy stays equal to what its source was, whatever is later done to the source or to any
other value -/
theorem C07_copy_independent (s : St) (hi : Inv s) (a b : Nat) (hab : a ≠ b) (hro : s.ro b = false) (prog : List Op)
    (hw : ∀ op ∈ prog, WfOp op) (hc : ∀ op ∈ prog, b ∉ targets op) :
    (abs (run s (.copyTo a b :: prog))).val b = (abs s).val a := by
  simp only [run]
  rw [C07_frame_run prog _ (step_spec hi (.copyTo a b) hab).1 hw b hc]
  exact (C07_copy_eq s hi a b hab hro).1

theorem C07_move_empties_src (s : St) (hi : Inv s) (a b n : Nat) (hab : a ≠ b) (hra : s.ro a = false) (hrb : s.ro b = false) :
    (abs (step s (.moveAndAppendTo a b n)).1).val a = [] := by
  rw [(step_spec hi (.moveAndAppendTo a b n) hab).2.1]
  have h1 : (abs s).ro a = false := hra
  have h2 : (abs s).ro b = false := hrb
  simp [pstep, h1, h2, upd_same]

theorem C07_move_append (s : St) (hi : Inv s) (a b n : Nat) (hab : a ≠ b) (hra : s.ro a = false) (hrb : s.ro b = false) :
    (abs (step s (.moveAndAppendTo a b n)).1).val b = (abs s).val b ++ (abs s).val a := by
  rw [(step_spec hi (.moveAndAppendTo a b n) hab).2.1]
  have h1 : (abs s).ro a = false := hra
  have h2 : (abs s).ro b = false := hrb
  simp [pstep, h1, h2, upd_same, upd_other _ _ _ _ (fun e => hab e.symm : b ≠ a)]

/-- remove-if keeps exactly the elements for which the predicate answered false, in order -/
theorem C07_remove_if_filter (s : St) (hi : Inv s) (a : Nat) (hro : s.ro a = false) (p : Nat → Bool) :
    (abs (step s (.removeIf a (((abs s).val a).map p))).1).val a = ((abs s).val a).filter (fun x => !p x) := by
  rw [(step_spec hi (.removeIf a (((abs s).val a).map p)) trivial).2.1]
  have h1 : (abs s).ro a = false := hro
  simp [pstep, h1, upd_same, keep_map_pred]

theorem C07_remove_if_mask (s : St) (hi : Inv s) (a : Nat) (hro : s.ro a = false) (m : List Bool) :
    (abs (step s (.removeIf a m)).1).val a = keep ((abs s).val a) m := by
  rw [(step_spec hi (.removeIf a m) trivial).2.1]
  have h1 : (abs s).ro a = false := hro
  simp [pstep, h1, upd_same]

/-- sorting permutes without loss and orders -/
theorem C07_sort_perm (s : St) (hi : Inv s) (a : Nat) (hro : s.ro a = false) :
    ((abs (step s (.sort a)).1).val a).Perm ((abs s).val a) ∧
    ((abs (step s (.sort a)).1).val a).Pairwise (· ≤ ·) := by
  rw [(step_spec hi (.sort a) trivial).2.1]
  have h1 : (abs s).ro a = false := hro
  simp only [pstep, h1, Bool.false_eq_true, ↓reduceIte, upd_same]
  refine ⟨List.mergeSort_perm _ _, ?_⟩
  have := List.pairwise_mergeSort (le := fun x y : Nat => decide (x ≤ y))
    (fun a b c hab hbc => decide_eq_true (Nat.le_trans (of_decide_eq_true hab) (of_decide_eq_true hbc)))
    (fun a b => (Nat.le_total a b).elim (fun h => by rw [decide_eq_true h]; rfl) (fun h => by rw [decide_eq_true h, Bool.or_true]))
    ((abs s).val a)
  simpa using this

/-- read-only: every mutator targeting a read-only value panics and changes nothing at all
(so every reader of every value agrees with before) -/
theorem C07_readonly (s : St) (op : Op) (a : Nat) (hro : s.ro a = true) (ha : a ∈ targets op) : step s op = (s, true) := by
  cases op with
  | moveAndAppendTo b c n => exact if_pos (ro_of_mem_two hro ha)
  | markRO b => exact nomatch ha
  | _ => exact if_pos (ro_of_mem_one hro ha)

theorem C07_markRO (s : St) (a : Nat) : (step s (.markRO a)).1.ro a = true ∧ abs (step s (.markRO a)).1 = { abs s with ro := upd s.ro a true } :=
  ⟨by simp [step, upd_same], rfl⟩

/-- once read-only, always read-only, and frozen: no program whatsoever changes the value again,
while every reader keeps working (`abs` is total) -/
theorem C07_readonly_frozen (prog : List Op) (s : St) (hi : Inv s) (hw : ∀ op ∈ prog, WfOp op) (a : Nat) (hro : s.ro a = true) :
    (run s prog).ro a = true ∧ (abs (run s prog)).val a = (abs s).val a := by
  induction prog generalizing s with
  | nil => exact ⟨hro, rfl⟩
  | cons op ops ih =>
    have hwo := hw op List.mem_cons_self
    have := ih _ (step_spec hi op hwo).1 (fun o ho => hw o (List.mem_cons_of_mem _ ho)) (ro_mono s op a hro)
    simp only [run]
    refine ⟨this.1, ?_⟩
    rw [this.2]
    by_cases ha : a ∈ targets op
    · rw [C07_readonly s op a hro ha]
    · exact C07_independent s hi op hwo a ha

/-- soundness of the search oracle the driver evaluates on the implementation's observations -/
theorem C07_check_sound (H : Nat) (before : PSt) (op : Op) (after : Nat → List Nat) (p : Bool)
    (h : obsStep H before op after p = true) :
    (pstep before op).2 = p ∧ ∀ a, a < H → (pstep before op).1.val a = after a := by
  simp only [obsStep, eqUpTo, Bool.and_eq_true, beq_iff_eq, List.all_eq_true, List.mem_range] at h
  exact ⟨h.1, fun a ha => h.2 a ha⟩

/-- The property for generated pointer slices whose elements carry scalar fields (part A), in one statement.  **Partial** with
respect to the property as stated ("every slice, map, value and struct type"): the other families have models of their own below
(parts B–F), bundled in `C07_value_semantics_all_partial`; what no Lean model covers is named there and in the report. -/
theorem C07_value_semantics_partial (prog : List Op) (s : St) (hi : Inv s) (hw : ∀ op ∈ prog, WfOp op) :
    Inv (run s prog) ∧ abs (run s prog) = prun (abs s) prog ∧
    (∀ c, (∀ op ∈ prog, c ∉ targets op) → (abs (run s prog)).val c = (abs s).val c) ∧
    (∀ a, s.ro a = true → (run s prog).ro a = true ∧ (abs (run s prog)).val a = (abs s).val a) :=
  ⟨C07_separation prog s hi hw, C07_refines prog s hi hw, fun c hc => C07_frame_run prog s hi hw c hc,
   fun a hro => C07_readonly_frozen prog s hi hw a hro⟩

/-! ## part B: `pcommon.Map` with one-of wrappers (`Model/C07Map.lean`, repaired `Map.CopyTo`)

Same statements for the heap model of attribute maps whose values are empty, scalar or bytes:
`M.Inv` = the bytes wrappers reachable from live slots are pairwise distinct within and across maps
(nothing is assumed of the slots beyond `len`, which alias live wrappers after `Remove`/`RemoveIf`). -/

theorem C07_map_separation (prog : List M.Op) (s : M.St) (hi : M.Inv s) (hw : ∀ op ∈ prog, M.WfOp op) : M.Inv (M.run s prog) :=
  (M.run_spec prog s hi hw).1

/-- what `Range`/`Get` show after any program of Put*/Remove/RemoveIf/EnsureCapacity/Clear/CopyTo/MoveTo/
bytes edits/MarkReadOnly is what association lists with assignment semantics give -/
theorem C07_map_refines (prog : List M.Op) (s : M.St) (hi : M.Inv s) (hw : ∀ op ∈ prog, M.WfOp op) :
    M.abs (M.run s prog) = M.prun (M.abs s) prog :=
  (M.run_spec prog s hi hw).2

theorem C07_map_step_panics (s : M.St) (hi : M.Inv s) (op : M.Op) (hw : M.WfOp op) : (M.step s op).2 = (M.pstep (M.abs s) op).2 :=
  (M.step_spec hi op hw).2.2

theorem C07_map_copy_eq (s : M.St) (hi : M.Inv s) (a b : Nat) (hab : a ≠ b) (hro : s.ro b = false) :
    (M.abs (M.step s (.copyTo a b)).1).val b = (M.abs s).val a ∧
    ∀ c, c ≠ b → (M.abs (M.step s (.copyTo a b)).1).val c = (M.abs s).val c := by
  have h := (M.step_spec hi (.copyTo a b) hab).2.1
  rw [h]
  have : (M.abs s).ro b = false := hro
  simp only [M.pstep, this]
  exact ⟨upd_same _ _ _, fun c hc => upd_other _ _ _ _ hc⟩

theorem C07_map_independent (s : M.St) (hi : M.Inv s) (op : M.Op) (hw : M.WfOp op) (c : Nat) (hc : c ∉ M.targets op) :
    (M.abs (M.step s op).1).val c = (M.abs s).val c := by
  rw [(M.step_spec hi op hw).2.1]; exact M.pstep_frame _ op c hc

theorem C07_map_frame_run (prog : List M.Op) (s : M.St) (hi : M.Inv s) (hw : ∀ op ∈ prog, M.WfOp op) (c : Nat)
    (hc : ∀ op ∈ prog, c ∉ M.targets op) : (M.abs (M.run s prog)).val c = (M.abs s).val c := by
  induction prog generalizing s with
  | nil => rfl
  | cons op ops ih =>
    have hwo := hw op List.mem_cons_self
    simp only [M.run]
    rw [ih _ (M.step_spec hi op hwo).1 (fun o ho => hw o (List.mem_cons_of_mem _ ho)) (fun o ho => hc o (List.mem_cons_of_mem _ ho))]
    exact C07_map_independent s hi op hwo c (hc op List.mem_cons_self)

/-- a copied map stays equal to what its source was under any later program that does not target it:
editing a bytes value of the source in place, overwriting a scalar with the same scalar type,
removing, copying the source elsewhere … -/
theorem C07_map_copy_independent (s : M.St) (hi : M.Inv s) (a b : Nat) (hab : a ≠ b) (hro : s.ro b = false) (prog : List M.Op)
    (hw : ∀ op ∈ prog, M.WfOp op) (hc : ∀ op ∈ prog, b ∉ M.targets op) :
    (M.abs (M.run s (.copyTo a b :: prog))).val b = (M.abs s).val a := by
  simp only [M.run]
  rw [C07_map_frame_run prog _ (M.step_spec hi (.copyTo a b) hab).1 hw b hc]
  exact (C07_map_copy_eq s hi a b hab hro).1

theorem C07_map_move (s : M.St) (hi : M.Inv s) (a b : Nat) (hab : a ≠ b) (hra : s.ro a = false) (hrb : s.ro b = false) :
    (M.abs (M.step s (.moveTo a b)).1).val b = (M.abs s).val a ∧ (M.abs (M.step s (.moveTo a b)).1).val a = [] := by
  rw [(M.step_spec hi (.moveTo a b) hab).2.1]
  have h1 : (M.abs s).ro a = false := hra
  have h2 : (M.abs s).ro b = false := hrb
  simp [M.pstep, h1, h2, upd_same, upd_other _ _ _ _ (fun e => hab e.symm : b ≠ a)]

theorem C07_map_remove_if (s : M.St) (hi : M.Inv s) (a : Nat) (hro : s.ro a = false) (m : List Bool) :
    (M.abs (M.step s (.removeIf a m)).1).val a = keep ((M.abs s).val a) m := by
  rw [(M.step_spec hi (.removeIf a m) trivial).2.1]
  have h1 : (M.abs s).ro a = false := hro
  simp [M.pstep, h1, upd_same]

theorem C07_map_readonly (s : M.St) (op : M.Op) (a : Nat) (hro : s.ro a = true) (ha : a ∈ M.targets op) : M.step s op = (s, true) := by
  cases op with
  | moveTo b c => exact if_pos (ro_of_mem_two hro ha)
  | markRO b => exact nomatch ha
  | _ => exact if_pos (ro_of_mem_one hro ha)

theorem C07_map_check_sound (H : Nat) (before : M.PSt) (op : M.Op) (after : Nat → List M.Entry) (p : Bool)
    (h : M.obsStep H before op after p = true) :
    (M.pstep before op).2 = p ∧ ∀ a, a < H → (M.pstep before op).1.val a = after a := by
  simp only [M.obsStep, M.eqUpTo, Bool.and_eq_true, beq_iff_eq, List.all_eq_true, List.mem_range] at h
  exact ⟨h.1, fun a ha => h.2 a ha⟩

/-- non-vacuity: `Remove` leaves a stale slot beyond `len` that aliases a live bytes wrapper; the
repaired copy of a longer map into it is equal to its source and independent of it -/
def mapWitness : M.St :=
  M.run M.St.init [.putBytes 1 1 [1] 0, .putScalar 1 2 0 5 0, .putBytes 1 3 [3] 0, .remove 1 1,
    .putBytes 0 4 [4] 0, .putScalar 0 5 0 6 0, .putBytes 0 6 [6] 0]

example : (mapWitness.hd 1).live = [⟨3, .bytes 1⟩, ⟨2, .scalar 0 5⟩] ∧ (mapWitness.hd 1).tail = [⟨3, .bytes 1⟩] := by decide +kernel
example : M.Inv mapWitness := C07_map_separation _ _ M.inv_init (by decide +kernel)
example : (M.abs (M.run mapWitness [.copyTo 0 1, .bytesAppend 1 4 9, .bytesAppend 0 6 7])).val 1
    = [(4, .bytes [4, 9]), (5, .scalar 0 6), (6, .bytes [6])] := by decide +kernel

/-! ## part C: nested `pcommon.Value` / `Map` / `Slice` (`Model/C07Nest.lean`): deep copy at every depth

Values hold scalars, bytes wrappers and kvlist / array wrappers whose slots hold values again;
`pcommon.Slice` is a value slice (struct copies in `RemoveIf` leave aliasing slots beyond `len`).
`N.Pre`, `N.Post` (`Lemmas/C07Nest.lean`) are the contract of the deep copy. -/

/-- **deep copy, any depth, any destination**: afterwards the destination shows exactly what the
source shows (`abs_eq`); only wrappers of the destination's own old footprint and newly allocated
ones were written (`frame`), so the source and every other value are untouched; the result's
footprint is duplicate-free and consists of the destination's old footprint and new wrappers only
(`foot`, `nodup`): it shares nothing with the source or with any other value — full independence -/
theorem C07_nest_copy_deep (d : Nat) (h : N.Heap) (sv dv : N.V) (pre : N.Pre d h sv dv) :
    N.Post d h sv dv (N.copyVal d h sv dv) := N.copyVal_spec d h sv dv pre

/-- the same for `Map.CopyTo` / `Slice.CopyTo` between two containers (headers), children nested ≤ `d` deep -/
theorem C07_nest_copy_container (d : Nat) (h : N.Heap) (src dst : N.Hdr)
    (hfit : ∀ kv ∈ src.live, N.fits d h kv.val) (hslt : ∀ i ∈ N.reachL d h src.live, i < h.next)
    (hdlt : ∀ i ∈ N.reachL d h dst.live, i < h.next) (hdnd : (N.reachL d h dst.live).Nodup)
    (hdis : ∀ i ∈ N.reachL d h src.live, i ∉ N.reachL d h dst.live) :
    N.HdrPost d h src.live dst.live (N.copyHdrWith (N.copyVal d) h src dst) :=
  N.copyHdrWith_spec d (N.copyVal d) (N.copyVal_spec d) h src dst hfit hslt hdlt hdnd hdis

/-- a value untouched by the copy (footprint allocated before and disjoint from the destination's)
reads the same afterwards: the source itself, and every other value -/
theorem C07_nest_copy_frame (d : Nat) (h : N.Heap) (sv dv x : N.V) (pre : N.Pre d h sv dv)
    (hlt : ∀ i ∈ N.reachV d h x, i < h.next) (hdis : ∀ i ∈ N.reachV d h x, i ∉ N.reachV d h dv) :
    N.absV d (N.copyVal d h sv dv).1 x = N.absV d h x ∧ N.reachV d (N.copyVal d h sv dv).1 x = N.reachV d h x := by
  have post := N.copyVal_spec d h sv dv pre
  have ag : N.Agree h (N.copyVal d h sv dv).1 (N.reachV d h x) := fun i hi => post.frame i (hlt i hi) (hdis i hi)
  exact ⟨N.abs_congr d _ _ _ ag, N.reach_congr d _ _ _ ag⟩

/-- root-level programs stay well-formed along the run -/
def WfRootProg : N.St → List N.Op → Prop
  | _, [] => True
  | s, op :: ops => N.WfRootOp s op ∧ WfRootProg (N.step s op).1 ops

/-- forest invariant over the named roots, for every program of whole-value operations (set, deep
copy between distinct roots, move, in-place bytes edit, mark-read-only) from any well-separated state
with arbitrarily nested contents -/
theorem nest_root_run_spec (prog : List N.Op) : ∀ (s : N.St), N.Inv s → WfRootProg s prog →
    N.Inv (N.run s prog) ∧ N.abs (N.run s prog) = N.prun (N.abs s) prog := by
  induction prog with
  | nil => exact fun s hi _ => ⟨hi, rfl⟩
  | cons op ops ih =>
    intro s hi hw
    obtain ⟨h1, h2, _⟩ := N.step_root_spec hi op hw.1
    obtain ⟨i1, i2⟩ := ih _ h1 hw.2
    exact ⟨i1, i2.trans (congrArg (N.prun · ops) h2)⟩

theorem C07_nest_separation (prog : List N.Op) (s : N.St) (hi : N.Inv s) (hw : WfRootProg s prog) : N.Inv (N.run s prog) :=
  (nest_root_run_spec prog s hi hw).1

theorem C07_nest_refines (prog : List N.Op) (s : N.St) (hi : N.Inv s) (hw : WfRootProg s prog) :
    N.abs (N.run s prog) = N.prun (N.abs s) prog :=
  (nest_root_run_spec prog s hi hw).2

theorem C07_nest_copy_eq (s : N.St) (hi : N.Inv s) (a b : Nat) (hab : a ≠ b) (hro : s.ro b = false) :
    N.absRoot (N.step s (.copyVal a (.root a) b (.root b))).1 b = N.absRoot s a ∧
    ∀ c, c ≠ b → N.absRoot (N.step s (.copyVal a (.root a) b (.root b))).1 c = N.absRoot s c := by
  have h := (N.step_root_spec hi (.copyVal a (.root a) b (.root b)) ⟨rfl, rfl, hab⟩).2.1
  have hv : (N.abs (N.step s (.copyVal a (.root a) b (.root b))).1).val = ((N.pstep (N.abs s) (.copyVal a (.root a) b (.root b))).1).val := by rw [h]
  have hb : (N.abs s).ro b = false := hro
  simp only [N.pstep, hb, Bool.false_eq_true, ↓reduceIte] at hv
  constructor
  · have := congrFun hv b; simpa [N.abs, upd_same] using this
  · intro c hc; have := congrFun hv c; simpa [N.abs, upd_other _ _ _ _ hc] using this

/-- the roots whose read-only flag the call checks (the clauses of `N.touched`) -/
def nestChecked : N.Op → List Nat
  | .setRoot r _ | .setSlot r .. | .bytesAppend r .. | .remove r .. | .removeIf r .. | .ensureCap r .. | .clear r _ => [r]
  | .copyVal _ _ rd _ => [rd]
  | .copyList _ _ rd _ => [rd]
  | .moveAppend rs _ rd _ _ => [rs, rd]
  | .moveRoot a b => [a, b]
  | .markRO _ => []

/-- read-only, for EVERY operation of the nested model (also those addressing nested containers):
if the payload whose flag the call checks is read-only the call panics and nothing changes -/
theorem C07_nest_readonly (s : N.St) (op : N.Op) (r : Nat) (hro : s.ro r = true) (hr : r ∈ nestChecked op) : N.step s op = (s, true) := by
  cases op with
  | moveAppend rs o1 rd o2 c => exact if_pos (ro_of_mem_two hro hr)
  | moveRoot b c => exact if_pos (ro_of_mem_two hro hr)
  | markRO b => exact nomatch hr
  | _ => exact if_pos (ro_of_mem_one hro hr)

/-! ### all operations, also on NESTED targets (`N.WfOp`; "local update" `N.liftA`, `Lemmas/C07NestLU.lean`, `Lemmas/C07NestOps.lean`) -/

/-- programs of all operations stay well-formed along the run -/
def WfNestProg : N.St → List N.Op → Prop
  | _, [] => True
  | s, op :: ops => N.WfOp s op ∧ WfNestProg (N.step s op).1 ops

instance wfNestProgDec : ∀ (s : N.St) (prog : List N.Op), Decidable (WfNestProg s prog)
  | _, [] => isTrue trivial
  | s, op :: ops =>
    have := wfNestProgDec (N.step s op).1 ops
    inferInstanceAs (Decidable (N.WfOp s op ∧ WfNestProg (N.step s op).1 ops))

/-- one step of ANY operation — `Set*`/`Put*`/`AppendEmpty`, in-place bytes edit, `Remove`, `RemoveIf`,
`EnsureCapacity`, `Clear` on a container at any depth, `Value.CopyTo` between any two positions (roots or
nested slots), `Map.CopyTo`/`Slice.CopyTo` between any two containers, `Value.MoveTo`, read-only —
keeps the forest invariant, and every root the operation does not target reads exactly as before -/
theorem C07_nest_step_all (s : N.St) (hi : N.Inv s) (op : N.Op) (hw : N.WfOp s op) :
    N.Inv (N.step s op).1 ∧ ∀ c, c ∉ N.touched op → N.absRoot (N.step s op).1 c = N.absRoot s c :=
  N.step_all_spec hi op hw

/-- a `WfNestProg` program is a `WfProgX` program -/
theorem wfNestProg_X (prog : List N.Op) : ∀ s, WfNestProg s prog → N.WfProgX s (prog.map .base) := by
  induction prog with
  | nil => exact fun _ _ => trivial
  | cons op ops ih => exact fun s h => ⟨N.WfOpX.of_R (op := .base op) h.1, ih _ h.2⟩

theorem nest_run_spec (prog : List N.Op) (s : N.St) (hi : N.Inv s) (hw : WfNestProg s prog) :
    N.Inv (N.run s prog) ∧ ∀ c, (∀ op ∈ prog, c ∉ N.touched op) → N.absRoot (N.run s prog) c = N.absRoot s c := by
  have h := N.runX_spec (prog.map .base) s hi (wfNestProg_X prog s hw)
  rw [N.runR_base] at h
  exact ⟨h.1, fun c hc => h.2 c (fun op hop => by obtain ⟨o, ho, rfl⟩ := List.mem_map.mp hop; exact hc o ho)⟩

/-- separation for all programs of all operations, from any forest state with arbitrarily nested contents -/
theorem C07_nest_separation_all (prog : List N.Op) (s : N.St) (hi : N.Inv s) (hw : WfNestProg s prog) : N.Inv (N.run s prog) :=
  (nest_run_spec prog s hi hw).1

/-- independence for all programs: a root value that no operation of the program targets reads the same
after it — whatever is done to any other value, at any depth -/
theorem C07_nest_frame_all (prog : List N.Op) (s : N.St) (hi : N.Inv s) (hw : WfNestProg s prog) (c : Nat)
    (hc : ∀ op ∈ prog, c ∉ N.touched op) : N.absRoot (N.run s prog) c = N.absRoot s c :=
  (nest_run_spec prog s hi hw).2 c hc

/-- `Value.CopyTo` into a NESTED slot (a map entry / slice element at any depth) from any position:
the slot then reads exactly as the source read before -/
theorem C07_nest_copy_eq_nested (s : N.St) (hi : N.Inv s) (rs : Nat) (src : N.Loc) (rd o i : Nat)
    (hw : N.WfOp s (.copyVal rs src rd (.slot o i))) (hro : s.ro rd = false) (sv : N.V) (hrs : N.readLoc s src = some sv)
    (hin : i < (s.h.wl o).live.length) :
    ∃ v', N.readLoc (N.step s (.copyVal rs src rd (.slot o i))).1 (.slot o i) = some v' ∧
      N.absV (N.step s (.copyVal rs src rd (.slot o i))).1.dep (N.step s (.copyVal rs src rd (.slot o i))).1.h v' = N.absV s.dep s.h sv := by
  obtain ⟨hsrc, hdst, hsep⟩ := hw
  have ho : N.ownsList s.dep s.h (s.root rd) o := hdst
  have ow := N.owned_of hi rd o ho
  have ha : (s.h.wl o).live[i]? = some (s.h.wl o).live[i] := List.getElem?_eq_getElem hin
  have hrd : N.readLoc s (.slot o i) = some (s.h.wl o).live[i].val := by simp [N.readLoc, ha]
  simp only [hrs, hrd] at hsep
  obtain ⟨post, hwlo⟩ := N.copy_into_slot hi rs src rd o i hsrc ho sv hrs _ ha hsep.1
  have hsubl : (N.reachV s.dep s.h (s.h.wl o).live[i].val).Sublist (N.reachL s.dep s.h (s.h.wl o).live) :=
    N.reachV_sublist_reachL _ _ (List.mem_of_getElem? ha)
  simp only [N.step, hro, Bool.false_eq_true, ↓reduceIte, hrs, hrd, N.writeLoc, hwlo, ha, Option.map_some, Option.getD_some]
  generalize N.copyVal s.dep s.h sv (s.h.wl o).live[i].val = r at post
  refine ⟨r.2, by simp [N.readLoc, upd_same, hin], ?_⟩
  -- the copied value does not reach `o`: writing the parent's header back does not disturb it
  have hne := post.repl.foot.avoid (X := [o]) (fun x hx hm => ow.notin (List.mem_singleton.mp hm ▸ hsubl.subset hx))
    (fun x hx => List.mem_singleton.mp hx ▸ ow.self_lt)
  exact (N.Agree.same (h := r.1) (g := { r.1 with wl := upd r.1.wl o _ }) (fun x hx => ⟨rfl, upd_other _ _ _ _ (fun e : x = o => hne x hx (List.mem_singleton.mpr e))⟩) (N.le_bump _) post.fit).2.1.trans
    post.abs_eq

/-- `Slice.MoveAndAppendTo`: the destination gets its old elements followed by the source's; the source
keeps neither elements nor a backing array (header `{}`, capacity 0), every other wrapper is untouched —
so refilling the emptied source can never write into the array the destination now owns (what `*es = (*es)[:0]`
in place of `*es = nil` would allow) -/
theorem C07_nest_move_append (s : N.St) (rs o1 rd o2 c : Nat) (hro : (s.ro rs || s.ro rd) = false) (h12 : o1 ≠ o2) :
    ((N.step s (.moveAppend rs o1 rd o2 c)).1.h.wl o2).live = (s.h.wl o2).live ++ (s.h.wl o1).live ∧
    (N.step s (.moveAppend rs o1 rd o2 c)).1.h.wl o1 = {} ∧ ((N.step s (.moveAppend rs o1 rd o2 c)).1.h.wl o1).cap = 0 ∧
    (∀ x, x ≠ o1 → x ≠ o2 → (N.step s (.moveAppend rs o1 rd o2 c)).1.h.wl x = s.h.wl x) ∧
    (N.step s (.moveAppend rs o1 rd o2 c)).1.h.wb = s.h.wb :=
  N.move_append_hdr s rs o1 rd o2 c hro h12

/-! ### result of the non-copy operations on a NESTED target: the header is the pure list operation, the kept children read the same -/

/-- `RemoveIf` on a container at any depth keeps exactly the unselected entries, in order, and each of them reads as before -/
theorem C07_nest_remove_if_result (s : N.St) (hi : N.Inv s) (r o : Nat) (m : List Bool)
    (ho : N.ownsList s.dep s.h (s.root r) o) (hro : s.ro r = false) :
    ((N.step s (.removeIf r o m)).1.h.wl o).live = keep (s.h.wl o).live m ∧
    ∀ kv ∈ (s.h.wl o).live, N.absV (N.step s (.removeIf r o m)).1.dep (N.step s (.removeIf r o m)).1.h kv.val = N.absV s.dep s.h kv.val := by
  simp only [N.step, hro, Bool.false_eq_true, ↓reduceIte, upd_same, N.removeIfH, true_and]
  exact N.kept_children_same hi r o ho _ (fun x hx _ => ⟨rfl, upd_other _ _ _ _ hx⟩)

/-- `Map.Remove` on a map at any depth: the entry is replaced by the last one and the last slot dropped (the shape of part B's `premove`), every entry reads as before -/
theorem C07_nest_remove_result (s : N.St) (hi : N.Inv s) (r o k : Nat)
    (ho : N.ownsList s.dep s.h (s.root r) o) (hro : s.ro r = false) :
    (N.step s (.remove r o k)).1.h.wl o = N.removeKey (s.h.wl o) k ∧
    ∀ kv ∈ (s.h.wl o).live, N.absV (N.step s (.remove r o k)).1.dep (N.step s (.remove r o k)).1.h kv.val = N.absV s.dep s.h kv.val := by
  simp only [N.step, hro, Bool.false_eq_true, ↓reduceIte, upd_same, true_and]
  exact N.kept_children_same hi r o ho _ (fun x hx _ => ⟨rfl, upd_other _ _ _ _ hx⟩)

/-- `Put*` / `Set*` / `AppendEmpty` on a container at any depth: the header is `place` of the new value, every old entry reads as before -/
theorem C07_nest_set_slot_result (s : N.St) (hi : N.Inv s) (r o : Nat) (sel : N.Sel) (x : N.NewV) (c : Nat) (hd : N.Hdr)
    (ho : N.ownsList s.dep s.h (s.root r) o) (hro : s.ro r = false)
    (hp : N.place ((N.mkNew s.h x).1.wl o) sel (N.mkNew s.h x).2 c = some hd) :
    (N.step s (.setSlot r o sel x c)).1.h.wl o = hd ∧
    ∀ kv ∈ (s.h.wl o).live, N.absV (N.step s (.setSlot r o sel x c)).1.dep (N.step s (.setSlot r o sel x c)).1.h kv.val = N.absV s.dep s.h kv.val := by
  obtain ⟨d0, hd0⟩ := hi.dep_succ
  simp only [N.step, hro, Bool.false_eq_true, ↓reduceIte, hp, upd_same, true_and]
  exact N.kept_children_same hi r o ho _ (fun y hy hlt => by
    obtain ⟨a, b⟩ := (N.mkNew_spec s.h x d0).1 y hlt
    exact ⟨a, by simp only [upd_other _ _ _ _ hy]; exact b⟩)

/-- non-vacuity: a reachable nested state whose map has a stale slot beyond `len` aliasing a live nested
map; the deep copy of a longer map into it is equal to its source and the two are independent -/
def nestWitness : N.St :=
  N.run N.St.init [.setRoot 1 (.list true), .setSlot 1 0 (.key 1) (.list true) 0, .setSlot 1 1 (.key 1) (.bytes [1]) 0,
    .setSlot 1 0 (.key 2) (.scalar 0 5) 0, .setSlot 1 0 (.key 3) (.list true) 0, .setSlot 1 3 (.key 1) (.bytes [3]) 0,
    .remove 1 0 1,
    .setRoot 0 (.list true), .setSlot 0 5 (.key 4) (.list true) 0, .setSlot 0 6 (.key 1) (.bytes [4]) 0,
    .setSlot 0 5 (.key 5) (.scalar 0 6) 0, .setSlot 0 5 (.key 6) (.list true) 0, .setSlot 0 8 (.key 1) (.bytes [6]) 0]

example : (nestWitness.h.wl 0).live = [⟨3, .list true 3⟩, ⟨2, .scalar 0 5⟩] ∧ (nestWitness.h.wl 0).tail = [⟨3, .list true 3⟩] := by decide +kernel
/-- the witness state satisfies the forest invariant (it is reached by a well-formed program of nested operations) -/
example : N.Inv nestWitness := C07_nest_separation_all _ _ N.inv_init (by decide +kernel)

example : N.Pre 3 nestWitness.h (nestWitness.root 0) (nestWitness.root 1) :=
  ⟨by decide +kernel, by decide +kernel, by decide +kernel, by decide +kernel, by decide +kernel⟩
example : N.absRoot (N.step nestWitness (.copyVal 0 (.root 0) 1 (.root 1))).1 1 = N.absRoot nestWitness 0 := by decide +kernel

/-- non-vacuity of the all-operations theorems: a program with nested targets (put into a nested map,
copy a nested map into a nested slot of another root, remove, remove-if on a nested slice) is well-formed -/
example : WfNestProg N.St.init [.setRoot 0 (.list true), .setSlot 0 0 (.key 1) (.list true) 0, .setSlot 0 1 (.key 2) (.bytes [7]) 0,
    .setRoot 1 (.list false), .setSlot 1 3 .push .nil 0, .setSlot 1 3 (.idx 0) (.list true) 0,
    .copyVal 0 (.slot 0 0) 1 (.slot 3 0), .bytesAppend 1 5 9, .remove 0 1 2, .removeIf 1 3 [false]] := by
  decide +kernel

/-! ### from-raw with NESTED raw input (`Model/C07NestRaw.lean`, `Lemmas/C07NestRaw.lean`): `Value.FromRaw` / `Map.FromRaw` / `Slice.FromRaw`

`Value.FromRaw(iv)` at a position is, as in `pcommon/value.go`, `Set*` / `SetEmptyBytes().FromRaw` / `SetEmptyMap()` / `SetEmptySlice()`
(`setRoot` / `setSlot`) followed, for a map or slice input, by `Map.FromRaw` / `Slice.FromRaw` on the NEW container (`OpR.fromRawList`).
The `nest` differential runs exactly this decomposition against the real `Value.FromRaw` at random positions. -/

/-- **from-raw, heap level, any heap, any raw input of any depth and width**: nothing allocated before is written; the value built
consists of NEW wrappers only (its footprint lies in `[h.next, h'.next)`: it shares nothing with any existing value, in particular not
with another value filled from the same raw input), is duplicate-free, and reads exactly as the raw input -/
theorem C07_nest_fromraw_deep (h : N.Heap) (r : N.Raw) : N.RawPost h r (N.fromRaw h r) := N.fromRaw_spec r h

/-- one step of the extended programs (every operation of the nested model on targets at any depth, or `Map.FromRaw` / `Slice.FromRaw` on a
container at any depth): forest invariant kept, every root not targeted reads as before -/
theorem C07_nest_fromraw_step (s : N.St) (hi : N.Inv s) (op : N.OpR) (hw : N.WfOpR s op) :
    N.Inv (N.stepR s op).1 ∧ ∀ c, c ∉ N.touchedR op → N.absRoot (N.stepR s op).1 c = N.absRoot s c :=
  N.stepR_spec hi op hw

theorem C07_nest_fromraw_separation_all (prog : List N.OpR) (s : N.St) (hi : N.Inv s) (hw : N.WfProgR s prog) : N.Inv (N.runR s prog) :=
  (N.runX_spec prog s hi (N.WfProgX.of_R prog s hw)).1

theorem C07_nest_fromraw_frame_all (prog : List N.OpR) (s : N.St) (hi : N.Inv s) (hw : N.WfProgR s prog) (c : Nat)
    (hc : ∀ op ∈ prog, c ∉ N.touchedR op) : N.absRoot (N.runR s prog) c = N.absRoot s c :=
  (N.runX_spec prog s hi (N.WfProgX.of_R prog s hw)).2 c hc

/-- result of `Map.FromRaw` / `Slice.FromRaw` on a container at any depth: its header is a NEW array of exactly as many slots as the input
has entries (nothing beyond `len`: no stale slot survives), and its entries read exactly as the raw input -/
theorem C07_nest_fromraw_result (s : N.St) (hi : N.Inv s) (r o : Nat) (kids : N.RawL)
    (ho : N.ownsList s.dep s.h (s.root r) o) (hro : s.ro r = false) :
    ((N.stepR s (.fromRawList r o kids)).1.h.wl o).tail = [] ∧ ((N.stepR s (.fromRawList r o kids)).1.h.wl o).live.length = N.lenL kids ∧
    ((N.stepR s (.fromRawList r o kids)).1.h.wl o).live.flatMap
        (fun kv => N.Tok.key kv.key :: N.absV (max s.dep (N.depthL kids)) (N.stepR s (.fromRawList r o kids)).1.h kv.val) = N.absRawL kids :=
  have h := (N.fromRawList_full hi r o kids ho hro).2.2
  ⟨h.1, h.2.1, h.2.2.1⟩

/-- end to end for a root value: `Value.FromRaw` of a map / slice input of any depth and width (done as the code does it: `SetEmptyMap()` /
`SetEmptySlice()`, then `Map.FromRaw` / `Slice.FromRaw` on the container just made) makes the root read EXACTLY as the raw input, keeps the
forest invariant (the new value shares nothing with any other value — in particular not with another root filled from the same input) and
leaves every other root reading as before -/
theorem C07_nest_fromraw_root_reads (s : N.St) (hi : N.Inv s) (r : Nat) (km : Bool) (kids : N.RawL) (hro : s.ro r = false) :
    N.Inv (N.fromRawRoot s r km kids) ∧ N.absRoot (N.fromRawRoot s r km kids) r = N.absRaw (.list km kids) ∧
    ∀ c, c ≠ r → N.absRoot (N.fromRawRoot s r km kids) c = N.absRoot s c := by
  -- after `setRoot` the root is `.list km s.h.next`, a container it owns at depth 1: `fromRawList_full` applies to it
  obtain ⟨i1, f1⟩ := N.step_all_spec hi (.setRoot r (.list km)) trivial
  have e1 : (N.step s (.setRoot r (.list km))).1 =
      { h := { s.h with wl := upd s.h.wl s.h.next {}, next := s.h.next + 1 }, root := upd s.root r (.list km s.h.next), ro := s.ro, dep := N.bump s.dep } := by
    simp [N.step, hro, N.mkNew]
  generalize hs1 : (N.step s (.setRoot r (.list km))).1 = s1 at i1 f1 e1
  have hroot : s1.root r = .list km s.h.next := by rw [e1]; simp [upd_same]
  have hdep : s1.dep = (2 * s.dep + 1) + 1 := by rw [e1]; simp [N.bump]
  have hro1 : s1.ro r = false := by rw [e1]; exact hro
  have ho : N.ownsList s1.dep s1.h (s1.root r) s.h.next := by rw [hroot, hdep]; exact Or.inl rfl
  obtain ⟨i2, f2, _, hlen, hread, hfit⟩ := N.fromRawList_full i1 r s.h.next kids ho hro1
  have e2 : (N.stepR s1 (.fromRawList r s.h.next kids)).1.root = s1.root ∧
      (N.stepR s1 (.fromRawList r s.h.next kids)).1.dep = N.bump (max s1.dep (N.depthL kids)) := by
    simp [N.stepR, hro1]
  unfold N.fromRawRoot
  rw [hs1]
  refine ⟨i2, ?_, fun c hc => (f2 c hc).trans (f1 c (fun hm => hc (List.mem_singleton.mp hm)))⟩
  generalize hs2 : (N.stepR s1 (.fromRawList r s.h.next kids)).1 = s2 at i2 hlen hread hfit e2
  -- the root's reading, one level unfolded, is the reading of the new slots at a fuel lowered to that of `fromRawList_full`
  show N.absV s2.dep s2.h (s2.root r) = N.absRaw (.list km kids)
  rw [e2.1, hroot, e2.2]
  have hb : N.bump (max s1.dep (N.depthL kids)) = (2 * max s1.dep (N.depthL kids) + 1) + 1 := by simp [N.bump]
  rw [hb]
  simp only [N.absV, N.absRaw, hlen]
  congr 1
  rw [← hread]
  apply flatMap_congr
  intro kv hkv
  congr 1
  exact N.abs_fits_mono (by omega) s2.h _ (hfit kv hkv)

/-- read-only: `Map.FromRaw` / `Slice.FromRaw` below a read-only root panics with the state unchanged (definitional, like `C07_nest_readonly`) -/
theorem C07_nest_fromraw_readonly (s : N.St) (r o : Nat) (kids : N.RawL) (hro : s.ro r = true) :
    N.stepR s (.fromRawList r o kids) = (s, true) := by simp [N.stepR, hro]

/-- non-vacuity: two roots filled from the SAME nested raw input (a map holding bytes, a nested map and a slice with a map in it), then
edited on one side: well-formed by `decide`; both read the raw input right after the fill -/
def rawDemo : N.RawL :=
  .cons 1 (.bytes [7, 8]) (.cons 2 (.list true (.cons 5 (.scalar 0 3) .nil)) (.cons 3 (.list false (.cons 0 (.list true .nil) (.cons 0 (.bytes []) .nil))) .nil))

example : N.WfProgR N.St.init [.base (.setRoot 0 (.list true)), .fromRawList 0 0 rawDemo, .base (.setRoot 1 (.list true)), .fromRawList 1 6 rawDemo,
    .base (.bytesAppend 0 1 9), .base (.remove 1 6 2)] := by decide +kernel

example : let s := N.runR N.St.init [.base (.setRoot 0 (.list true)), .fromRawList 0 0 rawDemo, .base (.setRoot 1 (.list true)), .fromRawList 1 6 rawDemo]
    N.absRoot s 0 = N.absRaw (.list true rawDemo) ∧ N.absRoot s 1 = N.absRaw (.list true rawDemo) := by decide +kernel

/-! ### `Slice.MoveAndAppendTo` at PROGRAM level and programs of ALL operations (`Lemmas/C07NestAdopt.lean`, `Lemmas/C07NestAll.lean`)

`N.WfOp (.moveAppend …) = False`: the move has a contract of its own (`N.WfMove`), for all three branches of the code.  First the case of two slices held by distinct roots
(top-level `pcommon.Slice`s with arbitrarily nested elements, any capacities, any garbage beyond `len`), with what both roots read afterwards. -/

/-- move-and-append between the slices of two distinct roots: forest invariant kept (so the moved elements are owned by the destination only —
nothing is shared), every other root reads as before, the source reads empty, the destination reads as its old elements followed by the
source's old elements, each reading as before (order kept) -/
theorem C07_nest_move_append_roots (s : N.St) (hi : N.Inv s) (rs rd o1 o2 c : Nat) (k1 k2 : Bool) (hne : rs ≠ rd)
    (h1 : s.root rs = .list k1 o1) (h2 : s.root rd = .list k2 o2) :
    N.Inv (N.step s (.moveAppend rs o1 rd o2 c)).1 ∧
    (∀ x, x ≠ rs → x ≠ rd → N.absRoot (N.step s (.moveAppend rs o1 rd o2 c)).1 x = N.absRoot s x) ∧
    ((s.ro rs || s.ro rd) = false →
      N.absRoot (N.step s (.moveAppend rs o1 rd o2 c)).1 rs = [.opn k1 0] ∧
      ∃ d0, s.dep = d0 + 1 ∧
        N.absRoot (N.step s (.moveAppend rs o1 rd o2 c)).1 rd =
          .opn k2 ((s.h.wl o2).live.length + (s.h.wl o1).live.length) ::
            ((s.h.wl o2).live ++ (s.h.wl o1).live).flatMap (fun kv => N.Tok.key kv.key :: N.absV d0 s.h kv.val)) := by
  obtain ⟨d0, hd0⟩ := hi.dep_succ
  have ho1 : N.ownsList s.dep s.h (s.root rs) o1 := by rw [h1, hd0]; exact Or.inl rfl
  have ho2 : N.ownsList s.dep s.h (s.root rd) o2 := by rw [h2, hd0]; exact Or.inl rfl
  have ow1 := N.owned_of hi rs o1 ho1
  have ow2 := N.owned_of hi rd o2 ho2
  have in1 := N.owns_sub hi rs o1 ho1
  have in2 := N.owns_sub hi rd o2 ho2
  have hw : N.WfMove s rs o1 rd o2 :=
    ⟨ho1, ho2, fun e => hi.disj rs rd hne o1 (in1 o1 List.mem_cons_self) (e ▸ in2 o2 List.mem_cons_self),
     fun hm => hi.disj rs rd hne o2 (in1 o2 (List.mem_cons_of_mem _ hm)) (in2 o2 List.mem_cons_self),
     fun hm => hi.disj rs rd hne o1 (in1 o1 List.mem_cons_self) (in2 o1 (List.mem_cons_of_mem _ hm))⟩
  obtain ⟨a1, a2⟩ := N.move_append_spec hi rs o1 rd o2 c hw
  refine ⟨a1, fun x hx1 hx2 => a2 x (fun hm => by
    rcases List.mem_cons.mp hm with e | hm
    · exact hx1 e
    · exact hx2 (List.mem_singleton.mp hm)), fun hro => ?_⟩
  obtain ⟨agF, agK⟩ := N.move_append_agree hi rs o1 rd o2 c hw hro
  obtain ⟨m1, m2, m3⟩ := N.move_append_children_same hi rs o1 rd o2 c hw hro
  have eS : (N.step s (.moveAppend rs o1 rd o2 c)).1.root = s.root ∧
      (N.step s (.moveAppend rs o1 rd o2 c)).1.dep = (2 * s.dep + 1) + 1 := by simp [N.step, hro, N.bump]
  have f1 : ∀ kv ∈ (s.h.wl o1).live, N.fits d0 s.h kv.val := by have := hi.fit rs; rw [h1, hd0] at this; exact this
  have f2 : ∀ kv ∈ (s.h.wl o2).live, N.fits d0 s.h kv.val := by have := hi.fit rd; rw [h2, hd0] at this; exact this
  constructor
  · show N.absV _ _ _ = _
    rw [eS.1, eS.2, h1]; simp only [N.absV, m2]; rfl
  · refine ⟨d0, hd0, ?_⟩
    show N.absV _ _ _ = _
    rw [eS.1, eS.2, h2]; simp only [N.absV, m1, List.length_append]
    congr 1
    apply flatMap_congr
    intro kv hkv
    congr 1
    have hfit : N.fits s.dep (N.step s (.moveAppend rs o1 rd o2 c)).1.h kv.val ∧ N.fits d0 s.h kv.val := by
      rcases List.mem_append.mp hkv with hk | hk
      · exact ⟨(N.congrL s.dep _ _ _ agK).2.2 ow2.fit kv hk, f2 kv hk⟩
      · exact ⟨(N.congrL s.dep _ _ _ agF).2.2 ow1.fit kv hk, f1 kv hk⟩
    rw [N.abs_fits_mono (by omega) _ _ hfit.1, m3 kv hkv, hd0]
    exact N.abs_fits_mono (Nat.le_succ _) s.h kv.val hfit.2

/-- **`Slice.MoveAndAppendTo` between slices nested ANYWHERE** (`Lemmas/C07NestAdopt.lean`): for two containers of the forest, distinct, neither inside the other — under
one root or two, all three branches of the code — the forest invariant is kept (the moved elements are owned by the destination alone, the
emptied source shares nothing with it) and every root above neither of them reads as before.  This discharges the exclusion
`N.WfOp (.moveAppend …) = False`. -/
theorem C07_nest_move_append_nested (s : N.St) (hi : N.Inv s) (rs o1 rd o2 c : Nat) (hw : N.WfMove s rs o1 rd o2) :
    N.Inv (N.step s (.moveAppend rs o1 rd o2 c)).1 ∧
    ∀ x, x ∉ N.touched (.moveAppend rs o1 rd o2 c) → N.absRoot (N.step s (.moveAppend rs o1 rd o2 c)).1 x = N.absRoot s x :=
  N.move_append_spec hi rs o1 rd o2 c hw

/-- …and its result ("move-and-append keeps exactly the expected elements in order"), for slices nested anywhere: the destination holds its
old elements followed by the source's old elements, in order, each reading exactly as before; the source keeps neither elements nor an array -/
theorem C07_nest_move_append_nested_result (s : N.St) (hi : N.Inv s) (rs o1 rd o2 c : Nat) (hw : N.WfMove s rs o1 rd o2)
    (hro : (s.ro rs || s.ro rd) = false) :
    ((N.step s (.moveAppend rs o1 rd o2 c)).1.h.wl o2).live = (s.h.wl o2).live ++ (s.h.wl o1).live ∧
    (N.step s (.moveAppend rs o1 rd o2 c)).1.h.wl o1 = {} ∧
    ∀ kv ∈ (s.h.wl o2).live ++ (s.h.wl o1).live,
      N.absV s.dep (N.step s (.moveAppend rs o1 rd o2 c)).1.h kv.val = N.absV s.dep s.h kv.val :=
  N.move_append_children_same hi rs o1 rd o2 c hw hro

/-- separation for programs of ALL operations: everything in `N.WfOp` on targets at any depth, `Map.FromRaw` / `Slice.FromRaw` on containers
at any depth, `Slice.MoveAndAppendTo` between slices at any depth -/
theorem C07_nest_separation_full (prog : List N.OpR) (s : N.St) (hi : N.Inv s) (hw : N.WfProgX s prog) : N.Inv (N.runR s prog) :=
  (N.runX_spec prog s hi hw).1

/-- independence for programs of ALL operations: a root no operation targets reads the same afterwards -/
theorem C07_nest_frame_full (prog : List N.OpR) (s : N.St) (hi : N.Inv s) (hw : N.WfProgX s prog) (c : Nat)
    (hc : ∀ op ∈ prog, c ∉ N.touchedR op) : N.absRoot (N.runR s prog) c = N.absRoot s c :=
  (N.runX_spec prog s hi hw).2 c hc

/-- non-vacuity: two root slices with nested elements (a map holding bytes; a scalar), move-and-append into the NEVER-USED destination and
into a used one, refill the source, edit the destination's adopted element, fill from raw: well-formed by `decide` -/
example : N.WfProgX N.St.init [.base (.setRoot 0 (.list false)), .base (.setSlot 0 0 .push (.list true) 1), .base (.setSlot 0 1 (.key 4) (.bytes [7]) 1),
    .base (.setSlot 0 0 .push (.scalar 0 5) 2), .base (.setRoot 1 (.list false)), .base (.moveAppend 0 0 1 3 0),
    .base (.setSlot 0 0 .push (.scalar 0 9) 1), .base (.bytesAppend 1 2 8), .base (.moveAppend 0 0 1 3 4), .fromRawList 1 1 rawDemo] := by decide +kernel

/-- …and with NESTED slices: a map whose entries 1 and 2 are slices (ids 1, 2), entry 1 holding a map with bytes; move-and-append from the
slice under key 1 to the slice under key 2 of the SAME root, then edit the adopted element through its new owner -/
example : N.WfProgX N.St.init [.base (.setRoot 0 (.list true)), .base (.setSlot 0 0 (.key 1) (.list false) 1), .base (.setSlot 0 0 (.key 2) (.list false) 2),
    .base (.setSlot 0 1 .push (.list true) 1), .base (.setSlot 0 3 (.key 7) (.bytes [5]) 1), .base (.setSlot 0 2 .push (.scalar 0 1) 1),
    .base (.moveAppend 0 1 0 2 2), .base (.bytesAppend 0 4 6), .base (.setSlot 0 1 .push (.scalar 0 2) 1), .base (.moveAppend 0 2 0 1 3)] := by decide +kernel

/-! ## part D: primitive slices (`Model/C07Prim.lean`): elements by value, arrays re-used by `copyX` -/

/-- primitive slices: every program (append, set-at, ensure-capacity, from-raw, copy-to, move-to,
mark-read-only; any capacities, any array re-use) shows what plain lists with assignment semantics show -/
theorem C07_prim_refines (prog : List P.Op) (s : P.St) : P.abs (P.run s prog) = P.prun (P.abs s) prog := by
  induction prog generalizing s with
  | nil => rfl
  | cons op ops ih => simp only [P.run, P.prun]; rw [ih, (P.step_spec s op).1]

theorem C07_prim_step_panics (s : P.St) (op : P.Op) : (P.step s op).2 = (P.pstep (P.abs s) op).2 := (P.step_spec s op).2

theorem C07_prim_copy_eq (s : P.St) (a b c : Nat) (hro : s.ro b = false) :
    (P.abs (P.step s (.copyTo a b c)).1).val b = (P.abs s).val a ∧
    ∀ x, x ≠ b → (P.abs (P.step s (.copyTo a b c)).1).val x = (P.abs s).val x := by
  rw [(P.step_spec s (.copyTo a b c)).1]
  have : (P.abs s).ro b = false := hro
  simp only [P.pstep, this, Bool.false_eq_true, ↓reduceIte]
  exact ⟨upd_same _ _ _, fun x hx => upd_other _ _ _ _ hx⟩

theorem C07_prim_independent (s : P.St) (op : P.Op) (c : Nat) (hc : c ∉ P.targets op) :
    (P.abs (P.step s op).1).val c = (P.abs s).val c := by
  rw [(P.step_spec s op).1]; exact P.pstep_frame _ op c hc

theorem C07_prim_readonly (s : P.St) (op : P.Op) (a : Nat) (hro : s.ro a = true) (ha : a ∈ P.targets op) : P.step s op = (s, true) := by
  cases op with
  | moveTo b c => exact if_pos (ro_of_mem_two hro ha)
  | markRO b => exact nomatch ha
  | _ => exact if_pos (ro_of_mem_one hro ha)

theorem C07_prim_check_sound (H : Nat) (before : P.PSt) (op : P.Op) (after : Nat → List Nat) (p : Bool)
    (h : P.obsStep H before op after p = true) :
    (P.pstep before op).2 = p ∧ ∀ a, a < H → (P.pstep before op).1.val a = after a := by
  simp only [P.obsStep, P.eqUpTo, Bool.and_eq_true, beq_iff_eq, List.all_eq_true, List.mem_range] at h
  exact ⟨h.1, fun a ha => h.2 a ha⟩

example : (P.abs (P.run P.St.init [.append 0 [1, 2, 3] 4, .fromRaw 1 [7] 1, .copyTo 1 0 0, .append 0 [9] 0, .setAt 1 0 5, .moveTo 0 2])).val 2 = [7, 9] ∧
    ((P.run P.St.init [.append 0 [1, 2, 3] 4, .fromRaw 1 [7] 1, .copyTo 1 0 0]).hd 0).tail = [2, 3, 0] := by decide +kernel

/-! ## part E: generated message structs with optional and one-of fields (`Model/C07Msg.lean`)

The schema `Gen.PdataMsg.msgs` is regenerated on every run from the generated `CopyTo`/`MoveTo` bodies
(every statement must have one of four known shapes, else the translator fails). -/

/-- for ANY schema whose optional / one-of fields have the clearing branch: copying a message into
any destination of the same shape (whatever optional fields / one-of alternative it carried) makes
it equal to the source -/
theorem C07_msg_copy_eq (ks : List Gen.PdataMsg.Kind) (src dst : List Msg.FV)
    (hc : ∀ k ∈ ks, Msg.clears k = true) (ht : Msg.wellTyped ks src = true) (hl : dst.length = src.length) :
    Msg.copyMsg ks src dst = src := by
  induction ks generalizing src dst with
  | nil => cases src <;> simp_all [Msg.wellTyped, Msg.copyMsg]
  | cons k ks ih =>
    cases src with
    | nil => simp [Msg.wellTyped] at ht
    | cons s ss =>
      cases dst with
      | nil => simp at hl
      | cons d ds =>
        simp only [Msg.wellTyped, Bool.and_eq_true] at ht
        simp only [Msg.copyMsg]
        rw [Msg.copyField_eq k s d (hc k List.mem_cons_self) ht.1,
          ih ss ds (fun k' hk' => hc k' (List.mem_cons_of_mem _ hk')) ht.2 (by simpa using hl)]

/-- tie to the current source: in every one of the generated message structs every optional / one-of
field has the clearing branch, `CopyTo` mentions every setter and every wrapper getter of the struct
(no field forgotten), and `MoveTo` is `*dest = *ms; *ms = T{}` -/
theorem C07_msg_schema_good :
    ∀ m ∈ Gen.PdataMsg.msgs, (∀ f ∈ m.fields, Msg.clears f.2 = true) ∧ m.uncovered = [] ∧ m.moveOk = true := by decide +kernel

theorem C07_msg_schema_nonvacuous :
    30 ≤ Gen.PdataMsg.msgs.length ∧
    Gen.PdataMsg.tableOptional ≤ ((Gen.PdataMsg.msgs.flatMap (·.fields)).filter (fun f => match f.2 with | .optional _ => true | _ => false)).length ∧
    Gen.PdataMsg.tableOneOf ≤ ((Gen.PdataMsg.msgs.flatMap (·.fields)).filter (fun f => match f.2 with | .oneof _ _ => true | _ => false)).length := by
  decide +kernel

/-- hence for every generated message struct: `CopyTo` into any destination yields the source -/
theorem C07_msg_all_copy_eq (m : Gen.PdataMsg.Msg) (hm : m ∈ Gen.PdataMsg.msgs) (src dst : List Msg.FV)
    (ht : Msg.wellTyped (m.fields.map (·.2)) src = true) (hl : dst.length = src.length) :
    Msg.copyMsg (m.fields.map (·.2)) src dst = src := by
  apply C07_msg_copy_eq _ _ _ _ ht hl
  intro k hk
  obtain ⟨f, hf, rfl⟩ := List.mem_map.mp hk
  exact (C07_msg_schema_good m hm).1 f hf

/-- moving transfers the content and leaves the source empty -/
theorem C07_msg_move (ks : List Gen.PdataMsg.Kind) (src dst : List Msg.FV) :
    (Msg.moveMsg ks src dst).2 = src ∧ (Msg.moveMsg ks src dst).1 = ks.map Msg.zeroOf := ⟨rfl, rfl⟩

/-- what the repair was for: without the clearing branch (the pinned generator) a destination that
carries the optional field / a one-of alternative keeps it -/
theorem C07_msg_pinned_copy_fails :
    Msg.copyMsg [.optional false] [.opt none] [.opt (some 7)] ≠ [.opt none] ∧
    Msg.copyMsg [.oneof 2 false] [.one none] [.one (some (1, 3))] ≠ [.one none] := by decide +kernel

example : Msg.copyMsg [.prim, .optional true, .oneof 2 true, .nested] [.prim 1, .opt none, .one (some (0, 4)), .nested 9]
    [.prim 5, .opt (some 2), .one (some (1, 8)), .nested 3] = [.prim 1, .opt none, .one (some (0, 4)), .nested 9] := by decide +kernel

/-! ## tie of the read-only clause to the source (regenerated census, `Gen/PdataCensus.lean`)

The model's `step` lets every mutator check the read-only flag before anything else.  The census
(go/ast walk over every exported value-receiver method of the wrapper types in pcommon, plog,
pmetric, ptrace, pprofile) says the same of the code: no method that writes through `orig` lacks
`AssertMutable()` as its first statement; the only mutators by name that do not assert themselves
are the four top-level `CopyTo`, which only call `….CopyTo` of the slice below (guarded). -/

theorem C07_census_no_unguarded : Gen.PdataCensus.unguarded = [] := by decide +kernel

theorem C07_census_delegating_reviewed :
    Gen.PdataCensus.delegating =
      [("plog", "Logs", "CopyTo"), ("pmetric", "Metrics", "CopyTo"), ("pprofile", "Profiles", "CopyTo"), ("ptrace", "Traces", "CopyTo")] := by
  decide +kernel

theorem C07_census_nonvacuous : 400 ≤ Gen.PdataCensus.nGuarded ∧ 300 ≤ Gen.PdataCensus.nReaders := by decide +kernel

/-- census of asserted states: every guarded mutator asserts the RIGHT state (`CopyTo`: the destination's; `MoveTo` /
`MoveAndAppendTo`: the receiver's, then the destination's; every other mutator: the receiver's); no reader asserts mutability
anywhere in its body ("readers keep working"); every child wrapper an accessor builds gets the parent's own state (in `CopyTo`:
source-side wrappers the receiver's, destination-side wrappers the destination's), over all child constructions found -/
theorem C07_census_right_state :
    Gen.PdataCensus.wrongAssert = [] ∧ Gen.PdataCensus.readerAsserts = [] ∧ Gen.PdataCensus.badChildState = [] ∧
    200 ≤ Gen.PdataCensus.nChildCtors := by decide +kernel

/-! ## tie to the regenerated slice tables (`Gen/PdataSlices.lean`) -/

/-- regenerated by `translators/cmd/pdataslices`, which FAILS unless every function of every `generated_*slice.go` is textually the
template instance (slice / element / origin names replaced): all generated slices are instances of the two element-slice templates,
all primitive slices (and their internal wrappers) of the primitive template; the one reviewed exception is the stale
`pcommon.IntSlice`, which lacks `All` and `Equal` (both readers) but is otherwise the template -/
theorem C07_slices_template_instances :
    25 ≤ Gen.PdataSlices.elemSlices.length ∧
    (∀ e ∈ Gen.PdataSlices.elemSlices, e.2.2.2 = "ptr" ∨ e.2.2.2 = "value") ∧
    6 ≤ Gen.PdataSlices.primSlices.length ∧
    Gen.PdataSlices.incomplete = [("pcommon", "IntSlice", "All,Equal")] := by decide +kernel

/-! ## part F: the read-only discipline with state propagation (`Model/C07State.lean`, regenerated `Gen/PdataState.lean`)

Unlike `C07_readonly` / `C07_map_readonly` / `C07_nest_readonly` / `C07_prim_readonly` (which take the checked root as an input of the
op), here a wrapper carries a state CELL, accessors hand a cell to the child wrapper, `MarkReadOnly` writes the cell of the payload and
every mutator runs its leading `AssertMutable` statements — all of it interpreted from the table `pdatastate` regenerates from the
source on every run (whose state each leading assertion checks, whose state every constructed child wrapper gets, for all exported
methods of all wrapper types). -/
section PartF
open OtelVerif.Gen.PdataState

/-- the regenerated method table passes the checks (decided over all methods of all wrapper types) -/
theorem C07_state_table_ok :
    chunks.all (fun ch => ch.all (fun m => S.methOk m && S.delegOk meths payloads m && S.noPayloadChild payloads m)) = true ∧
    600 ≤ nMeths ∧ meths.length = nMeths ∧ payloads.length = 4 ∧ 4 ≤ nRootCtors :=
  ⟨S.table_decided, by decide +kernel⟩

/-- **State propagation**: from a payload (or any) wrapper, along EVERY accessor path of the regenerated method table — any
length, through slices, elements, maps, values, maps in values … — the wrapper reached carries the very state cell of the root -/
theorem C07_state_reaches_root_cell (cs : S.Cells) (root : S.W) (steps : List S.Step)
    (hv : S.Valid meths root.ty steps) (hn : S.NoCopy steps) : (S.follow cs root steps).cell = root.cell :=
  S.follow_cell cs meths (fun _ hm => (S.table_ok hm).1) steps root hv hn

/-- no method of any wrapper type ever builds a wrapper with a fresh or foreign state: it is the receiver's or (inside `CopyTo`) the destination's -/
theorem C07_state_no_foreign_state (cs : S.Cells) (m : Meth) (hm : m ∈ meths) (c : Child) (hc : c ∈ m.children) (recv param : Nat) :
    S.cellOf cs recv param c.who = recv ∨ S.cellOf cs recv param c.who = param :=
  S.child_cell_mem cs m (S.table_ok hm).1 c hc recv param

/-- **Read-only clause, not definitional**: mark a payload read-only; take ANY value reachable from it through accessors (any path of
the regenerated table) and ANY guarded mutator `m` of the type reached.  Calling `m` on that value panics at its FIRST statement; using the
value as the destination of `CopyTo` panics at the first statement; using it as the destination of `MoveTo` / `MoveAndAppendTo` from a
mutable source panics at the second statement, the first being the other assertion: in every case before anything was written. -/
theorem C07_readonly_reachable_mutators (cs : S.Cells) (root : S.W) (steps : List S.Step)
    (hv : S.Valid meths root.ty steps) (hn : S.NoCopy steps)
    (m : Meth) (hm : m ∈ meths) (hg : m.cls = .guarded) (other : Nat) :
    let cs' := S.markRO cs root
    let w := S.follow cs' root steps
    (m.role ≠ .copy → S.call cs' m w.cell other = .panicked 0) ∧
    (m.role = .copy → S.call cs' m other w.cell = .panicked 0) ∧
    (m.role = .move → cs'.ro other = false → S.call cs' m other w.cell = .panicked 1) := by
  intro cs' w
  have hc : w.cell = root.cell := C07_state_reaches_root_cell cs' root steps hv hn
  have hro : cs'.ro w.cell = true := by rw [hc]; exact S.markRO_ro cs root
  have hok : S.assertsOk m = true := (S.table_ok hm).2.1
  obtain ⟨h1, _, _⟩ := S.guarded_panics cs' m hok hg w.cell other
  obtain ⟨_, h2, h3⟩ := S.guarded_panics cs' m hok hg other w.cell
  exact ⟨fun hne => h1 hne hro, fun he => h2 he hro, fun he ho => h3 he ho hro⟩

/-- every mutator is covered by the previous theorem: a method of the table is a reader, a guarded mutator, or one of the payload
`CopyTo`s whose body is `ms.A().CopyTo(dest.A())` with `A().CopyTo` guarded on the destination (there is no unguarded writer) -/
theorem C07_readonly_mutators_classified (m : Meth) (hm : m ∈ meths) :
    m.cls = .reader ∨ m.cls = .guarded ∨
    (m.cls = .delegating ∧ m.role = .copy ∧ m.typ ∈ payloads ∧
      ∃ c ∈ m.children, c.who = .recv ∧ ∃ m' ∈ meths, m'.typ = c.typ ∧ m'.role = .copy ∧ m'.cls = .guarded ∧ m'.asserts = [.param]) := by
  obtain ⟨_, ha, h2, _⟩ := S.table_ok hm
  cases hc : m.cls with
  | reader => exact Or.inl rfl
  | guarded => exact Or.inr (Or.inl rfl)
  | unguarded => simp [S.assertsOk, hc] at ha
  | delegating =>
    refine Or.inr (Or.inr ⟨rfl, ?_, ?_, ?_⟩)
    · simp only [S.assertsOk, hc, Bool.and_eq_true, beq_iff_eq] at ha; exact ha.1.1.1
    · simp only [S.delegOk, hc, bne_self_eq_false, Bool.false_or, Bool.and_eq_true, List.contains_eq_mem, decide_eq_true_eq] at h2
      exact h2.1
    · simp only [S.delegOk, hc, bne_self_eq_false, Bool.false_or, Bool.and_eq_true, List.any_eq_true, beq_iff_eq] at h2
      obtain ⟨_, c, hcm, hw, m', hm', hq⟩ := h2
      exact ⟨c, hcm, hw, m', hm', hq.1.1.1, hq.1.1.2, hq.1.2, hq.2⟩

/-- "…while all readers keep working": a reader of the table asserts nothing anywhere and writes nothing; it runs on every value
reachable from a read-only payload; and `CopyTo` FROM such a value into a mutable destination runs too (a consumer's clone) -/
theorem C07_readonly_readers_work (cs : S.Cells) (root : S.W) (steps : List S.Step)
    (m : Meth) (hm : m ∈ meths) (other : Nat) :
    let cs' := S.markRO cs root
    let w := S.follow cs' root steps
    (m.cls = .reader → S.call cs' m w.cell other = .ran ∧ m.later = false ∧ m.writes = false) ∧
    (m.cls = .guarded → m.role = .copy → cs'.ro other = false → S.call cs' m w.cell other = .ran) := by
  intro cs' w
  have hok : S.assertsOk m = true := (S.table_ok hm).2.1
  exact ⟨fun hr => S.reader_runs cs' m hok hr _ _, fun hg he ho => (S.guarded_runs cs' m hok hg w.cell other).1 he ho⟩

/-- marking one payload read-only does not freeze another: values reachable from a payload with a different cell stay mutable for
every guarded mutator (so the clause is about THIS payload's cell, not a global flag) -/
theorem C07_readonly_other_payload_mutable (cs : S.Cells) (root root2 : S.W) (hne : root2.cell ≠ root.cell) (h2 : cs.ro root2.cell = false)
    (steps : List S.Step) (hv : S.Valid meths root2.ty steps) (hn : S.NoCopy steps)
    (m : Meth) (hm : m ∈ meths) (hg : m.cls = .guarded) (he : m.role = .other) (other : Nat) :
    S.call (S.markRO cs root) m (S.follow (S.markRO cs root) root2 steps).cell other = .ran := by
  have hc := C07_state_reaches_root_cell (S.markRO cs root) root2 steps hv hn
  have hok : S.assertsOk m = true := (S.table_ok hm).2.1
  refine (S.guarded_runs _ m hok hg _ other).2.2 he ?_
  rw [hc, S.markRO_other cs root _ hne]; exact h2

/-- the four payload `CopyTo`s (bodies `ms.A().CopyTo(dest.A())`, shape checked by the translator): copying INTO a read-only payload
panics in the first statement of the child's `CopyTo` — the delegating body has written nothing; into a mutable payload it runs,
whatever the source's state -/
theorem C07_readonly_delegating_copy (cs : S.Cells) (m : Meth) (hm : m ∈ meths) (hd : m.cls = .delegating) (recv param : Nat) :
    (cs.ro param = true → S.callD meths cs m recv param = .panicked 0) ∧
    (cs.ro param = false → S.callD meths cs m recv param = .ran) :=
  S.callD_delegating meths payloads cs m hd (S.table_ok hm).2.2.1 recv param

/-- payload wrappers are roots only (no accessor builds one), so "reachable from a payload" never re-enters another payload -/
theorem C07_state_payloads_are_roots (m : Meth) (hm : m ∈ meths) (c : Child) (hc : c ∈ m.children) : c.typ ∉ payloads := by
  have := (S.table_ok hm).2.2.2
  simp only [S.noPayloadChild, List.all_eq_true, Bool.not_eq_true', List.contains_eq_mem, decide_eq_false_iff_not] at this
  exact this c hc

/-! ### the per-type operation tables against the slice templates -/

/-- per-type operation table of the generated element slices (regenerated by `pdatastate`), cross-checked against the template-instance
list of `pdataslices`: the same types, and each has exactly the operation set of its template (`Sort` on pointer slices only) -/
theorem C07_slice_op_tables :
    sliceOps.map (fun e => (e.1, e.2.1, e.2.2.contains "Sort")) = Gen.PdataSlices.elemSlices.map (fun e => (e.1, e.2.1, e.2.2.2 == "ptr")) ∧
    (∀ e ∈ sliceOps, e.2.2 = ["All", "AppendEmpty", "At", "CopyTo", "EnsureCapacity", "Len", "MoveAndAppendTo", "RemoveIf", "Sort"] ∨
                     e.2.2 = ["All", "AppendEmpty", "At", "CopyTo", "EnsureCapacity", "Len", "MoveAndAppendTo", "RemoveIf"]) := by
  decide +kernel

/-! non-vacuity: a concrete access path of the regenerated table, found by NAME (`S.pathOf`; so it does not depend on the numbering):
Logs → ResourceLogs() → At → ScopeLogs() → At → LogRecords() → At → Attributes() → Get → Map() → Get → Slice() → At → Map(), 13 accessor steps -/

set_option maxRecDepth 200000 in
example : S.demoPath.map (fun ss => ss.length == 13 && ss.all (fun s => s.m.role != .copy && s.c.who == .recv) &&
      S.endTy (S.tyOf "plog.Logs") ss == S.tyOf "pcommon.Map" && payloads.contains (S.tyOf "plog.Logs")) = some true := by decide +kernel

example : ∀ ss, S.demoPath = some ss → S.Valid meths (S.tyOf "plog.Logs") ss := fun ss h => S.pathOf_valid meths _ _ ss h

end PartF

/-! ## all families in one statement

`C07_value_semantics_partial` above bundles part A only.  This is the bundle over every modelled family; what keeps it **partial**
with respect to the property text is named in the report (record embedding and message ∘ container composition are differentials,
nested `Value.MoveTo` / `Map.MoveTo` are outside `N.WfProgX`). -/
theorem C07_value_semantics_all_partial :
    -- (A) generated pointer slices: separation + refinement to lists with assignment semantics, every program
    (∀ (prog : List Op) (s : St), Inv s → (∀ op ∈ prog, WfOp op) → Inv (run s prog) ∧ abs (run s prog) = prun (abs s) prog) ∧
    -- (B) attribute maps: separation + refinement to association lists, every program
    (∀ (prog : List M.Op) (s : M.St), M.Inv s → (∀ op ∈ prog, M.WfOp op) →
      M.Inv (M.run s prog) ∧ M.abs (M.run s prog) = M.prun (M.abs s) prog) ∧
    -- (C) nested values: forest invariant + independence of every untouched root, every program of operations at any depth incl.
    -- from-raw on containers at any depth and move-and-append between slices at any depth
    (∀ (prog : List N.OpR) (s : N.St), N.Inv s → N.WfProgX s prog →
      N.Inv (N.runR s prog) ∧ ∀ c, (∀ op ∈ prog, c ∉ N.touchedR op) → N.absRoot (N.runR s prog) c = N.absRoot s c) ∧
    -- (D) primitive slices: refinement, every program
    (∀ (prog : List P.Op) (s : P.St), P.abs (P.run s prog) = P.prun (P.abs s) prog) ∧
    -- (E) every generated message struct: copy into any same-shaped destination = source
    (∀ m ∈ Gen.PdataMsg.msgs, ∀ (src dst : List Msg.FV), Msg.wellTyped (m.fields.map (·.2)) src = true → dst.length = src.length →
      Msg.copyMsg (m.fields.map (·.2)) src dst = src) ∧
    -- (F) read-only: every guarded mutator of the regenerated table, at every value reachable from a payload marked read-only, panics
    -- at its first statement
    (∀ (cs : S.Cells) (root : S.W) (steps : List S.Step), S.Valid Gen.PdataState.meths root.ty steps → S.NoCopy steps →
      ∀ m ∈ Gen.PdataState.meths, m.cls = .guarded → m.role ≠ .copy → ∀ other,
        S.call (S.markRO cs root) m (S.follow (S.markRO cs root) root steps).cell other = .panicked 0) :=
  ⟨run_spec, M.run_spec, N.runX_spec,
   C07_prim_refines,
   fun m hm src dst ht hl => C07_msg_all_copy_eq m hm src dst ht hl,
   fun cs root steps hv hn m hm hg hr other => (C07_readonly_reachable_mutators cs root steps hv hn m hm hg other).1 hr⟩

/-! ## the pinned `CopyTo` does not have the property (what the repair is for) -/

def fill3 (a x y z : Nat) : List Op :=
  [.append a 0, .set a 0 x, .append a 0, .set a 1 y, .append a 0, .set a 2 z]

/-- a slice that had its middle element removed, then receives a copy of `[1,2,3]` -/
def pinnedWitness : St := run St.init (fill3 0 1 2 3 ++ fill3 1 4 5 6 ++ [.removeIf 1 [false, true, false]])

theorem C07_pinned_copy_aliases :
    ((copyToPinned pinnedWitness 0 1).map (fun s => (abs s).val 1)) = some [1, 3, 3] ∧
    (abs (copyTo pinnedWitness 0 1)).val 1 = [1, 2, 3] := by
  decide +kernel

theorem C07_pinned_copy_nil_deref :
    (copyToPinned (run St.init [.append 0 0, .append 0 0, .ensureCap 1 4]) 0 1).isNone = true := by decide +kernel

/-! ## non-vacuity of part A -/

example : Inv pinnedWitness := C07_separation _ _ inv_init (by decide +kernel)
/-- the witness state really has a stale pointer beyond `len` that aliases a live element -/
example : (pinnedWitness.hd 1).live = [3, 5] ∧ (pinnedWitness.hd 1).tail = [some 5] := by decide +kernel
example : (abs (run St.init (fill3 0 1 2 3 ++ [.copyTo 0 1, .set 0 0 9, .moveAndAppendTo 0 1 8, .markRO 1, .append 1 9]))).val 1
    = [1, 2, 3, 9, 2, 3] := by decide +kernel

end OtelVerif.C07

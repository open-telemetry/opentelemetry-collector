import OtelVerif.Lemmas.C11Inst
import OtelVerif.Lemmas.C11Mutex
import OtelVerif.Lemmas.C11SysEvents
import OtelVerif.Lemmas.C11WLock
import OtelVerif.Lemmas.C11Wrapper
/-!
# C11 — component status events always follow the documented state machine

`StatusTable.table` is regenerated from `newFSM` on every run, so every `decide` below is re-checked against what the code says now.
Words of the statements defined in lemma files: `attached`, `Script.startHistory` (C11SC), `Sys.reaches`, `Sys.startedUp`,
`Sys.upOpsDoc` / `downOpsDoc`, `docStart`, `docStop` (C11Sys), `reportsOf`, `noAttach` (C11Wrapper).
-/
namespace OtelVerif.C11
open OtelVerif.Gen

/-! ## the table satisfies the constraints the property states -/

/-- the property's own elaboration, as constraints on a transition table -/
def DocConstraints (tbl : List (St × List St)) : Prop :=
  (∀ a ∈ St.all, ∀ b ∈ St.all, allowedIn tbl a b = true → b ≠ .none) ∧          -- nothing re-enters None
  (∀ b ∈ St.all, allowedIn tbl .none b = true → b = .starting) ∧                 -- begins with Starting
  (∀ a ∈ St.all, allowedIn tbl a a = false) ∧                                    -- never repeats
  (∀ b ∈ St.all, allowedIn tbl .permanent b = true → b = .stopping) ∧            -- PermanentError only to Stopping
  (∀ b ∈ St.all, allowedIn tbl .fatal b = false ∧ allowedIn tbl .stopped b = false) -- terminal

instance (tbl) : Decidable (DocConstraints tbl) := by unfold DocConstraints; infer_instance

theorem C11_table_constraints : DocConstraints StatusTable.table := by decide +kernel

/-- docs/component-status.md, figure: Starting → OK | Recoverable | Permanent; OK ↔ Recoverable;
OK, Recoverable → Permanent; OK, Recoverable → Stopping; Permanent ↔ Stopping; Stopping → Stopped;
"!Stopped → Fatal" (the prose restricts PermanentError to Stopping). -/
def figureTable : List (St × List St) := [
  (.none, [.starting]),
  (.starting, [.ok, .recoverable, .permanent, .fatal]),
  (.ok, [.recoverable, .permanent, .fatal, .stopping]),
  (.recoverable, [.ok, .permanent, .fatal, .stopping]),
  (.permanent, [.stopping]),
  (.stopping, [.permanent, .fatal, .stopped])]

/-- the two edges the code allows beyond the figure (recorded in DESIGN §C11) -/
def extraEdges : List (St × St) := [(.starting, .stopping), (.stopping, .recoverable)]

/-- any *new* edge outside figure ∪ extraEdges breaks this obligation -/
theorem C11_table_vs_figure :
    ∀ a ∈ St.all, ∀ b ∈ St.all, allowed a b = true → (allowedIn figureTable a b = true ∨ (a, b) ∈ extraEdges) := by
  decide +kernel

theorem C11_const_order : StatusTable.constOrder = St.all := by decide +kernel

/-! ## every delivered sequence is a path (all report sequences, by induction) -/

theorem C11_path (cur : St) (reps : List Report) : isPath cur (run cur reps) = true := by
  induction reps generalizing cur with
  | nil => rfl
  | cons r rs ih =>
    rw [run_cons]
    cases h : (step cur r).2 with
    | none => exact ih cur
    | some e => exact Bool.and_eq_true _ _ ▸ ⟨(step_some h).1, ih e⟩

/-- the property's statement on an event sequence, without reference to the table -/
def DocPath : St → List St → Prop
  | _, [] => True
  | cur, e :: es =>
    e ≠ cur ∧ e ≠ .none ∧ (cur = .none → e = .starting) ∧ (cur = .permanent → e = .stopping) ∧
    cur ≠ .fatal ∧ cur ≠ .stopped ∧ DocPath e es

theorem C11_docPathB_iff (cur : St) (evs : List St) : docPathB cur evs = true ↔ DocPath cur evs := by
  induction evs generalizing cur with
  | nil => exact ⟨fun _ => trivial, fun _ => rfl⟩
  | cons e es ih =>
    simp only [docPathB, DocPath, Bool.and_eq_true, Bool.or_eq_true, bne_iff_ne, beq_iff_eq, ne_eq, ih e,
      Decidable.imp_iff_not_or, and_assoc]

theorem allowed_doc {a b : St} (h : allowed a b = true) :
    b ≠ a ∧ b ≠ .none ∧ (a = .none → b = .starting) ∧ (a = .permanent → b = .stopping) ∧ a ≠ .fatal ∧ a ≠ .stopped := by
  obtain ⟨h1, h2, h3, h4, h5⟩ := C11_table_constraints
  have h' : allowedIn StatusTable.table a b = true := h
  have ha := St.mem_all a
  have hb := St.mem_all b
  refine ⟨?_, h1 a ha b hb h, ?_, ?_, ?_, ?_⟩
  · intro e; subst e; rw [h3 b hb] at h'; cases h'
  · intro e; subst e; exact h2 b hb h
  · intro e; subst e; exact h4 b hb h
  · intro e; subst e; rw [(h5 b hb).1] at h'; cases h'
  · intro e; subst e; rw [(h5 b hb).2] at h'; cases h'

/-- soundness of the monitor: whatever trace `isPath` accepts satisfies the property's clauses -/
theorem C11_check_sound (cur : St) (evs : List St) (h : isPath cur evs = true) : DocPath cur evs := by
  induction evs generalizing cur with
  | nil => trivial
  | cons e es ih =>
    simp only [isPath, isPathIn, Bool.and_eq_true] at h
    obtain ⟨d1, d2, d3, d4, d5, d6⟩ := allowed_doc (a := cur) (b := e) h.1
    exact ⟨d1, d2, d3, d4, d5, d6, ih e h.2⟩

/-- main statement: the property's clauses, for every report sequence -/
theorem C11_events_doc (reps : List Report) : DocPath .none (run .none reps) :=
  C11_check_sound _ _ (C11_path _ _)

theorem C11_begins_starting (reps : List Report) (e : St) (es : List St) (h : run .none reps = e :: es) :
    e = .starting := by
  have := C11_events_doc reps
  rw [h] at this
  exact this.2.2.1 rfl

theorem C11_terminal (cur : St) (evs : List St) (h : DocPath cur evs) (hc : cur = .fatal ∨ cur = .stopped) : evs = [] := by
  cases evs with
  | nil => rfl
  | cons e es => obtain ⟨_, _, _, _, h5, h6, _⟩ := h; rcases hc with rfl | rfl <;> contradiction

theorem DocPath_take (cur : St) (l : List St) (k : Nat) (h : DocPath cur l) : DocPath cur (l.take k) := by
  induction l generalizing cur k with
  | nil => simpa using h
  | cons e es ih =>
    cases k with
    | zero => simp [DocPath]
    | succ k =>
      obtain ⟨h1, h2, h3, h4, h5, h6, h7⟩ := h
      exact ⟨h1, h2, h3, h4, h5, h6, ih e k h7⟩

example : run .none [.status .ok, .status .starting, .okIfStarting, .status .ok, .status .permanent, .status .ok, .status .stopping, .status .stopped, .status .starting]
    = [.starting, .ok, .permanent, .stopping, .stopped] := by decide +kernel

/-! ## one component's life: `Life`, `SharedLife` -/

/-- instance of `C11_events_doc` (the content is `Life.reports`): whatever a component reports during start, run and shutdown, and
whether or not its start or shutdown fails, the events the service delivers for it follow the documented machine -/
theorem lifecycle_doc (l : Life) : DocPath .none l.events := C11_events_doc l.reports

/-- complete characterisation of what the service delivers for a component that reports nothing itself, for every
combination of "was reached by start-up / its start fails / the whole start-up succeeds / its shutdown fails"
(`Life` is tied to graph.go / extensions.go by the `c11-life` differential) -/
theorem C11_lifecycle_quiet_all (started failStart allStarted failStop : Bool) :
    (Life.mk started [] failStart allStarted [] [] failStop).events =
      if started then
        [.starting, if failStart then .permanent else .ok, .stopping, if failStop then .permanent else .stopped]
      else [] := by
  revert started failStart allStarted failStop
  decide +kernel

theorem C11_lifecycle_quiet :
    (Life.mk true [] false true [] [] false).events = [.starting, .ok, .stopping, .stopped] :=
  C11_lifecycle_quiet_all true false true false

/-- a component whose start fails is still taken through Stopping and Stopped -/
theorem C11_lifecycle_start_failure :
    (Life.mk true [] true false [] [] false).events = [.starting, .permanent, .stopping, .stopped] :=
  C11_lifecycle_quiet_all true true false false

theorem C11_lifecycle_never_started (fs : Bool) (ds r dstop : List St) (a b : Bool) :
    (Life.mk false ds a b r dstop fs).events = [] := by
  cases fs <;> exact (run_none_illegal _ (by decide) _).trans (run_none_illegal _ (by decide) _)

theorem C11_lifecycle_begins (l : Life) (h : l.started = true) : l.events.head? = some .starting := by
  simp only [Life.events, Life.reports, h, if_true, List.append_assoc, List.cons_append]
  rfl

/-- instance of `C11_events_doc` (the content is `SharedLife.reportsX/Y`): the events of BOTH instances of a shared component follow
the machine, whatever it reports and in whatever order the instances are started and stopped -/
theorem shared_life_doc (l : SharedLife) :
    DocPath .none l.eventsX ∧ DocPath .none (l.eventsY StatusTable.ringCap) :=
  ⟨C11_events_doc l.reportsX, C11_events_doc (l.reportsY StatusTable.ringCap)⟩

/-- while the start-up history fits the ring, the late instance is handed exactly the history the first
one saw (every status the component reported is delivered to every instance it represents) -/
theorem C11_shared_life_replay_complete (l : SharedLife) (h : l.duringStart.length + 1 ≤ StatusTable.ringCap) :
    l.ringAtAttach StatusTable.ringCap = St.starting :: l.duringStart := by
  exact lastN_of_length_le h

/-- the instances of one shared component can nevertheless END in different statuses when its shutdown
fails: the instance whose `Shutdown` call did the work keeps `PermanentError`, the other one is taken on
to `Stopped` by the graph's automatic reports because its own `Shutdown` call returned nil — an
observation, not a violation: every status the component reported was delivered to both -/
theorem C11_shared_life_final_may_differ :
    let l : SharedLife := ⟨true, true, [], true, [], true, [], true, false⟩
    l.eventsX = [.starting, .ok, .stopping, .permanent] ∧
    l.eventsY StatusTable.ringCap = [.starting, .ok, .stopping, .permanent, .stopping, .stopped] := by decide +kernel

/-- a shared component whose (single) `Start` fails: the instance that was being started is shown Starting, PermanentError and is
still taken through Stopping to Stopped by the shutdown that follows; the other instance, never reached, is shown nothing -/
theorem C11_shared_life_start_failure :
    let l : SharedLife := ⟨true, false, [], false, [], true, [], false, true⟩
    l.eventsX = [.starting, .permanent, .stopping, .stopped] ∧ l.eventsY StatusTable.ringCap = [] := by decide +kernel

/-! ## automatic OK only from Starting -/

/-- if nobody reports `OK` explicitly, every delivered `OK` is the automatic one and comes
directly after `Starting` — for every report sequence (and, through `C11_interleaving`, for every
interleaving of concurrent reporters: a report is one atomic step) -/
theorem C11_auto_ok_after_starting (cur : St) (reps : List Report) (h : ∀ r ∈ reps, r ≠ .status .ok) :
    okPred cur (run cur reps) = true := by
  induction reps generalizing cur with
  | nil => rfl
  | cons r rs ih =>
    have hrs : ∀ r ∈ rs, r ≠ .status .ok := fun r hr => h r (List.mem_cons_of_mem _ hr)
    rw [run_cons]
    cases he : (step cur r).2 with
    | none => exact ih cur hrs
    | some e =>
      simp only [okPred, Bool.and_eq_true, Bool.or_eq_true, bne_iff_ne, beq_iff_eq]
      refine ⟨?_, ih e hrs⟩
      rcases (step_some he).2 with rfl | ⟨_, hc, _⟩
      · exact Or.inl fun e0 => h _ (List.mem_cons_self ..) (e0 ▸ rfl)
      · exact Or.inr hc

/-! ## many instances, any interleaving: each instance's projection is its own sequential run -/

def projRep (i : Inst) (p : Inst × Report) : Option Report := if p.1 = i then some p.2 else Option.none
/-- the event, if it is instance `i`'s -/
def projEv (i : Inst) (p : Inst × St) : Option St := if p.1 = i then some p.2 else Option.none

/-- every concurrent history is a sequence of atomic reports (one mutex); for **any** such sequence,
over any number of instances, what instance `i` sees is exactly the sequential run of the reports
addressed to `i` -/
theorem C11_interleaving (r : Reporter) (ops : List (Inst × Report)) (i : Inst) :
    (r.runAll ops).filterMap (projEv i) = run (r.cur i) (ops.filterMap (projRep i)) := by
  induction ops generalizing r with
  | nil => simp [Reporter.runAll, run]
  | cons op rest ih =>
    obtain ⟨j, rep⟩ := op
    by_cases hji : j = i
    · subst hji
      have hcur : ((r.report j rep).1).cur j = (step (r.cur j) rep).1 := by
        rw [Mutex.report_fst, Reporter.cur_set_same]
      simp only [Reporter.runAll, List.filterMap_cons, projRep, if_true, run]
      rw [Mutex.report_snd]
      cases hs : (step (r.cur j) rep).2 with
      | none => simp only []; rw [ih, hcur]
      | some e => simp only [List.filterMap_cons, projEv, if_true]; rw [ih, hcur]
    · have hcur : ((r.report j rep).1).cur i = r.cur i := by
        rw [Mutex.report_fst]; exact Reporter.cur_set_other r j i _ (fun h => hji h.symm)
      simp only [Reporter.runAll, List.filterMap_cons, projRep, hji, if_false]
      cases hs : (r.report j rep).2 with
      | none => simp only []; rw [ih, hcur]
      | some e => simp only [List.filterMap_cons, projEv, hji, if_false]; rw [ih, hcur]

theorem C11_interleaving_doc (ops : List (Inst × Report)) (i : Inst) :
    DocPath .none (((Reporter.mk []).runAll ops).filterMap (projEv i)) := by
  rw [C11_interleaving]
  exact C11_events_doc _

/-! ## shared component: delivery to every instance it represents -/

/-- a STATEMENT, refuted below (`C11_shared_full_fails`): every attached source ends in the same status as every other one, for
every history of reports and attachments beginning with the first attachment -/
def C11_shared_delivery_full : Prop :=
  ∀ ops : List WOp, ∀ s ∈ (Wrapper.runOps StatusTable.ringCap {} (.attach :: ops)).sources,
    s = runState .starting ((reportsOf ops).map Report.status)

/-- **event-sequence version of the shared-delivery clause (partial):** as long as no more than `ringCap` reports were made
before the last attachment, the watcher of EVERY instance the shared component represents, whenever it attached, has been shown
exactly the events of the component's whole report history run from `Starting`. -/
theorem C11_shared_events_partial (pre post : List WOp)
    (hfit : (reportsOf pre).length ≤ StatusTable.ringCap) (hpost : noAttach post = true) :
    ∀ s ∈ (WrapperE.runOps StatusTable.ringCap {} (.attach :: (pre ++ post))).sources,
      s = (runState .starting ((reportsOf (pre ++ post)).map Report.status),
           run .starting ((reportsOf (pre ++ post)).map Report.status)) := by
  have h1 := ((Tracks.first StatusTable.ringCap).runOps pre).fit (by simpa using hfit)
  intro s hs
  rw [WrapperE.runOps_cons, WrapperE.runOps_append, WrapperE.runOps_noAttach _ _ _ hpost] at hs
  obtain ⟨s0, hs0, rfl⟩ := List.mem_map.mp hs
  rw [h1 s0 hs0, ← adv_append, List.nil_append, ← List.map_append, ← reportsOf_append]
  simp only [adv, List.nil_append]

/-- proved part, the statuses of `C11_shared_events_partial`: every source ends in the component's last effective status -/
theorem C11_shared_delivery_partial (pre post : List WOp)
    (hfit : (reportsOf pre).length ≤ StatusTable.ringCap) (hpost : noAttach post = true) :
    ∀ s ∈ (Wrapper.runOps StatusTable.ringCap {} (.attach :: (pre ++ post))).sources,
      s = runState .starting ((reportsOf (pre ++ post)).map Report.status) := by
  intro s hs
  rw [show ({} : Wrapper) = ({} : WrapperE).forget from rfl, ← WrapperE.forget_runOps] at hs
  obtain ⟨p, hp, rfl⟩ := List.mem_map.mp hs
  rw [C11_shared_events_partial pre post hfit hpost p hp]

/-- the full statement is false of the code as it is: a sticky status followed by `ringCap` ignored
reports, then a late attachment (reproduced on the real `sharedcomponent`, known finding) -/
theorem C11_shared_full_fails : ¬ C11_shared_delivery_full := by
  intro h
  have := h [.report .starting, .report .permanent, .report .ok, .report .recoverable, .report .ok, .report .recoverable, .report .ok,
    .attach] .ok (by decide +kernel)
  revert this
  decide +kernel

example : (Wrapper.runOps StatusTable.ringCap {} (.attach :: [.report .starting, .report .recoverable, .attach, .report .ok])).sources = [.ok, .ok] := by decide +kernel

example : (WrapperE.runOps StatusTable.ringCap {} (.attach :: [.report .starting, .report .recoverable, .attach, .attach, .report .ok])).sources =
    [(.ok, [.recoverable, .ok]), (.ok, [.recoverable, .ok]), (.ok, [.recoverable, .ok])] := by decide +kernel

/-! ## the service's glue as code-shaped programs (`Model/C11Sys.lean`): graph / extensions / service loops, `sharedcomponent.Component`

`Sys.ops` is tied to the real `service.New/Start/Shutdown` by the exact `c11-sys` differential (every instance of every case). -/

/-- the regenerated status skeletons of `graph.StartAll` / `ShutdownAll`, `extensions.Start` / `Shutdown` and the layer order of
`service.Start` / `Shutdown` are the documented ones (`docStart`, `docStop`); pipeline components are handed a reporting host
(`HostWrapper` with their instance id), extensions the bare host; extensions start before and stop after the pipelines, in reverse -/
theorem C11_glue_skeletons :
    StatusGlue.graphStart = docStart true ∧ StatusGlue.graphStop = docStop ∧
    StatusGlue.extStart = docStart false ∧ StatusGlue.extStop = docStop ∧ StatusGlue.extStopBackwards = true ∧
    StatusGlue.serviceStart = [.extensions, .pipelines] ∧ StatusGlue.serviceStop = [.pipelines, .extensions] := by decide

/-- … so the interpreted service run is the run through the hand-readable loops -/
theorem C11_glue_as_documented (cap : Nat) (s : Sys) : s.ops cap = s.opsDoc cap := by
  -- on the `doc*` skeletons `loopAll` is `startAll` / `stopAll`; the two layers unfold to the two loops; the rest is `if`s on
  -- whether each start loop succeeded
  obtain ⟨h1, h2, h3, h4, h5, h6, h7⟩ := C11_glue_skeletons
  have e1 := fun g l => (loopAll_docStop cap true g l).1
  have e2 := fun g l => (loopAll_docStop cap true g l).2
  have e4 := fun g l => (loopAll_docStop cap false g l).2
  simp only [Sys.ops, Sys.opsDoc, h6, h7, Sys.startLayers, Sys.stopLayers, h1, h2, h3, h4, h5, if_true, loopAll_docStart]
  simp only [docStart]
  by_cases hE : (startAll cap false s.g0 s.exts).2.2 = true
  · by_cases hP : (startAll cap true (startAll cap false s.g0 s.exts).1 s.startOrder).2.2 = true
    · simp [hE, hP, e1, e2, e4]
    · simp [hE, hP, e1, e2, e4]
  · simp [hE, e1, e2, e4]

/-- **refinement: `Life` is what the code-shaped loops do to one plain pipeline component.**  In ANY service (any extensions, any
other instances, plain or shared, around it in the start and stop orders), the reports that reach the state machine of a plain
pipeline component instance `t` are exactly `Life.reports`, with `started` = start-up got as far as `t` and `allStarted` = the whole
start-up succeeded.  (`a`/`b`, `c`/`d`: the instances `StartAll` / `ShutdownAll` visit before / after `t`; ids are distinct.) -/
theorem C11_sys_plain_is_life (cap : Nat) (s : Sys) (t : Inst) (sc : Script) (a b c d : List Node)
    (hS : s.startOrder = a ++ ⟨t, .plain sc⟩ :: b) (hT : s.stopOrder = c ++ ⟨t, .plain sc⟩ :: d)
    (ha : ∀ n ∈ a, n.inst ≠ t) (hb : ∀ n ∈ b, n.inst ≠ t) (hc : ∀ n ∈ c, n.inst ≠ t) (hd : ∀ n ∈ d, n.inst ≠ t)
    (he : ∀ n ∈ s.exts, n.inst ≠ t) :
    (s.ops cap).filterMap (projOp t) =
      (Life.mk (s.reaches cap a) sc.duringStart sc.failStart (s.startedUp cap) sc.running sc.duringStop sc.failStop).reports := by
  rw [pr_def, C11_glue_as_documented]
  obtain ⟨u1, u2, u3⟩ := sys_plain_up cap s t sc a b hS ha hb he
  obtain ⟨s1, s2⟩ := stop_with_target cap t true sc c d _ hc hd u1
  obtain ⟨_, x2, _⟩ := stopAll_foreign cap t false s.exts.reverse (fun n hn => he n (List.mem_reverse.mp hn)) _ s1
  rw [← hT] at s2 x2
  rw [Sys.opsDoc_split, Sys.downOpsDoc_eq, pr_append, pr_append, u3, s2, x2, u2]
  simp only [Life.reports, if_true, List.append_nil, List.append_assoc]

theorem C11_sys_plain_events (cap : Nat) (s : Sys) (t : Inst) (sc : Script) (a b c d : List Node)
    (hS : s.startOrder = a ++ ⟨t, .plain sc⟩ :: b) (hT : s.stopOrder = c ++ ⟨t, .plain sc⟩ :: d)
    (ha : ∀ n ∈ a, n.inst ≠ t) (hb : ∀ n ∈ b, n.inst ≠ t) (hc : ∀ n ∈ c, n.inst ≠ t) (hd : ∀ n ∈ d, n.inst ≠ t)
    (he : ∀ n ∈ s.exts, n.inst ≠ t) :
    s.events cap t =
      (Life.mk (s.reaches cap a) sc.duringStart sc.failStart (s.startedUp cap) sc.running sc.duringStop sc.failStop).events := by
  simp only [Sys.events, Life.events, C11_sys_plain_is_life cap s t sc a b c d hS hT ha hb hc hd he]

/-- the same for an EXTENSION (handed the bare host: whatever it reports itself vanishes): its watcher is shown exactly Starting,
OK | PermanentError, Stopping, Stopped | PermanentError — or nothing if an earlier extension failed to start -/
theorem C11_sys_extension_events (cap : Nat) (s : Sys) (t : Inst) (sc : Script) (ea eb : List Node)
    (hX : s.exts = ea ++ ⟨t, .plain sc⟩ :: eb) (ha : ∀ n ∈ ea, n.inst ≠ t) (hb : ∀ n ∈ eb, n.inst ≠ t)
    (hS : ∀ n ∈ s.startOrder, n.inst ≠ t) (hT : ∀ n ∈ s.stopOrder, n.inst ≠ t) :
    s.events cap t =
      if (startAll cap false s.g0 ea).2.2 then
        [.starting, if sc.failStart then .permanent else .ok, .stopping, if sc.failStop then .permanent else .stopped]
      else [] := by
  have h : pr t (s.opsDoc cap) =
      (Life.mk (startAll cap false s.g0 ea).2.2 [] sc.failStart (s.startedUp cap) [] [] sc.failStop).reports := by
    obtain ⟨u1, u3⟩ := sys_ext_up cap s t sc ea eb hX ha hb hS
    obtain ⟨q1, q2, _⟩ := stopAll_foreign cap t true s.stopOrder hT _ u1
    obtain ⟨_, x2⟩ := stop_with_target cap t false sc eb.reverse ea.reverse _ (fun n hn => hb n (List.mem_reverse.mp hn))
      (fun n hn => ha n (List.mem_reverse.mp hn)) q1
    rw [show eb.reverse ++ ⟨t, .plain sc⟩ :: ea.reverse = s.exts.reverse by rw [hX]; simp] at x2
    rw [Sys.opsDoc_split, Sys.downOpsDoc_eq, pr_append, pr_append, u3, q2, x2]
    simp only [Life.reports, List.map_nil, List.append_nil, List.nil_append, ite_self, Bool.false_eq_true, if_false, List.append_assoc]
  rw [Sys.events_eq, C11_glue_as_documented, h]
  exact C11_lifecycle_quiet_all _ _ _ _

/-- **"a component shared by several pipelines or signals delivers its status to every instance it represents", at service level,
any number of instances, no ring restriction:** in ANY service whose start-up succeeds, every status the inner component of shared
component `k` reports while running is handed to the state machine of EVERY pipeline instance `x` of `k` -/
theorem C11_sys_shared_running_delivered (cap : Nat) (s : Sys) (k : Nat) (x : Inst) (a b : List Node)
    (hS : s.startOrder = a ++ ⟨x, .shared k⟩ :: b) (hk : k < s.shared.length) (hup : s.startedUp cap = true)
    (e : St) (he : e ∈ (s.shared.getD k {}).running) :
    (x, Report.status e) ∈ s.ops cap := by
  rw [C11_glue_as_documented]
  have kE := startAll_keeps cap k x false s.exts s.g0 (Good_g0 s)
  have hkE : k < (startAll cap false s.g0 s.exts).1.scs.length := kE.size ▸ (by simpa [Sys.g0] using hk)
  rw [Sys.opsDoc_split, Sys.up_ok cap s hup]
  rw [Sys.startedUp_eq_reaches, Sys.reaches_iff] at hup
  rw [hS] at hup ⊢
  have kP := startAll_keeps cap k x true (a ++ ⟨x, .shared k⟩ :: b) _ kE.good
  refine List.mem_append_left _ (List.mem_append_right _ (List.mem_append_right _
    (runShared_delivers cap x k _ (kP.size ▸ hkE) (startAll_attaches cap k x a b _ kE.good hkE hup.2) e ?_)))
  rw [kP.script, kE.script, g0_sc]; exact he

example :
    let s : Sys := { exts := [⟨9, .plain {}⟩], startOrder := [⟨0, .plain {}⟩, ⟨1, .shared 0⟩, ⟨2, .shared 0⟩, ⟨3, .shared 0⟩],
                     stopOrder := [⟨3, .shared 0⟩, ⟨2, .shared 0⟩, ⟨1, .shared 0⟩, ⟨0, .plain {}⟩],
                     shared := [{ running := [.recoverable] }] }
    s.startedUp 5 = true ∧ s.events 5 1 = [.starting, .ok, .recoverable, .stopping, .stopped] ∧ s.events 5 3 = s.events 5 1 := by
  decide +kernel

/-- **replay within the ring, ANY number of instances (code-shaped `sharedcomponent.Component`):** the first instance `x` starts the
inner component; however many further instances attach before `z`, if what the component reported through the wrapper during its
`Start` (`Script.startHistory`) fits the ring, the late instance `z` is handed exactly the reports `x` received -/
theorem C11_shared_replay_complete_N (sc : Script) (x z : Inst) (xs : List Inst) (hzx : z ≠ x) (hz : z ∉ xs) (hx : x ∉ xs)
    (hfit : sc.startHistory.length ≤ StatusTable.ringCap) :
    let ops := (SC.fireAll StatusTable.ringCap { script := sc }
      (SCLabel.start x true :: (xs.map (fun y => SCLabel.start y true) ++ [SCLabel.start z true]))).2
    ops.filterMap (projOp z) = sc.startHistory.map Report.status ∧ ops.filterMap (projOp x) = sc.startHistory.map Report.status ∧
      run .starting (ops.filterMap (projOp z)) = run .starting (ops.filterMap (projOp x)) := by
  obtain ⟨h1, h2⟩ := shared_replay_N StatusTable.ringCap sc x z xs hzx hz hx hfit
  rw [← pr_def] at h1 h2
  exact ⟨h1, h2, by rw [h1, h2]⟩

example : ({ duringStart := [.recoverable, .ok], failStart := true } : Script).startHistory = [.starting, .recoverable, .ok, .permanent] := by decide +kernel

/-- non-vacuity of `C11_shared_replay_complete_N`: four instances, the fourth is replayed what the first received -/
example :
    let ops := (SC.fireAll 5 { script := { duringStart := [.recoverable, .ok] } }
      [.start 1 true, .start 2 true, .start 3 true, .start 4 true]).2
    ops.filterMap (projOp 4) = [.status .starting, .status .recoverable, .status .ok] ∧
      ops.filterMap (projOp 1) = ops.filterMap (projOp 4) := by decide +kernel

/-- **service level, any number of instances, first or late: every instance of a shared component receives the same reports until
the service starts stopping.**  In any service whose start-up succeeds, if what component `k` reports during its `Start` fits the
ring (and no extension is an instance of `k`), the reports reaching the state machine of ANY pipeline instance `x` of `k` during
`service.Start` and the running phase are `Starting, <start history>, OK-if-starting, <running reports>`: one list for all -/
theorem C11_sys_shared_same_reports (s : Sys) (k : Nat) (x : Inst) (a b : List Node)
    (hS : s.startOrder = a ++ ⟨x, .shared k⟩ :: b) (ha : ∀ n ∈ a, n.inst ≠ x) (hb : ∀ n ∈ b, n.inst ≠ x)
    (he : ∀ n ∈ s.exts, n.inst ≠ x ∧ n.kind ≠ .shared k) (hk : k < s.shared.length)
    (hfit : (s.shared.getD k {}).startHistory.length ≤ StatusTable.ringCap) (hup : s.startedUp StatusTable.ringCap = true) :
    s.ops StatusTable.ringCap = s.upOpsDoc StatusTable.ringCap ++ s.downOpsDoc StatusTable.ringCap ∧
    (s.upOpsDoc StatusTable.ringCap).filterMap (projOp x) =
      Report.status .starting :: ((s.shared.getD k {}).startHistory.map Report.status ++
        Report.okIfStarting :: (s.shared.getD k {}).running.map Report.status) := by
  refine ⟨by rw [C11_glue_as_documented, Sys.opsDoc_split], ?_⟩
  exact sys_shared_up_reports StatusTable.ringCap s k x a b hS ha hb he hk hfit hup

/-- **the proved part of `C11_sys_shared_same_events_full` (below):** under the hypotheses of `C11_sys_shared_same_reports` the
watchers of ANY two pipeline instances `x`, `y` of the component are shown the same events before Stopping.  The ring fit cannot be
dropped (`C11_sys_shared_same_events_full_fails`). -/
theorem C11_sys_shared_same_events_partial (s : Sys) (k : Nat) (x y : Inst) (a b a' b' : List Node)
    (hSx : s.startOrder = a ++ ⟨x, .shared k⟩ :: b) (hax : ∀ n ∈ a, n.inst ≠ x) (hbx : ∀ n ∈ b, n.inst ≠ x)
    (hSy : s.startOrder = a' ++ ⟨y, .shared k⟩ :: b') (hay : ∀ n ∈ a', n.inst ≠ y) (hby : ∀ n ∈ b', n.inst ≠ y)
    (he : ∀ n ∈ s.exts, n.inst ≠ x ∧ n.inst ≠ y ∧ n.kind ≠ .shared k) (hk : k < s.shared.length)
    (hfit : (s.shared.getD k {}).startHistory.length ≤ StatusTable.ringCap) (hup : s.startedUp StatusTable.ringCap = true) :
    beforeStopping (s.events StatusTable.ringCap x) = beforeStopping (s.events StatusTable.ringCap y) := by
  rw [Sys.events_eq, Sys.events_eq, C11_glue_as_documented,
      sys_shared_same_events StatusTable.ringCap s k x a b hSx hax hbx (fun n hn => ⟨(he n hn).1, (he n hn).2.2⟩) hk hfit hup,
      sys_shared_same_events StatusTable.ringCap s k y a' b' hSy hay hby (fun n hn => ⟨(he n hn).2.1, (he n hn).2.2⟩) hk hfit hup]

example :
    let s : Sys := { exts := [⟨9, .plain {}⟩], startOrder := [⟨1, .shared 0⟩, ⟨0, .plain { duringStart := [.ok] }⟩, ⟨2, .shared 0⟩, ⟨3, .shared 0⟩],
                     stopOrder := [⟨3, .shared 0⟩, ⟨0, .plain { duringStart := [.ok] }⟩, ⟨2, .shared 0⟩, ⟨1, .shared 0⟩],
                     shared := [{ duringStart := [.recoverable, .permanent], running := [.ok], failStop := true }] }
    s.startedUp 5 = true ∧ beforeStopping (s.events 5 1) = [.starting, .recoverable, .permanent] ∧
      s.events 5 3 = [.starting, .recoverable, .permanent, .stopping, .permanent] ∧
      s.events 5 1 = [.starting, .recoverable, .permanent, .stopping, .permanent, .stopping, .stopped] := by
  decide +kernel

/-- a STATEMENT, refuted below: the shared-delivery clause at service level (the driver's `prop shared` oracle on the
implementation's events): after a successful start-up all instances of one shared component have been shown the same events until the
service starts stopping them -/
def C11_sys_shared_same_events_full : Prop :=
  ∀ (s : Sys) (k : Nat) (x y : Inst), ⟨x, .shared k⟩ ∈ s.startOrder → ⟨y, .shared k⟩ ∈ s.startOrder →
    s.startedUp StatusTable.ringCap = true →
    beforeStopping (s.events StatusTable.ringCap x) = beforeStopping (s.events StatusTable.ringCap y)

/-- … FALSE of the code as it is, for the reason of `C11_shared_full_fails` (the replay ring): a shared receiver in two signals
whose `Start` reports PermanentError and then five more statuses — the first instance stays in PermanentError, the late one is shown
OK (corpus case 0 of the `sysservice` harness; open known finding `C11/sharedcomponent/ring-overflow-after-sticky`) -/
theorem C11_sys_shared_same_events_full_fails : ¬ C11_sys_shared_same_events_full := by
  intro h
  have := h { startOrder := [⟨0, .shared 0⟩, ⟨1, .shared 0⟩], stopOrder := [⟨0, .shared 0⟩, ⟨1, .shared 0⟩],
              shared := [{ duringStart := [.permanent, .ok, .recoverable, .ok, .recoverable, .ok] }] } 0 0 1
    (by decide +kernel) (by decide +kernel) (by decide +kernel)
  revert this
  decide +kernel

/-- non-vacuity of `C11_sys_extension_events`: the second of three extensions fails to start -/
example :
    let s : Sys := { exts := [⟨7, .plain {}⟩, ⟨8, .plain { duringStart := [.ok], failStart := true }⟩, ⟨9, .plain {}⟩],
                     startOrder := [⟨0, .plain {}⟩], stopOrder := [⟨0, .plain {}⟩] }
    s.events 5 7 = [.starting, .ok, .stopping, .stopped] ∧ s.events 5 8 = [.starting, .permanent, .stopping, .stopped] ∧
      s.events 5 9 = [] ∧ s.events 5 0 = [] := by decide +kernel

/-- non-vacuity: a plain exporter between a shared receiver's two instances and a failing processor -/
example :
    let s : Sys := { startOrder := [⟨0, .plain {}⟩, ⟨1, .shared 0⟩, ⟨7, .plain { duringStart := [.recoverable], running := [.ok] }⟩, ⟨2, .shared 0⟩, ⟨3, .plain { failStart := true }⟩],
                     stopOrder := [⟨2, .shared 0⟩, ⟨7, .plain { duringStart := [.recoverable], running := [.ok] }⟩, ⟨1, .shared 0⟩, ⟨0, .plain {}⟩, ⟨3, .plain { failStart := true }⟩],
                     shared := [{ duringStart := [.recoverable] }] }
    s.events 5 7 = [.starting, .recoverable, .stopping, .stopped] ∧ s.reaches 5 [⟨0, .plain {}⟩, ⟨1, .shared 0⟩] = true ∧ s.startedUp 5 = false := by
  decide +kernel

/-- the statuses `sharedcomponent.Component` reports on its own through the wrapper (regenerated) -/
theorem C11_shared_skeleton :
    StatusGlue.sharedStartPre = [.starting] ∧ StatusGlue.sharedStartErr = [.permanent] ∧
    StatusGlue.sharedStopPre = [.stopping] ∧ StatusGlue.sharedStopErr = [.permanent] ∧ StatusGlue.sharedStopOk = [.stopped] := by decide +kernel

/-- what the watcher is shown for instance `i` in a service run IS the reporter's (atomic model's) output for the glue's reports -/
theorem C11_sys_events_are_reporter_output (cap : Nat) (s : Sys) (i : Inst) :
    ((Reporter.mk []).runAll (s.ops cap)).filterMap (projEv i) = s.events cap i := by
  rw [C11_interleaving]; rfl

/-- instance of `C11_events_doc` (the content is `Sys.ops`): in every service, whatever every component reports and wherever
start-up or shutdown fails, the events of every instance satisfy the property's clauses -/
theorem C11_sys_doc (cap : Nat) (s : Sys) (i : Inst) : DocPath .none (s.events cap i) := C11_events_doc _

/-- `startOnce` / `stopOnce`: under ANY sequence of `Start` (by any instance, with or without a reporting host), `Shutdown` and
report calls, the inner component is started at most once and shut down at most once -/
theorem C11_shared_once (cap : Nat) (sc : Script) (ls : List SCLabel) :
    (SC.fireAll cap { script := sc } ls).1.innerStarts ≤ 1 ∧ (SC.fireAll cap { script := sc } ls).1.innerStops ≤ 1 := by
  obtain ⟨_, h2, h3⟩ := SCInv_fireAll cap _ ls (SCInv_fresh sc)
  constructor
  · rw [h2]; split <;> omega
  · rw [h3]; split <;> omega

/-- every instance whose `Start` was called with a status-reporting host is in the fan-out list from then on -/
theorem C11_shared_attaches_every_instance (cap : Nat) (sc : Script) (ls : List SCLabel) :
    (SC.fireAll cap { script := sc } ls).1.sources = attached ls := by
  rw [SC.fireAll_sources cap _ ls (SCInv_fresh sc)]; simp [SC.sources]

/-- … and every status the component reports after that is handed to that instance's reporter -/
theorem C11_shared_delivers_after_attach (cap : Nat) (sc : Script) (pre post : List SCLabel) (e : St) (i : Inst)
    (hi : i ∈ attached pre) :
    (i, Report.status e) ∈ (SC.fireAll cap { script := sc } (pre ++ SCLabel.report e :: post)).2 := by
  rw [SC.fireAll_append]
  simp only [SC.fireAll, SC.fire_report, C11_shared_attaches_every_instance, List.mem_append]
  exact Or.inr (Or.inl (List.mem_map.mpr ⟨i, hi, rfl⟩))

example : attached [.start 3 true, .report .ok, .start 4 false, .start 5 true, .shutdown] = [3, 5] := by decide +kernel

example : (Sys.events 5 { startOrder := [⟨0, .plain {}⟩, ⟨1, .shared 0⟩, ⟨2, .shared 0⟩, ⟨3, .plain { failStart := true }⟩, ⟨4, .plain {}⟩],
                          stopOrder := [⟨2, .shared 0⟩, ⟨1, .shared 0⟩, ⟨0, .plain {}⟩, ⟨3, .plain { failStart := true }⟩, ⟨4, .plain {}⟩],
                          shared := [{ duringStart := [.recoverable], failStop := true }] } 2,
           Sys.events 5 { startOrder := [⟨0, .plain {}⟩, ⟨1, .shared 0⟩, ⟨2, .shared 0⟩, ⟨3, .plain { failStart := true }⟩, ⟨4, .plain {}⟩],
                          stopOrder := [⟨2, .shared 0⟩, ⟨1, .shared 0⟩, ⟨0, .plain {}⟩, ⟨3, .plain { failStart := true }⟩, ⟨4, .plain {}⟩],
                          shared := [{ duringStart := [.recoverable], failStop := true }] } 4)
    = ([.starting, .recoverable, .stopping, .permanent], []) := by decide +kernel

/-! ## the reporter mutex: one report IS one atomic step (sub-step LTS of `Model/C11Mutex.lean`)

`C11_interleaving` takes a concurrent history to be a sequence of atomic reports.  That is a theorem about the sub-step system;
`useLock` is regenerated from the source (`reporterLocked`, `callbackSync`). -/

/-- regenerated shape facts: both reporter methods hold `r.mu` throughout and the watcher callback runs inside -/
theorem C11_reporter_critical_section : (StatusTable.reporterLocked && StatusTable.callbackSync) = true := by decide +kernel

/-- at EVERY reachable state of the sub-step system:
(1) each goroutine's calls pass `Lock` in its program order; (2) whenever the lock is free the delivered events and every FSM are
exactly those of the atomic model run on the calls in `Lock` order; (3) at all times the delivered events are a prefix of them -/
theorem C11_mutex_atomic (progs : List (List (Inst × Report))) (sched : List Nat) (s : Mutex.MState)
    (h : Mutex.runSched (Mutex.init (StatusTable.reporterLocked && StatusTable.callbackSync) progs) sched = some s) :
    (∀ (t : Nat) (th : Mutex.Thread), s.threads[t]? = some th → ∃ done, progs[t]? = some (done ++ th.todo) ∧
        s.taken t = done ++ (if th.phase = Mutex.Phase.idle then [] else th.todo.take 1)) ∧
    (s.holder = Option.none → s.log = Reporter.runAll {} s.ops ∧ ∀ i, s.rep.cur i = (Mutex.after {} s.ops).cur i) ∧
    (∃ k, s.log = (Reporter.runAll {} s.ops).take k) := by
  rw [C11_reporter_critical_section] at h
  exact Mutex.mutex_atomic progs sched s h

/-- the property's clauses at sub-step granularity: whatever the goroutines report and however they are scheduled, at every
moment what the watchers have been shown for each instance satisfies the documented machine -/
theorem C11_mutex_doc (progs : List (List (Inst × Report))) (sched : List Nat) (s : Mutex.MState) (i : Inst)
    (h : Mutex.runSched (Mutex.init (StatusTable.reporterLocked && StatusTable.callbackSync) progs) sched = some s) :
    DocPath .none (s.log.filterMap (projEv i)) := by
  obtain ⟨_, _, k, hk⟩ := C11_mutex_atomic progs sched s h
  rw [hk, List.prefix_iff_eq_take.mp ((List.take_prefix k _).filterMap (projEv i))]
  exact DocPath_take _ _ _ (C11_interleaving_doc s.ops i)

/-- the lock is what makes it true: without it two goroutines reporting `Starting` for the same instance can both read `None`, and
the watcher is shown `Starting` twice -/
theorem C11_mutex_needed :
    ∃ sched s, Mutex.runSched (Mutex.init false [[(0, Report.status St.starting)], [(0, Report.status St.starting)]]) sched = some s ∧
      ¬ DocPath .none (s.log.filterMap (projEv 0)) := by
  refine ⟨[0, 1, 0, 1, 0, 1, 0, 1], _, rfl, fun hd => ?_⟩
  have := (C11_docPathB_iff _ _).mpr hd
  revert this
  decide +kernel

/-- a goroutine that wants the lock while another one is inside the critical section cannot move -/
example : (Mutex.runSched (Mutex.init true [[(0, .status .starting), (0, .okIfStarting)], [(0, .status .recoverable)]])
    [0, 0, 0, 0, 0, 1, 1, 1, 1, 1, 0, 0, 0, 0, 0]).map (·.log) = some [(0, .starting), (0, .recoverable)] ∧
  (Mutex.runSched (Mutex.init true [[(0, .status .starting)], [(0, .status .recoverable)]]) [0, 0, 1]).isNone = true := by
  constructor <;> decide +kernel

/-! ## the wrapper's lock: `hostWrapper.Report` / `addSource` ARE atomic w.r.t. each other (sub-step LTS of `Model/C11WLock.lean`)

The shared-component models (`Wrapper`, `WrapperE`, `HW`) treat a `Report` (remember + fan-out to every source) and an `addSource`
(replay + append) as one step each.  That is a theorem about the sub-step system. -/

/-- regenerated shape fact: both wrapper methods hold `h.lock` throughout -/
theorem C11_wrapper_critical_section : StatusGlue.wrapperLocked = true := by decide +kernel

/-- at EVERY reachable state, from any initial wrapper:
whenever the lock is free the wrapper (sources, ring) and the sequence of deliveries are exactly what the atomic model yields for the
calls in `Lock` order; at all times the deliveries made so far are a prefix of it -/
theorem C11_wlock_atomic (cap : Nat) (hw0 : HW) (progs : List (List WLock.WCall)) (sched : List Nat) (s : WLock.WState)
    (h : WLock.runSched (WLock.init StatusGlue.wrapperLocked cap hw0 progs) sched = some s) :
    (s.holder = Option.none → (s.hw, s.out) = WLock.applyCalls cap (hw0, []) s.calls) ∧
    (∃ k, s.out = (WLock.applyCalls cap (hw0, []) s.calls).2.take k) := by
  rw [C11_wrapper_critical_section] at h
  exact WLock.wlock_atomic cap hw0 progs sched s h

/-- the lock is what makes it true: without it a late instance can end attached and yet have missed a report for good (neither
replayed nor fanned out), which no sequential order of the two calls allows -/
theorem C11_wlock_needed :
    ∃ sched s, WLock.runSched (WLock.init false 5 { sources := [0] } [[.report .ok], [.attach 1]]) sched = some s ∧
      (∀ th ∈ s.threads, th.todo = []) ∧ s.hw.sources = [0, 1] ∧ s.out = [(0, Report.status .ok)] ∧
      (WLock.applyCalls 5 ({ sources := [0] }, []) [.report .ok, .attach 1]).2 = [(0, .status .ok), (1, .status .ok)] ∧
      (WLock.applyCalls 5 ({ sources := [0] }, []) [.attach 1, .report .ok]).2 = [(0, .status .ok), (1, .status .ok)] := by
  -- `addSource` reads the still empty ring before `Report` remembers the event; `Report` reads the sources before `addSource` appends
  refine ⟨[1, 1, 0, 0, 1, 1, 0, 0, 0], _, rfl, ?_⟩
  decide +kernel

example : (WLock.runSched (WLock.init true 5 { sources := [0] } [[.report .ok], [.attach 1]]) [1, 1, 0]).isNone = true ∧
    ((WLock.runSched (WLock.init true 5 { sources := [0] } [[.report .ok], [.attach 1]]) [1, 1, 1, 1, 0, 0, 0, 0, 0, 0]).map (·.out)) =
      some [(0, .status .ok), (1, .status .ok)] ∧
    ((WLock.runSched (WLock.init true 5 { sources := [0] } [[.report .ok], [.attach 1]]) [0, 0, 0, 0, 0, 1, 1, 1, 1, 1]).map (·.out)) =
      some [(0, .status .ok), (1, .status .ok)] := by
  refine ⟨by decide +kernel, by decide +kernel, by decide +kernel⟩

/-! ## instance ids (`component/componentstatus/instance.go`, tied by the exact `c11-inst` differential) -/

/-- an instance id depends only on the SET of pipelines it was given: the order (`graph.Build` walks a Go map), duplicates and the
grouping into `NewInstanceID` / `WithPipelines` calls are immaterial — one component instance has one id, hence one state machine
and one event stream at the watchers -/
theorem C11_instance_pipelines_canonical (comp kind : Nat) (l1 l2 : List Nat) (h : ∀ x, x ∈ l1 ↔ x ∈ l2) :
    IID.new comp kind l1 = IID.new comp kind l2 := by
  simp only [IID.new, normPipes_canonical l1 l2 h]

theorem C11_instance_with_pipelines (comp kind : Nat) (a b c : List Nat) (h : ∀ x, x ∈ c ↔ x ∈ a ∨ x ∈ b) :
    (IID.new comp kind a).withPipelines b = IID.new comp kind c := by
  simp only [IID.new, IID.withPipelines]
  congr 1
  apply normPipes_canonical
  intro x
  rw [List.mem_append, mem_normPipes, h]

/-- what `AllPipelineIDs` enumerates: exactly the pipelines given, each once, in increasing order -/
theorem C11_instance_enumeration (comp kind : Nat) (l : List Nat) :
    (IID.new comp kind l).pipes.Pairwise (· < ·) ∧ ∀ x, x ∈ (IID.new comp kind l).pipes ↔ x ∈ l :=
  ⟨normPipes_sorted l, fun x => mem_normPipes x l⟩

example : (IID.new 1 2 [5, 3, 5]).withPipelines [3, 9, 0] = IID.new 1 2 [0, 9, 5, 3] := by decide +kernel

end OtelVerif.C11

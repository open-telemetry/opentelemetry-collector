import OtelVerif.Lemmas.C03Direct
/-!
# C03, queue-less exporters: once `Shutdown` has returned no retry is scheduled any more

State theorems over every reachable state / every run of the direct LTS (`Model/C03Direct.lean`), soundness of the trace monitor
`checkDirect`, and the bridge: the trace of EVERY run of the LTS (any number of callers, any interleaving, any backend outcomes,
callers entering before or after the stop) whose flights carry pairwise disjoint item lists is accepted by `checkDirect`.
-/
namespace OtelVerif.C03.Direct

/-- **`Shutdown` is not undone**: along any run `stopped` stays true (a closed `stopCh` stays closed). -/
theorem C03_direct_stopped_stable {s s' : DState} (ls : List DLabel) (hs : s.stopped = true) (hr : drunFrom s ls = some s') :
    s'.stopped = true :=
  run_induction (I := fun s => s.stopped = true) (ok := fun _ => True) (fun _ => rfl) drunFrom_step (fun _ _ _ h _ hf => stopped_step h hf)
    ls s s' hs (fun _ _ => trivial) hr

/-- **No retry after the return.** In every reachable state in which `Shutdown` has returned, an export call can begin only for a
flight that has made NO call yet: it is the first attempt of a `Send` whose caller is inside the helper — never a retry. -/
theorem C03_direct_no_retry_after_return {s : DState} (h : DReachable s) (hs : s.stopped = true) (f : Nat) (s' : DState)
    (hf : dfire s (.expStart f) = some s') :
    ∃ fl, s.flights[f]? = some fl ∧ fl.attempts = 0 ∧ fl.st = .pending := by
  obtain ⟨fl, hu, hc⟩ := dfire_expStart hf
  rcases hc with hp | ⟨_, hn⟩
  · exact ⟨fl, hu.get, pendZero_of_reachable h f fl hu.get hp, hp⟩
  · rw [hs] at hn; cases hn

/-- **A back-off interrupted by the stop ends without a further call.** With `Shutdown` returned, for a flight in `backoff` the
only enabled label is `giveUp` (both flavours: `stopCh` → shutdown error, `ctx.Done` → plain error); it ends the flight (`done`)
with the attempts it had. -/
theorem C03_direct_backoff_ends_kept {s : DState} (hs : s.stopped = true) {f : Nat} {fl : DFlight}
    (hfl : s.flights[f]? = some fl) (hb : fl.st = .backoff) :
    dfire s (.expStart f) = none ∧ (∀ o a, dfire s (.expEnd f o a) = none) ∧
    ∀ k, ∃ s', dfire s (.giveUp f k) = some s' ∧
      s'.flights[f]? = some { fl with st := .done, failures := fl.failures + 0, kept := k } := by
  refine ⟨?_, ?_, ?_⟩
  · simp [dfire, hfl, hb, hs]
  · intro o a; simp [dfire, hfl, hb]
  · intro k
    refine ⟨_, by simp only [dfire, hfl, hb, hs]; simp; rfl, ?_⟩
    simp only [dend]
    exact get_set_self hfl

/-- **Attempts after the return.** Along ANY run from a reachable state in which `Shutdown` has returned, every flight is still
there, carries the same items, and its number of export calls grows by at most one and only from 0: a flight that had made a call
makes no further one, a flight that had made none makes at most its first. -/
theorem C03_direct_attempts_after_return {s s' : DState} (ls : List DLabel) (h : DReachable s) (hs : s.stopped = true)
    (hr : drunFrom s ls = some s') (f : Nat) (fl : DFlight) (hfl : s.flights[f]? = some fl) :
    ∃ fl', s'.flights[f]? = some fl' ∧ fl'.items = fl.items ∧ fl'.attempts ≤ max fl.attempts 1 ∧
      (1 ≤ fl.attempts → fl'.attempts = fl.attempts) := by
  induction ls generalizing s fl with
  | nil =>
    simp [drunFrom] at hr; subst hr
    exact ⟨fl, hfl, rfl, by omega, fun _ => rfl⟩
  | cons l ls ih =>
    simp only [drunFrom] at hr
    cases hf : dfire s l with
    | none => simp [hf] at hr
    | some s1 =>
      simp [hf] at hr
      obtain ⟨fl1, hfl1, hi1, ha1⟩ := att_step (pendZero_of_reachable h) hs hf hfl
      obtain ⟨fl', hfl', hi', hle, heq⟩ := ih (DReachable.step l h hf) (stopped_step hs hf) hr fl1 hfl1
      refine ⟨fl', hfl', hi'.trans hi1, ?_, ?_⟩
      · rcases ha1 with ha1 | ⟨h0, h1⟩
        · rw [ha1] at hle; exact hle
        · have := heq (by omega); omega
      · intro hge
        rcases ha1 with ha1 | ⟨h0, h1⟩
        · rw [← ha1]; exact heq (by omega)
        · omega

/-- **The monitor means what it says**: a trace accepted by `checkDirect` has no late retry — every export call entered after
`Shutdown` returned is the first call of its chain (no earlier call carried its first item). -/
theorem C03_check_direct_sound (t : List Ev) (h : checkDirect t = true) :
    ∀ c items, (c, items) ∈ startsOf (evsAfter isShutRet t) → rootOfCall (startsOf t) (c, items) = c :=
  (checkDirect_iff t).mp h

/-- **Bridge.** The observable trace of EVERY run of the direct LTS from the initial state — any number of callers, any
interleaving, any backend outcomes, `Send`s entering before or after the stop, `Shutdown` at any moment or never — in which the
`Send`s carry pairwise disjoint item lists (item ids unique; empty requests allowed) is accepted by the monitor `checkDirect` that
judges the traces of the real exporter: no export call entered after `Shutdown` returned is a retry. -/
theorem C03_direct_bridge (retry : Bool) (ls : List DLabel) (r : DRec) (hd : (sendsOf ls).Pairwise Disj)
    (hr : (DRec.start retry).run ls = some r) : checkDirect r.tr = true :=
  (checkDirect_iff r.tr).mpr
    (binv_run ls (binv_start retry) hd (fun b _ fl hfl => by simp [DRec.start, dinit] at hfl) hr).good

example : (drunFrom (dinit true) (demoBackoff.take 4)).map (fun s => (s.stopped, s.flights.map (fun fl => (fl.st, fl.attempts)))) =
    some (true, [(.backoff, 1)]) := by decide +kernel
-- … no further call, no end of a call (hypotheses of `C03_direct_backoff_ends_kept` met; its conclusion evaluated) …
example : ((drunFrom (dinit true) (demoBackoff.take 4)).bind (fun s => dfire s (.expStart 0))) = none := by decide +kernel
example : (drunFrom (dinit true) demoBackoff).map (fun s => s.flights.map (fun fl => (fl.st, fl.attempts, fl.failures, fl.kept))) =
    some [(.done, 1, 1, true)] := by decide +kernel
example : ((DRec.start true).run demoBackoff).map (fun r => r.tr) =
    some [.es 0 [1, 2], .ee 0 true, .shutReq, .shutRet] := by decide +kernel

-- hypotheses of `C03_direct_no_retry_after_return` / `C03_direct_attempts_after_return`: a reachable stopped state in which an
-- `expStart` IS enabled (the late `Send`), and a run from it in which a flight goes from 0 to 1 attempt
example : ∃ s s', DReachable s ∧ s.stopped = true ∧ dfire s (.expStart 0) = some s' :=
  ⟨_, _, dreachable_of_drunFrom (demoLate.take 2) (DReachable.init true) rfl, rfl, rfl⟩
example : (drunFrom (dinit true) demoLate).map (fun s => s.flights.map (fun fl => (fl.st, fl.attempts, fl.kept))) =
    some [(.done, 1, true)] := by decide +kernel
example : ((DRec.start true).run demoLate).map (fun r => (r.tr, startsOf (evsAfter isShutRet r.tr), checkDirect r.tr)) =
    some ([.shutReq, .shutRet, .es 0 [7], .ee 0 true], [(0, [7])], true) := by decide +kernel
-- the same with retry disabled (`shutdown` = just "returned"): the failed late call is dropped
example : ((DRec.start false).run [.shutdown, .send [7], .expStart 0, .expEnd 0 .trans .drop]).map (fun r => checkDirect r.tr) =
    some true := by decide +kernel
-- with retry disabled no back-off ever exists; with the retry sender stopped none begins
example : (drunFrom (dinit false) [.send [1], .expStart 0, .expEnd 0 .trans .again]) = none := by decide +kernel
example : (drunFrom (dinit true) [.send [1], .shutdown, .expStart 0, .expEnd 0 .trans .again]) = none := by decide +kernel

example : (sendsOf demoMixed).Pairwise Disj := by simp [sendsOf, demoMixed, Disj]
example : ((DRec.start true).run demoMixed).map (fun r => (startsOf (evsAfter isShutRet r.tr), lateRetries r.tr, checkDirect r.tr)) =
    some ([(1, [3]), (2, [4])], [], true) := by decide +kernel
example : ((DRec.start true).run demoMixed).map (fun r => r.s.flights.map (fun fl => (fl.st, fl.attempts, fl.kept))) =
    some [(.done, 1, true), (.done, 1, true), (.done, 1, false)] := by decide +kernel

-- hand-made BAD traces: a retry after the return is rejected (same items; a sub-list after a partial failure; second of two chains)
example : lateRetries [.es 0 [1], .ee 0 true, .shutReq, .shutRet, .es 1 [1]] = [1] := by decide +kernel
example : checkDirect [.es 0 [1], .ee 0 true, .shutReq, .shutRet, .es 1 [1]] = false := by decide +kernel
example : checkDirect [.es 0 [1, 2], .ee 0 true, .shutReq, .shutRet, .es 1 [2]] = false := by decide +kernel
example : lateRetries [.es 0 [1], .es 1 [5], .ee 0 true, .ee 1 true, .shutReq, .shutRet, .es 2 [9], .es 3 [5], .ee 3 false] = [3] := by
  decide
-- a retry BEFORE the return is none of this monitor's business; an open call at the return neither (callers' goroutines)
example : checkDirect [.es 0 [1], .ee 0 true, .es 1 [1], .shutReq, .shutRet, .ee 1 true] = true := by decide +kernel
-- without the disjointness hypothesis the bridge's conclusion can fail (two `Send`s with the same item id look like a retry):
example : ((DRec.start true).run [.send [1], .expStart 0, .shutdown, .send [1], .expStart 1]).map (fun r => checkDirect r.tr) =
    some false := by decide +kernel

end OtelVerif.C03.Direct

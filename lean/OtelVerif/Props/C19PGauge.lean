import OtelVerif.Lemmas.C19PGauge
import OtelVerif.Props.C19
/-!
# C19, queue-size gauge of the PERSISTENT queue: it never over-reports

`persistent_queue.go` keeps `queueSize` lossily: `Read` resets it to 0 when everything that was written has been dispatched
(`if readIndex == writeIndex { queueSize = 0 }`) and `onDone` clamps the subtraction at 0.  So the equality proved for the memory
queue (`C19_gauge_lts`) is false for it (`C19_gauge_persistent_eq_full_fails`), but the one-sided bound holds on every schedule:

* `QSizeInv (· ≤ ·) (fun _ => True)` — `qsize ≤ Σ sizes of the enqueued requests whose Done has not fired` (either queue kind),
* `C19_gauge_persistent_le`, `C19_gauge_le_any_queue` — the bound in every reachable state,
* `C19_gauge_persistent_zero_when_drained` — what the reset gives: 0 right after the `Read` that empties the queue.

The hypotheses of the memory-queue theorem (unique item ids, non-empty requests) are still needed for `≤`: `reqDone` is decided per
item, so a request made of already-finished items (or an empty one) would add to `qsize` without adding to the outstanding sum.
-/
namespace OtelVerif.C19
open OtelVerif.C03

/-- **Queue-size gauge of the persistent queue never over-reports** (every schedule): what `Size()` returns — and the gauge
observes — is at most the total size of the enqueued requests whose `Done` has not fired (queued, held by a consumer, batched,
waiting for a worker, in flight, in back-off).  Equality is lost at the reset in `Read` and at the clamp in `onDone`
(`C19_gauge_persistent_eq_full_fails`).  Unique item ids, non-empty requests, as for `C19_gauge_lts`. -/
theorem C19_gauge_persistent_le {s : State} (h : Reachable s) (hp : s.cfg.persistent = true) (hu : s.accepted.Nodup)
    (hne : ∀ r ∈ s.reqs, r ≠ []) :
    s.qsize ≤ ((s.reqs.filter (fun r => !reqDone s.flights r)).map (reqSize s.cfg)).sum := by
  have _hkind := hp  -- the invariant itself does not depend on the queue kind; see `C19_gauge_le_any_queue`
  exact pgaugeInv_reachable h trivial hu hne

/-- non-vacuity of `C19_gauge_persistent_le`: a reachable persistent state that meets the hypotheses and where the bound is strict:
`qsize = 1` while two requests (`[1]` held by the consumer, `[2]` queued) are outstanding -/
example :
    (runFrom (init { persistent := true, batching := false, retry := false } 1 0 false) demoPGauge).map
      (fun s => (s.cfg.persistent, decide s.accepted.Nodup, s.reqs.all (fun r => r != []), s.qsize,
        ((s.reqs.filter (fun r => !reqDone s.flights r)).map (reqSize s.cfg)).sum)) = some (true, true, true, 1, 2) := by decide +kernel

example (s : State)
    (hd : runFrom (init { persistent := true, batching := false, retry := false } 1 0 false) demoPGauge = some s)
    (hp : s.cfg.persistent = true) (hu : s.accepted.Nodup) (hne : ∀ r ∈ s.reqs, r ≠ []) :
    s.qsize ≤ ((s.reqs.filter (fun r => !reqDone s.flights r)).map (reqSize s.cfg)).sum :=
  C19_gauge_persistent_le (reachable_of_runFrom demoPGauge (Reachable.init _ _ _ _) hd) hp hu hne

/-- a run where the bound is tight again after a `Done` (items-sized queue: 2 + 3 enqueued, `[1,2]` exported, 3 left) -/
example :
    (runFrom (init { persistent := true, batching := false, retry := false, itemsSized := true } 1 0 false)
        [.offer [1, 2], .offer [3, 4, 5], .read 0, .sendSync 0, .expStart 0, .expEnd 0 .ok .drop]).map
      (fun s => (s.qsize, ((s.reqs.filter (fun r => !reqDone s.flights r)).map (reqSize s.cfg)).sum)) = some (3, 3) := by decide +kernel

/-- the hypotheses cannot be dropped for `≤`: an empty request (`reqDone … [] = true`) and a request re-using finished item ids
both add to `qsize` without adding to the outstanding sum (model-level: 1 > 0 and 1 > 0) -/
example :
    ((runFrom (init { persistent := true, batching := false, retry := false } 1 0 false) [.offer []]).map
      (fun s => (s.qsize, ((s.reqs.filter (fun r => !reqDone s.flights r)).map (reqSize s.cfg)).sum)) = some (1, 0)) ∧
    ((runFrom (init { persistent := true, batching := false, retry := false } 1 0 false)
        [.offer [1], .read 0, .sendSync 0, .expStart 0, .expEnd 0 .ok .drop, .offer [1]]).map
      (fun s => (s.qsize, ((s.reqs.filter (fun r => !reqDone s.flights r)).map (reqSize s.cfg)).sum)) = some (1, 0)) := by decide +kernel

/-- **Either queue kind**: the size the gauge observes never exceeds the total size of the outstanding requests
(memory queue: it is equal, `C19_gauge_lts`; persistent queue: `C19_gauge_persistent_le`). -/
theorem C19_gauge_le_any_queue {s : State} (h : Reachable s) (hu : s.accepted.Nodup) (hne : ∀ r ∈ s.reqs, r ≠ []) :
    s.qsize ≤ ((s.reqs.filter (fun r => !reqDone s.flights r)).map (reqSize s.cfg)).sum :=
  pgaugeInv_reachable h trivial hu hne

example :
    (runFrom (init { persistent := false, batching := false, retry := false } 1 0 false) demoPGauge).map
      (fun s => (s.cfg.persistent, decide s.accepted.Nodup, s.reqs.all (fun r => r != []), s.qsize,
        ((s.reqs.filter (fun r => !reqDone s.flights r)).map (reqSize s.cfg)).sum)) = some (false, true, true, 2, 2) := by decide +kernel

/-- **What the reset gives**: right after a `Read` that empties a persistent queue the reported size is 0, whatever it was before
(`persistent_queue.go` `Read`: `if readIndex == writeIndex { queueSize = 0 }`). -/
theorem C19_gauge_persistent_zero_when_drained {s s' : State} {i : Nat} (hf : fire s (.read i) = some s')
    (hp : s.cfg.persistent = true) (hq : s'.queue = []) : s'.qsize = 0 := by
  have hs := fire_step hf
  cases hs with
  | read i b late rest hc' hq' hg =>
    have hr : rest = [] := hq
    show (if (s.cfg.persistent && rest.isEmpty) = true then 0 else s.qsize) = 0
    simp [hp, hr]

example :
    ((runFrom (init { persistent := true, batching := false, retry := false } 1 0 false) [.offer [1]]).bind
      (fun s => (fire s (.read 0)).map (fun s' => (s.cfg.persistent, s.qsize, s'.queue.isEmpty, s'.qsize)))) =
      some (true, 1, true, 0) := by decide +kernel

/-- a read that does NOT empty the queue leaves the size alone (the hypothesis `s'.queue = []` matters) -/
example :
    ((runFrom (init { persistent := true, batching := false, retry := false } 1 0 false) [.offer [1], .offer [2]]).bind
      (fun s => (fire s (.read 0)).map (fun s' => (s'.queue.isEmpty, s'.qsize)))) = some (false, 2) := by decide +kernel

/-- the full equality fails for the code as it is: after `demoPGaugeReset` the gauge reads 0 while request `[1]` (size 1) is
outstanding -/
theorem C19_gauge_persistent_eq_full_fails : ¬ C19_gauge_persistent_eq_full := by
  intro hfull
  obtain ⟨s, hr, hv⟩ := exists_of_run_map (Reachable.init { persistent := true, batching := false, retry := false } 1 0 false)
    (ls := demoPGaugeReset) (f := fun s => (s.cfg.persistent, s.accepted, s.reqs, s.qsize,
      ((s.reqs.filter (fun r => !reqDone s.flights r)).map (reqSize s.cfg)).sum)) (a := (true, [1], [[1]], 0, 1)) (by decide +kernel)
  simp only [Prod.mk.injEq] at hv
  obtain ⟨h1, h2, h3, h4, h5⟩ := hv
  have := hfull s hr h1 (by rw [h2]; simp) (by rw [h3]; simp)
  omega

end OtelVerif.C19

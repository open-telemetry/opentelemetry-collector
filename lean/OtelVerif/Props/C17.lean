import OtelVerif.Lemmas.C04Perm
import OtelVerif.Lemmas.C17Run
/-!
# C17 — batch processor: conservation, size bound, metadata isolation, timely flush

Vocabulary of the statements: `Label`, `Shard.run`, `arrivedFlat`, `WellTimed`, `LLabel`, `Shard.lrun`, `LateTimed`, `POp`,
`Proc.runOps`, `OpsTagged`, `ArrTagged` in `Lemmas/C17Run`; `BatchLaws`, `flatEmits`, `Cfg.valid`, `Shard.ok`, `Shard.inv` in
`Lemmas/C17Shard`; `Fifo` in `Lemmas/C17Timeout`.  `Model/C17.lean`: the split functions with the split-off resource, scope and metric
keeping schema URL and metadata; `batch_processor.go` as in /repo.
-/
namespace OtelVerif.C17
open OtelVerif.Payload

/-! ## split functions -/

/-- `splitLogs` / `splitTraces`: every record, with its full context (resource, resource schema URL, scope, scope
schema URL), is either in the returned batch or still in the source — for every payload and every size. -/
theorem C17_split_conserve (size : Nat) (src : List Res) (h : size < count src) :
    (flatten (splitLogs size src).1 ++ flatten (splitLogs size src).2).Perm (flatten src) :=
  List.Perm.of_eq (splitLogs_eq size src h)

/-- the returned batch has exactly `size` records -/
theorem C17_split_size (size : Nat) (src : List Res) (h : size < count src) :
    count (splitLogs size src).1 = size := logs_laws.split_size size src h

/-- when the payload is not larger than `size` it is returned whole (the same object) -/
theorem C17_split_whole (size : Nat) (src : List Res) (h : count src ≤ size) : (splitLogs size src).1 = src := by
  simp [splitLogs, h]

/-- `splitMetrics`: every data point keeps resource, scope, both schema URLs and the metric's name, unit,
description, type, temporality, monotonicity and metadata -/
theorem C17_split_conserve_metrics (size : Nat) (src : List MRes) (h : size < mcount src) :
    (mflatten (splitMetrics size src).1 ++ mflatten (splitMetrics size src).2).Perm (mflatten src) :=
  List.Perm.of_eq (splitMetrics_eq size src h)

theorem C17_split_size_metrics (size : Nat) (src : List MRes) (h : size < mcount src) :
    mcount (splitMetrics size src).1 = size := metrics_laws.split_size size src h

/-- non-vacuity: a cut inside one scope: both sides keep both schema URLs -/
example :
    let src : List Res := [⟨⟨1, 2, 0⟩, [⟨⟨3, 0, 0, 4, 0⟩, [⟨10, 0, 1⟩, ⟨11, 0, 1⟩, ⟨12, 0, 1⟩]⟩]⟩]
    2 < count src ∧ splitLogs 2 src =
      ([⟨⟨1, 2, 0⟩, [⟨⟨3, 0, 0, 4, 0⟩, [⟨10, 0, 1⟩, ⟨11, 0, 1⟩]⟩]⟩], [⟨⟨1, 2, 0⟩, [⟨⟨3, 0, 0, 4, 0⟩, [⟨12, 0, 1⟩]⟩]⟩]) := by decide +kernel

/-! ## what `Validate()` gives the theorems -/

/-- what `Validate()` accepting a configuration gives the theorems: the size relation every theorem below takes as its
explicit hypothesis `c.valid`, a non-negative timeout, and case-insensitively distinct metadata keys.  A change that makes
the real `Validate()` accept more (e.g. `0 < max < size`) breaks the differential on `validCfg`, not these theorems. -/
theorem C17_validCfg_sound (r : RawCfg) (h : validCfg r = true) :
    r.toCfg.valid ∧ 0 ≤ r.timeout ∧ nodupB (r.keys.map String.toLower) = true := by
  simp only [validCfg, Bool.and_eq_true, Bool.not_eq_true', Bool.and_eq_false_iff, decide_eq_false_iff_not,
    decide_eq_true_eq] at h
  refine ⟨?_, h.2, h.1.2⟩
  simp only [Cfg.valid, RawCfg.toCfg]
  rcases h.1.1 with h' | h' <;> omega

/-- `size = 10, max = 4` is NOT a valid configuration -/
example : validCfg { sbs := 10, max := 4, timeout := 0, keys := ["tenant"], limit := 0 } = false := by decide +kernel
example : validCfg { sbs := 3, max := 3, timeout := 200001, keys := [], limit := 2 } = true := by decide +kernel
example : validCfg { sbs := 3, max := 0, timeout := -1, keys := [], limit := 0 } = false := by decide +kernel

/-! ## shard loop (`startLoop` / `processItem` / `sendItems`), all label sequences -/

/-- **size trigger**: after any arrival is processed, no shard holds `send_batch_size` items (with a timer), or any
item at all (`timeout = 0` or `send_batch_size = 0`): a batch was emitted before the next arrival is looked at -/
theorem C17_size_trigger {P β : Type} (o : BatchOps P) (flat : P → List β) (hl : BatchLaws o flat) (c : Cfg) (now : Nat)
    (s : Shard P) (p : P) (hs : s.ok o) :
    (hasTimer c = true → (s.process o c now p).1.cnt < max c.sbs 1) ∧ (hasTimer c = false → (s.process o c now p).1.cnt = 0) := by
  rcases idle_cases (process_step hl c now s p hs).inv.2 with h | ⟨ht, h⟩
  · exact ⟨fun _ => h ▸ Nat.lt_of_lt_of_le Nat.zero_lt_one (Nat.le_max_right _ _), fun _ => h⟩
  · exact ⟨fun _ => Nat.lt_of_lt_of_le h (Nat.le_max_left _ _), fun hf => absurd ht (hf ▸ Bool.false_ne_true)⟩

/-- **exactly once**: for every sequence of arrivals and timer firings and every moment of shutdown, what a shard
emitted by the time shutdown returns is exactly (as a multiset, with full context) what it accepted — nothing lost,
duplicated or invented — for every validated configuration (downstream accepting) -/
theorem C17_exactly_once {P β : Type} (o : BatchOps P) (flat : P → List β) (hl : BatchLaws o flat) (c : Cfg) (hv : c.valid)
    (key : Key) (t0 tEnd : Nat) (ls : List (Label P)) :
    let s0 : Shard P := { key := key, data := o.empty, cnt := 0, deadline := t0 }
    let r := Shard.run o c s0 ls
    (flatEmits flat (r.2 ++ (r.1.shutdown o c tEnd).2)).Perm (arrivedFlat flat ls) := by
  intro s0 r
  have hr := run_step hl c hv ls s0 (inv_empty hl c key t0)
  have hs := shutdown_spec hl c hv tEnd r.1 hr.inv
  have h1 : (flatEmits flat r.2 ++ flat r.1.data).Perm (flat o.empty ++ arrivedFlat flat ls) := hr.perm
  rw [hl.empty, List.nil_append] at h1
  rw [flatEmits_append]
  exact (List.Perm.append_left _ hs.1).trans h1

/-- **bound**: with `send_batch_max_size > 0` no emitted batch has more items, over all label sequences incl. shutdown -/
theorem C17_bound {P β : Type} (o : BatchOps P) (flat : P → List β) (hl : BatchLaws o flat) (c : Cfg) (hv : c.valid)
    (hm : c.max > 0) (key : Key) (t0 tEnd : Nat) (ls : List (Label P)) :
    let s0 : Shard P := { key := key, data := o.empty, cnt := 0, deadline := t0 }
    let r := Shard.run o c s0 ls
    ∀ e ∈ r.2 ++ (r.1.shutdown o c tEnd).2, o.count e.p ≤ c.max := by
  intro s0 r e he
  have hr := run_step hl c hv ls s0 (inv_empty hl c key t0)
  rcases List.mem_append.mp he with h | h
  · exact hr.bound hm e h
  · exact (shutdown_spec hl c hv tEnd r.1 hr.inv).2.1 hm e h

/-- **metadata isolation** (shard level): every batch a shard emits carries the shard's own metadata values, which
never change; `Proc.arrive` only ever hands a payload to the shard whose values equal the arrival's
(`C17_arrive_routes`), so items with different values never share a batch -/
theorem C17_metadata_isolation {P β : Type} (o : BatchOps P) (flat : P → List β) (hl : BatchLaws o flat) (c : Cfg) (hv : c.valid)
    (key : Key) (t0 tEnd : Nat) (ls : List (Label P)) :
    let s0 : Shard P := { key := key, data := o.empty, cnt := 0, deadline := t0 }
    let r := Shard.run o c s0 ls
    ∀ e ∈ r.2 ++ (r.1.shutdown o c tEnd).2, e.key = key := by
  intro s0 r e he
  have hr := run_step hl c hv ls s0 (inv_empty hl c key t0)
  rcases List.mem_append.mp he with h | h
  · exact hr.ekey e h
  · exact ((shutdown_spec hl c hv tEnd r.1 hr.inv).2.2 e h).1.trans hr.key

/-- **timeout** (partial): when the timer fires, everything pending leaves in that one batch, stamped with the
deadline, and after any send or firing the next deadline is exactly `timeout` later.  Not carried by this theorem: the
per-item bound across a size-triggered partial send (needs the FIFO order of `split`: theorem `C17_timeout` below), and real
timer latency (virtual time only). -/
theorem C17_timeout_partial {P β : Type} (o : BatchOps P) (flat : P → List β) (hl : BatchLaws o flat) (c : Cfg) (hv : c.valid)
    (s : Shard P) (hi : s.inv o c) :
    (s.tick o c).1.cnt = 0 ∧ (∀ e ∈ (s.tick o c).2, e.t = s.deadline) ∧ (s.tick o c).1.deadline = s.deadline + c.timeout := by
  obtain ⟨_, h0, ht⟩ := tick_step hl c hv s hi
  exact ⟨h0, ht, tick_deadline o c s⟩

/-! ### timeout when the shard goroutine is LATE

`WellTimed` restricts histories to the ideal schedule: a due timer fires exactly at its deadline and no arrival is handled
after a due deadline.  Go's `select` gives no such guarantee (both cases may be ready; the goroutine may be descheduled).
`LateTimed δ` is the explicit LATENCY hypothesis instead: every label is handled at most `δ` after the pending deadline - a
firing at any `now ∈ [deadline, deadline + δ]` (the timer is then re-armed from `now`, as `resetTimer` does), an arrival at any
`now ≤ deadline + δ`.  Under it every item leaves within `timeout + δ` of its arrival; `δ = 0` is `WellTimed`. -/

/-- **timeout under an explicit latency hypothesis** (`LateTimed δ`): over every such history - size-triggered and partial sends, late
firings, arrivals processed while the timer is already due, final shutdown - every item leaves at most `timeout + δ` after it
arrived.  No hypothesis on the ORDER in which `select` takes two ready cases is needed. -/
theorem C17_timeout_late {P β : Type} (o : BatchOps P) (flat : P → List β) (hl : BatchLaws o flat) (hf : Fifo o flat) (c : Cfg)
    (hv : c.valid) (arr : β → Nat) (key : Key) (T0 tEnd δ : Nat) (ls : List (LLabel P))
    (hw : LateTimed o c flat arr tEnd δ T0 { key := key, data := o.empty, cnt := 0, deadline := T0 + c.timeout } ls) :
    let s0 : Shard P := { key := key, data := o.empty, cnt := 0, deadline := T0 + c.timeout }
    ∀ e ∈ (Shard.lrun o c s0 ls).2 ++ ((Shard.lrun o c s0 ls).1.shutdown o c tEnd).2, ∀ x ∈ flat e.p,
      e.t ≤ arr x + c.timeout + δ := by
  intro s0
  exact timeout_run_late o flat hl hf c hv arr tEnd δ ls s0 T0 (inv_empty hl c key _)
    (fun _ => ⟨fun x hx => absurd hx (not_mem_flat_empty hl x), Nat.le_refl _⟩) hw

/-- non-vacuity of `LateTimed`: timeout 100, δ = 30.  3 records at t=7 (size 5: they wait); the timer, due at 100, is handled
at t=125 - AFTER an arrival at t=110 that was taken first although the timer was already due; both leave at 125 (≤ 7+100+30),
the timer is re-armed to 225; one more record at t=230 leaves at shutdown t=240 -/
example :
    LateTimed logsBatch { sbs := 5, max := 0, timeout := 100 } flatten
      (fun x => if x.2.2.id < 20 then 7 else if x.2.2.id < 30 then 110 else 230) 240 30 0
      { key := [], data := [], cnt := 0, deadline := 100 }
      [.arrive 7 [⟨⟨1, 0, 0⟩, [⟨⟨2, 0, 0, 0, 0⟩, [⟨10, 0, 1⟩, ⟨11, 0, 1⟩, ⟨12, 0, 1⟩]⟩]⟩],
       .arrive 110 [⟨⟨1, 0, 0⟩, [⟨⟨2, 0, 0, 0, 0⟩, [⟨20, 0, 1⟩]⟩]⟩], .tickAt 125,
       .arrive 230 [⟨⟨1, 0, 0⟩, [⟨⟨2, 0, 0, 0, 0⟩, [⟨30, 0, 1⟩]⟩]⟩]] ∧
    ((Shard.lrun logsBatch { sbs := 5, max := 0, timeout := 100 } { key := [], data := [], cnt := 0, deadline := 100 }
      [.arrive 7 [⟨⟨1, 0, 0⟩, [⟨⟨2, 0, 0, 0, 0⟩, [⟨10, 0, 1⟩, ⟨11, 0, 1⟩, ⟨12, 0, 1⟩]⟩]⟩],
       .arrive 110 [⟨⟨1, 0, 0⟩, [⟨⟨2, 0, 0, 0, 0⟩, [⟨20, 0, 1⟩]⟩]⟩], .tickAt 125]).2.map
      (fun e => (e.t, (flatten e.p).map (·.2.2.id)))) = [(125, [10, 11, 12, 20])] := by
  refine ⟨?_, by decide +kernel⟩
  simp only [LateTimed]
  decide +kernel

/-! ### the full timeout clause: per-item deadline, in virtual time -/

/-- **timeout** (full, virtual time): over every well-timed history of arrivals, size-triggered (also partial) sends, timer
firings and the final shutdown, every item leaves no later than `timeout` after it arrived — for every validated
configuration; without a timer (`timeout = 0` or `send_batch_size = 0`) it leaves at its arrival time -/
theorem C17_timeout {P β : Type} (o : BatchOps P) (flat : P → List β) (hl : BatchLaws o flat) (hf : Fifo o flat) (c : Cfg)
    (hv : c.valid) (arr : β → Nat) (key : Key) (T0 tEnd : Nat) (ls : List (Label P))
    (hw : WellTimed o c flat arr tEnd T0 { key := key, data := o.empty, cnt := 0, deadline := T0 + c.timeout } ls) :
    let s0 : Shard P := { key := key, data := o.empty, cnt := 0, deadline := T0 + c.timeout }
    ∀ e ∈ (Shard.run o c s0 ls).2 ++ ((Shard.run o c s0 ls).1.shutdown o c tEnd).2, ∀ x ∈ flat e.p, e.t ≤ arr x + c.timeout := by
  intro s0
  have h := timeout_run_late o flat hl hf c hv arr tEnd 0 (toLate o c s0 ls) s0 T0 (inv_empty hl c key _)
    (fun _ => ⟨fun x hx => absurd hx (not_mem_flat_empty hl x), Nat.le_refl _⟩) (lateTimed_toLate o c flat arr tEnd ls s0 T0 hw)
  rw [lrun_toLate] at h
  exact h

/-- the instances for the three signals (traces use the logs model: same code up to renaming) -/
theorem C17_timeout_logs (c : Cfg) (hv : c.valid) (arr : Ctx → Nat) (key : Key) (T0 tEnd : Nat) (ls : List (Label (List Res)))
    (hw : WellTimed logsBatch c flatten arr tEnd T0 { key := key, data := [], cnt := 0, deadline := T0 + c.timeout } ls) :
    ∀ e ∈ (Shard.run logsBatch c { key := key, data := [], cnt := 0, deadline := T0 + c.timeout } ls).2 ++
        ((Shard.run logsBatch c { key := key, data := [], cnt := 0, deadline := T0 + c.timeout } ls).1.shutdown logsBatch c tEnd).2,
      ∀ x ∈ flatten e.p, e.t ≤ arr x + c.timeout :=
  C17_timeout logsBatch flatten logs_laws logs_fifo c hv arr key T0 tEnd ls hw

theorem C17_timeout_metrics (c : Cfg) (hv : c.valid) (arr : MCtx → Nat) (key : Key) (T0 tEnd : Nat) (ls : List (Label (List MRes)))
    (hw : WellTimed metricsBatch c mflatten arr tEnd T0 { key := key, data := [], cnt := 0, deadline := T0 + c.timeout } ls) :
    ∀ e ∈ (Shard.run metricsBatch c { key := key, data := [], cnt := 0, deadline := T0 + c.timeout } ls).2 ++
        ((Shard.run metricsBatch c { key := key, data := [], cnt := 0, deadline := T0 + c.timeout } ls).1.shutdown metricsBatch c tEnd).2,
      ∀ x ∈ mflatten e.p, e.t ≤ arr x + c.timeout :=
  C17_timeout metricsBatch mflatten metrics_laws metrics_fifo c hv arr key T0 tEnd ls hw

/-- non-vacuity of `WellTimed`: 5 records at t=7 (two batches at once, one record waits), timer at t=100, 2 records at
t=150, shutdown at t=180 — every record leaves within 100 of its arrival -/
example :
    WellTimed logsBatch { sbs := 2, max := 2, timeout := 100 } flatten (fun x => if x.2.2.id < 20 then 7 else 150) 180 0
      { key := [], data := [], cnt := 0, deadline := 100 }
      [.arrive 7 [⟨⟨1, 0, 0⟩, [⟨⟨2, 0, 0, 0, 0⟩, [⟨10, 0, 1⟩, ⟨11, 0, 1⟩, ⟨12, 0, 1⟩, ⟨13, 0, 1⟩, ⟨14, 0, 1⟩]⟩]⟩], .tick,
       .arrive 150 [⟨⟨1, 0, 0⟩, [⟨⟨2, 0, 0, 0, 0⟩, [⟨20, 0, 1⟩]⟩]⟩]] := by
  simp only [WellTimed]
  decide +kernel

/-- non-vacuity: 5 records, send_batch_size 2, max 2: two batches at once, one record waits for the timer -/
example :
    let c : Cfg := { sbs := 2, max := 2, timeout := 100 }
    let s0 : Shard (List Res) := { key := [], data := [], cnt := 0, deadline := 100 }
    let p : List Res := [⟨⟨1, 0, 0⟩, [⟨⟨2, 0, 0, 0, 0⟩, [⟨10, 0, 1⟩, ⟨11, 0, 1⟩, ⟨12, 0, 1⟩, ⟨13, 0, 1⟩, ⟨14, 0, 1⟩]⟩]⟩]
    let r := Shard.run logsBatch c s0 [.arrive 7 p, .tick]
    r.2.map (fun e => (e.t, (flatten e.p).map (·.2.2.id))) = [(7, [10, 11]), (7, [12, 13]), (107, [14])] := by decide +kernel

/-! ## the whole processor: sharder + all shards, every sequence of operations -/

/-- the sharder hands the payload to a shard with exactly the arrival's metadata values -/
theorem C17_arrive_routes {P : Type} (o : BatchOps P) (c : Cfg) (pr : Proc P) (key : Key) (p : P)
    (pr' : Proc P) (es : List (Emit P)) (h : pr.arrive o c key p = some (pr', es))
    {β : Type} (flat : P → List β) (hl : BatchLaws o flat) (hok : ∀ s ∈ pr.shards, s.ok o) :
    ∀ e ∈ es, e.key = key := by
  obtain ⟨s, _, hk, _, _, _, _, rfl⟩ := arrive_cases o c pr pr' key p es h
  exact fun e he => ((process_stamp o c pr.now s p e he).1).trans hk

/-- **cardinality**: an arrival is refused exactly when its group is new and the number of groups has reached the
limit; a refusal changes nothing (`arrive` returns no new state), so existing groups are unaffected -/
theorem C17_cardinality {P : Type} (o : BatchOps P) (c : Cfg) (pr : Proc P) (key : Key) (p : P) :
    pr.arrive o c key p = none ↔
      (pr.shards.find? (fun s => s.key = key) = none ∧ c.limit ≠ 0 ∧ pr.shards.length ≥ c.limit) := by
  simp only [Proc.arrive]
  split
  · next s hf => simp [hf] -- found: never refused
  · next hf => -- not found: refused iff the guard
    by_cases h : (c.limit != 0 && decide (pr.shards.length ≥ c.limit)) = true
    · simp only [h, if_true, true_iff]
      simp only [Bool.and_eq_true, bne_iff_ne, decide_eq_true_eq] at h
      exact ⟨hf, h.1, h.2⟩
    · simp only [h, Bool.false_eq_true, if_false]
      simp only [Bool.and_eq_true, bne_iff_ne, decide_eq_true_eq] at h
      constructor
      · intro h'; cases h'
      · intro h'; exact absurd ⟨h'.2.1, h'.2.2⟩ h

/-- **the whole processor, exactly once and bounded**: for every validated configuration (any number of metadata keys, any
cardinality limit), every sequence of `Consume` calls with arbitrary metadata groups and of time steps (all due timers
fire), and shutdown at the end: what was emitted downstream by the time shutdown returns is exactly — as a multiset with
full context — what was ACCEPTED (refused arrivals excluded); and no batch exceeds `send_batch_max_size` -/
theorem C17_proc_exactly_once {P β : Type} (o : BatchOps P) (flat : P → List β) (hl : BatchLaws o flat) (c : Cfg) (hv : c.valid)
    (ops : List (POp P)) :
    let r := Proc.runOps o c flat (Proc.init o c) ops
    let sh := r.1.shutdown o c
    (flatEmits flat (r.2.1 ++ sh.2)).Perm r.2.2 ∧ (c.max > 0 → ∀ e ∈ r.2.1 ++ sh.2, o.count e.p ≤ c.max) := by
  intro r sh
  obtain ⟨hp0, hd0⟩ := pinv_init (flat := flat) hl c
  obtain ⟨hp, h1, hb⟩ := runOps_spec hl c hv ops (Proc.init o c) hp0
  obtain ⟨hs, hsb⟩ := shutdown_proc hl c hv r.1 hp
  refine ⟨?_, fun hm e he => (List.mem_append.mp he).elim (hb hm e) (hsb hm e)⟩
  rw [hd0, List.nil_append] at h1
  rw [flatEmits_append]
  exact (List.Perm.append_left _ hs).trans h1

/-! ### metadata isolation for the whole processor -/

/-- **metadata isolation, whole processor**: for every sequence of `Consume` calls (each with its own client-metadata
group, any number of groups, any cardinality limit) and time steps, and the final shutdown: every item of every batch
sent downstream arrived with exactly the metadata group the batch is sent with — items with different values of the
configured keys never share a batch, and each batch's export metadata is its group's -/
theorem C17_proc_metadata_isolation {P β : Type} (o : BatchOps P) (flat : P → List β) (hl : BatchLaws o flat) (c : Cfg)
    (hv : c.valid) (akey : β → Key) (ops : List (POp P)) (ht : OpsTagged flat akey ops) :
    let r := Proc.runOps o c flat (Proc.init o c) ops
    ∀ e ∈ r.2.1 ++ (r.1.shutdown o c).2, ∀ x ∈ flat e.p, akey x = e.key := by
  intro r e he x hx
  obtain ⟨hp, hk, hi⟩ := runOps_isolated hl c hv akey ops (Proc.init o c) (pinv_init (flat := flat) hl c).1
    (init_forall o c _ fun y hy => absurd hy (not_mem_flat_empty hl y)) ht
  rcases List.mem_append.mp he with h | h
  · exact hi e h x hx
  · obtain ⟨s, hs, hes⟩ := mem_shutdown h
    obtain ⟨sp, _, sk⟩ := shutdown_spec hl c hv r.1.now s (hp.1 s hs)
    rw [(sk e hes).1]
    exact hk s hs x (sp.subset (mem_flatEmits hes hx))

/-! ### the timeout clause for the whole processor -/

/-- **timeout, whole processor** (virtual time, configuration with a timer): for every validated configuration, every
sequence of `Consume` calls with arbitrary metadata groups and of time steps, and the final shutdown: every item of every batch sent
downstream leaves no later than `timeout` after the processor's clock at its arrival -/
theorem C17_proc_timeout {P β : Type} (o : BatchOps P) (flat : P → List β) (hl : BatchLaws o flat) (hf : Fifo o flat) (c : Cfg)
    (hv : c.valid) (ht : hasTimer c = true) (arr : β → Nat) (ops : List (POp P))
    (htag : ArrTagged o c flat arr (Proc.init o c) ops) :
    let r := Proc.runOps o c flat (Proc.init o c) ops
    ∀ e ∈ r.2.1 ++ (r.1.shutdown o c).2, ∀ x ∈ flat e.p, e.t ≤ arr x + c.timeout := by
  intro r e he x hx
  obtain ⟨hp, hti, hi⟩ := runOps_timed hl hf c hv ht arr ops (Proc.init o c) (pinv_init (flat := flat) hl c).1
    (init_forall o c _ ⟨fun y hy => absurd hy (not_mem_flat_empty hl y), Nat.le_of_eq (Nat.zero_add _).symm, Nat.zero_le _⟩) htag
  rcases List.mem_append.mp he with h | h
  · exact hi e h x hx
  · obtain ⟨s, hs, hes⟩ := mem_shutdown h
    obtain ⟨sp, _, sk⟩ := shutdown_spec hl c hv r.1.now s (hp.1 s hs)
    rw [(sk e hes).2]
    exact Nat.le_trans (hti s hs).lo_le ((hti s hs).items x (sp.subset (mem_flatEmits hes hx)))

/-! ### non-vacuity of the whole-processor theorems: an evaluated multi-shard run -/

/-- executable form of `ArrTagged` -/
def arrTaggedB {P β : Type} (o : BatchOps P) (c : Cfg) (flat : P → List β) (arr : β → Nat) : Proc P → List (POp P) → Bool
  | _, [] => true
  | pr, .arrive key p :: ops =>
    (flat p).all (fun x => arr x == pr.now) &&
      (match pr.arrive o c key p with
       | some (pr', _) => arrTaggedB o c flat arr pr' ops
       | none => arrTaggedB o c flat arr pr ops)
  | pr, .advance dt :: ops => arrTaggedB o c flat arr (pr.advance o c dt).1 ops

theorem arrTaggedB_sound {P β : Type} (o : BatchOps P) (c : Cfg) (flat : P → List β) (arr : β → Nat) :
    ∀ (ops : List (POp P)) (pr : Proc P), arrTaggedB o c flat arr pr ops = true → ArrTagged o c flat arr pr ops := by
  intro ops
  induction ops with
  | nil => intro _ _; trivial
  | cons op ops ih =>
    intro pr h
    cases op with
    | arrive key p =>
      simp only [arrTaggedB, Bool.and_eq_true, List.all_eq_true, beq_iff_eq] at h
      simp only [ArrTagged]
      refine ⟨h.1, ?_⟩
      cases ha : pr.arrive o c key p with
      | none => rw [ha] at h; exact ih pr h.2
      | some x => obtain ⟨pr', es⟩ := x; rw [ha] at h; exact ih pr' h.2
    | advance dt =>
      simp only [arrTaggedB] at h
      exact ih _ h

def exCfg : Cfg := { sbs := 2, max := 2, timeout := 100, nkeys := 1, limit := 2 }
def exP (ids : List Nat) : List Res := [⟨⟨1, 0, 0⟩, [⟨⟨2, 0, 0, 0, 0⟩, ids.map (fun i => ⟨i, 0, 1⟩)⟩]⟩]
/-- two groups, a third one refused at the cardinality limit, a time step that fires both timers, a late arrival -/
def exOps : List (POp (List Res)) :=
  [.arrive [[1]] (exP [10, 11, 12]), .arrive [[2]] (exP [20]), .arrive [[3]] (exP [30]), .advance 150, .arrive [[1]] (exP [13])]

/-- the run: group 1 sends [10,11] at once, both timers fire at t=100 ([12] and [20]), request 30 is refused (not accepted,
not emitted), [13] leaves at shutdown (t=150) -/
example :
    ((Proc.runOps logsBatch exCfg flatten (Proc.init logsBatch exCfg) exOps).2.1 ++
      ((Proc.runOps logsBatch exCfg flatten (Proc.init logsBatch exCfg) exOps).1.shutdown logsBatch exCfg).2).map
      (fun e => (e.t, e.key, (flatten e.p).map (·.2.2.id))) =
      [(0, [[1]], [10, 11]), (100, [[1]], [12]), (100, [[2]], [20]), (150, [[1]], [13])] ∧
    (Proc.runOps logsBatch exCfg flatten (Proc.init logsBatch exCfg) exOps).2.2.map (·.2.2.id) = [10, 11, 12, 20, 13] := by decide +kernel

/-- the hypotheses of `C17_proc_metadata_isolation` and `C17_proc_timeout` hold for this run -/
example : OpsTagged flatten (fun x => [[x.2.2.id / 10]]) exOps ∧ exCfg.valid ∧ hasTimer exCfg = true := by
  refine ⟨?_, Or.inr (by decide), by decide⟩
  simp only [exOps, OpsTagged]
  decide +kernel

example : ArrTagged logsBatch exCfg flatten (fun x => if x.2.2.id = 13 then 150 else 0) (Proc.init logsBatch exCfg) exOps :=
  arrTaggedB_sound _ _ _ _ _ _ (by decide +kernel)

/-! ## the metadata group of an arrival: `newBatchProcessor`, `client.NewMetadata`, `Metadata.Get`, `consume` -/

/-- **the shard map key is injective on the configured keys' values**: two arrivals are looked up under the same
`attribute.Set` iff they have the same group in the model, iff for EVERY configured key `Metadata.Get` returns the same value
list for both - `String` (exactly one value) and `StringSlice` (none or several) cannot collide, so `["a"]` ≠ `[]`, a single
value `x` ≠ the list `[x, y]`, and absent = empty list ≠ `[""]` -/
theorem C17_group_key_injective (keys : List String) (m1 m2 : Md) :
    (attrSet keys m1 = attrSet keys m2 ↔ keyOf keys m1 = keyOf keys m2) ∧
    (keyOf keys m1 = keyOf keys m2 ↔ ∀ k ∈ keys, mdGet m1 k = mdGet m2 k) := by
  constructor
  · induction keys with
    | nil => simp [attrSet, keyOf]
    | cons k ks ih =>
      simp only [attrSet, keyOf, List.map_cons, List.cons.injEq, Prod.mk.injEq, true_and] at ih ⊢
      constructor
      · intro ⟨h1, h2⟩; exact ⟨attrOf_injective _ _ h1, ih.mp h2⟩
      · intro ⟨h1, h2⟩; exact ⟨by rw [h1], ih.mpr h2⟩
  · induction keys with
    | nil => simp [keyOf]
    | cons k ks ih =>
      simp only [keyOf, List.map_cons, List.cons.injEq, List.mem_cons, forall_eq_or_imp] at ih ⊢
      exact and_congr Iff.rfl ih

/-- **items arriving with different values of the configured client-metadata keys are never placed in the same batch, and
every batch is sent with exactly its group's values** — whole processor, every operation sequence + shutdown, in terms of the
RAW inputs: `rawKeys` = `metadata_keys` as written in the configuration, `amd x` = the client metadata (header names in any
case) of the `Consume` call item `x` arrived with; every `arrive` label carries the group `groupOf rawKeys md` the glue code
computes (`OpsTagged`).  For every batch sent downstream and any two of its items, `Metadata.Get` agrees on every configured
key, and the batch's export metadata is that common value list for every key. -/
theorem C17_different_metadata_never_share_batch {P β : Type} (o : BatchOps P) (flat : P → List β) (hl : BatchLaws o flat)
    (c : Cfg) (hv : c.valid) (rawKeys : List String) (amd : β → Md) (ops : List (POp P))
    (ht : OpsTagged flat (fun x => groupOf rawKeys (amd x)) ops) :
    let r := Proc.runOps o c flat (Proc.init o c) ops
    ∀ e ∈ r.2.1 ++ (r.1.shutdown o c).2, ∀ x ∈ flat e.p,
      e.key = (configuredKeys rawKeys).map (mdGet (newMetadata (amd x))) ∧
      ∀ y ∈ flat e.p, ∀ k ∈ configuredKeys rawKeys, mdGet (newMetadata (amd x)) k = mdGet (newMetadata (amd y)) k := by
  intro r e he x hx
  have hiso := C17_proc_metadata_isolation o flat hl c hv (fun x => groupOf rawKeys (amd x)) ops ht
  have hxk := hiso e he x hx
  refine ⟨hxk.symm, ?_⟩
  intro y hy
  have hyk := hiso e he y hy
  have : keyOf (configuredKeys rawKeys) (newMetadata (amd x)) = keyOf (configuredKeys rawKeys) (newMetadata (amd y)) := by
    simpa [groupOf] using hxk.trans hyk.symm
  exact ((C17_group_key_injective _ _ _).2.mp this)

/-- non-vacuity / evaluated corners of the group computation: configured `["ZONE", "Tenant"]` is used as `["tenant", "zone"]`;
header names are matched case-insensitively; absent = empty list; one empty string is a value; `[7]` vs `[7, 8]` vs `[8, 7]`
are three groups; another header is ignored -/
example :
    configuredKeys ["ZONE", "Tenant"] = ["tenant", "zone"] ∧
    groupOf ["ZONE", "Tenant"] [("TENANT", [7]), ("x-other", [9])] = [[7], []] ∧
    groupOf ["ZONE", "Tenant"] [("tenant", [7]), ("Zone", [])] = [[7], []] ∧
    groupOf ["Tenant"] [("Tenant", [0])] ≠ groupOf ["Tenant"] [] ∧
    attrSet ["tenant"] (newMetadata [("Tenant", [7])]) ≠ attrSet ["tenant"] (newMetadata [("Tenant", [7, 8])]) ∧
    attrSet ["tenant"] (newMetadata [("Tenant", [8, 7])]) ≠ attrSet ["tenant"] (newMetadata [("Tenant", [7, 8])]) := by decide +kernel

/-! ## `Validate` and the default configuration from regenerated data -/

open OtelVerif.C04.Config in
/-- tie obligation over `Gen/C17Config.lean`: the hand-written `validCfg` (the hypothesis source of every processor theorem)
decides exactly like the REGENERATED `Validate` (straight-line checks as data + the metadata_keys loop flag), for every raw
configuration; and the rules read only fields the environment answers for. -/
theorem C17_validCfg_matches_source (r : RawCfg) :
    rulesKnown cfgEnvFields OtelVerif.Gen.C17Config.validateRules = true ∧ validCfgGen r = validCfg r := by
  refine ⟨by decide +kernel, ?_⟩
  simp only [validCfgGen, validCfg, runRules_validate, OtelVerif.Gen.C17Config.validateHasKeyLoop]
  cases !(decide (r.max > 0) && decide (r.max < r.sbs)) <;> cases decide (r.timeout ≥ 0) <;>
    cases nodupB (r.keys.map String.toLower) <;> rfl

/-- the default configuration (`createDefaultConfig()`, regenerated struct literal with the package constants resolved) is
accepted by validation, hence meets the hypothesis `Cfg.valid` of every processor theorem -/
theorem C17_default_config_valid : validCfg defaultRawCfg = true ∧ (defaultRawCfg.toCfg).valid :=
  have h : validCfg defaultRawCfg = true := by decide +kernel
  ⟨h, (C17_validCfg_sound defaultRawCfg h).1⟩

/-- **the `exactly_once` search oracle decides the clause exactly**: the driver judges the implementation's accept / emit log with
`permB emitted accepted` over (item id, full context) pairs; it is `true` iff everything emitted by shutdown return is a
permutation of everything accepted - no false `ok`, no false alarm -/
theorem C17_oracle_exactly_once_iff {β : Type} [DecidableEq β] (emitted accepted : List β) :
    permB emitted accepted = true ↔ emitted.Perm accepted :=
  permB_iff emitted accepted

end OtelVerif.C17

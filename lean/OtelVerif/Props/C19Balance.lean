import OtelVerif.Lemmas.C19Balance
import OtelVerif.Props.C19
/-!
# C19, exporter clause: the `_partial` balance theorems turned into characterisations, and their state hypotheses
discharged from hypotheses on the static configuration

`Props/C19.lean` proves the persistent-queue balance, the `wait_for_result` balance and the three-counter clause only under
hypotheses on the FINAL STATE (`keptOf s = 0`, `enqFailedWfrOf s = 0`, `failedOf s = 0`).  Here:

* without `retry_on_failure` no flight is ever in back-off and none ever ends with a shutdown error (`C03.FlGood`, second clause), so
  `keptOf s = 0` in every reachable state (`C19_kept_zero_without_retry`);
* the balance holds in full for every retry-less configuration (`C19_exporter_balance_no_retry`), and the clause as written
  holds for every configuration without retry and without `wait_for_result` (`C19_exporter_three_counter_cfg`);
* the hypotheses of the `_partial` theorems are necessary and sufficient (`…_iff`);
* a flight that ended with a shutdown error did not end with a successful call (`C03.FlGood`, third clause); hence every
  double-counted item is a send-failed item (`C19_kept_counted_failed`) and the over-count is bounded by *send-failed*
  (`C19_exporter_overcount_bound`).
-/
namespace OtelVerif.C19
open OtelVerif.C03

/-! ## persistent-queue balance -/

/-- **No retry ⇒ nothing kept.** In every reachable state of every configuration with `retry_on_failure` disabled, no flight has
ended with a shutdown error: the double count of `C19_exporter_double_count` cannot occur. -/
theorem C19_kept_zero_without_retry {s : State} (h : Reachable s) (hr : s.cfg.retry = false) : keptOf s = 0 := by
  have hnil : s.flights.filter (fun fl => fl.st == .done && fl.kept) = [] := by
    apply List.filter_eq_nil_iff.mpr
    intro fl hfl
    simp [(((good_reachable h).flights fl hfl).2.1 hr).1]
  simp [keptOf, hnil]

/-- **The persistent clause in full for every retry-less configuration**: hypotheses on the configuration only. -/
theorem C19_exporter_balance_no_retry {s : State} (h : Reachable s) (hp : s.phase = 5) (hr : s.cfg.retry = false) :
    sentOf s + failedOf s + storedOf s = s.accepted.length :=
  C19_exporter_balance_partial h hp (C19_kept_zero_without_retry h hr)

/-- **Characterisation**: the hypothesis of `C19_exporter_balance_partial` is necessary and sufficient. -/
theorem C19_exporter_balance_iff {s : State} (h : Reachable s) (hp : s.phase = 5) :
    sentOf s + failedOf s + storedOf s = s.accepted.length ↔ keptOf s = 0 := by
  have := C19_exporter_double_count h hp
  constructor <;> intro _ <;> omega

/-- **Characterisation, `wait_for_result`**: the balance holds exactly when no request's `Done` received an error. -/
theorem C19_exporter_wfr_balance_iff {s : State} (h : Reachable s) (hp : s.phase = 5) :
    sentOf s + failedOf s + enqFailedWfrOf s + (queueItems s.queue).length = s.accepted.length ↔ enqFailedWfrOf s = 0 := by
  have := C19_exporter_wfr_double_count h hp
  constructor <;> intro _ <;> omega

/-! ## the clause as written, from the configuration alone -/

/-- without `wait_for_result` an `Offer` never returns the export error: nothing is added to enqueue-failed on that path -/
theorem C19_wfr_zero_without_wfr {s : State} (hw : s.cfg.wfr = false) : enqFailedWfrOf s = 0 := by
  simp [enqFailedWfrOf, hw]

/-- **The clause as written, additive form**, for every schedule and refusal pattern of every configuration without
`wait_for_result` and without retry: sent + send-failed + enqueue-failed + stored = given. -/
theorem C19_exporter_three_counter_cfg {x : XState} (h : XReachable x) (hp : x.s.phase = 5) (hw : x.s.cfg.wfr = false)
    (hr : x.s.cfg.retry = false) (hn : x.s.cons ≠ []) :
    sentOf x.s + failedOf x.s + enqFailedOf x + (if x.s.cfg.persistent then storedOf x.s else 0) = x.given := by
  have hwz := C19_wfr_zero_without_wfr hw
  cases hpq : x.s.cfg.persistent with
  | true =>
    have h3 := C19_exporter_three_counter h hp
    have hk := C19_kept_zero_without_retry (xreachable_inv h).1 hr
    simp only [if_true, storedOf]; omega
  | false =>
    have := C19_exporter_three_counter_memory h hp hpq hn hwz
    simp only [Bool.false_eq_true, if_false]; omega

/-! ## three-counter characterisations -/

/-- persistent queue: the clause as written holds exactly when neither recorded deviation occurred -/
theorem C19_exporter_three_counter_iff_persistent {x : XState} (h : XReachable x) (hp : x.s.phase = 5)
    (hpq : x.s.cfg.persistent = true) :
    sentOf x.s + failedOf x.s + enqFailedOf x + storedOf x.s = x.given ↔ (enqFailedWfrOf x.s = 0 ∧ keptOf x.s = 0) := by
  have _ := hpq  -- not needed: the equivalence does not depend on the queue kind
  have h3 := C19_exporter_three_counter h hp
  simp only [storedOf]
  constructor
  · intro _; constructor <;> omega
  · intro ⟨_, _⟩; omega

/-- memory queue: the clause as written holds exactly when no `wait_for_result` request saw an export error -/
theorem C19_exporter_three_counter_iff_memory {x : XState} (h : XReachable x) (hp : x.s.phase = 5)
    (hm : x.s.cfg.persistent = false) (hn : x.s.cons ≠ []) :
    sentOf x.s + failedOf x.s + enqFailedOf x = x.given ↔ enqFailedWfrOf x.s = 0 := by
  obtain ⟨hr, hg⟩ := xreachable_inv h
  have := C19_exporter_balance_memory_full_holds x.s hr hp hm hn
  simp only [enqFailedOf]
  constructor <;> intro _ <;> omega

/-! ## the deviation is bounded by what was counted send-failed -/

/-- **Every double-counted item is a send-failed item**: the items of the flights that ended with a shutdown error are among the
items counted send-failed (any reachable state, any configuration). -/
theorem C19_kept_counted_failed {s : State} (h : Reachable s) : keptOf s ≤ failedOf s := by
  simp only [keptOf, failedOf]
  apply sum_filter_le
  intro fl hfl hp
  simp only [Bool.and_eq_true, beq_iff_eq] at hp
  have hne := ((good_reachable h).flights fl hfl).2.2 hp.1 hp.2
  simp [hp.1, Flight.finalOk, hne]

/-- **Bound on the deviation**: when shutdown has returned, sent + send-failed + stored never under-counts what was accepted, and
over-counts it by at most *send-failed*. -/
theorem C19_exporter_overcount_bound {s : State} (h : Reachable s) (hp : s.phase = 5) :
    s.accepted.length ≤ sentOf s + failedOf s + storedOf s ∧ sentOf s + failedOf s + storedOf s ≤ s.accepted.length + failedOf s := by
  have h1 := C19_exporter_double_count h hp
  have h2 := C19_kept_counted_failed h
  constructor <;> omega

/-- hypotheses of `C19_kept_zero_without_retry` / `C19_exporter_balance_no_retry` met by a reachable state with something stored:
phase 5, retry off, persistent; sent 0, send-failed 1, stored 2, kept 0, accepted 3 -/
example : (runFrom (init { persistent := true, batching := false, retry := false } 1 0 false) demoNoRetry).map
    (fun s => (s.phase, s.cfg.retry, s.cfg.persistent)) = some (5, false, true) := by decide +kernel
example : (runFrom (init { persistent := true, batching := false, retry := false } 1 0 false) demoNoRetry).map
    (fun s => (sentOf s, failedOf s, storedOf s, keptOf s, s.accepted.length)) = some (0, 1, 2, 0, 3) := by decide +kernel

/-- the `iff`s are not trivially true on both sides: `demoPersistent` (retry enabled, back-off interrupted by the shutdown) has
`keptOf = 1` and 1 + 1 + 2 ≠ 3; the bound of `C19_kept_counted_failed` is tight there (kept 1 ≤ send-failed 1) -/
example : (runFrom (init { persistent := true, batching := false, retry := true } 2 0 false) demoPersistent).map
    (fun s => (s.phase, keptOf s, sentOf s + failedOf s + storedOf s, s.accepted.length, failedOf s)) = some (5, 1, 4, 3, 1) := by decide +kernel

example : (runFrom (init { persistent := false, batching := false, retry := false, wfr := true } 1 0 false) demoWfr).map
    (fun s => (s.phase, enqFailedWfrOf s, sentOf s + failedOf s + enqFailedWfrOf s + (queueItems s.queue).length, s.accepted.length)) =
      some (5, 2, 5, 3) := by decide +kernel

example : (runFrom (init { persistent := false, batching := false, retry := false, wfr := true } 1 0 false)
      [.offer [1, 2], .read 0, .sendSync 0, .expStart 0, .expEnd 0 .ok .drop, .shutRetry, .shutQueue, .exit 0, .join, .shutBatcher,
       .shutWait]).map
    (fun s => (s.phase, enqFailedWfrOf s, sentOf s + failedOf s + enqFailedWfrOf s + (queueItems s.queue).length, s.accepted.length)) =
      some (5, 0, 2, 2) := by decide +kernel

/-- hypotheses of `C19_exporter_three_counter_cfg` / `…_iff_persistent`, persistent queue with refusals: given 5 =
sent 0 + send-failed 1 + enqueue-failed 2 + stored 2 -/
example : (xrunFrom { s := init { persistent := true, batching := false, retry := false } 1 0 false }
      ([.lts (.offer [1]), .refuse [8, 9], .lts (.offer [2, 3])] ++ (demoNoRetry.drop 2).map .lts)).map
    (fun x => (x.s.phase, x.s.cfg.wfr, x.s.cfg.retry, x.s.cfg.persistent, x.s.cons.length)) = some (5, false, false, true, 1) := by decide +kernel
example : (xrunFrom { s := init { persistent := true, batching := false, retry := false } 1 0 false }
      ([.lts (.offer [1]), .refuse [8, 9], .lts (.offer [2, 3])] ++ (demoNoRetry.drop 2).map .lts)).map
    (fun x => (sentOf x.s, failedOf x.s, enqFailedOf x, storedOf x.s, x.given)) = some (0, 1, 2, 2, 5) := by decide +kernel

/-- hypotheses of `C19_exporter_three_counter_cfg` / `…_iff_memory`, memory queue with a queue-full refusal: given 5 =
sent 2 + send-failed 0 + enqueue-failed 3 -/
example : (xrunFrom { s := init { persistent := false, batching := false, retry := false } 1 0 false }
      [.lts (.offer [1, 2]), .refuse [3, 4, 5], .lts (.read 0), .lts (.sendSync 0), .lts (.expStart 0), .lts (.expEnd 0 .ok .drop),
       .lts .shutRetry, .lts .shutQueue, .lts (.exit 0), .lts .join, .lts .shutBatcher, .lts .shutWait]).map
    (fun x => ((x.s.phase, x.s.cfg.wfr, x.s.cfg.retry, x.s.cfg.persistent, x.s.cons.length),
      (sentOf x.s, failedOf x.s, enqFailedOf x, x.given))) = some ((5, false, false, false, 1), (2, 0, 3, 5)) := by decide +kernel

end OtelVerif.C19

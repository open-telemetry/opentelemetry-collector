import OtelVerif.Gen.C04Config
import OtelVerif.Lemmas.C04Perm
import OtelVerif.Lemmas.C04Metrics
import OtelVerif.Lemmas.C04History
import OtelVerif.Lemmas.C04ErrHist
import OtelVerif.Lemmas.C04Cover
/-!
# C04 — exporter batching conserves telemetry, keeps identity, respects size limits

`Model/C04.lean` is parametrised by the flags of `Gen.C04Shape`, regenerated from the `*_batch.go` files on every run.
The statements also speak of: `flatReqs` (Lemmas/C04Drop), `optFlat` (C04Fifo), `Req.exact` (C04Size), `heavy`, `heavyS` (C04Logs),
`anon` (C04Pinned), `BState.slots` (C04Slots), `firedCount`, `accId` (C04Done), `doneLog` (C04ErrHist),
`BState.units`, `consumedUnits`, `finishedParts` (C04History), `Tagged`, `TaggedNE` (C04Cover).
-/
namespace OtelVerif.C04
open OtelVerif.Payload OtelVerif.Gen

/-! ## the model has the shape of the source (translator tie) -/

/-- `split()` in all four files has the `rmSize == 0` branch the model's loop has -/
theorem C04_shape_split_handles_no_progress : C04Shape.splitHandlesNoProgress = true := by decide

/-! ## order and conservation with full context -/

/-- **`MergeSplit` is FIFO** (logs, traces, profiles; items and bytes): the items of the returned requests, concatenated in
result order, are exactly the receiver's items followed by the merged-in request's items, in their original order -/
theorem C04_mergeSplit_fifo (sz : Sizer) (max : Int) (r1 : Req (List Res)) (r2 : Option (Req (List Res)))
    (out : List (Req (List Res))) (h : mergeSplit (logsOps sz) max r1 r2 = some out) :
    flatReqs flatten out = flatten r1.p ++ optFlat flatten r2 :=
  mergeSplit_fifo Seq.eq _ flatten (logs_seqOps sz) (empty_flat Res.flat C04Shape.splitDropsEmptyRemainder) max r1 r2 out h

/-- logs, traces, profiles: for every sizer, every limit, every pair of requests, whatever `MergeSplit` returns holds
exactly the records that came in, each with its resource, resource schema URL, scope and scope schema URL -/
theorem C04_conserve (sz : Sizer) (max : Int) (r1 : Req (List Res)) (r2 : Option (Req (List Res))) (out : List (Req (List Res)))
    (h : mergeSplit (logsOps sz) max r1 r2 = some out) :
    (flatReqs flatten out).Perm (flatten r1.p ++ optFlat flatten r2) :=
  .of_eq (C04_mergeSplit_fifo sz max r1 r2 out h)

/-- metrics (repaired `extract*DataPoints`): every data point also keeps its metric's name, unit, description, type,
temporality, monotonicity and metadata -/
theorem C04_conserve_metrics (sz : Sizer) (max : Int) (r1 : Req (List MRes)) (r2 : Option (Req (List MRes)))
    (out : List (Req (List MRes))) (h : mergeSplit (metricsOps true sz) max r1 r2 = some out) :
    (flatReqs mflatten out).Perm (mflatten r1.p ++ optFlat mflatten r2) := by
  have := (mergeSplit_fifo_metrics true sz max r1 r2 out h).map_eq id (fun _ _ hf => hf.eq_of_keep)
  rw [List.map_id, List.map_id] at this
  exact .of_eq this

/-- the same statement for the pinned `extract*DataPoints` (`metricFragmentKeepsIdentity = false`) -/
def C04_conserve_metrics_pinned_full : Prop :=
  ∀ (sz : Sizer) (max : Int) (r1 : Req (List MRes)) (out : List (Req (List MRes))),
    mergeSplit (metricsOps false sz) max r1 none = some out → (flatReqs mflatten out).Perm (mflatten r1.p)

/-- one sum with 4 points, `max_size = 3` items -/
def pinnedWitness : List MRes :=
  [⟨⟨1, 2, 0⟩, [⟨⟨3, 0, 0, 4, 0⟩, [⟨⟨5, 6, 7, 2, 1, 1, 8, 0, 0⟩, [⟨10, 0, 1⟩, ⟨11, 0, 1⟩, ⟨12, 0, 1⟩, ⟨13, 0, 1⟩]⟩]⟩]⟩]

theorem C04_conserve_metrics_pinned_full_fails : ¬ C04_conserve_metrics_pinned_full := by
  intro h
  have hp := h ⟨false⟩ 3 { p := pinnedWitness } _ rfl
  have hm : ((⟨1, 2, 0⟩, ⟨3, 0, 0, 4, 0⟩, ⟨0, 0, 0, 2, 0, 0, 0, 0, 0⟩, ⟨10, 0, 1⟩) : MCtx) ∈ mflatten pinnedWitness :=
    hp.subset (by decide)
  revert hm
  decide

/-! ### which conservation theorem is about the tree being checked

`Gen.C04Shape.metricFragmentKeepsIdentity` is regenerated from metrics_batch.go on every run and selects the fragment
construction in the model (`metricsOps keep`).  `MetricsConserved keep` is what conservation means for that construction:

* `keep = true`  (repaired `extract*DataPoints`, NOT in /repo): the full statement, `C04_conserve_metrics`;
* `keep = false` (the code in /repo): `C04_conserve_metrics_partial` — every data point is conserved exactly once with its
  resource, scope, both schema URLs and metric *type*, and its metric identity is either the source's or the anonymous
  typed fragment's; the full statement is false for this construction (`C04_conserve_metrics_pinned_full_fails`, open
  finding `C04/mergesplit/metric-identity-lost/anonymous-split-off-fragment`). -/

/-- conservation of data points for the fragment construction selected by `keep` -/
def MetricsConserved (keep : Bool) (src out : List MCtx) : Prop :=
  if keep then out.Perm src
  else (out.map anon).Perm (src.map anon) ∧ ∀ c ∈ out, c ∈ src ∨ ∃ c' ∈ src, c = anon c'

/-- the code in /repo (`keep = false`): conserved exactly once with resource, scope, both schema URLs and metric type;
metric identity = the source's or the anonymous typed fragment's -/
theorem C04_conserve_metrics_partial (sz : Sizer) (max : Int) (r1 : Req (List MRes)) (r2 : Option (Req (List MRes)))
    (out : List (Req (List MRes))) (h : mergeSplit (metricsOps false sz) max r1 r2 = some out) :
    ((flatReqs mflatten out).map anon).Perm ((mflatten r1.p ++ optFlat mflatten r2).map anon) ∧
    ∀ c ∈ flatReqs mflatten out, c ∈ mflatten r1.p ++ optFlat mflatten r2 ∨
      ∃ c' ∈ mflatten r1.p ++ optFlat mflatten r2, c = anon c' := by
  have hf := mergeSplit_fifo_metrics false sz max r1 r2 out h
  refine ⟨.of_eq (hf.map_eq anon (fun _ _ => Frag.anon_eq)), fun c hc => ?_⟩
  obtain ⟨c', hc', rfl | ⟨_, rfl⟩⟩ := hf.mem c hc
  · exact Or.inl hc'
  · exact Or.inr ⟨c', hc', rfl⟩

/-- one theorem for both constructions -/
theorem C04_conserve_metrics_flag (keep : Bool) (sz : Sizer) (max : Int) (r1 : Req (List MRes)) (r2 : Option (Req (List MRes)))
    (out : List (Req (List MRes))) (h : mergeSplit (metricsOps keep sz) max r1 r2 = some out) :
    MetricsConserved keep (mflatten r1.p ++ optFlat mflatten r2) (flatReqs mflatten out) := by
  cases keep with
  | true => exact C04_conserve_metrics sz max r1 r2 out h
  | false => exact C04_conserve_metrics_partial sz max r1 r2 out h

/-- the instance for the tree this run checks (the model the driver runs is `metricsOps C04Shape.metricFragmentKeepsIdentity`) -/
theorem C04_conserve_metrics_checked_tree (sz : Sizer) (max : Int) (r1 : Req (List MRes)) (r2 : Option (Req (List MRes)))
    (out : List (Req (List MRes)))
    (h : mergeSplit (metricsOps C04Shape.metricFragmentKeepsIdentity sz) max r1 r2 = some out) :
    MetricsConserved C04Shape.metricFragmentKeepsIdentity (mflatten r1.p ++ optFlat mflatten r2) (flatReqs mflatten out) :=
  C04_conserve_metrics_flag _ sz max r1 r2 out h

/-! ## termination -/

/-- `split` (hence `MergeSplit`) ends for every request, limit and sizer: `nodes + 1` iterations always suffice -/
theorem C04_terminates (sz : Sizer) (max : Int) (req : Req (List Res)) : (split (logsOps sz) max req).isSome = true :=
  split_isSome _ (logs_shrinks sz) max req

theorem C04_terminates_metrics (keep : Bool) (sz : Sizer) (max : Int) (req : Req (List MRes)) :
    (split (metricsOps keep sz) max req).isSome = true :=
  split_isSome _ (metrics_shrinks keep sz) max req

theorem C04_mergeSplit_total (sz : Sizer) (max : Int) (r1 : Req (List Res)) (r2 : Option (Req (List Res))) :
    (mergeSplit (logsOps sz) max r1 r2).isSome = true := by
  simp only [mergeSplit]
  split
  · rfl
  · exact C04_terminates sz max _

/-! ## cachedSize and the size bound -/

/-- **cachedSize** (logs, traces, profiles; items and bytes sizer): the memoised size of every request `MergeSplit`
returns is unset (`-1`) or exactly the size of its payload — `removedSize` is exactly what the source lost, through every
level's "delta between the delta sizes" arithmetic, for ANY `DeltaSize` function -/
theorem C04_cached_size (sz : Sizer) (max : Int) (r1 : Req (List Res)) (r2 : Option (Req (List Res))) (out : List (Req (List Res)))
    (h : mergeSplit (logsOps sz) max r1 r2 = some out) (h1 : r1.exact (logsOps sz)) (h2 : ∀ r, r2 = some r → r.exact (logsOps sz)) :
    ∀ r ∈ out, r.cached = -1 ∨ r.cached = payloadSize sz r.p :=
  mergeSplit_exact _ (logs_sizeExact sz) max r1 r2 out h h1 h2

/-- the same for metrics with the items sizer, for either fragment construction.  With the bytes sizer the accounting of a
metric cut in two is an upper bound only (checked by the `cached` oracle on every run, not a theorem). -/
theorem C04_cached_size_metrics_items (keep : Bool) (max : Int) (r1 : Req (List MRes)) (r2 : Option (Req (List MRes)))
    (out : List (Req (List MRes))) (h : mergeSplit (metricsOps keep ⟨false⟩) max r1 r2 = some out)
    (h1 : r1.exact (metricsOps keep ⟨false⟩)) (h2 : ∀ r, r2 = some r → r.exact (metricsOps keep ⟨false⟩)) :
    ∀ r ∈ out, r.cached = -1 ∨ r.cached = mpayloadSize ⟨false⟩ r.p :=
  mergeSplit_exact _ (metrics_sizeExact keep) max r1 r2 out h h1 h2

/-- **size bound, items sizer** (logs, traces, profiles): with `max_size > 0`, every request `MergeSplit` returns has at
most `max_size` items (weight: 1 per log record / span, the number of samples per profile) unless it holds at most one
item that weighs anything — the single indivisible item (a profile with more samples than `max_size`).
The bytes-sizer bound is `C04_bound_bytes` below. -/
theorem C04_bound_items (max : Int) (hmax : 0 < max) (r1 : Req (List Res)) (r2 : Option (Req (List Res)))
    (out : List (Req (List Res))) (h : mergeSplit (logsOps ⟨false⟩) max r1 r2 = some out)
    (h1 : r1.exact (logsOps ⟨false⟩)) (h2 : ∀ r, r2 = some r → r.exact (logsOps ⟨false⟩)) :
    ∀ r ∈ out, payloadSize ⟨false⟩ r.p ≤ max ∨ heavy r.p ≤ 1 :=
  fun r hr => heavy_eq r.p ▸ mergeSplit_bound_logs sz0 max hmax r1 r2 out h h1 h2 r hr

/-- **size bound, bytes sizer** (logs, traces, profiles): with `max_size > 0`, every request `MergeSplit` returns has an
encoded size (`DeltaSize n = 1 + n + sov n`, `sov` = varint length, leaf and own-field sizes as measured) of at most
`max_size`, unless it holds at most one item that weighs anything — the single indivisible item that alone (with its resource
and scope) exceeds `max_size` -/
theorem C04_bound_bytes (max : Int) (hmax : 0 < max) (r1 : Req (List Res)) (r2 : Option (Req (List Res)))
    (out : List (Req (List Res))) (h : mergeSplit (logsOps ⟨true⟩) max r1 r2 = some out)
    (h1 : r1.exact (logsOps ⟨true⟩)) (h2 : ∀ r, r2 = some r → r.exact (logsOps ⟨true⟩)) :
    ∀ r ∈ out, payloadSize ⟨true⟩ r.p ≤ max ∨ heavyS ⟨true⟩ r.p ≤ 1 :=
  mergeSplit_bound_logs szB max hmax r1 r2 out h h1 h2

/-- **size bound, metrics, items sizer** (either fragment construction, i.e. also the code in /repo): with `max_size > 0`
every request `MergeSplit` returns has at most `max_size` data points, or at most one.
Metrics with the BYTES sizer: for the construction in /repo (`metricFragmentKeepsIdentity = false`) the bound is FALSE (open
finding `C04/mergesplit/batch-exceeds-max/metrics-bytes-empty-fragment`: the unaccounted empty fragment); for the repaired
construction it is not proved: `bound` oracle. -/
theorem C04_bound_metrics_items (keep : Bool) (max : Int) (hmax : 0 < max) (r1 : Req (List MRes)) (r2 : Option (Req (List MRes)))
    (out : List (Req (List MRes))) (h : mergeSplit (metricsOps keep ⟨false⟩) max r1 r2 = some out)
    (h1 : r1.exact (metricsOps keep ⟨false⟩)) (h2 : ∀ r, r2 = some r → r.exact (metricsOps keep ⟨false⟩)) :
    ∀ r ∈ out, mpayloadSize ⟨false⟩ r.p ≤ max ∨ (mflatten r.p).length ≤ 1 :=
  mergeSplit_bound _ _ (metrics_sizeExact keep) (metrics_bounded keep) max hmax r1 r2 out h h1 h2

/-- non-vacuity: 2 + 5 + 1 samples, max 3: the 5-sample profile leaves alone (over max, one item), everything else fits -/
example :
    (mergeSplit (logsOps ⟨false⟩) 3 { p := [⟨⟨1, 0, 0⟩, [⟨⟨2, 0, 0, 0, 0⟩, [⟨10, 0, 2⟩, ⟨11, 0, 5⟩, ⟨12, 0, 1⟩]⟩]⟩] } none).map
      (fun out => out.map (fun r => (payloadSize ⟨false⟩ r.p, heavy r.p))) = some [(2, 1), (5, 1), (1, 1)] := by decide +kernel

/-- non-vacuity (the input of the non-terminating loop): one 500-byte record, then a small one,
`max_size = 100` bytes: the oversized record leaves alone, the rest follows -/
example :
    (mergeSplit (logsOps ⟨true⟩) 100 { p := [⟨⟨1, 0, 11⟩, [⟨⟨2, 0, 0, 0, 6⟩, [⟨10, 515, 1⟩, ⟨11, 15, 1⟩]⟩]⟩] } none).map
      (fun out => out.map (fun r => (flatten r.p).map (·.2.2.id))) = some [[10], [11]] := by decide +kernel

/-! ## the emptied receiver -/

/-- **`MergeSplit` never returns an empty list** (any signal, sizer, limit, either value of the regenerated flag
`splitDropsEmptyRemainder`): `Consume` treats `len(reqList) == 0` as "nothing to do"; the emptied receiver is only left out
when other results exist -/
theorem C04_mergeSplit_nonempty {P : Type} (o : Ops P) (max : Int) (r1 : Req P) (r2 : Option (Req P)) (out : List (Req P))
    (h : mergeSplit o max r1 r2 = some out) : out ≠ [] := by
  rcases mergeSplit_cases o max r1 r2 out h with ⟨_, rfl⟩ | ⟨_, out0, hs, rfl⟩
  · exact List.cons_ne_nil _ _
  · exact dropEmptyLast_ne_nil o out0 hs.ne_nil

/-- on the tree this run checks (`splitDropsEmptyRemainder` regenerated from the four `split()`): when `split()` produced other
results and the receiver is left without any resource entry, the receiver is NOT among the results - no request without data
is handed to the batcher (it would be exported as an empty batch and its outcome reported to the incoming request). -/
theorem C04_empty_receiver_not_returned (sz : Sizer) (max : Int) (r : Req (List Res)) (rs : List (Req (List Res)))
    (l : Req (List Res)) (hflag : C04Shape.splitDropsEmptyRemainder = true)
    (hraw : splitRaw (logsOps sz) max r = some (rs ++ [l])) (hne : rs ≠ []) (hl : l.p = []) :
    split (logsOps sz) max r = some rs := by
  simp only [split, hraw, Option.map_some, dropEmptyLast, List.getLast?_append, List.getLast?_singleton, Option.some_or]
  simp [logsOps, hflag, hl, hne]

/-- non-vacuity of `C04_empty_receiver_not_returned` (the e2e witness): two records, each larger than `max_size = 100` bytes
with its context: the loop alone (`splitRaw`) yields the two records and then the emptied receiver, `split` only the two -/
example :
    (splitRaw (logsOps ⟨true⟩) 100 { p := [⟨⟨1, 0, 11⟩, [⟨⟨2, 0, 0, 0, 6⟩, [⟨10, 515, 1⟩, ⟨11, 215, 1⟩]⟩]⟩] }).map
      (fun out => out.map (fun r => (flatten r.p).map (·.2.2.id))) = some [[10], [11], []] ∧
    (split (logsOps ⟨true⟩) 100 { p := [⟨⟨1, 0, 11⟩, [⟨⟨2, 0, 0, 0, 6⟩, [⟨10, 515, 1⟩, ⟨11, 215, 1⟩]⟩]⟩] }).map
      (fun out => out.map (fun r => (flatten r.p).map (·.2.2.id))) =
        some (if C04Shape.splitDropsEmptyRemainder then [[10], [11]] else [[10], [11], []]) := by decide +kernel

/-! ## the bridge between `MergeSplit` and the contract (`pack`) the batcher theorems are stated over

`default_batcher.go` relies on three facts about `MergeSplit`: the results list the items in arrival order with the pending
batch's items first (FIFO); the receiver is returned as the last result; "the first result's `ItemsCount()` exceeds the
pending batch's" ⇔ "the first result holds part of the new request".  `pack` (Model) states exactly that contract;
`C04_mergeSplit_fifo` (above) and the theorem below prove the first and third fact of the model `mergeSplit`; the second is an
object-identity fact the harness checks on every `MergeSplit` call (`last_is_receiver`). -/

/-- **the criterion of `Consume`**: the first result is a prefix of "pending batch, then new request"; it has no more items
than the pending batch ⇒ it holds only items of the pending batch (no part of the new request), and more ⇒ it holds the whole
pending batch followed by a non-empty part of the new request -/
theorem C04_first_result_criterion (sz : Sizer) (max : Int) (r1 r2 : Req (List Res)) (first : Req (List Res))
    (rest : List (Req (List Res))) (h : mergeSplit (logsOps sz) max r1 (some r2) = some (first :: rest)) :
    ((flatten first.p).length ≤ (flatten r1.p).length → ∃ t, flatten r1.p = flatten first.p ++ t) ∧
    ((flatten first.p).length > (flatten r1.p).length →
      ∃ t, t ≠ [] ∧ flatten first.p = flatten r1.p ++ t ∧ ∃ u, flatten r2.p = t ++ u) := by
  have hf := C04_mergeSplit_fifo sz max r1 (some r2) (first :: rest) h
  simp only [flatReqs, List.flatMap_cons, optFlat] at hf
  rcases List.append_eq_append_iff.mp hf with ⟨a', h1, h2⟩ | ⟨c', h1, h2⟩
  · -- r1 = first ++ a'
    refine ⟨fun _ => ⟨a', h1⟩, fun hgt => ?_⟩
    have := congrArg List.length h1
    simp only [List.length_append] at this
    omega
  · -- first = r1 ++ c'
    refine ⟨fun hle => ?_, fun hgt => ?_⟩
    · have := congrArg List.length h1
      simp only [List.length_append] at this
      have hc0 : c' = [] := List.eq_nil_of_length_eq_zero (by omega)
      subst hc0
      exact ⟨[], by simpa using h1.symm⟩
    · refine ⟨c', ?_, h1, _, h2⟩
      intro h0; subst h0
      simp at h1
      rw [h1] at hgt
      omega

/-! ## completion callbacks of the batcher, over ALL histories

`brun c {} ls` runs any sequence of `consume` (a request arrives; distinct request ids), `flush` (timer or shutdown flushes the
pending batch) and `finish fid outcome` (a flush goroutine ends, in any order, with any outcome) through the model of
`defaultBatcher` (`Consume` both paths, `multiDone`, `refCountDone`). -/

/-- **Done fires exactly once, only after every batch it was handed to has finished** — for every history:
1. no callback fires twice; 2. only callbacks of consumed requests fire;
3. once a request's callback has fired, no pending or in-flight batch holds a `Done` of that request any more (it fired
   after the last of them finished);
4. when nothing is pending and nothing is in flight (e.g. after `Shutdown` returned), every consumed request's callback
   has fired — exactly once by 1. -/
theorem C04_done_once (c : BCfg) (ls : List BLabel) (hnd : (consumedIds ls).Nodup) :
    (∀ id, firedCount (brun c {} ls).2 id ≤ 1) ∧
    (∀ id, id ∉ consumedIds ls → firedCount (brun c {} ls).2 id = 0) ∧
    (∀ id, firedCount (brun c {} ls).2 id = 1 → ∀ d ∈ (brun c {} ls).1.dones, tgt (brun c {} ls).1.refs d ≠ some id) ∧
    ((brun c {} ls).1.cur = none → (brun c {} ls).1.flights = [] → ∀ id ∈ consumedIds ls, firedCount (brun c {} ls).2 id = 1) := by
  have h := (brun_ledger c ls {} [] [] [] sledger_init hnd (fun _ _ h => nomatch h)).1
  rw [List.nil_append, List.append_nil] at h
  obtain ⟨h1, h2, h3, h4⟩ := h.done_once
  refine ⟨h1, h2, h3, fun hcur hfl => h4 ?_⟩
  rw [dones_eq_slots, slots_nil_of_idle hcur hfl]; rfl

/-- **Done(r) covers every part of r** — for every history whose requests carry units tagged with their own id (validated
`min_size ≤ max_size` or no `max_size`):
1. every pending or in-flight batch that contains an item of request `r` holds a `Done` of `r` — in particular the FIRST
   result of a merge into the parked batch, decided with the item count the parked batch had BEFORE the merge;
2. hence once the callback of `r` has fired, no pending or in-flight batch contains an item of `r`: it fired only after
   every batch containing part of `r` had finished. -/
theorem C04_done_covers_all_parts (c : BCfg) (hv : c.max = 0 ∨ c.min ≤ c.max) (ls : List BLabel)
    (hnd : (consumedIds ls).Nodup) (ht : Tagged ls) :
    (∀ b ∈ (brun c {} ls).1.slots, ∀ u ∈ b.1, 0 < u.2 → ∃ d ∈ b.2, tgt (brun c {} ls).1.refs d = some u.1) ∧
    (∀ id, firedCount (brun c {} ls).2 id = 1 → ∀ b ∈ (brun c {} ls).1.slots, ∀ u ∈ b.1, 0 < u.2 → u.1 ≠ id) := by
  have hcov := brun_cover c hv ls {} (reach_init c) cinv_init ht
  refine ⟨hcov, ?_⟩
  intro id hf b hb u hu hp hid
  obtain ⟨d, hd, hdt⟩ := hcov b hb u hu hp
  exact (C04_done_once c ls hnd).2.2.1 id hf d (slots_dones_mem _ b hb d hd) (hid ▸ hdt)

/-- **a Done is handed ONLY to batches that contain part of its request** (the converse of `C04_done_covers_all_parts`):
for every history whose requests carry at least one unit (a request without items = one unit of size 0),
all tagged with their id, every `Done` a pending or in-flight batch holds belongs to a request with a unit in that batch —
so no batch's outcome is ever reported to a request none of whose data it carried. -/
theorem C04_done_only_own_parts (c : BCfg) (hv : c.max = 0 ∨ c.min ≤ c.max) (ls : List BLabel)
    (hnd : (consumedIds ls).Nodup) (ht : TaggedNE ls) :
    ∀ b ∈ (brun c {} ls).1.slots, ∀ d ∈ b.2, ∀ id, tgt (brun c {} ls).1.refs d = some id → ∃ u ∈ b.1, u.1 = id :=
  brun_conv c hv ls {} (reach_init c) vinv_init ht

/-- non-vacuity: min 10, max 12; 4 bytes parked; the next request's first unit (13) does not fit:
the first result holds only request 1's data and only request 1's Done -/
example :
    ((brun ⟨10, 12⟩ {} [.consume 1 [(1, 4)], .consume 2 [(2, 13), (2, 2)]]).1.slots.map
      (fun b => ((b.1.map (·.1)).eraseDups, b.2))) = [([2], [.ref 0]), ([1], [.base 1]), ([2], [.ref 0])] := by decide +kernel

/-- non-vacuity: min 5, max 10, 4 items parked, 16 more → two full batches 10 + 10; the first holds
items of BOTH requests and both `Done`s (request 2's through a ref-count of 2), so request 2 waits for it -/
example :
    ((brun ⟨5, 10⟩ {} [.consume 1 (List.replicate 4 (1, 1)), .consume 2 (List.replicate 16 (2, 1))]).1.slots.map
      (fun b => ((b.1.map (·.1)).eraseDups, b.2))) = [([1, 2], [.base 1, .ref 0]), ([2], [.ref 0])] := by decide +kernel

/-- **error iff, over every history**: the outcome a callback reports is exactly the combination (`multierr.Append`: union of
error classes, `{}` = success) of the outcomes of the `finish` labels of the flushes that held a `Done` of that request —
`doneLog` records, for every flush that ends, its outcome under every request one of its `Done`s belongs to.  With
`C04_done_covers_all_parts` and `C04_done_only_own_parts` (those flushes are exactly the batches containing part of the
request): it reports an error iff one of the batches containing part of it failed, and which classes. -/
theorem C04_done_error_iff (c : BCfg) (ls : List BLabel) (hnd : (consumedIds ls).Nodup) :
    ∀ x ∈ (brun c {} ls).2, x.2 = accId (doneLog c {} ls) x.1 := by
  have h := (brun_ledger c ls {} [] [] [] sledger_init hnd (fun _ _ h => nomatch h)).1.firedErr
  rw [List.nil_append, List.nil_append] at h
  exact h

/-- read as an iff on "is there an error": a callback reports an error ⇔ some flush holding one of its `Done`s ended with one -/
theorem C04_done_error_any_iff (c : BCfg) (ls : List BLabel) (hnd : (consumedIds ls).Nodup) :
    ∀ x ∈ (brun c {} ls).2, x.2.any = ((doneLog c {} ls).filter (fun y => y.1 == x.1)).any (·.2.any) := by
  intro x hx
  rw [C04_done_error_iff c ls hnd x hx]
  exact foldl_or_proj Err.any Err.any_or (fun y : Nat × Err => y.2) _ {}

/-- **conservation through the batcher, over every history** ("for any sequence of requests"): every unit of every consumed
request is — exactly once — in the pending batch, in a flush in flight, or in a flush that has ended; so when nothing is
pending or in flight, what was exported (the ended flushes) is exactly what was consumed -/
theorem C04_batcher_conserves (c : BCfg) (ls : List BLabel) :
    ((brun c {} ls).1.units ++ (finishedParts c {} ls).flatten).Perm (consumedUnits ls) ∧
    ((brun c {} ls).1.cur = none → (brun c {} ls).1.flights = [] → ((finishedParts c {} ls).flatten).Perm (consumedUnits ls)) := by
  have h : ((brun c {} ls).1.units ++ (finishedParts c {} ls).flatten).Perm ([] ++ consumedUnits ls) :=
    brun_units c ls {} sledger_init.2
  rw [List.nil_append] at h
  refine ⟨h, fun hc hf => ?_⟩
  have h0 : (brun c {} ls).1.units = [] := by rw [BState.units, slots_nil_of_idle hc hf]; rfl
  rw [h0, List.nil_append] at h
  exact h

/-- non-vacuity: the scrambled history below records, for request 2, the outcomes of flushes 1, 0 and 2 -/
example :
    doneLog ⟨10, 12⟩ {} [.consume 1 [(1, 4)], .consume 2 [(2, 5), (2, 9), (2, 9)], .finish 1 {}, .finish 0 { plain := true },
      .flush, .finish 2 { shut := true }] = [(2, {}), (1, { plain := true }), (2, { plain := true }), (2, { shut := true })] ∧
    (brun ⟨10, 12⟩ {} [.consume 1 [(1, 4)], .consume 2 [(2, 5), (2, 9), (2, 9)], .finish 1 {}, .finish 0 { plain := true },
      .flush, .finish 2 { shut := true }]).2 = [(1, { plain := true }), (2, { plain := true, shut := true })] := by decide +kernel

/-- the ref-counted `Done` of a request split over `n+1` flushes, fed the outcomes of those flushes one by one -/
def feedRef (refs : List RefCount) : List Err → List RefCount × List (Nat × Err)
  | [] => (refs, [])
  | e :: es =>
    let x := onDone refs e (.ref 0)
    let y := feedRef x.1 es
    (y.1, x.2 ++ y.2)

theorem feedRef_spec (id : Nat) (es : List Err) : ∀ (acc : Err) (n : Int), n = es.length → es ≠ [] →
    (feedRef [⟨id, n, acc⟩] es).2 = [(id, es.foldl Err.or acc)] := by
  induction es with
  | nil => intro _ _ _ hne; exact absurd rfl hne
  | cons e es ih =>
    intro acc n hn _
    show (onDone _ e (.ref 0)).2 ++ (feedRef (onDone _ e (.ref 0)).1 es).2 = _
    rw [onDone_ref [⟨id, n, acc⟩] e 0 (Nat.succ_pos 0)]
    show (if (n - 1 == 0) = true then [(id, acc.or e)] else []) ++ (feedRef [⟨id, n - 1, acc.or e⟩] es).2 = _
    cases es with
    | nil =>
      have h0 : n - 1 = 0 := by rw [hn]; rfl
      rw [h0]; rfl
    | cons e' es' =>
      have h1 : (n - 1 == 0) = false := by
        apply beq_false_of_ne
        rw [hn, List.length_cons, List.length_cons]; omega
      rw [h1, if_neg Bool.false_ne_true, List.nil_append]
      exact ih (acc.or e) (n - 1) (by rw [hn, List.length_cons, List.length_cons]; omega) (List.cons_ne_nil _ _)

/-- **the combined outcome keeps every part's error classification** (`multierr.Append`, not "first error only"): a request
split over any number of flushes reports exactly once, after the last of them, the union of all their error classes — a
part interrupted by shutdown stays visible next to a plain export failure, in any completion order -/
theorem C04_done_combines_errors (id : Nat) (es : List Err) (hne : es ≠ []) :
    (feedRef [⟨id, es.length, {}⟩] es).2 = [(id, es.foldl Err.or {})] ∧
    ((es.foldl Err.or {}).shut = es.any (·.shut)) ∧ ((es.foldl Err.or {}).plain = es.any (·.plain)) := by
  exact ⟨feedRef_spec id es {} _ rfl hne, foldl_or_proj Err.shut (fun _ _ => rfl) (fun e => e) es {},
    foldl_or_proj Err.plain (fun _ _ => rfl) (fun e => e) es {}⟩

/-- non-vacuity: pending batch, a request split over three flushes (ref-count 3), completion in a scrambled order with one
failure: callbacks fire once each, request 2 reports the failure after its last flush -/
example :
    (brun ⟨10, 12⟩ {} [.consume 1 [(1, 4)], .consume 2 [(2, 5), (2, 9), (2, 9)], .finish 1 {}, .finish 0 { plain := true },
      .flush, .finish 2 {}]).2 = [(1, { plain := true }), (2, { plain := true })] := by decide +kernel

section ConfigGlue
open OtelVerif.C04.Config

/-! ## Configuration glue: validation → the batcher that is built

`Gen/C04Config.lean` holds the three `Validate` functions of `queuebatch/config.go` and `internal/queue_sender.go` as regenerated
rule lists, the struct field lists and the default configurations; `Model/C04Config.lean` the interpreter, `newQueueBatchConfig`
and `newQueueBatch`.  The theorems below are about the REGENERATED rules: a changed comparison re-checks them. -/

/-- tie obligation over `Gen/C04Config.lean`: every field the regenerated validation rules read is one the environments answer
for, and every field the environments answer for is a field of the Go struct (regenerated field lists) -/
theorem C04_config_rules_fields_known :
    rulesKnown batchEnvFields C04Config.batchRules = true ∧ rulesKnown queueEnvFields C04Config.queueRules = true ∧
    rulesKnown legacyEnvFields C04Config.legacyRules = true ∧
    batchEnvFields.all (fun f => (C04Config.batchFields.map (·.1)).contains f) = true ∧
    queueEnvFields.all (fun f => (C04Config.queueFields.map (·.1)).contains f) = true ∧
    legacyEnvFields.all (fun f => (C04Config.legacyFields.map (·.1)).contains f) = true := by decide +kernel

/-- what the batcher theorems need of a `BatchConfig` -/
def BatchOk (b : BatchRaw) : Prop := 0 < b.flushTimeout ∧ 0 ≤ b.min ∧ 0 ≤ b.max ∧ (b.max = 0 ∨ b.min ≤ b.max)

theorem C04_batch_config_accepted (b : BatchRaw) (h : runRules (BatchRaw.env (some b)) C04Config.batchRules = true) :
    BatchOk b := by
  simp [C04Config.batchRules, runRules, VCond.eval, VExpr.eval, VOp.eval, BatchRaw.env] at h
  unfold BatchOk
  omega

theorem C04_queue_config_accepted (q : QRaw) (he : q.enabled = true) (h : runRules q.env C04Config.queueRules = true) :
    0 < q.numConsumers ∧ 0 < q.queueSize ∧ (q.storage = true → q.waitForResult = false ∧ q.sizer = sizerRequests) ∧
    (q.batch.isSome = true → q.sizer = sizerItems ∨ q.sizer = sizerBytes) := by
  rcases q with ⟨en, w, sz, qs, boo, st, nc, b⟩
  simp only [] at he
  subst he
  simp [C04Config.queueRules, runRules, VCond.eval, VExpr.eval, VOp.eval, QRaw.env, b2i] at h
  -- NumConsumers, QueueSize, storage ⇒ no wait, storage ⇒ requests sizer, batch ⇒ items / bytes
  obtain ⟨h1, h2, h3, h4, h5⟩ := h
  refine ⟨h1, h2, ?_, ?_⟩
  · intro hs
    simp only [] at hs
    subst hs
    simp at h3 h4
    exact ⟨h3, h4⟩
  · intro hb
    cases b with
    | none => simp at hb
    | some b => simpa [sizerItems, sizerBytes] using h5

theorem C04_legacy_config_accepted (l : LegacyRaw) (he : l.enabled = true) (h : runRules l.env C04Config.legacyRules = true) :
    l.sizer = sizerItems ∧ BatchOk ⟨l.flushTimeout, l.min, l.max⟩ := by
  simp [C04Config.legacyRules, runRules, VCond.eval, VExpr.eval, VOp.eval, LegacyRaw.env, b2i, he] at h
  simp only [sizerItems, BatchOk]
  omega

/-- what component validation (`xconfmap.Validate`: every `Validate` reachable from the exporter's configuration) accepts -/
def accepted (q : QRaw) (l : LegacyRaw) : Bool :=
  runRules q.env C04Config.queueRules && runRules (BatchRaw.env q.batch) C04Config.batchRules &&
    runRules l.env C04Config.legacyRules

/-- **every accepted configuration builds a batcher the batcher theorems apply to**: for every queue configuration and legacy
batcher configuration accepted by validation (queue or legacy batching enabled - otherwise no queue sender exists),
`NewQueueSender` → `newQueueBatchConfig` → `newQueueBatch` never fails on the sizer and builds either the disabled
batcher or a default batcher whose sizer type is items or bytes, with one worker, `flush_timeout > 0`,
`0 ≤ min_size`, `0 ≤ max_size` and `max_size = 0 ∨ min_size ≤ max_size` -/
theorem C04_accepted_config_builds_valid_batcher (q : QRaw) (l : LegacyRaw) (maxInt numCPU : Int)
    (hen : q.enabled = true ∨ l.enabled = true) (hacc : accepted q l = true) :
    (newQueueSender allSizers q l maxInt numCPU = .unsupportedSizer ∧ q.sizer ∉ allSizers) ∨
    (∃ n, newQueueSender allSizers q l maxInt numCPU = .disabled n ∧ 0 < n) ∨
    (∃ sz b, newQueueSender allSizers q l maxInt numCPU = .dflt sz b 1 ∧ (sz = sizerItems ∨ sz = sizerBytes) ∧ BatchOk b) := by
  simp only [accepted, Bool.and_eq_true] at hacc
  obtain ⟨⟨hq, hb⟩, hl⟩ := hacc
  cases hle : l.enabled with
  | true =>
    have hL := C04_legacy_config_accepted l hle hl
    cases hqe : q.enabled with
    | true =>
      by_cases hs : q.sizer ∈ allSizers
      · right; right
        refine ⟨sizerItems, ⟨l.flushTimeout, l.min, l.max⟩, ?_, Or.inl rfl, hL.2⟩
        simp [newQueueSender, newQueueBatchConfig, newQueueBatch, hle, hqe, hs]
      · left
        refine ⟨?_, hs⟩
        simp [newQueueSender, newQueueBatchConfig, newQueueBatch, hle, hqe, hs]
    | false =>
      right; right
      refine ⟨sizerItems, ⟨l.flushTimeout, l.min, l.max⟩, ?_, Or.inl rfl, hL.2⟩
      simp [newQueueSender, newQueueBatchConfig, newQueueBatch, hle, hqe, allSizers]
  | false =>
    have hqe : q.enabled = true := by simpa [hle] using hen
    have hQ := C04_queue_config_accepted q hqe hq
    by_cases hs : q.sizer ∈ allSizers
    · right
      cases hqb : q.batch with
      | none =>
        left
        exact ⟨q.numConsumers, by simp [newQueueSender, newQueueBatchConfig, newQueueBatch, hle, hs, hqb], hQ.1⟩
      | some b =>
        right
        rw [hqb] at hb
        refine ⟨q.sizer, b, by simp [newQueueSender, newQueueBatchConfig, newQueueBatch, hle, hs, hqb],
          hQ.2.2.2 (by simp [hqb]), C04_batch_config_accepted b hb⟩
    · left
      refine ⟨?_, hs⟩
      simp [newQueueSender, newQueueBatchConfig, newQueueBatch, hle, hs]

/-- the `BCfg` of the batcher model for an accepted `BatchConfig` -/
def toBCfg (b : BatchRaw) : BCfg := ⟨b.min.toNat, b.max.toNat⟩

theorem batchOk_bcfg (b : BatchRaw) (h : BatchOk b) : (toBCfg b).max = 0 ∨ (toBCfg b).min ≤ (toBCfg b).max := by
  unfold BatchOk at h
  simp only [toBCfg]
  omega

/-- the default configurations (regenerated struct literals) are accepted, and `NewDefaultQueueConfig` has no batch -/
theorem C04_default_configs_accepted :
    accepted (QRaw.ofFields C04Config.defaultQueue) (LegacyRaw.ofFields C04Config.defaultLegacy) = true ∧
    lookupField C04Config.defaultQueue "Batch" = 0 ∧
    newQueueSender allSizers (QRaw.ofFields C04Config.defaultQueue) (LegacyRaw.ofFields C04Config.defaultLegacy) 1 1
      = .dflt sizerItems ⟨200000000, 8192, 0⟩ 1 := by decide +kernel

/-- **the Done clause for every ACCEPTED configuration** (hypothesis `max = 0 ∨ min ≤ max` of `C04_done_covers_all_parts` /
`C04_done_only_own_parts` discharged from validation): whatever default batcher `NewQueueSender` builds from a configuration
accepted by validation, the conclusions of those two theorems hold over every history -/
theorem C04_done_parts_accepted_config (q : QRaw) (l : LegacyRaw) (maxInt numCPU : Int)
    (hen : q.enabled = true ∨ l.enabled = true) (hacc : accepted q l = true) (sz : Int) (b : BatchRaw) (w : Int)
    (hbuilt : newQueueSender allSizers q l maxInt numCPU = .dflt sz b w)
    (ls : List BLabel) (hnd : (consumedIds ls).Nodup) (ht : Tagged ls) (htn : TaggedNE ls) :
    (∀ s ∈ (brun (toBCfg b) {} ls).1.slots, ∀ u ∈ s.1, 0 < u.2 → ∃ d ∈ s.2, tgt (brun (toBCfg b) {} ls).1.refs d = some u.1) ∧
    (∀ id, firedCount (brun (toBCfg b) {} ls).2 id = 1 → ∀ s ∈ (brun (toBCfg b) {} ls).1.slots, ∀ u ∈ s.1, 0 < u.2 → u.1 ≠ id) ∧
    (∀ s ∈ (brun (toBCfg b) {} ls).1.slots, ∀ d ∈ s.2, ∀ id, tgt (brun (toBCfg b) {} ls).1.refs d = some id → ∃ u ∈ s.1, u.1 = id) := by
  have hok : BatchOk b := by
    rcases C04_accepted_config_builds_valid_batcher q l maxInt numCPU hen hacc with h | ⟨n, h, _⟩ | ⟨sz', b', h, _, hb'⟩
    · rw [h.1] at hbuilt; cases hbuilt
    · rw [h] at hbuilt; cases hbuilt
    · rw [h] at hbuilt; cases hbuilt; exact hb'
  have hv := batchOk_bcfg b hok
  have h1 := C04_done_covers_all_parts (toBCfg b) hv ls hnd ht
  exact ⟨h1.1, h1.2, C04_done_only_own_parts (toBCfg b) hv ls hnd htn⟩

/-- non-vacuity: `sending_queue` enabled with `batch: {flush_timeout: 1s, min_size: 5, max_size: 10}` and the bytes sizer is
accepted and builds the default batcher with exactly these limits; a configuration with `max_size < min_size` is not -/
example :
    accepted ⟨true, false, sizerBytes, 1000, false, false, 10, some ⟨1000000000, 5, 10⟩⟩ ⟨false, 0, sizerOther, 0, 0⟩ = true ∧
    newQueueSender allSizers ⟨true, false, sizerBytes, 1000, false, false, 10, some ⟨1000000000, 5, 10⟩⟩ ⟨false, 0, sizerOther, 0, 0⟩ 9 8
      = .dflt sizerBytes ⟨1000000000, 5, 10⟩ 1 ∧
    accepted ⟨true, false, sizerBytes, 1000, false, false, 10, some ⟨1000000000, 5, 4⟩⟩ ⟨false, 0, sizerOther, 0, 0⟩ = false := by decide +kernel

/-- the driver's configuration oracle is sound: it accepts a built default batcher only if it meets the hypotheses the batcher
theorems take (`BatchOk`, one worker, items or bytes sizer) -/
theorem C04_config_check_sound (sz : Int) (b : BatchRaw) (w : Int) (h : builtOk (.dflt sz b w) = true) :
    (sz = sizerItems ∨ sz = sizerBytes) ∧ w = 1 ∧ BatchOk b := by
  simp [builtOk] at h
  simp only [BatchOk]
  omega

end ConfigGlue

/-- **the conservation search oracle decides the clause exactly**: the drivers (`c04-ms`: `conserve`; C17: `exactly_once`) judge
the IMPLEMENTATION's output with `permB out src`; it is `true` iff the flattening of what left is a permutation of what entered
(items with their full context) -/
theorem C04_oracle_conserve_iff {β : Type} [DecidableEq β] (out src : List β) : permB out src = true ↔ out.Perm src :=
  permB_iff out src

end OtelVerif.C04

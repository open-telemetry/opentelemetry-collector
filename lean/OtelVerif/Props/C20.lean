import OtelVerif.Lemmas.C20Bridge
import OtelVerif.Lemmas.C20Expand
import OtelVerif.Lemmas.C20FsmLog
import OtelVerif.Lemmas.C20Sig
import OtelVerif.Lemmas.C20Live
/-!
# C20 — collector run loop: one live service at a time, orderly reload, ends Closed

Theorems about the LTS of `Model/C20.lean` (`fire`), for EVERY finite label sequence: any interleaving of
the Run goroutine's statements with `Shutdown()` calls from any number of goroutines, config-watch
notifications, signals, asynchronous errors, context cancellation, and any assignment of failures to the
fallible calls (config/`service.New`, `service.Start`, `service.Shutdown`, provider `Shutdown`).
`Reachable v s` = `∃ ls, run v ls = some s`; there is no bound on the length of `ls`.

`v = .fixed` is the code with `fix: honour Shutdown() called while a config reload is in progress`;
`v = .pinned` the code as pinned. Theorems with a variable `v` hold for both; those stated for `.fixed` (and the signal
layer, which is built on `fire .fixed`) are about the repaired guard only.
-/
namespace OtelVerif.C20

/-- the witness of `C20/shutdown/lost-during-reload`: start, SIGHUP, `Shutdown()` while the reload has the state at Closing -/
def lostWitness : List Label :=
  [.begin, .step true, .step true, .step true, .step true,      -- Starting … Running
   .post .hup, .pick .hup, .step true,                          -- reload: state := Closing
   .call,                                                       -- Shutdown(): guard sees Closing
   .step true, .step true, .step true, .step true, .step true]  -- old service down, new one up, Running

/-! ## one live service at a time -/

/-- At every reachable state at most one configuration generation has live components; at the program
point where the components of a configuration are created (`service.New`) nothing is live and every
service created before has been through `service.Shutdown`. -/
theorem C20_no_overlap (v : Variant) (s : S) (h : Reachable v s) :
    s.live.length ≤ 1 ∧ (∀ rl, s.pc = .setup2 rl → s.live = [] ∧ s.created = s.sdLog) := by
  have hi := inv_reachable h
  have hl := hi.live
  have hc := hi.created
  simp only [S.core] at hl hc
  refine ⟨?_, ?_⟩
  · rw [hl]; by_cases hh : s.pc.hasLive = true <;> simp [hh]
  · intro rl hpc
    have : s.live = [] := by rw [hl]; simp [hpc, Pc.hasLive]
    exact ⟨this, by rw [hc, this]; simp⟩

/-- no service is shut down twice, whatever happens -/
theorem C20_service_shutdown_at_most_once (v : Variant) (s : S) (h : Reachable v s) (g : Nat) :
    s.sdLog.count g ≤ 1 := sdLog_count_le_one v s h g

/-! ## a run that reached Running and is stopped ends Closed -/

/-- If Run has returned after the select took a branch that leaves the loop (`stop = some e`), then: the run
had reached Running, `e` is one of the listed stop reasons, the state is Closed, the config providers were
shut down exactly once, nothing is live, every service ever created was shut down exactly once. -/
theorem C20_ends_closed (v : Variant) (s : S) (h : Reachable v s) (e : Ev) (hs : s.stop = some e) (hr : s.ret.isSome = true) :
    s.everRunning = true ∧ (e = .shutdown ∨ e = .term ∨ e = .ctx ∨ e = .async ∨ e = .watchErr) ∧
    s.st = .closed ∧ s.provSd = 1 ∧ s.live = [] ∧ (∀ g ∈ s.created, s.sdLog.count g = 1) ∧ s.panic = false := by
  obtain ⟨f, hlive, hall, hp⟩ := returned h hr
  obtain ⟨hst, hprov, hev⟩ := f.stopped (by rw [show s.core.stop = some e from hs]; rfl)
  refine ⟨hev, ?_, hst, hprov, hlive, hall, hp⟩
  have := (inv_reachable h).stopKind e hs
  cases e <;> simp [Ev.stops] at this ⊢

/-- "… and Run returns": once a stop branch was taken nothing any other goroutine does can divert the Run
goroutine from the shutdown path, each of its statements is enabled whatever the outcome of the fallible calls
(`C20_run_never_stuck`), and as soon as its (at most four) remaining statements have been executed — in any
interleaving with anything else — Run has returned.
WHAT THIS RESTS ON: that each of those statements terminates is an ASSUMPTION of the model, not a result —
`configProvider.Shutdown` and `service.Shutdown` are single always-enabled steps of `stepRun` ("may fail", never "may
hang"). What is proved is that the collector's own control flow adds no way of not returning: nothing diverts, re-enters or
blocks the path. The one place where the collector itself made `service.Start/Shutdown` hang (fatal-error report under
the status reporter's lock) is modelled and refuted for the unrepaired host in `C20_run_returns_unrepaired_host_fails`. -/
theorem C20_stop_returns (v : Variant) (s s' : S) (ls : List Label) (hr : Reachable v s) (hp : s.pc.inShut = true)
    (h : runFrom v s ls = some s') (hn : s.pc.remaining ≤ countSteps ls) : s'.pc = .done ∧ s'.ret.isSome = true := by
  obtain ⟨hp', hrem⟩ := shut_runFrom ls (Or.inl hp) h
  have hdone : s'.pc = .done := hp'.resolve_left fun hp' => by have := Pc.remaining_pos hp'; omega
  exact ⟨hdone, (ret_iff_done (reachable_runFrom hr h)).2 hdone⟩

/-- the Run goroutine is never blocked outside the select: its next statement is always enabled. DEFINITIONAL: this is
how `stepRun` is written (every call of the Run goroutine returns — the model's termination assumption, see `stepRun`); it
is stated so that the assumption has a name, and it is what the gated harness observes on the real code after every
release of a gate (watchdog of 5 s per step, `C20/runloop/run-wedged-*`, `C20/harness/run-goroutine-did-not-reach-expected-point`). -/
theorem C20_run_never_stuck (v : Variant) (s : S) (h1 : s.pc ≠ .idle) (h2 : s.pc ≠ .select) (h3 : s.pc ≠ .done) :
    (fire v s (.step true)).isSome = true := by
  show (stepRun s true).isSome = true
  cases hpc : s.pc <;> simp_all [stepRun]

/-- in the select a ready branch can always be taken -/
theorem C20_select_ready (v : Variant) (s : S) (hpc : s.pc = .select) (h : s.anyReady = true) :
    ∃ e, (fire v s (.pick e)).isSome = true := by
  obtain ⟨e, he⟩ := pick_enabled h
  exact ⟨e, (congrArg Option.isSome (if_pos hpc : fire v s (.pick e) = pickEv s e)).trans he⟩

/-- non-vacuity of `C20_no_overlap` / `C20_stop_returns`: a reachable state at the creation point of generation 2 with
generation 1 created and shut down; a reachable state on the shutdown path -/
example : (run .pinned (lostWitness.take 10 ++ [.step true])).map (fun s => (s.pc, s.gen, s.created, s.sdLog, s.live)) =
    some (.setup2 true, 2, [1], [1], []) := by decide +kernel
example : (run .fixed [.begin, .step true, .step true, .step true, .step true, .post .term, .pick .term]).map
    (fun s => (s.pc, s.pc.inShut, s.stop)) = some (.shut1, true, some .term) := by rfl

/-! ## initial / new configuration cannot be brought up -/

/-- If Run returned without a stop branch having been taken, a set-up or a reload failed: Run returned an error,
no component is left live and every service that was created (so: every component that was started) went through
`service.Shutdown` exactly once. -/
theorem C20_start_failure (v : Variant) (s : S) (h : Reachable v s) (hr : s.ret.isSome = true) (hs : s.stop = none) :
    s.ret = some false ∧ s.live = [] ∧ (∀ g ∈ s.created, s.sdLog.count g = 1) ∧ s.panic = false := by
  obtain ⟨f, hlive, hall, hp⟩ := returned h hr
  exact ⟨(f.failed hs).1, hlive, hall, hp⟩

/-- … and Run does return the error: from the point where the configuration is loaded / the service is built
(`setup2`), resp. where the service is started (`setup3`), a failure leads to `done` with an error in at most three
statements of the Run goroutine, the service created so far being shut down on the way. -/
theorem C20_setup_failure_returns (v : Variant) (s : S) (b : Bool) (g : Nat) :
    (s.pc = .setup2 true → ∃ s', runFrom v s [.step false] = some s' ∧ s'.pc = .done ∧ s'.ret = some false ∧ s'.sdLog = s.sdLog) ∧
    (s.pc = .setup2 false → ∃ s', runFrom v s [.step false, .step true] = some s' ∧ s'.pc = .done ∧ s'.ret = some false ∧
        s'.st = .closed ∧ s'.sdLog = s.sdLog) ∧
    (s.pc = .setup3 true → s.svc = some g → ∃ s', runFrom v s [.step false, .step b] = some s' ∧ s'.pc = .done ∧
        s'.ret = some false ∧ s'.sdLog = s.sdLog ++ [g]) ∧
    (s.pc = .setup3 false → s.svc = some g → ∃ s', runFrom v s [.step false, .step b, .step true] = some s' ∧ s'.pc = .done ∧
        s'.ret = some false ∧ s'.st = .closed ∧ s'.sdLog = s.sdLog ++ [g]) := by
  -- each case: the equation for the failing statement; `rfl` in `?hN` then fixes the witness `?wN`, and the rest computes
  refine ⟨fun hpc => ?_, fun hpc => ?_, fun hpc hsvc => ?_, fun hpc hsvc => ?_⟩
  · have h1 : stepRun s false = some (failSetup s true) := by simp only [stepRun, hpc]; rfl
    refine ⟨?w1, ?h1, ?r1⟩
    case h1 => simp only [runFrom, fire, h1]; rfl
    case r1 =>
      exact ⟨rfl, rfl, rfl⟩
  · have h1 : stepRun s false = some (failSetup s false) := by simp only [stepRun, hpc]; rfl
    refine ⟨?w2, ?h2, ?r2⟩
    case h2 => simp only [runFrom, fire, h1]; rfl
    case r2 =>
      exact ⟨rfl, rfl, rfl, rfl⟩
  · have h1 : stepRun s false = some (S.emit { s with pc := .setupSd true } (.started s.gen 0)) := by
      simp only [stepRun, hpc]; rfl
    refine ⟨?w3, ?h3, ?r3⟩
    case h3 => simp only [runFrom, fire, h1]; rfl
    case r3 =>
      refine ⟨rfl, rfl, ?_⟩
      show (svcShutdown _).sdLog = _
      simp only [svcShutdown, S.emit, hsvc]
  · have h1 : stepRun s false = some (S.emit { s with pc := .setupSd false } (.started s.gen 0)) := by
      simp only [stepRun, hpc]; rfl
    refine ⟨?w4, ?h4, ?r4⟩
    case h4 => simp only [runFrom, fire, h1]; rfl
    case r4 =>
      refine ⟨rfl, rfl, rfl, ?_⟩
      show (svcShutdown _).sdLog = _
      simp only [svcShutdown, S.emit, hsvc]

/-- non-vacuity of `C20_start_failure`: the initial `service.Start` fails; a reload's `service.New` fails -/
example : (run .fixed [.begin, .step true, .step true, .step false, .step true, .step true]).map
    (fun s => (s.ret, s.stop, s.st, s.created, s.sdLog)) = some (some false, none, .closed, [1], [1]) := by rfl
example : (run .fixed [.begin, .step true, .step true, .step true, .step true, .post .hup, .pick .hup, .step true, .step true,
    .step true, .step false]).map (fun s => (s.ret, s.stop, s.st, s.created, s.sdLog)) =
    some (some false, none, .starting, [1], [1]) := by rfl

/-- When Run returns because a configuration could not be brought up, it does NOT go
through `shutdown` — the config providers are not shut down, and the state is Closed only for the initial configuration;
after a failed reload it stays Starting (new configuration failed) or Closing (retiring service failed to shut down).
The statement's Closed/providers clause is about the five listed stop reasons (`C20_ends_closed`); for this path it asks
what `C20_start_failure` proves. A "tidy-up" that called `shutdown` here would shut the retiring service down a second
time (`col.service` still points to it when `Get` fails) — the differential and `C20/service/component-shutdown-twice` catch that. -/
theorem C20_failed_bringup_end_state (v : Variant) (s : S) (h : Reachable v s) (hr : s.ret.isSome = true) (hs : s.stop = none) :
    s.provSd = 0 ∧ ((s.everRunning = false ∧ s.st = .closed) ∨ (s.everRunning = true ∧ (s.st = .starting ∨ s.st = .closing))) := by
  exact (returned h hr).1.failed hs |>.2

/-! ## Shutdown() is safe, idempotent, and (repaired code) never lost -/

/-- one complete `Shutdown()` call: read the state; if the guard passes, `close(shutdownChan)` (`closeStep`) -/
def doCall (v : Variant) (s : S) : Option S :=
  (fire v s .call).bind (fun s1 => if s1.closers > s.closers then fire v s1 .close else some s1)

/-- the state without the bookkeeping fields `log`, `req`, `callerPanic`, `nFatal`, `nStale` -/
def S.ext (s : S) : Core × Bool × Nat × Bool × Nat × Nat × Nat × Nat × Nat × Bool :=
  (s.core, s.chanClosed, s.closers, s.ctxDone, s.nWatchOk, s.nWatchErr, s.nHup, s.nTerm, s.nAsync, s.errs)

/-- **Regenerated shape fact** (translator `shutdownshape`, re-extracted from `otelcol/*.go` on every run): every
`close(<x>.shutdownChan)` is under a deferred `recover()` in the same function or inside `sync.Once.Do`. This is the mechanism
that makes a second, concurrent close safe; a non-atomic "peek, then close" is not one. If the source loses it, this
obligation — and with it `C20_shutdown_safe`, `C20_no_caller_panic` — no longer checks. -/
theorem C20_close_is_recovered : Gen.ShutdownShape.closeRecovered = true := by decide +kernel

/-- one whole `Shutdown()` call in closed form -/
theorem doCall_eq (v : Variant) (s : S) : doCall v s = some
    { s with req := s.req || s.everRunning, log := s.log ++ [.call], chanClosed := v.honours s.st || s.chanClosed,
             callerPanic := s.callerPanic || (v.honours s.st && s.chanClosed && !Gen.ShutdownShape.closeRecovered) } := by
  rw [doCall, fire_call]
  cases hh : v.honours s.st <;> simp [fire, closeStep]

/-- safe from any state and any goroutine: a call is enabled in EVERY state (reachable or not), it never blocks,
it leaves what Run writes (`core`) and the number of callers past the guard as they are, and it does not panic in the caller — the last because the `close` is
protected (`C20_close_is_recovered`): guard read and close are two steps, so the channel may have been closed by
another caller in between (`closeStep`) -/
theorem C20_shutdown_safe (v : Variant) (s : S) :
    ∃ s', doCall v s = some s' ∧ s'.core = s.core ∧ s'.closers = s.closers ∧ (s.chanClosed = true → s'.chanClosed = true) ∧
      s'.callerPanic = s.callerPanic :=
  ⟨_, doCall_eq v s, rfl, rfl, fun h => by simp [h], by simp [C20_close_is_recovered]⟩

/-- **any goroutine, any number of them, concurrently**: in every reachable state — in particular after several callers
have passed the guard before any of them closed (`closers ≥ 2`), in any interleaving with the Run goroutine — no
`Shutdown()` call has panicked in its caller's goroutine. Depends on the regenerated `C20_close_is_recovered`. -/
theorem C20_no_caller_panic (v : Variant) (s : S) (h : Reachable v s) : s.callerPanic = false :=
  reachable_induction (P := fun s => s.callerPanic = false) rfl
    (fun _ _ _ _ hp hf => (callerPanic_fire v C20_close_is_recovered hf).trans hp) h

/-- the mechanism is necessary: with an unprotected `close` (`recovered = false`), of two callers that are both past the
guard the one that closes second panics — whatever the state, whoever goes first -/
theorem C20_double_close_needs_recover (s : S) : (closeStep false (closeStep false s)).callerPanic = true := by
  simp [closeStep]

/-- non-vacuity of `C20_no_caller_panic`: two callers past the guard at once is reachable (Running, two `call`s, then both
`close`), and the second close does find the channel closed -/
example : (run .fixed [.begin, .step true, .step true, .step true, .step true, .call, .call, .close]).map
    (fun s => (s.closers, s.chanClosed, s.callerPanic)) = some (1, true, false) := by decide +kernel

/-- idempotent: two calls in a row leave the same state as one call -/
theorem C20_shutdown_idempotent (v : Variant) (s : S) :
    ((doCall v s).bind (doCall v)).map S.ext = (doCall v s).map S.ext := by
  simp only [doCall_eq, Option.bind_some, Option.map_some]
  cases v.honours s.st <;> cases s.req <;> cases s.everRunning <;> cases s.chanClosed <;> rfl

/-- once the channel is closed, or in state Closed, a call changes nothing -/
theorem C20_shutdown_noop_when_closed (v : Variant) (s : S) (h : s.chanClosed = true ∨ s.st = .closed) :
    (doCall v s).map S.ext = some s.ext := by
  rw [doCall_eq]
  rcases h with h | h
  · simp [S.ext, S.core, h]
  · have : v.honours s.st = false := h ▸ v.honours_closed
    simp [S.ext, S.core, this]

/-- **Not lost** (repaired code): in every reachable state in which a `Shutdown()` call has been made after Running was
reached, the shutdown channel is closed, or the calling goroutine is about to close it, or Run has already returned. -/
theorem C20_shutdown_not_lost (s : S) (h : Reachable .fixed s) : NotLost s :=
  reachable_induction (P := NotLost) nofun (fun _ _ _ hg hn hf => notLost_fire hg hn hf) h

/-- the system is at rest: no goroutine is inside `Shutdown()`, nothing is ready in the select, the Run goroutine is
in the select (or not started / returned) -/
def Quiescent (s : S) : Prop := s.closers = 0 ∧ s.anyReady = false ∧ (s.pc = .select ∨ s.pc = .done ∨ s.pc = .idle)

theorem pending_not_quiescent {s : S} (hp : s.chanClosed = true ∨ s.closers > 0) : ¬ Quiescent s := by
  intro ⟨h0, ha, _⟩
  rcases hp with hp | hp
  · simp [S.anyReady, hp] at ha
  · omega

/-- **Honoured** (repaired code): the collector cannot come to rest in the select with a shutdown request outstanding —
at rest, Run has returned; and (`C20_ends_closed`) if it returned because of the request, in Closed. -/
theorem C20_shutdown_honoured (s : S) (h : Reachable .fixed s) (hr : s.req = true) (hq : Quiescent s) : s.pc = .done := by
  rcases C20_shutdown_not_lost s h hr with h1 | h1 | h1
  · exact absurd hq (pending_not_quiescent (Or.inl h1))
  · exact absurd hq (pending_not_quiescent (Or.inr h1))
  · exact h1

/-- **The pinned code loses the request**: the full statement fails for `Variant.pinned` — after `lostWitness` a
`Shutdown()` has been made after Running, yet the system is at rest in the select, channel open, Run not returned. -/
theorem C20_shutdown_not_lost_pinned_fails :
    ¬ (∀ s, Reachable .pinned s → s.req = true → Quiescent s → s.pc = .done) := by
  intro hall
  have hw : (run .pinned lostWitness).map (fun s => (s.req, s.closers, s.anyReady, s.pc, s.st, s.chanClosed)) =
      some (true, 0, false, .select, .running, false) := by decide +kernel
  obtain ⟨s, hs, hw⟩ := Option.map_eq_some_iff.1 hw
  simp only [Prod.mk.injEq] at hw
  obtain ⟨h1, h2, h3, h4, _, _⟩ := hw
  have := hall s ⟨_, hs⟩ h1 ⟨h2, h3, Or.inl h4⟩
  rw [h4] at this; cases this

/-- non-vacuity of `C20_shutdown_honoured`: on the repaired code the same history leaves the channel closed … -/
example : (run .fixed (lostWitness ++ [.close])).map (fun s => (s.req, s.chanClosed, s.pc)) = some (true, true, .select) := by
  decide +kernel

/-- … and the run then ends Closed with everything shut down exactly once (the hypotheses of `C20_ends_closed` are met) -/
example : (run .fixed (lostWitness ++ [.close, .pick .shutdown, .step true, .step true, .step true, .step true])).map
    (fun s => (s.stop, s.ret, s.st, s.sdLog, s.provSd, s.live)) = some (some .shutdown, some true, .closed, [1, 2], 1, []) := by
  rfl

/-! ## the trace monitor is sound -/

/-- The property on an event log (component create / start / shutdown with generation, provider shutdown, state
samples, `Shutdown()` calls, stop branch, Run's return, "at rest" observations), stated without reference to the
monitor or the model. -/
structure TraceOK (t : List TEv) : Prop where
  /-- between the start of a component and the creation of a component of ANOTHER configuration lies its shutdown -/
  noOverlapCreate : ∀ p1 p2 p3 g c g' c', t = p1 ++ .started g c :: (p2 ++ .created g' c' :: p3) → g ≠ g' → TEv.shut g c ∈ p2
  noOverlapStart : ∀ p1 p2 p3 g c g' c', t = p1 ++ .started g c :: (p2 ++ .started g' c' :: p3) → g ≠ g' → TEv.shut g c ∈ p2
  shutOnce : ∀ g c, t.count (.shut g c) ≤ 1
  provOnce : t.count .prov ≤ 1
  /-- when Run returns every started component has been shut down -/
  retClean : ∀ p ok q, t = p ++ .ret ok :: q → ∀ g c, TEv.started g c ∈ p → TEv.shut g c ∈ p
  /-- … and if a stop branch had been taken, the state is Closed and the providers were shut down exactly once -/
  stopClosed : ∀ p ok q, t = p ++ .ret ok :: q → TEv.stop ∈ p → lastSt .starting p = .closed ∧ p.count .prov = 1
  /-- the system is never at rest with Run not returned after a `Shutdown()` that followed Running -/
  notLost : ∀ p q, t = p ++ .quiet :: q → (∃ p1 p2 p3, p = p1 ++ .st .running :: (p2 ++ .call :: p3)) → ∃ ok, TEv.ret ok ∈ p

theorem C20_check_sound (t : List TEv) (h : check t = true) : TraceOK t := by
  obtain ⟨m, hm⟩ := check_ok h
  refine ⟨?_, ?_, ?_, ?_, ?_, ?_, ?_⟩
  · intro p1 p2 p3 g c g' c' ht hne
    subst ht; exact Mon.no_overlap hm (fun _ h => h) hne
  · intro p1 p2 p3 g c g' c' ht hne
    subst ht; exact Mon.no_overlap hm (fun _ h => h) hne
  · intro g c
    have := Mon.shut_count hm g c
    simp only [List.not_mem_nil, if_false, Nat.add_zero] at this
    split at this <;> omega
  · have := (Mon.prov_count hm (by simp)).1
    have h2 := (Mon.prov_count hm (by simp)).2
    simp at this; omega
  · intro p ok q ht g c hs
    subst ht
    apply Classical.byContradiction; intro hn
    obtain ⟨ma, h1, h2, _⟩ := Mon.run_split hm
    obtain ⟨p1, p2, rfl⟩ := List.append_of_mem hs
    have hl : (g, c) ∈ ma.live := Mon.started_live h1 (fun hh => hn (by simp [hh]))
    rw [h2.1] at hl; cases hl
  · intro p ok q ht hs
    subst ht
    obtain ⟨ma, h1, h2, _⟩ := Mon.run_split hm
    have hf := Mon.flags h1
    have hst := h2.2 (hf.stopMem hs)
    have hp := (Mon.prov_count h1 (by simp)).1
    refine ⟨?_, ?_⟩
    · rw [← hst.1, hf.st]
    · simp at hp; omega
  · intro p q ht hex
    subst ht
    obtain ⟨p1, p2, p3, rfl⟩ := hex
    obtain ⟨ma, h1, h2, _⟩ := Mon.run_split hm
    obtain ⟨mb, g1, -, g3⟩ := Mon.run_split h1
    obtain ⟨md, j1, -, j3⟩ := Mon.run_split g3
    have e2 : md.everRunning = true := (Mon.flags j1).ever (Bool.or_true _)
    have e4 : ma.req = true := (Mon.flags j3).req (show (md.req || md.everRunning) = true by rw [e2, Bool.or_true])
    have e5 := h2 e4
    rcases (Mon.flags h1).ret e5 with h0 | h0
    · simp at h0
    · exact h0

/-- non-vacuity: the monitor accepts the log of a run with a reload and a clean stop, rejects a log in which a component of
generation 2 is created while generation 1 is live, and rejects rest-in-select after a `Shutdown()` that followed Running -/
example : check [.st .starting, .created 1 0, .started 1 0, .st .running, .st .closing, .shut 1 0, .st .starting, .created 2 0,
    .started 2 0, .st .running, .call, .stop, .st .closing, .prov, .shut 2 0, .st .closed, .ret true] = true := by decide +kernel
example : check [.st .starting, .created 1 0, .started 1 0, .st .running, .st .closing, .created 2 0] = false := by decide +kernel
example : check [.st .starting, .created 1 0, .started 1 0, .st .running, .st .closing, .call, .shut 1 0, .st .starting,
    .created 2 0, .started 2 0, .st .running, .quiet] = false := by decide +kernel

/-! ## bridge: the model's own logs are accepted by the monitor, hence satisfy the trace-level statement -/

/-- every event log the model can produce — any variant, any interleaving, any failure assignment — is accepted by the
monitor that judges the logs of the real collector -/
theorem C20_model_log_accepted (v : Variant) (s : S) (h : Reachable v s) : check s.log = true := by
  obtain ⟨m, hm, _⟩ := (acc_reachable h).rel
  simp [check, hm]

/-- … so the trace-level statement of the property (`TraceOK`, stated without the monitor or the model) holds of every
log of the model: the state-level theorems above and the judgement passed on real logs talk about the same thing -/
theorem C20_model_trace_ok (v : Variant) (s : S) (h : Reachable v s) : TraceOK s.log :=
  C20_check_sound _ (C20_model_log_accepted v s h)

/-- (repaired code) whenever the model is at rest, the observation "at rest" appended to its log is accepted too: the
monitor's lost-request clause never fires on the repaired model … -/
theorem C20_model_quiet_accepted (s : S) (h : Reachable .fixed s) (hq : Quiescent s) : check (s.log ++ [.quiet]) = true := by
  obtain ⟨m, hm, hr⟩ := (acc_reachable h).rel
  have hok : m.ok .quiet := fun hreq => by
    rw [hr.ret]; exact (ret_iff_done h).2 (C20_shutdown_honoured s h (hr.req ▸ hreq) hq)
  rw [check, Mon.run_append_ok hm, Mon.run_one hok]

/-- … while on the pinned model it does: the log of `lostWitness` followed by "at rest" is rejected as a lost request -/
theorem C20_model_quiet_rejected_pinned :
    (run .pinned lostWitness).map (fun s => (s.closers, s.anyReady, s.pc, check (s.log ++ [.quiet]))) =
      some (0, false, .select, false) := by
  decide +kernel

/-! ## service.Start / service.Shutdown as many steps: component-level logs -/

/-- Any accepted service-level log stays accepted when every service-level event is replaced by what a real service
does at component level, in the shape C10 proves of `service.Start/Shutdown` (taken here as the definition of `expand`,
`Lemmas/C20Expand.lean`). -/
theorem C20_expand_accepted (n k : Nat → Nat) (hk : ∀ g, k g ≤ n g) (t : List TEv) (h0 : ∀ e ∈ t, e.idx0 = true)
    (h : check t = true) : check (t.flatMap (expand n k)) = true := by
  obtain ⟨m, hm⟩ := check_ok h
  obtain ⟨M, hM, _⟩ := exp_run (n := n) hk h0
    (⟨by simp, by simp, rfl, rfl, rfl, rfl, rfl, rfl, rfl⟩ : Exp k ({} : Mon) ({} : Mon)) hm
  simp [check, hM]

/-- Hence: for every reachable state of the run-loop model, every choice of component counts and of how far each
`service.Start` got, the component-level log satisfies the trace-level statement (no component of two generations live at
once, each component shut down at most once and — at Run's return — exactly once if started, providers once, Closed
after a stop branch). This is the log format the monitor judges on the real collector (3 components per generation). -/
theorem C20_model_component_trace_ok (v : Variant) (s : S) (h : Reachable v s) (n k : Nat → Nat) (hk : ∀ g, k g ≤ n g) :
    TraceOK (s.log.flatMap (expand n k)) :=
  C20_check_sound _ (C20_expand_accepted n k hk s.log (logIdx0_reachable h) (C20_model_log_accepted v s h))

/-- non-vacuity: 3 components per service, the second generation's Start fails after 1 component -/
example : (run .fixed [.begin, .step true, .step true, .step true, .step true, .post .hup, .pick .hup, .step true, .step true,
    .step true, .step true, .step false, .step true]).map
    (fun s => (s.log.flatMap (expand (fun _ => 3) (fun g => if g = 2 then 1 else 3))).filter
      (fun e => match e with | .started _ _ | .shut _ _ => true | _ => false)) =
    some [.started 1 0, .started 1 1, .started 1 2, .shut 1 0, .shut 1 1, .shut 1 2, .started 2 0, .shut 2 0, .shut 2 1, .shut 2 2] := by
  decide +kernel

/-! ## fatal errors reported by components (`Label.fatal`, `S.nFatal`: the repaired host, `fix: do not block the status reporter …`) -/

/-- a pending fatal-error hand-over makes the `async` branch of the select ready — from any state of the select -/
theorem C20_fatal_report_is_received (v : Variant) (s : S) (hpc : s.pc = .select) (h : s.nFatal > 0) :
    ∃ s', fire v s (.pick .async) = some s' ∧ s'.stop = some .async ∧ s'.pc = .shut1 :=
  pick_stops v hpc rfl (by simp [pickEv, h])

/-- … and what is still pending when the service is shut down (reload, failed start, final shutdown) no longer belongs to a
live service: `host.Done` is closed, every such hand-over goroutine is stale and gives up when it next runs (`giveUp`, always
enabled for a stale one — no goroutine is left behind). Until it has run, its send can still be taken by a select: on the real
code a window of a few scheduler quanta (seen once in ≈ 10^5 gated histories); then the reloaded collector stops, orderly, for
the fatal error of a retired component. The gated harness waits for the stale goroutines to be gone before it goes on. -/
theorem C20_fatal_reports_abandoned_at_service_shutdown (s s' : S) (ok : Bool) (g : Nat) (hsvc : s.svc = some g)
    (hpc : s.pc = .reload2 ∨ s.pc = .shut3 ∨ (∃ rl, s.pc = .setupSd rl)) (h : stepRun s ok = some s') :
    s'.nFatal = 0 ∧ s'.nStale = s.nStale + s.nFatal ∧
      (s'.nStale > 0 → ∀ v, ∃ s'', fire v s' .giveUp = some s'' ∧ s''.nStale + 1 = s'.nStale ∧ s''.core = s'.core) := by
  have hg : ∀ (t : S), t.nStale > 0 → ∀ v, ∃ t', fire v t .giveUp = some t' ∧ t'.nStale + 1 = t.nStale ∧ t'.core = t.core := by
    intro t ht v
    refine ⟨{ t with nStale := t.nStale - 1 }, by simp [fire, ht], by simp; omega, rfl⟩
  rcases hpc with hpc | hpc | ⟨rl, hpc⟩
  · cases ok <;> simp [stepRun, hpc, svcShutdown_some hsvc, S.emit] at h <;> subst h <;> exact ⟨rfl, rfl, hg _⟩
  · simp [stepRun, hpc, svcShutdown_some hsvc, S.emit] at h; subst h; exact ⟨rfl, rfl, hg _⟩
  · cases rl <;> simp [stepRun, hpc, svcShutdown_some hsvc, S.emit, failSetup] at h <;> subst h <;> exact ⟨rfl, rfl, hg _⟩

/-- The UNREPAIRED host (`host.AsyncErrorChannel <- event.Err()` inside `NotifyComponentStatusChange`, i.e. with the status
reporter's mutex held): while a report is pending, every statement of the Run goroutine that reports component statuses —
`service.Start` (`setup3`) and `service.Shutdown` (`setupSd`, `reload2`, `shut3`) — blocks on that mutex. -/
def locksReporter : Pc → Bool
  | .setup3 _ | .setupSd _ | .reload2 | .shut3 => true
  | _ => false

def stepRunUnrepairedHost (s : S) (ok : Bool) : Option S :=
  if s.nFatal > 0 && locksReporter s.pc then none else stepRun s ok

/-- history of corpus case 1 of the harness: Running; SIGTERM is taken by the select; a component reports FatalError; the
shutdown proceeds to `service.Shutdown` -/
def wedgeWitness : List Label :=
  [.begin, .step true, .step true, .step true, .step true, .post .term, .pick .term, .fatal, .step true, .step true]

/-- **"Run returns" fails for the unrepaired host** (about the host BEFORE `fix: do not block the status reporter …`, /repo cbd17a389): after
`wedgeWitness` the run has been stopped by a termination signal, sits before `service.Shutdown` with a fatal report pending,
the next statement of the Run goroutine is disabled whatever its outcome, and nothing any other goroutine does ever changes
that — Run never returns, the state stays Closing. -/
theorem C20_run_returns_unrepaired_host_fails :
    ∃ s, run .fixed wedgeWitness = some s ∧ s.stop = some .term ∧ s.st = .closing ∧ s.ret = none ∧
      (∀ ok, stepRunUnrepairedHost s ok = none) ∧
      (∀ ls s', (∀ l ∈ ls, l.isStep = false) → runFrom .fixed s ls = some s' →
        s'.pc = .shut3 ∧ s'.ret = none ∧ ∀ ok, stepRunUnrepairedHost s' ok = none) := by
  have hw : (run .fixed wedgeWitness).map (fun s => (s.stop, s.st, s.ret, s.pc, s.nFatal)) =
      some (some .term, .closing, none, .shut3, 1) := by decide +kernel
  obtain ⟨s, hs, hw⟩ := Option.map_eq_some_iff.1 hw
  simp only [Prod.mk.injEq] at hw
  obtain ⟨h1, h2, h3, h4, h5⟩ := hw
  refine ⟨s, hs, h1, h2, h3, fun ok => by simp [stepRunUnrepairedHost, h4, h5, locksReporter], fun ls s' hl h => ?_⟩
  -- with a fatal report pending before `service.Shutdown`, no label other than a Run statement changes that
  have stable : ∀ (t : S) (l : Label) (t' : S), l.isStep = false → t.pc = .shut3 ∧ t.nFatal > 0 → fire .fixed t l = some t' →
      t'.pc = .shut3 ∧ t'.nFatal > 0 := fun t l t' hq ⟨hpc, hf⟩ h => by
    rcases fire_cases .fixed h with ⟨-, x⟩ | ⟨-, hi, -⟩ | ⟨ok, rfl, -⟩ | ⟨e, -, hi, -⟩
    · exact ⟨x.pc.trans hpc, Nat.lt_of_lt_of_le hf x.nFatal⟩
    · rw [hpc] at hi; cases hi
    · cases hq
    · rw [hpc] at hi; cases hi
  obtain ⟨a, b⟩ := runFrom_invariant_of .fixed (P := fun t => t.pc = .shut3 ∧ t.nFatal > 0) (Q := fun l => l.isStep = false)
    stable ls hl ⟨h4, by omega⟩ h
  have hg := good_reachable (reachable_runFrom ⟨_, hs⟩ h)
  exact ⟨a, (hg.atPc (by rw [show s'.core.pc = .shut3 from a]; decide)).ret,
    fun ok => by simp [stepRunUnrepairedHost, a, b, locksReporter]⟩

/-- on the repaired host the same history goes on to Closed: the pending hand-over is stale after `service.Shutdown` -/
example : (run .fixed (wedgeWitness ++ [.step true, .step true])).map (fun s => (s.st, s.ret, s.nFatal, s.nStale, s.sdLog, s.provSd)) =
    some (.closed, some true, 0, 1, [1], 1) := by rfl

/-! ## "a configuration-watch error stops the collector": the watcher is a lossless queue (`postEv`: a BLOCKING send) -/

/-- an outstanding error notification can only go away by being received: along any continuation that does not contain the
select's receive of a watch error, it stays outstanding — whatever else is received, however many reloads happen -/
theorem C20_watch_error_never_lost (v : Variant) (s s' : S) (ls : List Label) (hn : ∀ l ∈ ls, l ≠ .pick .watchErr)
    (h : runFrom v s ls = some s') : s.nWatchErr ≤ s'.nWatchErr :=
  runFrom_invariant_of v (P := fun t => s.nWatchErr ≤ t.nWatchErr) (Q := fun l => l ≠ .pick .watchErr)
    (fun _ _ _ hq hp hf => Nat.le_trans hp (watchErr_fire v hq hf)) ls hn (Nat.le_refl _) h

/-- … while it is outstanding the collector cannot be at rest, and whenever the Run goroutine is in the select it can be
received, which leaves the loop (then `C20_stop_returns`, `C20_ends_closed`: Run returns, Closed, service and providers shut
down exactly once) -/
theorem C20_watch_error_stops_collector (v : Variant) (s : S) (h : s.nWatchErr > 0) :
    ¬ Quiescent s ∧ (s.pc = .select → ∃ s', fire v s (.pick .watchErr) = some s' ∧ s'.stop = some .watchErr ∧ s'.pc = .shut1) := by
  refine ⟨?_, ?_⟩
  · intro ⟨_, ha, _⟩
    simp [S.anyReady] at ha
    omega
  · exact fun hpc => pick_stops v hpc rfl (by simp [pickEv, h])

/-- non-vacuity (= corpus case 4 of the harness): a change and then an error are notified while
the collector starts; the change is received first, the reload completes, the error is still outstanding and stops the run -/
example : (run .fixed [.begin, .step true, .step true, .post .watchOk, .post .watchErr, .step true, .step true, .pick .watchOk,
    .step true, .step true, .step true, .step true, .step true, .step true]).map (fun s => (s.pc, s.gen, s.nWatchOk, s.nWatchErr)) =
    some (.select, 2, 0, 1) := by decide +kernel

/-! ## the lifecycle FSM, and the model's statements tied to the regenerated source facts

`Gen/CollectorFsm.lean` is rewritten from `otelcol/collector.go` by the translator `collectorfsm` on every run. The
left-hand sides below are COMPUTED FROM THE MODEL (`stepRun`/`pickEv` executed on probe states, their event logs read
back — `Lemmas/C20Fsm.lean`), the right-hand sides are the regenerated data: moving, adding or dropping a
`setCollectorState`, reordering the calls of `setupConfigurationComponents` / `reloadConfiguration` / `shutdown`,
changing what a select branch does or the guard of `Shutdown()` makes these stop checking. -/

/-- the State constants, the state `NewCollector` stores, and: nothing but `NewCollector` and `setCollectorState` writes
the state word -/
theorem C20_state_consts_match_source :
    Gen.CollectorFsm.stateConsts = [CState.starting, .running, .closing, .closed].map CState.name ∧
    Gen.CollectorFsm.initialState = init.st.name ∧
    Gen.CollectorFsm.rawStateWriters = ["Collector.setCollectorState", "NewCollector"] := by decide +kernel

/-- every `setCollectorState(X)` of the source is a state-storing statement of the model, same function, same state,
same order, and the model has no other; `sourcePcs` lists every program point that has a statement (the `rl` flag of the
set-up points does not change what the statement stores) -/
theorem C20_set_state_sites_match_source :
    modelSetSites = Gen.CollectorFsm.setSites ∧
    (∀ pc : Pc, pc = .idle ∨ pc = .select ∨ pc = .done ∨
      (pc.unrl ∈ sourcePcs ∧ pc.unrl.func = pc.func ∧ pc.unrl.effects true = pc.effects true ∧
        pc.unrl.effects false = pc.effects false)) := by
  refine ⟨by decide +kernel, ?_⟩
  intro pc
  cases pc with
  | idle => simp
  | select => simp
  | done => simp
  | setup1 rl | setup2 rl | setup3 rl | setupSd rl | setup4 rl =>
    cases rl <;> exact Or.inr (Or.inr (Or.inr ⟨by decide, rfl, rfl, rfl⟩))
  | _ => exact Or.inr (Or.inr (Or.inr ⟨by decide, rfl, rfl, rfl⟩))

/-- the calls that matter, in the order the source makes them: straight path and error branch of
`setupConfigurationComponents` (a failed `service.Start` is followed by `service.Shutdown` of that service, nothing else),
`reloadConfiguration` (Closing; the retiring `service.Shutdown`; only then set-up), `shutdown` (Closing; providers; service;
Closed), `Run` (set-up; `setCollectorState(Closed)` only on the failure branch) -/
theorem C20_call_order_matches_source :
    straight 8 (.setup1 false) = genSeq "Collector.setupConfigurationComponents" 0 ∧
    Pc.effects (.setupSd false) true = genSeq "Collector.setupConfigurationComponents" 1 ∧
    genSeq "Collector.setupConfigurationComponents" 2 = [] ∧
    straight 8 .reload1 = genSeq "Collector.reloadConfiguration" 0 ∧
    genSeq "Collector.reloadConfiguration" 1 = [] ∧
    straight 8 .shut1 = genSeq "Collector.shutdown" 0 ∧
    genSeq "Collector.shutdown" 1 = [] ∧
    genSeq "Collector.Run" 0 = ["call:setup"] ∧
    genSeq "Collector.Run" 1 = Pc.effects .initFail true := by decide +kernel

/-- `DryRun` and `GetState` perform none of the modelled effects (no state store, no service created/started/shut down, no
provider shutdown): they are not labels of the LTS because they change nothing it tracks; `Shutdown()` does exactly one
thing, the guarded `close(shutdownChan)` (`Label.call`/`Label.close`) -/
theorem C20_dry_run_and_shutdown_effects_match_source :
    (∀ d ∈ [0, 1, 2, 3], genSeq "Collector.DryRun" d = [] ∧ genSeq "Collector.GetState" d = []) ∧
    Gen.CollectorFsm.callSeq.lookup "Collector.DryRun" =
      some [(0, "Factories"), (0, "provider.Get"), (0, "Validate"), (0, "service.Validate")] ∧
    Gen.CollectorFsm.callSeq.lookup "Collector.Shutdown" = some [(1, "close:shutdownChan")] := by decide +kernel

/-- what each branch of Run's select does (stop = towards `col.shutdown`, reload = `reloadConfiguration`, return on error),
read from the model, equals what the source does; after the loop comes `col.shutdown` -/
theorem C20_select_branches_match_source :
    modelBranches = genBranches ∧ Gen.CollectorFsm.afterLoop = "stop" := by decide +kernel

/-- the one branch that is taken BECAUSE the context is done shuts down with a fresh context (`context.Background()`), so the
final `service.Shutdown` / `configProvider.Shutdown` are not handed an already-cancelled context; every other branch passes
Run's own context on (regenerated; the model's `shut2`/`shut3` steps are the same program points for both) -/
theorem C20_ctx_branch_shuts_down_with_background_context :
    Gen.CollectorFsm.selectBranches.lookup "ctx.Done()" = some ("", "stop-background-ctx", "stop-background-ctx") ∧
    (∀ b ∈ Gen.CollectorFsm.selectBranches, b.1 ≠ "ctx.Done()" → b.2.2.1 ≠ "stop-background-ctx" ∧ b.2.2.2 ≠ "stop-background-ctx") := by
  decide +kernel

/-- the guard of `Shutdown()` in the source is the guard of `Variant.fixed`, state by state (truth table regenerated) -/
theorem C20_shutdown_guard_matches_source (c : CState) :
    Variant.fixed.honours c = Gen.CollectorFsm.guardHonours.contains c.name := by
  cases c <;> decide +kernel

/-- … and it is NOT the pinned guard (the defect `C20_shutdown_not_lost_pinned_fails` is about a guard the source does not have) -/
theorem C20_shutdown_guard_is_not_pinned :
    ∃ c : CState, Variant.pinned.honours c ≠ Gen.CollectorFsm.guardHonours.contains c.name := ⟨.closing, by decide +kernel⟩

/-- how notifications and fatal errors get onto the channels the select reads (regenerated shape facts): the resolver's
`onChange` is a BLOCKING send (what `post watchOk/watchErr` = "outstanding until received" and `C20_watch_error_never_lost`
assume — a `select … default` here is the seeded defect `seeded/C20-r7-1`); the host hands a component's FatalError over from a goroutine that
gives up at `host.Done` (what `Label.fatal` / `Label.giveUp` model — a plain send here is the host before cbd17a389,
`C20_run_returns_unrepaired_host_fails`) -/
theorem C20_channel_hand_overs_match_source :
    Gen.CollectorFsm.watcherSend = "blocking" ∧ Gen.CollectorFsm.fatalHandover = "goroutine-select-done" := by decide +kernel

/-- **Every transition is in the documented FSM.** In every reachable state, whatever label fires (any goroutine): the
state word stays or moves along an edge of `fsmEdge` (Starting→Running→Closing→Closed, Closing→Starting for a reload,
Starting→Closed for a failed initial set-up); and only statements of the Run goroutine move it. -/
theorem C20_every_transition_in_fsm (v : Variant) (s s' : S) (l : Label) (h : Reachable v s) (hf : fire v s l = some s') :
    (s'.st = s.st ∨ fsmEdge s.st s'.st = true) ∧ ((∀ ok, l ≠ .step ok) → s'.st = s.st) := by
  exact ⟨fire_st_edge v (good_reachable h) hf, fun hl => st_external v hf hl⟩

/-- the whole history of the state word of any run, from `NewCollector`'s Starting, is a (stuttering) path of the FSM -/
theorem C20_state_history_is_fsm_path (v : Variant) (ls : List Label) : fsmPath .starting (stHist v init ls) :=
  stHist_path v ls init good_init

/-- soundness of the driver's oracle `prop fsm` (`fsmTraceBad` over the state word the implementation showed, one sample per
change): if it accepts, the samples form a path of the FSM and every consecutive pair is an edge -/
theorem C20_fsm_check_sound (a : CState) (cs : List CState) (h : fsmTraceBad (a :: cs) = none) :
    fsmStrict (a :: cs) ∧ fsmPath a cs :=
  ⟨fsmTraceBad_none _ h, fsmStrict_path a cs (fsmTraceBad_none _ h)⟩

/-- … in the form the driver applies it to an event log (`fsmLogBad`: the `st` samples, from `NewCollector`'s Starting,
repeated consecutive samples dropped): an accepted log's state changes are all edges of the FSM -/
theorem C20_fsm_log_check_sound (log : List TEv) (h : fsmLogBad log = none) :
    fsmStrict (dedupAdj (.starting :: log.filterMap TEv.stOf)) :=
  fsmTraceBad_none _ h

/-- **Bridge for the lifecycle oracle**: the event log of EVERY reachable state of the model (either variant, any
interleaving) is accepted by `fsmLogBad` — the oracle judging the real collector's sampled state word cannot alarm on
behaviour the LTS allows, and the state-level theorem `C20_every_transition_in_fsm` and the judgement on real logs are about
the same thing -/
theorem C20_model_state_trace_accepted (v : Variant) (s : S) (h : Reachable v s) : fsmLogBad s.log = none :=
  (fsmLogBad_eq s.log).trans <| fsmPath_dedup_ok _ _ (reachable_induction logInv_init (fun _ _ _ hg hl hf => logInv_fire v hg hl hf) h).path

/-- the oracle is not vacuous: it accepts start / reload / shutdown, rejects Running → Starting (a reload that skipped
Closing) and Running → Closed (a shutdown that skipped Closing) -/
example : fsmTraceBad [.starting, .running, .closing, .starting, .running, .closing, .closed] = none ∧
    fsmTraceBad [.starting, .running, .starting] = some (.running, .starting) ∧
    fsmTraceBad [.starting, .running, .closed] = some (.running, .closed) := by decide +kernel

/-- Closed is terminal: once the state word is Closed no label of any goroutine changes it -/
theorem C20_closed_is_terminal (v : Variant) (s s' : S) (l : Label) (h : Reachable v s) (hc : s.st = .closed)
    (hf : fire v s l = some s') : s'.st = .closed := by
  -- no edge of the FSM leaves Closed
  rcases fire_st_edge v (good_reachable h) hf with h1 | h1
  · exact h1.trans hc
  · rw [hc] at h1; cases s'.st <;> cases h1

/-- witnesses: a run and a label whose firing moves the state word along the given edge -/
def edgeWitness : CState → CState → List Label × Label
  | .starting, .starting => ([.begin], .step true)
  | .starting, .running => ([.begin, .step true, .step true, .step true], .step true)
  | .running, .closing => ([.begin, .step true, .step true, .step true, .step true, .post .hup, .pick .hup], .step true)
  | .closing, .starting =>
    ([.begin, .step true, .step true, .step true, .step true, .post .hup, .pick .hup, .step true, .step true], .step true)
  | .closing, .closed =>
    ([.begin, .step true, .step true, .step true, .step true, .call, .close, .pick .shutdown, .step true, .step true, .step true],
     .step true)
  | .starting, .closed => ([.begin, .step true, .step false], .step true)
  | _, _ => ([], .begin)

def realises (a b : CState) : Bool :=
  ((run .fixed (edgeWitness a b).1).bind (fun s => (fire .fixed s (edgeWitness a b).2).map (fun s' => (s.st, s'.st)))) == some (a, b)

/-- no edge of `fsmEdge` is superfluous: each is taken by some reachable transition (so `C20_every_transition_in_fsm`
could not be stated with a smaller relation) -/
theorem C20_fsm_edges_all_realised (a b : CState) (h : fsmEdge a b = true) :
    ∃ s s' l, Reachable .fixed s ∧ fire .fixed s l = some s' ∧ s.st = a ∧ s'.st = b := by
  have hr : realises a b = true := by cases a <;> cases b <;> first | (simp [fsmEdge] at h; done) | decide +kernel
  obtain ⟨s, h1, hr⟩ := Option.bind_eq_some_iff.1 (beq_iff_eq.1 hr)
  obtain ⟨s', h2, hr⟩ := Option.map_eq_some_iff.1 hr
  exact ⟨s, s', _, ⟨_, h1⟩, h2, (Prod.mk.inj hr).1, (Prod.mk.inj hr).2⟩

/-- non-vacuity of `C20_every_transition_in_fsm` / `C20_state_history_is_fsm_path`: a start, a reload, a shutdown -/
example : stHist .fixed init [.begin, .step true, .step true, .step true, .step true, .post .hup, .pick .hup, .step true,
    .step true, .step true, .step true, .step true, .step true, .call, .close, .pick .shutdown, .step true, .step true, .step true, .step true] =
    [.starting, .starting, .starting, .starting, .running, .running, .running, .closing, .closing, .starting, .starting, .starting,
     .running, .running, .running, .running, .closing, .closing, .closing, .closed] := by decide +kernel

/-! ## OS signals in front of the run loop (`Model/C20Sig.lean`)

The layer `fireS` in front of "a signal entered the channel"; it is tied by an exact differential with REAL signals (`syscall.Kill` to
the test process, harness `signals`). -/

/-- the regenerated registrations are of the shape the model knows, and mean: SIGHUP always; SIGINT and SIGTERM unless
`DisableGracefulShutdown`; `signal.Stop` deferred; channel capacities as the model assumes them (signals 3, async error
unbuffered, shutdown channel unbuffered = only ever closed, resolver watcher 1) -/
theorem C20_sig_registrations_match_source :
    notifySet false = [.hup, .int, .term] ∧ notifySet true = [.hup] ∧ sigCap = 3 ∧
    (∀ p ∈ Gen.CollectorFsm.runNotify, (notifyCond false p.1).isSome = true ∧ ∀ n ∈ p.2, (Sig.ofGoName n).isSome = true) ∧
    Gen.CollectorFsm.signalStopDeferred = true ∧
    Gen.CollectorFsm.chanCaps =
      [("shutdownChan", 0), ("signalsChannel", 3), ("asyncErrorChannel", 0), ("resolver.watcher", 1)] :=
  ⟨notifySet_false, notifySet_true, sigCap_eq, by decide +kernel⟩

/-- **Refinement.** Whatever the operating system delivers, in whatever order, interleaved with everything else: the run
loop underneath only makes moves of the LTS of `Model/C20.lean` — so every theorem above (`C20_no_overlap`, `C20_ends_closed`,
`C20_stop_returns`, `C20_shutdown_not_lost`, `C20_every_transition_in_fsm`, …) holds of `ss.core` for every reachable `ss`. -/
theorem C20_sig_layer_refines_run_loop (dg : Bool) (ss : SS) (h : ReachableS dg ss) : Reachable .fixed ss.core := by
  exact (sinv_reachable h).1

/-- the channel never holds more than its capacity, and the core model's counters are exactly its content -/
theorem C20_sig_channel_within_capacity (dg : Bool) (ss : SS) (h : ReachableS dg ss) :
    ss.q.length ≤ 3 ∧ ss.core.nHup + ss.core.nTerm = ss.q.length ∧ ss.core.nHup = ss.q.count .hup ∧
    ∀ sg ∈ ss.q, sg ∈ notifySet dg := by
  obtain ⟨_, hi, hd⟩ := sinv_reachable h
  exact ⟨by have := hi.cap; rw [sigCap_eq] at this; exact this, hi.total, hi.hupCount, by rw [← hd]; exact hi.regd⟩

/-- `signalsChannel` is registered exactly from Run's registration step (after the initial set-up, before the first select)
until Run returns; outside that window (before and during the initial set-up, in the instants between
`setCollectorState(StateRunning)` and `signal.Notify`, after Run returned) a signal never reaches the collector: the only effect
of `os sg` is the `ignored` counter -/
theorem C20_sig_registered_exactly_while_running (dg : Bool) (ss : SS) (h : ReachableS dg ss) :
    (ss.notified = if (ss.regDone = true ∧ ss.core.pc ≠ .done) then notifySet dg else []) ∧
    ((ss.regDone = false ∨ ss.core.pc = .done) → ∀ sg, fireS ss (.os sg) = some { ss with ignored := ss.ignored + 1 }) := by
  obtain ⟨_, hi, hd⟩ := sinv_reachable h
  have hn := hi.notif
  rw [hd] at hn
  refine ⟨hn, ?_⟩
  intro hw sg
  have : ss.notified = [] := by
    rw [hn]; rcases hw with hw | hw <;> simp [hw]
  simp [fireS, this]

/-- **The registration window** (a quirk of the code, modelled as it is): when `setupConfigurationComponents` has stored
StateRunning for the first time the Run goroutine has not yet called `signal.Notify`: in that state (`pc = select`, not
`regDone`) the registration step is enabled and changes nothing but the registrations, no select receive is possible yet (Run
is not in the select), and a signal delivered now does not reach the collector — `GetState() == Running` does not yet mean
"SIGTERM will be handled". The state is reachable (example below). -/
theorem C20_sig_registration_window (ss : SS) (hpc : ss.core.pc = .select) (hreg : ss.regDone = false) :
    (∃ ss', fireS ss .register = some ss' ∧ ss'.core = ss.core ∧ ss'.q = ss.q ∧ ss'.notified = notifySet ss.dg ∧ ss'.regDone = true) ∧
    (∀ e, fireS ss (.core (.pick e)) = none) := by
  refine ⟨⟨{ ss with regDone := true, notified := notifySet ss.dg }, by simp [fireS, hpc, hreg], rfl, rfl, rfl, rfl⟩, ?_⟩
  intro e
  simp [fireS, sigGuard, hreg]

example : (runS false ([.core .begin] ++ List.replicate 4 (.core (.step true)) ++ [.os .term])).map
    (fun ss => (ss.core.pc, ss.core.st, ss.regDone, ss.q.length, ss.ignored)) = some (.select, .running, false, 0, 1) := by decide +kernel

/-- **`DisableGracefulShutdown`.** With the setting on, no SIGINT/SIGTERM ever enters the channel and no run is ever stopped
by a termination signal — whatever the OS delivers, whenever -/
theorem C20_sigterm_cannot_stop_when_graceful_shutdown_disabled (ss : SS) (h : ReachableS true ss) :
    ss.core.nTerm = 0 ∧ ss.core.stop ≠ some .term ∧ ∀ sg ∈ ss.q, sg = .hup := by
  obtain ⟨_, hi, hd⟩ := sinv_reachable h
  have hall : ∀ sg ∈ ss.q, sg = .hup := by
    intro sg hsg
    have := hi.regd sg hsg
    rw [hd, notifySet_true] at this
    simpa using this
  have hc : ss.q.count .hup = ss.q.length := List.count_eq_length.2 (fun a ha => (hall a ha).symm ▸ rfl)
  have h1 := hi.hupCount
  have h2 := hi.total
  exact ⟨by omega, hi.noTermStop hd, hall⟩

/-- **A termination signal stops the collector** (graceful shutdown enabled): while the Run goroutine is in the select with an
empty signal channel, a SIGINT or SIGTERM delivered by the OS enters the channel, the select can receive it, and receiving
it leaves the loop with stop reason `term` — from there `C20_stop_returns` and `C20_ends_closed` (through
`C20_sig_layer_refines_run_loop`): Run returns, Closed, service and providers shut down exactly once. -/
theorem C20_termination_signal_stops (ss : SS) (h : ReachableS false ss) (hpc : ss.core.pc = .select) (hreg : ss.regDone = true)
    (hq : ss.q = []) (sg : Sig) (hsg : sg = .int ∨ sg = .term) :
    ∃ ss1 ss2, fireS ss (.os sg) = some ss1 ∧ fireS ss1 (.core (.pick .term)) = some ss2 ∧
      ss2.core.stop = some .term ∧ ss2.core.pc = .shut1 ∧ ss2.q = [] := by
  have hn := (C20_sig_registered_exactly_while_running false ss h).1
  simp only [hreg, hpc, notifySet_false] at hn
  obtain ⟨ss1, ss2, h1, h2, h3, h4, h5⟩ := sig_received ss hpc hreg hq sg (by rw [hn]; rcases hsg with rfl | rfl <;> simp)
  rw [show sg.ev = .term by rcases hsg with rfl | rfl <;> rfl] at h2 h4 h5
  exact ⟨ss1, ss2, h1, h2, h5, h4, h3⟩

/-- **SIGHUP reloads**, whatever `DisableGracefulShutdown` says: in the select with an empty channel a SIGHUP enters the
channel and its receive starts `reloadConfiguration` -/
theorem C20_sighup_reloads (dg : Bool) (ss : SS) (h : ReachableS dg ss) (hpc : ss.core.pc = .select) (hreg : ss.regDone = true)
    (hq : ss.q = []) :
    ∃ ss1 ss2, fireS ss (.os .hup) = some ss1 ∧ fireS ss1 (.core (.pick .hup)) = some ss2 ∧
      ss2.core.pc = .reload1 ∧ ss2.core.stop = ss.core.stop ∧ ss2.q = [] := by
  have hn := (C20_sig_registered_exactly_while_running dg ss h).1
  simp only [hreg, hpc] at hn
  obtain ⟨ss1, ss2, h1, h2, h3, h4, h5⟩ :=
    sig_received ss hpc hreg hq .hup (by rw [hn]; cases dg <;> simp [notifySet_true, notifySet_false])
  exact ⟨ss1, ss2, h1, h2, h4, h5, h3⟩

/-- non-vacuity (= corpus cases of the harness `signals`): graceful shutdown disabled — SIGTERM while Running is ignored,
SIGHUP reloads; four signals during the reload: three enter, the fourth is dropped -/
example : (runS true ([.core .begin] ++ (List.replicate 4 (.core (.step true))) ++ [.register, .os .term, .os .hup, .core (.pick .hup),
    .core (.step true), .os .hup, .os .hup, .os .hup, .os .hup])).map
    (fun ss => (ss.core.pc, ss.core.st, ss.q, ss.dropped, ss.ignored, ss.core.nTerm)) =
    some (.reload2, .closing, [.hup, .hup, .hup], 1, 1, 0) := by decide +kernel

/-- … enabled: a signal before Running is reached never arrives; SIGINT while Running stops the run; after Run returned
nothing is registered any more -/
example : (runS false ([.os .term, .core .begin] ++ (List.replicate 4 (.core (.step true))) ++ [.register, .os .int, .core (.pick .term)] ++
    (List.replicate 4 (.core (.step true))) ++ [.os .hup])).map
    (fun ss => (ss.core.st, ss.core.stop == some .term, ss.notified.length, ss.q.length, ss.ignored)) =
    some (.closed, true, 0, 0, 2) := by decide +kernel

/-! ## a `Shutdown()` made in ANY state — before `Run`, during the first Starting, during a reload,
while Running — is honoured (`C20_shutdown_not_lost` / `C20_shutdown_honoured` without "after Running was reached") -/

/-- **Honoured from any state** (repaired guard). Take any state (reachable or not) whose state word is not Closed — `Run` not yet
called, the initial set-up in progress, Running, a reload in progress, the final shutdown in progress. A `Shutdown()` call
passes the guard there, and from then on, along EVERY continuation (any interleaving, any outcomes, any number of reloads):
the channel is closed or a caller is about to close it; the system is never at rest; and whenever the Run goroutine is in the
select with the channel closed it can take the shutdown branch, which leaves the loop (`C20_stop_returns`, `C20_ends_closed`).
In the remaining state, Closed, Run has already returned (`Inv.closedDone`). -/
theorem C20_shutdown_in_any_state_honoured (s s1 : S) (hst : s.st ≠ .closed)
    (hc : fire .fixed s .call = some s1) :
    s1.closers = s.closers + 1 ∧
    ∀ ls s2, runFrom .fixed s1 ls = some s2 →
      (s2.chanClosed = true ∨ s2.closers > 0) ∧ ¬ Quiescent s2 ∧
      (s2.pc = .select → s2.chanClosed = true →
        ∃ s3, fire .fixed s2 (.pick .shutdown) = some s3 ∧ s3.stop = some .shutdown ∧ s3.pc = .shut1) := by
  have hh := Variant.fixed_honours.2 hst
  simp only [fire, S.emit, hh, if_true, Option.some.injEq] at hc
  subst hc
  refine ⟨rfl, ?_⟩
  intro ls s2 hr
  have hp := pending_runFrom .fixed ls hr (Or.inr (Nat.succ_pos _))
  refine ⟨hp, pending_not_quiescent hp, ?_⟩
  · exact fun hpc hcl => pick_stops .fixed hpc rfl (by simp [pickEv, hcl])

/-- … and in state Closed there is nothing left to stop: Run has returned -/
theorem C20_closed_means_run_returned (v : Variant) (s : S) (h : Reachable v s) (hst : s.st = .closed) :
    s.pc = .done ∧ s.ret.isSome = true := by
  have hd := (inv_reachable h).closedDone hst
  exact ⟨hd, (ret_iff_done h).2 hd⟩

/-- non-vacuity: `Shutdown()` BEFORE `Run` is called — the collector starts, reaches Running, its first select takes the
shutdown branch, ends Closed -/
example : (run .fixed [.call, .close, .begin, .step true, .step true, .step true, .step true, .pick .shutdown,
    .step true, .step true, .step true, .step true]).map (fun s => (s.st, s.ret, s.sdLog, s.provSd, s.req)) =
    some (.closed, some true, [1], 1, false) := by decide +kernel

/-! ## liveness under an EXPLICIT fairness hypothesis ("… and Run returns")

`C20_stop_returns` covers the shutdown path (≤ 4 statements). Here fairness is a predicate: `RunMaximal v s` — the history was not cut
short while the Run goroutine could still move — and "finitely many external events" is the finiteness of the label list.
What stays an assumption: every call the Run goroutine makes returns (it is a `step`). -/

/-- **Bounded work.** Along ANY history from any state, the number of labels the Run goroutine executes is at most
`mu s` + 8 per reload trigger that arrives (SIGHUP / config change entering its channel) + 5 for the call of Run: the
goroutine cannot spin, and only a new reload trigger gives it more to do. -/
theorem C20_run_goroutine_work_is_bounded (v : Variant) (s s' : S) (ls : List Label) (h : runFrom v s ls = some s') :
    runCount ls ≤ mu s + gainSum ls := by
  have := mu_runFrom v ls h
  omega

/-- **Liveness under fairness.** In a state in which the Run goroutine cannot move any more, Run was never called,
or has returned, or waits in the select with nothing ready — there is no other place to get stuck. -/
theorem C20_liveness_under_fairness (v : Variant) (s : S) (hm : RunMaximal v s) :
    s.pc = .idle ∨ s.pc = .done ∨ (s.pc = .select ∧ s.anyReady = false) := by
  by_cases h1 : s.pc = .idle
  · exact Or.inl h1
  by_cases h3 : s.pc = .done
  · exact Or.inr (Or.inl h3)
  by_cases h2 : s.pc = .select
  · refine Or.inr (Or.inr ⟨h2, ?_⟩)
    cases ha : s.anyReady with
    | false => rfl
    | true =>
      obtain ⟨e, he⟩ := C20_select_ready v s h2 ha
      rw [hm (.pick e) rfl] at he; cases he
  · have he := C20_run_never_stuck v s h1 h2 h3
    rw [hm (.step true) rfl] at he; cases he

/-- **A stop request under fairness ⇒ Run returns, Closed.** From any reachable state in which Run has been called and the
shutdown channel is closed or the context is cancelled: every history (any interleaving with any further events) that is
not cut short while the Run goroutine can move ends with Run returned; and if it left the loop through a stop branch, in
state Closed with the providers shut down exactly once, nothing live and every created service shut down exactly once. -/
theorem C20_stop_request_under_fairness_returns (v : Variant) (s s' : S) (ls : List Label) (hr : Reachable v s)
    (hpc : s.pc ≠ .idle) (hstop : s.chanClosed = true ∨ s.ctxDone = true)
    (h : runFrom v s ls = some s') (hm : RunMaximal v s') :
    s'.pc = .done ∧ s'.ret.isSome = true ∧
    (∀ e, s'.stop = some e → s'.st = .closed ∧ s'.provSd = 1 ∧ s'.live = [] ∧ ∀ g ∈ s'.created, s'.sdLog.count g = 1) := by
  obtain ⟨k1, k2, k3⟩ := sticky_runFrom v ls h
  have hr' : Reachable v s' := reachable_runFrom hr h
  have hd : s'.pc = .done := by
    rcases C20_liveness_under_fairness v s' hm with h1 | h1 | ⟨_, h1⟩
    · exact absurd h1 (k3 hpc)
    · exact h1
    · exfalso
      rcases hstop with hs | hs
      · simp [S.anyReady, k1 hs] at h1
      · simp [S.anyReady, k2 hs] at h1
  have hret := (ret_iff_done hr').2 hd
  refine ⟨hd, hret, ?_⟩
  intro e he
  obtain ⟨_, _, a, b, c, d, _⟩ := C20_ends_closed v s' hr' e he hret
  exact ⟨a, b, c, d⟩

/-- the fairness hypothesis can always be met (it is not vacuous): from every state there is a continuation consisting of at
most `mu s` labels of the Run goroutine alone after which it cannot move — so with `C20_run_goroutine_work_is_bounded`: a fair
scheduler reaches such a state after finitely many steps whenever the external events are finitely many -/
theorem C20_fair_completion_exists (v : Variant) (s : S) :
    ∃ ls s', (∀ l ∈ ls, l.isRun = true) ∧ ls.length ≤ mu s ∧ runFrom v s ls = some s' ∧ RunMaximal v s' := by
  by_cases hm : RunMaximal v s
  · exact ⟨[], s, nofun, Nat.zero_le _, rfl, hm⟩
  · obtain ⟨l, hm⟩ := Classical.not_forall.1 hm
    obtain ⟨hl, hne⟩ := Classical.not_imp.1 hm
    obtain ⟨s1, hf⟩ := Option.ne_none_iff_exists'.1 hne
    have h1 := mu_run v hl hf
    obtain ⟨ls, s', a1, a2, a3, a4⟩ := C20_fair_completion_exists v s1
    exact ⟨l :: ls, s', fun x hx => (List.mem_cons.1 hx).elim (fun e => e ▸ hl) (a1 x),
      Nat.le_trans (Nat.succ_le_succ a2) h1, by simp only [runFrom, hf]; exact a3, a4⟩
termination_by mu s
decreasing_by exact h1

/-- non-vacuity: Running with two SIGHUPs pending and the shutdown channel closed — `mu` = 8·2 + 5 = 21 bounds the work left;
the worst-case fair schedule (both reloads first) uses 19 labels and ends returned and Closed -/
example : (run .fixed [.begin, .step true, .step true, .step true, .step true, .post .hup, .post .hup, .call, .close]).map mu = some 21 ∧
    (run .fixed ([.begin, .step true, .step true, .step true, .step true, .post .hup, .post .hup, .call, .close] ++
      [.pick .hup] ++ List.replicate 6 (.step true) ++ [.pick .hup] ++ List.replicate 6 (.step true) ++
      [.pick .shutdown] ++ List.replicate 4 (.step true))).map (fun s => (s.pc, s.st, mu s)) = some (.done, .closed, 0) := by decide +kernel

end OtelVerif.C20

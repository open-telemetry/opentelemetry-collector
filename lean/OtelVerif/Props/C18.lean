import OtelVerif.Lemmas.C18
/-!
# C18 — the memory limiter refuses data exactly while usage is at or above the soft limit

Property theorems about `Model/C18.lean`: for every checker that does not wrap (`spike ≤ limit < 2^64`, which `C18_no_underflow` and
`C18_no_underflow_repaired` give for every configuration `validate` accepts), every history of readings / GC effects / instants and
every start/shutdown sequence; the four oracles are sound and the model passes them.  Second part: the model against the
definitions regenerated from /repo, construction, total memory, the first clause on the regenerated code, the factory's cache, the
`process*` tables, from the machine to the mode, cgroup files, source pins.
-/
namespace OtelVerif.C18

/-! ## no underflow -/

/-- **no underflow**: for every accepted configuration the spike limit never exceeds the limit, so the
`uint64` subtraction `memAllocLimit - memSpikeLimit` does not wrap -/
theorem C18_no_underflow (c : Config) (total : Nat) (hv : validate c = 0) (hwf : c.wf) (ht : total < 2 ^ 57) :
    (mkChecker c total).spike ≤ (mkChecker c total).limit ∧ (mkChecker c total).limit < W := by
  obtain ⟨_, _, h3, h4, h5, h6, h7⟩ := validate_ok hv
  -- neither product wraps: `uint32 · 2^20 < 2^52`, `percentage · total ≤ 100 · 2^57 < 2^64`
  have hmib : ∀ n, n < 4294967296 → n * mib < W := fun n hn =>
    Nat.lt_of_lt_of_le (Nat.mul_lt_mul_of_lt_of_le hn (Nat.le_refl _) (by decide)) (by decide)
  have hpct : ∀ p, p ≤ 100 → p * total < W := fun p hp =>
    Nat.lt_of_le_of_lt (Nat.mul_le_mul_right _ hp) (Nat.lt_of_lt_of_le (Nat.mul_lt_mul_of_pos_left ht (by decide)) (by decide))
  unfold mkChecker
  split
  · have hs : c.spikeMiB ≤ c.limitMiB := Nat.le_of_lt (h6 (by omega))
    unfold wmul
    rw [Nat.mod_eq_of_lt (hmib _ hwf.1), Nat.mod_eq_of_lt (hmib _ hwf.2.1)]
    exact ⟨newFixed_le _ _ (Nat.mul_le_mul_right _ hs), newFixed_limit .. ▸ hmib _ hwf.1⟩
  · have hs : c.spikePct ≤ c.limitPct := Nat.le_of_lt (h7 (by omega))
    unfold newPct wmul
    rw [Nat.mod_eq_of_lt (hpct _ h4), Nat.mod_eq_of_lt (hpct _ h5)]
    exact ⟨newFixed_le _ _ (Nat.div_le_div_right (Nat.mul_le_mul_right _ hs)),
      newFixed_limit .. ▸ Nat.lt_of_le_of_lt (Nat.div_le_self _ _) (hpct _ h4)⟩

/-- the uint64 subtraction of the code, in its textbook form -/
theorem C18_wsub_is_uint64_sub (a b : Nat) (ha : a < W) : wsub a b = (a + W - b % W) % W := by
  unfold wsub
  have hb : b % W < W := Nat.mod_lt _ (by decide)
  -- with `2^64` and `b mod 2^64` as variables the arithmetic stays small
  generalize b % W = b' at *
  generalize W = w at *
  split
  · rename_i h
    rw [Nat.sub_add_comm h, Nat.add_mod_right, Nat.mod_eq_of_lt (Nat.lt_of_le_of_lt (Nat.sub_le ..) ha)]
  · rw [Nat.mod_eq_of_lt (by omega)]; omega

/-! ## one check -/

theorem C18_latest (k : Checker) (gs gh : Int) (s : LState) (r : Reading) :
    (check k gs gh s r).latest = if (check k gs gh s r).gcRan then r.allocAfterGC else r.alloc :=
  (check_spec k gs gh s r).2.1

/-- **refuse iff**: after a check the limiter refuses iff the latest measurement is at or above limit − spike -/
theorem C18_refuse_iff (k : Checker) (h : k.spike ≤ k.limit) (hl : k.limit < W) (gs gh : Int) (s : LState) (r : Reading) :
    (check k gs gh s r).st.mustRefuse = true ↔ (check k gs gh s r).latest ≥ k.limit - k.spike := by
  rw [(check_spec k gs gh s r).2.2.2]
  exact aboveSoft_iff k h hl _

/-- **GC only when due** (and whenever due): a forced collection runs iff usage is at or above the soft
limit and more than the minimum interval of that severity has passed since the last one finished -/
theorem C18_gc_iff_due (k : Checker) (h : k.spike ≤ k.limit) (hl : k.limit < W) (gs gh : Int) (s : LState) (r : Reading) :
    (check k gs gh s r).gcRan = true ↔
      (r.alloc ≥ k.limit - k.spike ∧ r.now - s.lastGC > (if r.alloc ≥ k.limit then gh else gs)) := by
  rw [(check_spec k gs gh s r).1, Bool.and_eq_true, decide_eq_true_eq, aboveSoft_iff k h hl, ite_aboveHard]

theorem C18_lastGC (k : Checker) (gs gh : Int) (s : LState) (r : Reading) :
    (check k gs gh s r).st.lastGC = if (check k gs gh s r).gcRan then r.now + r.gcDur else s.lastGC :=
  (check_spec k gs gh s r).2.2.1

/-- **the property's first clause over configurations** (fixed or percentage; `uint32` fields; total memory below 2^57 bytes on the
percentage path): after a check the limiter refuses iff the latest measurement — post-GC exactly when a GC ran — is at or above
limit − spike of the checker built from the configuration -/
theorem C18_first_clause (c : Config) (total : Nat) (hv : validate c = 0) (hwf : c.wf) (ht : total < 2 ^ 57) (s : LState) (r : Reading) :
    ((check (mkChecker c total) c.gcSoft c.gcHard s r).st.mustRefuse = true ↔
      (check (mkChecker c total) c.gcSoft c.gcHard s r).latest ≥ (mkChecker c total).limit - (mkChecker c total).spike) ∧
    (check (mkChecker c total) c.gcSoft c.gcHard s r).latest =
      (if (check (mkChecker c total) c.gcSoft c.gcHard s r).gcRan then r.allocAfterGC else r.alloc) :=
  have h := C18_no_underflow c total hv hwf ht
  ⟨C18_refuse_iff _ h.1 h.2 _ _ s r, C18_latest _ _ _ s r⟩

/-! ## every history -/

/-- after every check of every history the mode is "refuse" iff that check's latest measurement is at
or above the soft limit — there is no hysteresis and no dependence on earlier readings -/
theorem C18_history_refuse_iff (k : Checker) (h : k.spike ≤ k.limit) (hl : k.limit < W) (gs gh : Int) :
    ∀ (rs : List Reading) (s : LState), ∀ o ∈ runChecks k gs gh s rs,
      (o.st.mustRefuse = true ↔ o.latest ≥ k.limit - k.spike) := by
  intro rs
  induction rs with
  | nil => intro s o ho; simp [runChecks] at ho
  | cons r rs ih =>
    intro s o ho
    simp only [runChecks, List.mem_cons] at ho
    rcases ho with rfl | ho
    · exact C18_refuse_iff k h hl gs gh s r
    · exact ih _ o ho

theorem C18_mode_after_history (k : Checker) (h : k.spike ≤ k.limit) (hl : k.limit < W) (gs gh : Int)
    (rs : List Reading) (r : Reading) : ∀ s : LState,
    ((finalState k gs gh s (rs ++ [r])).mustRefuse = true ↔
      (check k gs gh (finalState k gs gh s rs) r).latest ≥ k.limit - k.spike) := by
  induction rs with
  | nil =>
    intro s
    rw [List.nil_append, finalState.eq_2, finalState.eq_1, finalState.eq_1]
    exact C18_refuse_iff k h hl gs gh s r
  | cons x xs ih =>
    intro s
    rw [List.cons_append, finalState.eq_2, finalState.eq_2]
    exact ih _

/-- GC throttling over histories: while no more than the hard-limit interval (the smaller one, by
validation) has passed since the last GC finished, no check forces a GC, whatever the readings -/
theorem C18_gc_throttled (k : Checker) (gs gh : Int) (hgs : gh ≤ gs) :
    ∀ (rs : List Reading) (s : LState), (∀ r ∈ rs, r.now - s.lastGC ≤ gh) →
      ∀ o ∈ runChecks k gs gh s rs, o.gcRan = false ∧ o.st.lastGC = s.lastGC := by
  intro rs
  induction rs with
  | nil => intro s _ o ho; simp [runChecks] at ho
  | cons r rs ih =>
    intro s hall o ho
    have hr := hall r (by simp)
    have hstep : (check k gs gh s r).gcRan = false ∧ (check k gs gh s r).st.lastGC = s.lastGC := by
      have hg : (check k gs gh s r).gcRan = false := by
        rw [(check_spec k gs gh s r).1, Bool.and_eq_false_imp]
        exact fun _ => decide_eq_false (by split <;> omega)
      exact ⟨hg, by rw [C18_lastGC, hg]; rfl⟩
    simp only [runChecks, List.mem_cons] at ho
    rcases ho with rfl | ho
    · exact hstep
    · have := ih (check k gs gh s r).st (by intro r' hr'; rw [hstep.2]; exact hall r' (by simp [hr'])) o ho
      rw [hstep.2] at this
      exact this

/-! ## the search oracle -/

theorem C18_check_sound (k : Checker) (gs gh prev : Int) (r : Reading) (o : ObsCheck)
    (h : checkObs k gs gh prev r o = []) :
    (k.spike ≤ k.limit) ∧
    (o.refuse = true ↔ obsLatest r o ≥ (k.limit : Int) - k.spike) ∧
    (o.gcRan = true → (r.alloc : Int) ≥ (k.limit : Int) - k.spike ∧ r.now - prev > (if (r.alloc : Int) ≥ k.limit then gh else gs)) ∧
    (o.gcRan = false → o.lastGC = prev) := by
  simp only [checkObs, List.append_eq_nil_iff, ite_sing_nil] at h
  obtain ⟨⟨⟨h1, h2⟩, h3⟩, h4⟩ := h
  refine ⟨by omega, ?_, fun hg => ?_, fun hg => ?_⟩
  · rw [bne_iff_ne, ne_eq, Decidable.not_not] at h2
    rw [h2]; exact decide_eq_true_iff
  · simp only [hg, Bool.true_and, Bool.not_eq_true', Bool.not_eq_false, Bool.and_eq_true, decide_eq_true_eq] at h3
    exact h3
  · simp only [hg, Bool.not_false, Bool.true_and, bne_iff_ne, ne_eq, Decidable.not_not] at h4
    exact h4

theorem C18_model_passes_oracle (k : Checker) (h : k.spike ≤ k.limit) (hl : k.limit < W) (gs gh : Int) (s : LState) (r : Reading) :
    checkObs k gs gh s.lastGC r
      { refuse := (check k gs gh s r).st.mustRefuse, gcRan := (check k gs gh s r).gcRan, lastGC := (check k gs gh s r).st.lastGC } = [] := by
  have hsoft : ∀ a : Nat, k.aboveSoft a = decide ((a : Int) ≥ (k.limit : Int) - k.spike) := by
    intro a
    rw [Bool.eq_iff_iff, aboveSoft_iff k h hl, decide_eq_true_eq]
    omega
  obtain ⟨h1, h2, h3, h4⟩ := check_spec k gs gh s r
  rw [h4, h3, h2, hsoft]
  rw [hsoft, ite_aboveHard] at h1
  simp only [checkObs, obsLatest, List.append_eq_nil_iff, ite_sing_nil]
  refine ⟨⟨⟨by omega, ?_⟩, ?_⟩, ?_⟩
  · cases (check k gs gh s r).gcRan <;> simp
  · rw [h1]; simp
  · cases (check k gs gh s r).gcRan <;> simp

/-! ## processor and extension -/

/-- while refusing: nothing is forwarded and the caller gets the non-permanent data-refused error -/
theorem C18_consume_refusing {α : Type} (payload : α) (next : α → Res) :
    (consume true payload next).1 = none ∧ (consume true payload next).2 = .refused ∧
    (consume true payload next).2.isPermanent = false := ⟨rfl, rfl, rfl⟩

/-- while not refusing: the payload is forwarded as it is and downstream's result is returned -/
theorem C18_consume_accepting {α : Type} (payload : α) (next : α → Res) :
    (consume false payload next).1 = some payload ∧ (consume false payload next).2 = next payload := ⟨rfl, rfl⟩

/-- the extension's `MustRefuse` after a check answers exactly "latest measurement ≥ limit − spike" -/
theorem C18_extension_refuses_iff (k : Checker) (h : k.spike ≤ k.limit) (hl : k.limit < W) (gs gh : Int) (s : LState) (r : Reading) :
    extMustRefuse (check k gs gh s r).st = true ↔ (check k gs gh s r).latest ≥ k.limit - k.spike :=
  C18_refuse_iff k h hl gs gh s r

/-! ## reference counting -/

/-- users = starts − successful shutdowns (a shutdown at zero is rejected and changes nothing) -/
def users : List RCOp → Nat := List.foldl (fun n o => match o with | .start => n + 1 | .shutdown => n - 1) 0

/-- **shared checker**: for every start/shutdown sequence of the sharers, memory is being checked
(goroutine alive and ticker armed) iff at least one user has started and not yet shut down -/
theorem C18_refcount (ops : List RCOp) :
    ((RC.run {} ops).checking = true ↔ 0 < users ops) ∧ (RC.run {} ops).ref = users ops := by
  have hinv := RC.run_inv ops {} RC.inv_init
  have href := RC.run_ref ops {}
  refine ⟨?_, href⟩
  rw [hinv.checking, decide_eq_true_eq, href]
  rfl

theorem C18_shutdown_not_started (s : RC) (h : s.ref = 0) : s.step .shutdown = (s, true) := by
  simp [RC.step, h]

/-- the first clause of `C18_refcount` for the unrepaired `Start` (pinned tree) -/
def C18_refcount_pinned_full : Prop :=
  ∀ ops : List RCOp, ((RC.runPinned {} ops).checking = true ↔ 0 < users ops)

/-- it fails: started again after a full shutdown the limiter has a user but its ticker is dead.  Witness
`start, shutdown, start` (replayed on the real code by the `refcount` harness, corpus case 0). -/
theorem C18_refcount_pinned_full_fails : ¬ C18_refcount_pinned_full := by
  intro h
  have := h [.start, .shutdown, .start]
  revert this
  decide

theorem C18_checkRC_sound (users : Int) (op : String) (err checked : Bool) (h : checkRC users op err checked = []) :
    (op = "shutdown" → (err = true ↔ users ≤ 0)) ∧ (op = "start" → err = false) ∧ (op = "tick" → (checked = true ↔ users > 0)) := by
  simp only [checkRC, List.append_eq_nil_iff, ite_sing_nil, Bool.and_eq_true, decide_eq_true_eq, not_and, bne_iff_ne, ne_eq,
    Decidable.not_not, Bool.not_eq_true, Bool.not_eq_true'] at h
  obtain ⟨⟨⟨h1, h2⟩, h3⟩, h4⟩ := h
  refine ⟨fun ho => ?_, h2, fun ho => ⟨fun hc => ?_, fun hu => ?_⟩⟩
  · rw [h1 ho]; exact decide_eq_true_iff
  · have := h3 ⟨ho, hc⟩; omega
  · cases hc : checked
    · have := h4 ⟨ho, hc⟩; omega
    · rfl

/-! ## non-vacuity -/

def exCfg : Config := { checkInterval := 1, gcSoft := 10, gcHard := 2, limitMiB := 100, spikeMiB := 20, limitPct := 0, spikePct := 0 }

example : validate exCfg = 0 ∧ exCfg.wf := ⟨by decide, by simp [Config.wf, exCfg]⟩
example : mkChecker exCfg 0 = ⟨104857600, 20971520⟩ := by decide +kernel
/-- percentage mode, default spike of 20 % -/
example : validate { exCfg with limitMiB := 0, spikeMiB := 0, limitPct := 50 } = 0 ∧
    mkChecker { exCfg with limitMiB := 0, spikeMiB := 0, limitPct := 50 } 1000 = ⟨500, 100⟩ := by decide +kernel
/-- a rejected configuration: spike = limit -/
example : validate { exCfg with spikeMiB := 100 } = 5 := by decide +kernel

/-- soft-limited: GC not due at t=5 (interval 10), due at t=11 and it helps; hard-limited at t=14: due (interval 2) -/
example : (runChecks ⟨100, 20⟩ 10 2 {} [⟨5, 85, 0, 0⟩, ⟨11, 85, 0, 10⟩, ⟨12, 79, 0, 0⟩, ⟨14, 100, 1, 90⟩]).map
    (fun o => (o.st.mustRefuse, o.gcRan, o.st.lastGC)) = [(true, false, 0), (false, true, 11), (false, false, 11), (true, true, 15)] := by decide +kernel

example : (RC.run {} [.start, .start, .shutdown]).checking = true ∧ (RC.run {} [.start, .shutdown, .start]).checking = true ∧
    (RC.run {} [.start, .shutdown]).checking = false := by decide +kernel

/-! ## the processor in full -/

/-- while refusing: the caller gets `ErrDataRefused` — which the helper does not swallow (only `ErrSkipProcessingData` is) and
which is not permanent —; the items count as refused and incoming (profiles: no instrument exists, nothing is counted) -/
theorem C18_consumeFull_refusing {α : Type} (sig : Sig) (items : α → Nat) (payload : α) (next : α → Res) :
    (consumeFull sig items true payload next).forwarded = none ∧
    (consumeFull sig items true payload next).res = .refused ∧
    (consumeFull sig items true payload next).res.isPermanent = false ∧
    (consumeFull sig items true payload next).counts =
      { accepted := 0, refused := if sig = .profiles then 0 else items payload, incoming := if sig = .profiles then 0 else items payload, outgoing := 0 } := by
  cases sig <;> simp [consumeFull, helperWrap, processML, Res.isPermanent]

/-- while not refusing: the very payload reaches the next consumer, its result is the caller's result,
the items are counted as accepted, incoming and outgoing -/
theorem C18_consumeFull_accepting {α : Type} (sig : Sig) (items : α → Nat) (payload : α) (next : α → Res) :
    (consumeFull sig items false payload next).forwarded = some payload ∧
    (consumeFull sig items false payload next).res = next payload ∧
    (consumeFull sig items false payload next).counts =
      { accepted := if sig = .profiles then 0 else items payload, refused := 0, incoming := if sig = .profiles then 0 else items payload,
        outgoing := if sig = .profiles then 0 else items payload } := by
  cases sig <;> simp [consumeFull, helperWrap, processML]

theorem C18_consumeFull_projects {α : Type} (sig : Sig) (items : α → Nat) (refusing : Bool) (payload : α) (next : α → Res) :
    ((consumeFull sig items refusing payload next).forwarded, (consumeFull sig items refusing payload next).res) =
      consume refusing payload next := by
  cases refusing <;> simp [consumeFull, helperWrap, processML, consume]

/-- the helper turns exactly `ErrSkipProcessingData` into success-without-forwarding; every other
error of the process function — `ErrDataRefused` in particular — reaches the caller -/
theorem C18_helper_swallows_only_skip {α : Type} (obs : Bool) (items : α → Nat) (proc : α → α × Option PErr × Counts) (next : α → Res) (payload : α) :
    ((helperWrap obs items proc next payload).forwarded = none ∧ (helperWrap obs items proc next payload).res = .ok) ↔
      (proc payload).2.1 = some .skipProcessing := by
  unfold helperWrap
  rcases hp : proc payload with ⟨ld, err, k⟩
  cases err with
  | none => simp
  | some e => cases e <;> simp

theorem C18_checkConsume_sound (o : ObsConsume) (h : checkConsume o = []) :
    (o.refusing = true → o.fwd = false ∧ o.isRefused = true ∧ o.isPerm = false) ∧
    (o.refusing = false → o.fwd = true ∧ o.same = true ∧ o.eqNext = true) := by
  simp only [checkConsume, List.append_eq_nil_iff, ite_sing_nil] at h
  obtain ⟨⟨⟨⟨h1, h2⟩, h3⟩, h4⟩, h5⟩ := h
  constructor <;> intro hr <;> simp only [hr] at h1 h2 h3 h4 h5 <;> simp_all

/-- what the harness would observe of the model's consume call -/
def obsOfModel {α : Type} [DecidableEq α] (sig : Sig) (items : α → Nat) (refusing : Bool) (payload : α) (next : α → Res) : ObsConsume :=
  let out := consumeFull sig items refusing payload next
  { refusing := refusing, fwd := out.forwarded.isSome, same := out.forwarded == some payload, isNil := out.res == .ok,
    isRefused := out.res == .refused, isPerm := out.res.isPermanent, eqNext := out.res == next payload }

theorem C18_model_consume_passes {α : Type} [DecidableEq α] (sig : Sig) (items : α → Nat) (refusing : Bool) (payload : α) (next : α → Res) :
    checkConsume (obsOfModel sig items refusing payload next) = [] := by
  cases refusing <;> simp [obsOfModel, checkConsume, consumeFull, helperWrap, processML, Res.isPermanent]

/-- **forwarding does not depend on the item count**: the first two clauses of `C18_consumeFull_accepting` (`helperWrap` has no
branch on the count); the differential backs it with zero-item shapes of all four signals -/
theorem C18_consume_forwards_empty {α : Type} (sig : Sig) (items : α → Nat) (payload : α) (next : α → Res) :
    (consumeFull sig items false payload next).forwarded = some payload ∧
    (consumeFull sig items false payload next).res = next payload :=
  ⟨(C18_consumeFull_accepting sig items payload next).1, (C18_consumeFull_accepting sig items payload next).2.1⟩

/-- a zero-item payload in front of a failing downstream: forwarded, the error comes back -/
example : (consumeFull .logs (fun _ : Unit => 0) false () (fun _ => .downstream 1 false)).forwarded = some () ∧
    (consumeFull .logs (fun _ : Unit => 0) false () (fun _ => .downstream 1 false)).res = .downstream 1 false ∧
    (consumeFull .profiles (fun _ : Unit => 0) true () (fun _ => .ok)).res = .refused := by decide +kernel

/-! ## the monitoring loop -/

def Sys.Inv (s : Sys) : Prop := s.rc.Inv

/-- **the shared checker keeps running until the last user has shut down and then stops** — over every interleaving of ticks with
starts and shutdowns of any number of sharers, restarts included: a tick after `ls` runs `CheckMemLimits` iff a user is present;
otherwise nothing changes at all -/
theorem C18_loop_tick (k : Checker) (gs gh : Int) (ls : List Lbl) (r : Reading) :
    (0 < usersL ls →
      (Sys.run k gs gh {} (ls ++ [.tick r])).st = (check k gs gh (Sys.run k gs gh {} ls).st r).st ∧
      (Sys.run k gs gh {} (ls ++ [.tick r])).checks = (Sys.run k gs gh {} ls).checks + 1) ∧
    (usersL ls = 0 → Sys.run k gs gh {} (ls ++ [.tick r]) = Sys.run k gs gh {} ls) := by
  have happ : Sys.run k gs gh {} (ls ++ [.tick r]) = (Sys.run k gs gh {} ls).step k gs gh (.tick r) := by
    rw [Sys.run_append]; rfl
  rewrite [happ]
  constructor
  · intro hu
    have := Sys.step_tick_on k gs gh _ r ((Sys.checking_iff k gs gh ls).2 hu)
    exact ⟨this.1, this.2.1⟩
  · intro hu
    exact Sys.step_tick_off k gs gh _ r (Sys.not_checking k gs gh hu)

theorem C18_loop_checks_count (k : Checker) (gs gh : Int) (ls : List Lbl) :
    (Sys.run k gs gh {} ls).checks = tickCount ls :=
  congrArg Prod.snd (Sys.run_count k gs gh ls {} RC.inv_init).2

theorem C18_loop_stops (k : Checker) (gs gh : Int) (ls : List Lbl) (h : usersL ls = 0) (rs : List Reading) :
    Sys.run k gs gh {} (ls ++ rs.map .tick) = Sys.run k gs gh {} ls := by
  rw [Sys.run_append]
  exact Sys.run_ticks_off k gs gh rs _ (Sys.not_checking k gs gh h)

/-- while a user is present, the mode after a ticker-driven check obeys the refuse-iff statement -/
theorem C18_loop_mode (k : Checker) (h : k.spike ≤ k.limit) (hl : k.limit < W) (gs gh : Int) (ls : List Lbl) (r : Reading)
    (hu : 0 < usersL ls) :
    (Sys.run k gs gh {} (ls ++ [.tick r])).st.mustRefuse = true ↔
      (check k gs gh (Sys.run k gs gh {} ls).st r).latest ≥ k.limit - k.spike := by
  rewrite [((C18_loop_tick k gs gh ls r).1 hu).1]
  exact C18_refuse_iff k h hl gs gh _ r

example : (Sys.run ⟨100, 20⟩ 10 2 {} [.tick ⟨1, 90, 0, 90⟩, .start, .tick ⟨2, 90, 0, 90⟩, .shutdown, .tick ⟨3, 10, 0, 10⟩, .start, .tick ⟨4, 10, 0, 10⟩]).checks = 2 ∧
    tickCount [.tick ⟨1, 90, 0, 90⟩, .start, .tick ⟨2, 90, 0, 90⟩, .shutdown, .tick ⟨3, 10, 0, 10⟩, .start, .tick ⟨4, 10, 0, 10⟩] = 2 := by decide +kernel

/-- **the mode changes only through a measurement**: whatever the label — start or shutdown of any sharer,
the last one included, or a tick that reaches no running checker — the refuse/accept state is untouched
unless the label is a tick that `CheckMemLimits` actually handles -/
theorem C18_mode_only_changes_on_measurement (k : Checker) (gs gh : Int) (s : Sys) (l : Lbl)
    (h : (s.step k gs gh l).st ≠ s.st) : ∃ r, l = .tick r ∧ s.rc.checking = true := by
  cases l with
  | start => exact absurd rfl h
  | shutdown => exact absurd rfl h
  | tick r =>
    refine ⟨r, rfl, ?_⟩
    cases hc : s.rc.checking
    · rewrite [Sys.step_tick_off k gs gh s r hc] at h; exact absurd rfl h
    · rfl

/-- over whole label sequences: if no tick in `ls` is handled (no user present at any tick), the mode after `ls` is the mode before -/
theorem C18_mode_constant_without_measurement (k : Checker) (gs gh : Int) (ls : List Lbl) : ∀ s : Sys,
    (Sys.run k gs gh s ls).checks = s.checks → (Sys.run k gs gh s ls).st = s.st := by
  induction ls with
  | nil => intro s _; rfl
  | cons l ls ih =>
    intro s h
    rewrite [Sys.run_cons] at h ⊢
    have hle := Sys.run_checks_le k gs gh ls (s.step k gs gh l)
    rcases Sys.step_st_or_check k gs gh s l with ⟨hst, hck⟩ | hck
    · rewrite [← hst]; exact ih _ (by rewrite [hck]; exact h)
    · omega

/-! ## the mode oracle -/

theorem C18_checkMode_sound (before after : Bool) (measured : Nat) (h : checkMode before after measured = []) :
    measured = 0 → after = before := by
  intro hm
  unfold checkMode at h
  cases before <;> cases after <;> simp_all

theorem C18_model_passes_checkMode (k : Checker) (gs gh : Int) (s : Sys) :
    checkMode s.st.mustRefuse (s.step k gs gh .start).st.mustRefuse 0 = [] ∧
    checkMode s.st.mustRefuse (s.step k gs gh .shutdown).st.mustRefuse 0 = [] := by
  constructor <;> simp [checkMode, Sys.step]

/-! ## checks per window of virtual time -/

/-- **reads per window**: while a user is present the loop makes exactly one check per ticker instant of the window,
and none otherwise -/
theorem C18_window_checks (k : Checker) (gs gh : Int) (t : Timed) (ci a b : Int) (alloc after : Nat) :
    (t.window k gs gh ci a b alloc after).checks = if t.sys.rc.checking then (t.readings ci a b alloc after).length else 0 := by
  unfold Timed.window
  simp only []
  cases hc : t.sys.rc.checking
  · rewrite [Sys.run_ticks_off k gs gh _ t.sys hc]; simp
  · rewrite [(Sys.run_ticks_on k gs gh _ t.sys hc).2.1]; simp

example : tickInstants 10 4 11 22 = [14, 18, 22] ∧ tickInstants 10 4 14 17 = [] ∧ tickInstants 0 1000 1500 3000 = [2000, 3000] := by decide +kernel

/-! ## the context handed to `Start` / `Shutdown` -/

/-- **the context does not matter** (a fact the model *states* — `Start`/`Shutdown` do not look at their context — and the
differential backs: the ref-count, processor, extension and stress harnesses pass live, cancelled and expired contexts) -/
theorem C18_context_irrelevant (k : Checker) (gs gh : Int) (s : Sys) (c : Ctx) :
    s.stepC k gs gh (.shutdown c) = s.stepC k gs gh (.shutdown .live) ∧
    s.stepC k gs gh (.start c) = s.stepC k gs gh (.start .live) := ⟨rfl, rfl⟩

/-- hence "until the last user has shut down and then stops" holds whatever contexts the users leave with:
`Sys.checking_iff` on the erased labels -/
theorem C18_loop_tick_any_context (k : Checker) (gs gh : Int) (ls : List LblC) :
    (Sys.run k gs gh {} (ls.map LblC.erase)).rc.checking = true ↔ 0 < usersL (ls.map LblC.erase) :=
  Sys.checking_iff k gs gh _

example : usersL ([LblC.start .live, .start .expired, .shutdown .cancelled, .shutdown .expired].map LblC.erase) = 0 := by decide +kernel

/-! # The model against the definitions regenerated from /repo; construction, total memory, factory, tables, cgroup files, pins -/
section Src
open OtelVerif.Gen

/-! ## the model equals the definitions regenerated from the Go source -/

/-- `validate` is the regenerated `Config.Validate`: same acceptance, same error variable -/
theorem C18_src_validate (c : Config) :
    (MemLimiter.Config.Validate c.toGo = 0 ↔ validate c = 0) ∧
    srcErrName (MemLimiter.Config.Validate c.toGo) = validateErrName (validate c) := by
  unfold MemLimiter.Config.Validate validate Config.toGo
  simp only [Bool.and_eq_true, Bool.or_eq_true, decide_eq_true_eq]
  -- the same conditions on both sides; the answers of a branch name the same error
  let R (i j : Nat) : Prop := (i = 0 ↔ j = 0) ∧ srcErrName i = validateErrName j
  exact ite_rel R (show R 1 1 from ⟨by decide, rfl⟩) <| ite_rel R (show R 2 2 from ⟨by decide, rfl⟩) <|
    ite_rel R (show R 3 3 from ⟨by decide, rfl⟩) <| ite_rel R (show R 6 4 from ⟨by decide, rfl⟩) <|
    ite_rel R (show R 4 5 from ⟨by decide, rfl⟩) <| ite_rel R (show R 5 6 from ⟨by decide, rfl⟩) (show R 0 0 from ⟨by decide, rfl⟩)

/-- the two comparisons are the regenerated `aboveSoftLimit` / `aboveHardLimit` (with the `uint64` subtraction) -/
theorem C18_src_above (k : Checker) (a : Nat) :
    MemLimiter.memUsageChecker.aboveSoftLimit k.toGo a = k.aboveSoft a ∧ MemLimiter.memUsageChecker.aboveHardLimit k.toGo a = k.aboveHard a := by
  constructor
  · simp only [MemLimiter.memUsageChecker.aboveSoftLimit, Checker.aboveSoft, Checker.toGo, MemLimiter.u64sub, wsub, MemLimiter.W, W]
    exact decide_eq_decide.mpr Iff.rfl
  · simp [MemLimiter.memUsageChecker.aboveHardLimit, Checker.aboveHard, Checker.toGo]

/-- `getMemUsageChecker` (fixed wins over percentage; spike 0 → 20 %; the `GetMemoryFn` error) is the regenerated one, whatever
the source's percentage formula is (`srcPct` = the regenerated `newPercentageMemUsageChecker`) -/
theorem C18_src_checker (c : Config) (mem : Option Nat) :
    MemLimiter.getMemUsageChecker c.toGo mem = (mkCheckerGE srcPct c mem).map Checker.toGo := by
  unfold MemLimiter.getMemUsageChecker mkCheckerGE mkCheckerG
  by_cases h : c.limitMiB = 0
  · cases mem <;> simp [h, Config.toGo, srcPct, Checker.ofGo, Checker.toGo]
  · simp [h, Config.toGo, src_newFixed, MemLimiter.u64mul, wmul, MemLimiter.W, W, MemLimiter.mibBytes, mib]

/-- **the source has the repaired percentage formula** (`percentOf`; fix "memory limiter computes percentage limits without
overflowing uint64", in /repo): this theorem stops building on a tree that still multiplies `percentage*totalMemory` in `uint64` -/
theorem C18_src_percentage_repaired : SrcPctSafe := by
  intro T pl ps
  -- with the `u64*` wrappers unfolded both sides are `newFixed` of the same two `percentOf` terms
  simp [srcPct, Checker.ofGo, MemLimiter.newPercentageMemUsageChecker, MemLimiter.percentOf, newPctSafe, pctOf, src_newFixed, Checker.toGo,
    MemLimiter.u64mul, MemLimiter.u64div, MemLimiter.u64mod, MemLimiter.u64add, wmul, MemLimiter.W, W]

/-- **which percentage formula the source has**: either the unrepaired `pct*total/100` with the product in `uint64`
(`newPct`), or the repaired `percentOf` (`newPctSafe`) -/
theorem C18_src_percentage_formula : SrcPctPinned ∨ SrcPctSafe := .inr C18_src_percentage_repaired

/-- **`check` is the regenerated `CheckMemLimits`** (`doGCandReadMemStats` included), run in the world where the clock shows
`r.now`, the next readings are `r.alloc`, `r.allocAfterGC` and a GC takes `r.gcDur`: same `mustRefuse` / `lastGCDone`, `runGCFn`
called exactly when the model says a GC ran, memory read once, or twice when a GC ran -/
theorem C18_src_check (k : Checker) (gs gh : Int) (s : LState) (r : Reading) (rest : List Nat) :
    let w' := MemLimiter.MemoryLimiter.CheckMemLimits ⟨k.toGo, gs, gh⟩ (worldOf s r rest)
    let o := check k gs gh s r
    w'.mustRefuse = o.st.mustRefuse ∧ w'.lastGCDone = o.st.lastGC ∧
    w'.gcCalls = (if o.gcRan then 1 else 0) ∧ w'.readCalls = (if o.gcRan then 2 else 1) ∧
    w'.reads = (if o.gcRan then rest else r.allocAfterGC :: rest) := by
  simp only [MemLimiter.MemoryLimiter.CheckMemLimits, MemLimiter.MemoryLimiter.doGCandReadMemStats, MemLimiter.readMemStats,
    MemLimiter.runGC, worldOf, C18_src_above, List.headD_cons, List.tail_cons]
  -- the source asks "hard?" before "due?", the model folds the answer into the interval
  cases ha : k.aboveSoft r.alloc
  · rw [check_below k gs gh s r ha]; simp
  · by_cases hd : r.now - s.lastGC > (if k.aboveHard r.alloc then gh else gs)
    · rw [check_gc k gs gh s r ha hd]; cases hh : k.aboveHard r.alloc <;> simp [hh] at hd <;> simp [hd]
    · rw [check_nogc k gs gh s r ha hd]; cases hh : k.aboveHard r.alloc <;> simp [hh] at hd <;> simp [Int.not_lt.2 hd]

/-- `NewMemoryLimiter` fails exactly when the percentage path is taken and the total memory cannot be determined; a
fixed `limit_mib` never consults `GetMemoryFn` (for either percentage formula) -/
theorem C18_newLimiter_error_iff (pct : Nat → Nat → Nat → Checker) (c : Config) (mem : Option Nat) (now : Int) :
    newLimiterG pct c mem now = none ↔ (c.limitMiB = 0 ∧ mem = none) := by
  unfold newLimiterG mkCheckerGE
  by_cases h : c.limitMiB = 0 <;> cases mem <;> simp [h]

/-- what a successful construction yields: the checker, the configured intervals, mode "accepting",
`lastGCDone` = the instant of construction (so the first forced GC waits for the minimum interval) -/
theorem C18_newLimiter_ok (pct : Nat → Nat → Nat → Checker) (c : Config) (total : Nat) (now : Int) :
    newLimiterG pct c (some total) now =
      some { k := mkCheckerG pct c total, gcSoft := c.gcSoft, gcHard := c.gcHard, checkInterval := c.checkInterval,
             st := { mustRefuse := false, lastGC := now } } := by
  simp [newLimiterG, mkCheckerGE_some]

/-! ### the repaired percentage computation never overflows -/

/-- **no underflow, repaired code, EVERY total**: with `percentOf`, for every accepted
configuration and every `uint64` total memory the spike limit never exceeds the limit -/
theorem C18_no_underflow_repaired (c : Config) (total : Nat) (hv : validate c = 0) (hwf : c.wf) (ht : total < W) :
    (mkCheckerSafe c total).spike ≤ (mkCheckerSafe c total).limit ∧ (mkCheckerSafe c total).limit < W := by
  have hvo := validate_ok hv
  by_cases hl : c.limitMiB = 0
  · have hp : c.limitPct ≠ 0 := by
      rcases hvo.2.2.1 with h | h
      · exact absurd hl h
      · exact h
    have hsp := hvo.2.2.2.2.2.2 (Nat.pos_of_ne_zero hp)
    have hl100 := hvo.2.2.2.1
    have hm := pctOf_mono total c.spikePct c.limitPct (Nat.le_of_lt hsp) hl100 ht
    have hle := (pctOf_eq total c.limitPct hl100 ht).2
    have e : mkCheckerSafe c total = newFixed (pctOf total c.limitPct) (pctOf total c.spikePct) := by
      simp [mkCheckerSafe, mkCheckerG, hl, newPctSafe]
    rw [e]
    refine ⟨newFixed_le _ _ hm, ?_⟩
    rw [newFixed_limit]; omega
  · have e : mkCheckerSafe c total = mkChecker c 0 := by
      simp [mkCheckerSafe, mkCheckerG, mkChecker, hl]
    rw [e]
    exact C18_no_underflow c 0 hv hwf (by decide)

/-! ## total memory -/

theorem C18_src_total_memory (q : Quota) (mi : Option Nat) : MemLimiter.TotalMemory q mi = totalMemory q mi := by
  unfold MemLimiter.TotalMemory totalMemory
  rcases q with _ | ⟨quota, d⟩
  · rfl
  · cases d <;> simp [MemLimiter.unlimitedMemorySize, MemLimiter.W]
    by_cases h : quota = 9223372036854771712 <;> simp [h]

/-- `TotalMemory` by cases: an error of a cgroup read is an error; a defined quota other than the v1 "unlimited" value is
the total (for a non-negative quota: itself); an undefined or "unlimited" quota falls back to `/proc/meminfo` -/
theorem C18_total_memory_cases (mi : Option Nat) :
    totalMemory none mi = none ∧
    (∀ quota : Int, quota ≠ 9223372036854771712 → 0 ≤ quota → quota < 18446744073709551616 → totalMemory (some (quota, true)) mi = some quota.toNat) ∧
    (∀ quota : Int, totalMemory (some (quota, false)) mi = mi) ∧
    (∀ d : Bool, totalMemory (some (9223372036854771712, d)) mi = mi) := by
  refine ⟨rfl, ?_, ?_, ?_⟩
  · intro quota h1 h2 h3
    simp only [totalMemory, h1, false_or, Bool.true_eq_false, if_false]
    rw [Int.emod_eq_of_lt h2 h3]
  · intro quota; simp [totalMemory]
  · intro d; simp [totalMemory]

/-! ## the default configuration; the first clause on the regenerated code -/

/-- the default configuration (regenerated `NewDefaultConfig`) is rejected by `Validate` — "the default configuration is
expected to fail" — because no check interval is set; its soft-limited GC interval is 10 s -/
theorem C18_default_config_rejected :
    validate (Config.ofGo MemLimiter.NewDefaultConfig) = 1 ∧ (Config.ofGo MemLimiter.NewDefaultConfig).gcSoft = 10000000000 := by
  decide

/-- **the first clause on the regenerated code itself** (`Validate`, `getMemUsageChecker`, `CheckMemLimits`).  Total memory: below
2^57 if the source still has the unrepaired percentage formula, ANY `uint64` value if it has the repaired one
(`C18_src_percentage_formula` says which) -/
theorem C18_source_first_clause (g : MemLimiter.Config) (hv : MemLimiter.Config.Validate g = 0) (hwf : (Config.ofGo g).wf)
    (total : Nat) (ht : (total < 2 ^ 57 ∧ SrcPctPinned) ∨ (total < W ∧ SrcPctSafe)) (kk : MemLimiter.memUsageChecker)
    (hk : MemLimiter.getMemUsageChecker g (some total) = some kk) (s : LState) (r : Reading) (rest : List Nat) :
    let w' := MemLimiter.MemoryLimiter.CheckMemLimits ⟨kk, g.MinGCIntervalWhenSoftLimited, g.MinGCIntervalWhenHardLimited⟩ (worldOf s r rest)
    kk.memSpikeLimit ≤ kk.memAllocLimit ∧
    (w'.mustRefuse = true ↔ (if w'.gcCalls = 1 then r.allocAfterGC else r.alloc) ≥ kk.memAllocLimit - kk.memSpikeLimit) := by
  have hg : (Config.ofGo g).toGo = g := rfl
  have hv' : validate (Config.ofGo g) = 0 := (C18_src_validate (Config.ofGo g)).1.mp (by rw [hg]; exact hv)
  have hk' := C18_src_checker (Config.ofGo g) (some total)
  rw [hg, hk, mkCheckerGE_some] at hk'
  obtain ⟨k, hkk, hu⟩ : ∃ k : Checker, kk = k.toGo ∧ k.spike ≤ k.limit ∧ k.limit < W := by
    refine ⟨mkCheckerG srcPct (Config.ofGo g) total, by simpa using hk', ?_⟩
    rcases ht with ⟨ht, hp⟩ | ⟨ht, hp⟩
    · rw [mkCheckerG_congr hp]; exact C18_no_underflow _ total hv' hwf ht
    · rw [mkCheckerG_congr hp]; exact C18_no_underflow_repaired _ total hv' hwf ht
  have hc := C18_src_check k g.MinGCIntervalWhenSoftLimited g.MinGCIntervalWhenHardLimited s r rest
  have hr := C18_refuse_iff k hu.1 hu.2 g.MinGCIntervalWhenSoftLimited g.MinGCIntervalWhenHardLimited s r
  have hl := C18_latest k g.MinGCIntervalWhenSoftLimited g.MinGCIntervalWhenHardLimited s r
  subst hkk
  simp only [] at hc ⊢
  refine ⟨hu.1, ?_⟩
  rw [hc.1, hc.2.2.1, hr, hl]
  cases (check k g.MinGCIntervalWhenSoftLimited g.MinGCIntervalWhenHardLimited s r).gcRan <;> simp [Checker.toGo]

/-- hence the first clause holds on the regenerated code for EVERY `uint64` total memory — the hypothesis `total < 2^57` of
`C18_no_underflow` is discharged by the repair -/
theorem C18_source_first_clause_all_totals (g : MemLimiter.Config) (hv : MemLimiter.Config.Validate g = 0) (hwf : (Config.ofGo g).wf)
    (total : Nat) (ht : total < W) (kk : MemLimiter.memUsageChecker)
    (hk : MemLimiter.getMemUsageChecker g (some total) = some kk) (s : LState) (r : Reading) (rest : List Nat) :
    let w' := MemLimiter.MemoryLimiter.CheckMemLimits ⟨kk, g.MinGCIntervalWhenSoftLimited, g.MinGCIntervalWhenHardLimited⟩ (worldOf s r rest)
    kk.memSpikeLimit ≤ kk.memAllocLimit ∧
    (w'.mustRefuse = true ↔ (if w'.gcCalls = 1 then r.allocAfterGC else r.alloc) ≥ kk.memAllocLimit - kk.memSpikeLimit) :=
  C18_source_first_clause g hv hwf total (Or.inr ⟨ht, C18_src_percentage_repaired⟩) kk hk s r rest

/-- the unrepaired formula violates "no underflow": 50 % / 10 % on a machine whose total memory reads 0x7FFFFFFFFFFF0000 (the
cgroup-v1 "unlimited" value of kernels with 64 KiB pages) gets a spike limit ABOVE the limit (`construct` corpus case 1) -/
theorem C18_no_underflow_pinned_full_fails :
    ¬ (∀ (c : Config) (total : Nat), validate c = 0 → c.wf → total < W → (mkChecker c total).spike ≤ (mkChecker c total).limit) := by
  intro h
  have := h ⟨1000000000, 10000000000, 0, 0, 0, 50, 10⟩ 9223372036854710272 (by decide) (by unfold Config.wf; decide) (by decide)
  revert this
  decide

/-- … and the repaired one gives, for the same machine, limit 50 % and spike 10 % of the total -/
example : mkCheckerSafe ⟨1000000000, 10000000000, 0, 0, 0, 50, 10⟩ 9223372036854710272 = ⟨4611686018427355136, 922337203685471027⟩ := by decide +kernel

example : MemLimiter.Config.Validate ⟨1000000000, 10000000000, 0, 100, 20, 0, 0⟩ = 0 ∧
    MemLimiter.getMemUsageChecker ⟨1000000000, 10000000000, 0, 100, 20, 0, 0⟩ (some 0) = some ⟨104857600, 20971520⟩ := by decide +kernel

/-! ## the factory's cache -/

/-- the id of a cache entry is its position (what `Factory.get` maintains by appending `(key, length)`) -/
def Factory.wf (f : Factory) : Prop := ∀ n (h : n < f.cache.length), (f.cache[n]).2 = n

/-- **one limiter per configuration key**: once a processor has been created for a key, every later creation for the same
key gets the very same limiter and leaves the cache unchanged (whether or not a fresh construction would succeed) -/
theorem C18_factory_same_key_shares (f : Factory) (k id : Nat) (ok ok' : Bool) (h : (f.get k ok).2 = some id) :
    (f.get k ok).1.get k ok' = ((f.get k ok).1, some id) := by
  unfold Factory.get at h ⊢
  cases hl : f.lookup k with
  | some i => simp_all
  | none =>
    cases ok
    · simp [hl] at h
    · simp only [hl, if_true] at h ⊢
      rw [Factory.lookup_new f k hl]
      simp_all

/-- a failed construction caches nothing: the next creation for the key tries again -/
theorem C18_factory_failure_not_cached (f : Factory) (k : Nat) (h : f.lookup k = none) :
    f.get k false = (f, none) := by
  simp [Factory.get, h]

theorem Factory.wf_get (f : Factory) (hwf : f.wf) (k : Nat) (ok : Bool) : (f.get k ok).1.wf := by
  unfold Factory.get
  cases hl : f.lookup k with
  | some i => exact hwf
  | none =>
    cases ok
    · exact hwf
    · intro n hn
      simp only [if_true] at hn ⊢
      by_cases hlt : n < f.cache.length
      · rw [List.getElem_append_left hlt]; exact hwf n hlt
      · have : n = f.cache.length := by simp at hn; omega
        subst this
        simp

/-- **different keys, different limiters** (even when the two configurations have equal values: the key is the pointer):
in a cache built by `get`, two keys that both have a limiter have different ones -/
theorem C18_factory_distinct_keys_distinct_limiters (f : Factory) (hwf : f.wf) (k k' i j : Nat)
    (h1 : f.lookup k = some i) (h2 : f.lookup k' = some j) (hne : k ≠ k') : i ≠ j := by
  intro hij
  subst hij
  -- an id is a position: two entries with the same id are the same entry, so their keys agree
  obtain ⟨n, hn, en⟩ := List.getElem_of_mem (f.lookup_mem k i h1)
  obtain ⟨m, hm, em⟩ := List.getElem_of_mem (f.lookup_mem k' i h2)
  have a := hwf n hn
  have b := hwf m hm
  rw [en] at a
  rw [em] at b
  simp at a b
  subst a
  subst b
  rw [en] at em
  simp at em
  exact hne em

example : Factory.creates {} [(7, true), (8, true), (7, true), (9, false), (9, true), (8, false)] =
    [some 0, some 1, some 0, none, some 2, some 1] := by decide +kernel
example : ({} : Factory).wf := by intro n h; simp at h

/-! ## the `process*` tables -/

/-- the counters of `processML` (profiles are counted nowhere) are what the regenerated tables say: each `process*` function
hands its own signal to `obsrep.refused` / `obsrep.accepted`, and `obsReport` has instruments for traces, metrics and
logs only -/
theorem C18_src_process_counts {α : Type} (sig : Sig) (refusing : Bool) (n : Nat) (payload : α) :
    (processML sig refusing n payload).2.2 = countsFromTables sig refusing n ∧
    (processML sig refusing n payload).1 = payload ∧
    ((processML sig refusing n payload).2.1 = some .dataRefused ↔ refusing = true) := by
  cases sig <;> cases refusing <;> simp [processML, countsFromTables, Sig.processFn, MemLimiter.processTable, MemLimiter.obs_refused, MemLimiter.obs_accepted]

/-- every `process*` function takes its item count from the payload it was given (regenerated table: all four rows name a
count method) and there is exactly one row per signal -/
theorem C18_src_process_table_complete :
    MemLimiter.processTable.map (·.1) = [Sig.logs, .traces, .metrics, .profiles].map Sig.processFn ∧
    MemLimiter.processTable.all (fun r => r.2.1 != "" && r.2.2.1 == r.2.2.2) = true := by decide +kernel

/-! ## from the machine to the mode -/

/-- **from the machine to the mode, end to end** (repaired percentage formula): whatever the cgroup reads and `/proc/meminfo`
return, either `NewMemoryLimiter` fails — exactly on the percentage path when the total memory cannot be determined — or the
limiter it builds does not wrap and refuses after a check iff the latest measurement ≥ limit − spike -/
theorem C18_host_first_clause (c : Config) (hv : validate c = 0) (hwf : c.wf) (q : Quota) (mi : Option Nat)
    (hmi : ∀ m, mi = some m → m < W) (now : Int) :
    (newLimiterG newPctSafe c (totalMemory q mi) now = none ↔ (c.limitMiB = 0 ∧ totalMemory q mi = none)) ∧
    ∀ l, newLimiterG newPctSafe c (totalMemory q mi) now = some l →
      l.k.spike ≤ l.k.limit ∧ l.gcSoft = c.gcSoft ∧ l.gcHard = c.gcHard ∧ l.st.mustRefuse = false ∧
      ∀ (s : LState) (r : Reading),
        ((check l.k l.gcSoft l.gcHard s r).st.mustRefuse = true ↔ (check l.k l.gcSoft l.gcHard s r).latest ≥ l.k.limit - l.k.spike) := by
  refine ⟨C18_newLimiter_error_iff newPctSafe c _ now, ?_⟩
  intro l hl
  -- without a total only the fixed path succeeds, and it ignores the total: take 0
  obtain ⟨total, htot, hl⟩ : ∃ total, total < W ∧ newLimiterG newPctSafe c (some total) now = some l := by
    cases ht : totalMemory q mi with
    | some total => exact ⟨total, totalMemory_lt q mi hmi total ht, ht ▸ hl⟩
    | none =>
      rw [ht] at hl
      have hfix : c.limitMiB ≠ 0 := fun h0 => by
        rw [(C18_newLimiter_error_iff newPctSafe c none now).2 ⟨h0, rfl⟩] at hl; cases hl
      refine ⟨0, by decide, ?_⟩
      rw [← hl]; simp [newLimiterG, mkCheckerGE, hfix]
  rw [C18_newLimiter_ok] at hl
  cases hl
  have hu := C18_no_underflow_repaired c total hv hwf htot
  exact ⟨hu.1, rfl, rfl, rfl, fun s r => C18_refuse_iff _ hu.1 hu.2 _ _ s r⟩

/-- non-vacuity: 50 % / 10 % on a cgroup-v1 host whose quota reads 0x7FFFFFFFFFFF0000 (64 KiB pages; not recognised as "unlimited") -/
example : (newLimiterG newPctSafe ⟨1000000000, 10000000000, 0, 0, 0, 50, 10⟩ (totalMemory (some (9223372036854710272, true)) (some 67609161728)) 0).map (·.k) =
    some ⟨4611686018427355136, 922337203685471027⟩ := by decide +kernel

/-! ## cgroup files -/

/-- **cgroup v2 → total memory**: an error for an unreadable / empty / non-numeric / out-of-range `memory.max`; `/proc/meminfo`
when the file is absent, says `max` or holds the "unlimited" value; otherwise the number in the file (non-negative, below 2^63) -/
theorem C18_cgroup_v2_total (f : V2File) (mi : Option Nat) :
    (memoryQuotaV2 f = none → totalMemory (memoryQuotaV2 f) mi = none) ∧
    (∀ q, memoryQuotaV2 f = some (q, false) → totalMemory (memoryQuotaV2 f) mi = mi) ∧
    (∀ q, memoryQuotaV2 f = some (q, true) → q ≠ 9223372036854771712 → 0 ≤ q →
        totalMemory (memoryQuotaV2 f) mi = some q.toNat ∧ q.toNat < 9223372036854775808) := by
  refine ⟨fun h => by rw [h]; rfl, fun q h => by rw [h]; simp [totalMemory], fun q h hne h0 => ?_⟩
  have hr : q < 9223372036854775808 := by
    cases f with
    | absent => simp [memoryQuotaV2] at h
    | unreadable => simp [memoryQuotaV2] at h
    | content s =>
      simp only [memoryQuotaV2] at h
      split at h
      · cases h
      · rename_i l _
        split at h
        · simp at h
        · cases hp : parseInt64 (trimSpace l) with
          | none => simp [hp] at h
          | some n =>
            simp [hp] at h
            have := parseInt64_range _ n hp
            omega
  rw [h]
  exact ⟨(C18_total_memory_cases mi).2.1 q hne h0 (by omega), by omega⟩

example : memoryQuotaV2 (.content "max\n".toList) = some (-1, false) ∧ memoryQuotaV2 (.content " 1073741824 \n".toList) = some (1073741824, true) ∧
    memoryQuotaV2 (.content "".toList) = none ∧ memoryQuotaV2 (.content "12a\n".toList) = none ∧
    memoryQuotaV2 (.content "9223372036854775808\n".toList) = none ∧ memoryQuotaV2 (.content "123\r\n456".toList) = some (123, true) ∧
    memoryQuotaV2 .absent = some (-1, false) := by decide +kernel

/-- **cgroup v1 → total memory**: an error when `memory.limit_in_bytes` cannot be read or is not a decimal `int64`; `/proc/meminfo`
when the process has no memory cgroup, the value is ≤ 0 or the "unlimited" one; otherwise the positive number in the file (< 2^63) -/
theorem C18_cgroup_v1_total (f : Option V2File) (mi : Option Nat) :
    (memoryQuotaV1 f = none → totalMemory (memoryQuotaV1 f) mi = none) ∧
    (∀ q, memoryQuotaV1 f = some (q, false) → totalMemory (memoryQuotaV1 f) mi = mi) ∧
    (∀ q, memoryQuotaV1 f = some (q, true) → q ≠ 9223372036854771712 →
        0 < q ∧ totalMemory (memoryQuotaV1 f) mi = some q.toNat ∧ q.toNat < 9223372036854775808) := by
  refine ⟨fun h => by rw [h]; rfl, fun q h => by rw [h]; simp [totalMemory], fun q h hne => ?_⟩
  have hr : 0 < q ∧ q < 9223372036854775808 := by
    rcases f with _ | f
    · simp [memoryQuotaV1] at h
    · cases f with
      | absent => simp [memoryQuotaV1] at h
      | unreadable => simp [memoryQuotaV1] at h
      | content s =>
        simp only [memoryQuotaV1] at h
        split at h
        · cases h
        · split at h
          · cases h
          · rename_i n hp
            have := parseInt64_range _ n hp
            split at h
            · simp at h; omega
            · simp at h
  rw [h]
  exact ⟨hr.1, (C18_total_memory_cases mi).2.1 q hne (by omega) (by omega), by omega⟩

example : memoryQuotaV1 none = some (-1, false) ∧ memoryQuotaV1 (some (.content "-1\n".toList)) = some (-1, false) ∧
    memoryQuotaV1 (some (.content " 42\n".toList)) = none ∧ memoryQuotaV1 (some (.content "42\n".toList)) = some (42, true) ∧
    memoryQuotaV1 (some .absent) = none := by decide +kernel

/-! ## source pins -/

/-- **source pins**: the regenerated statement lists of the functions modelled by hand are the ones the model was written
from — an edit of any of them stops the build until the model has been re-examined -/
theorem C18_src_skeletons : SrcPinned := by
  unfold SrcPinned
  repeat' apply And.intro
  all_goals rfl

end Src

end OtelVerif.C18

import OtelVerif.Model.C03Cfg
import OtelVerif.Props.C03Shape
/-!
# C03 — every exporter the constructors can build satisfies the hypotheses of the drain and termination theorems

`Model/C03Cfg.lean` `derive` = `NewBaseExporter` → `newQueueBatchConfig` → `newQueueBatch` (branches taken through the regenerated
`Shape.*` facts).  Here: for every VALID option set (`num_consumers ≥ 1`) the runtime object has at least one consumer and — when it
batches — exactly one consumer and a worker pool of exactly one slot; so the hypotheses `s.cons ≠ []` (`C03_memory_drained`) and
`PoolOK` (`C03_not_stuck`, `C03_shutdown_terminates`) hold in every state reachable from the object's initial state and the theorems are
restated WITHOUT them (`…_cfg`).  The harness reads consumers / pool size / queue kind / `wait_for_result` / timer off the real
exporter by reflection and the driver diffs them with `derive` (`prop derive`).
-/
namespace OtelVerif.C03

theorem reachableFrom_inv {s0 s : State} (h : ReachableFrom s0 s) (h0 : Reachable s0) (hp : PoolOK s0) :
    Reachable s ∧ s.cons.length = s0.cons.length ∧ PoolOK s ∧ s.cfg = s0.cfg := by
  induction h with
  | refl => exact ⟨h0, rfl, hp, rfl⟩
  | step l _ hf ih =>
    obtain ⟨hre, hlen, hpool, hcfg⟩ := ih
    have hs := fire_step hf
    exact ⟨.step l hre hf, (cons_length_step hs).trans hlen, poolOK_step hpool hf, (cfg_step hs).trans hcfg⟩

/-- what the regenerated skeletons say (used only to evaluate `derive`) -/
theorem shape_cfg_facts :
    Shape.legacyForcesWfr = true ∧ Shape.batchForcesOneConsumer = true ∧ Shape.queueKind = true ∧ Shape.poolIsConsumers = true ∧
    Shape.timerLoop = true ∧ Shape.batcherSizers = true ∧ Shape.startOrder = true := by
  have h : Shape.legacyForcesWfr = true ∧ Shape.batchForcesOneConsumer = true ∧ Shape.poolIsConsumers = true ∧
      Shape.batcherSizers = true ∧ Shape.startOrder = true := by decide +kernel
  obtain ⟨_, _, htimer, _⟩ := C03_shape_flush_protocol
  refine ⟨h.1, h.2.1, ?_, h.2.2.1, htimer, h.2.2.2⟩
  -- characters from the literals, not decoded by the kernel
  simp only [Shape.queueKind, Gen.C03Shape.persistentSettings, List.any_cons, List.any_nil]
  repeat rw [String.toList_ofList]
  decide +kernel

/-- **Constructor facts.**  For every option set: a queue sender exists iff a queue or the legacy batcher is enabled; batching ⇒ ONE
consumer and a worker pool of ONE slot; a legacy batcher without queue ⇒ memory queue with `wait_for_result`; a persistent queue
never has `wait_for_result`; without batching there is no timer goroutine and the consumers are the configured ones. -/
theorem C03_derive_facts (u : UCfg) :
    ((derive u).isSome = (u.queueEnabled || u.legacyBatcher)) ∧
    ∀ rt, derive u = some rt →
      (rt.cfg.batching = true → rt.nCons = 1 ∧ rt.workers = 1) ∧
      (rt.cfg.batching = (u.legacyBatcher || u.queueBatch)) ∧
      (u.legacyBatcher = true → u.queueEnabled = false → rt.cfg.wfr = true ∧ rt.cfg.persistent = false) ∧
      (rt.cfg.persistent = true → rt.cfg.wfr = false) ∧
      (rt.cfg.batching = false → rt.timer = false ∧ rt.nCons = u.numConsumers ∧ rt.cfg.persistent = u.storage) ∧
      rt.cfg.retry = u.retry := by
  obtain ⟨f1, f2, f3, f4, f5, _, _⟩ := shape_cfg_facts
  refine ⟨by simp only [derive]; split <;> simp_all, ?_⟩
  intro rt h
  simp only [derive] at h
  split at h
  · simp only [Option.some.injEq] at h
    subst h
    simp only [queueBatch, queueBatchConfig, f1, f2, f3, f4, f5]
    -- `derive` evaluated on the 8 combinations of legacyBatcher / queueEnabled / queueBatch under the five shape facts
    cases hl : u.legacyBatcher <;> cases hq : u.queueEnabled <;> cases hb : u.queueBatch <;> simp_all
  · simp at h

/-- **At least one consumer** for every valid option set (`num_consumers ≥ 1`; the legacy batcher without queue uses `NumCPU`, then 1) -/
theorem C03_derive_consumers_pos (u : UCfg) (hv : u.valid) (rt : RT) (h : derive u = some rt) : 1 ≤ rt.nCons := by
  obtain ⟨hb, _, _, _, hnb, _⟩ := (C03_derive_facts u).2 rt h
  cases hbt : rt.cfg.batching with
  | true => rw [(hb hbt).1]; exact Nat.le_refl 1
  | false => rw [(hnb hbt).2.1]; exact hv.1

/-- **The worker pool has a slot** for every option set: the pool hypothesis of stuck-freedom / termination holds initially -/
theorem C03_derive_pool (u : UCfg) (rt : RT) (h : derive u = some rt) : PoolOK rt.init := by
  obtain ⟨_, hall⟩ := C03_derive_facts u
  obtain ⟨hb, _⟩ := hall rt h
  intro hbt
  have : rt.workers = 1 := (hb (by simpa [RT.init, init] using hbt)).2
  simp [RT.init, init, this, liveUnowned]

/-- every state reachable from the object the constructors build: consumers exist, pool hypothesis holds, configuration unchanged -/
theorem derive_reach (u : UCfg) (hv : u.valid) (rt : RT) (h : derive u = some rt) {s : State} (hr : ReachableFrom rt.init s) :
    Reachable s ∧ s.cons ≠ [] ∧ PoolOK s ∧ s.cfg = rt.cfg := by
  obtain ⟨hre, hl, hpool, hcfg⟩ := reachableFrom_inv hr (Reachable.init _ _ _ _) (C03_derive_pool u rt h)
  have hn : 0 < rt.init.cons.length := by
    have := C03_derive_consumers_pos u hv rt h
    simp only [RT.init, init, List.length_replicate]; omega
  exact ⟨hre, List.ne_nil_of_length_pos (hl ▸ hn), hpool, hcfg⟩

/-- **Memory queue drained — for every exporter the constructors build** (no hypothesis on the state besides "Shutdown returned"):
valid options, memory queue ⇒ every item enqueued before the shutdown request was attempted at least once, exactly once when no
attempt of its flight failed. -/
theorem C03_memory_drained_cfg (u : UCfg) (hv : u.valid) (rt : RT) (h : derive u = some rt) (hm : rt.cfg.persistent = false)
    {s : State} (hr : ReachableFrom rt.init s) (hp : s.phase = 5) (x : Item) (hx : x ∈ s.early) :
    ∃ fl ∈ s.flights, x ∈ fl.batch ∧ fl.st = .done ∧ 1 ≤ fl.attempts ∧ (fl.failures = 0 → fl.attempts = 1) := by
  obtain ⟨hre, hn, _, hc⟩ := derive_reach u hv rt h hr
  exact C03_memory_drained hre hp (by rw [hc]; exact hm) hn x hx

/-- **Shutdown terminates — for every exporter the constructors build**: from every state after the shutdown request some schedule
of helper / backend / shutdown steps (no offer) reaches "returned"; and while not returned some such step is enabled. -/
theorem C03_shutdown_terminates_cfg (u : UCfg) (hv : u.valid) (rt : RT) (h : derive u = some rt)
    {s : State} (hr : ReachableFrom rt.init s) :
    (1 ≤ s.phase → ∃ ls s', (∀ l ∈ ls, isOffer l = false) ∧ runFrom s ls = some s' ∧ s'.phase = 5) ∧
    (s.phase < 5 → ∃ l s', isOffer l = false ∧ fire s l = some s') := by
  obtain ⟨hre, _, hpool, _⟩ := derive_reach u hv rt h hr
  exact ⟨fun hp => C03_shutdown_terminates_without_offers hre hp hpool, fun hp => C03_not_stuck hre hpool hp⟩

/-- non-vacuity: the legacy batcher without queue on an 8-CPU machine; a persistent queue with `sending_queue::batch` -/
example : derive { queueEnabled := false, storage := false, wfr := false, itemsSized := false, numConsumers := 10, queueBatch := false,
                   legacyBatcher := true, flushTimeout := true, retry := true, numCPU := 8 } =
    some { cfg := { persistent := false, batching := true, retry := true, wfr := true, itemsSized := false }, nCons := 1, workers := 1, timer := true } := by
  simp [derive, queueBatchConfig, queueBatch, shape_cfg_facts]
example : derive { queueEnabled := true, storage := true, wfr := true, itemsSized := true, numConsumers := 3, queueBatch := true,
                   legacyBatcher := false, flushTimeout := false, retry := false, numCPU := 8 } =
    some { cfg := { persistent := true, batching := true, retry := false, wfr := false, itemsSized := true }, nCons := 1, workers := 1, timer := false } := by
  simp [derive, queueBatchConfig, queueBatch, shape_cfg_facts]
example : derive { queueEnabled := false, storage := false, wfr := false, itemsSized := false, numConsumers := 3, queueBatch := false,
                   legacyBatcher := false, flushTimeout := false, retry := true, numCPU := 8 } = none := by simp [derive]

end OtelVerif.C03

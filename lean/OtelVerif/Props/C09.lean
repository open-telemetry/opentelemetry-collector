import OtelVerif.Lemmas.C09Graph
import OtelVerif.Model.C09Dispatch
/-!
# C09 — the built pipeline graph routes data exactly as the configuration says

Model: `Model/C09.lean` (mirror of `service/internal/graph/graph.go`).  All theorems quantify over every
configuration (any number of pipelines, signals, components, connectors, support matrices); no size bounds.

`cfg.WF` = what a Go map of pipelines and `PipelineConfig.Validate` guarantee (distinct pipeline ids, no
processor listed twice in one pipeline).  After routing, sharing, rejection and acceptance: the two error-message
monitors, the dispatch tables of `Gen/GraphDispatch`, selective connectors, the driver's oracles, failing factories,
validation, examples.
-/
namespace OtelVerif.C09

/-! ## the routes a configuration describes (no graph involved) -/

/-- nodes visited, after the capabilities node of `p`, by a payload that entered pipeline `p`:
its processors in configured order, then either one of its exporters, or one of its connectors and from
there a pipeline that lists the connector as receiver (supported signal pair), recursively -/
inductive PipeRoute (cfg : Cfg) : Pipeline → List Node → Prop
  | direct (p : Pipeline) (e : CompId) : p ∈ cfg.pipes → e ∈ p.exps → cfg.isConn e = false →
      PipeRoute cfg p (procNodes p ++ Node.fanout p.id :: [Node.exp p.id.sig e])
  | via (p : Pipeline) (c : CompId) (q : Pipeline) (w : List Node) :
      p ∈ cfg.pipes → c ∈ p.exps → cfg.isConn c = true →
      q ∈ cfg.pipes → c ∈ q.recv → cfg.supp c p.id.sig q.id.sig = true →
      PipeRoute cfg q w →
      PipeRoute cfg p (procNodes p ++ Node.fanout p.id :: Node.conn p.id.sig q.id.sig c :: Node.cap q.id :: w)

/-- routes of data emitted by receiver `r` of signal `s`: through every pipeline of that signal that lists `r` -/
def CfgRoute (cfg : Cfg) (s : Sig) (r : CompId) (w : List Node) : Prop :=
  ∃ p, p ∈ cfg.pipes ∧ p.id.sig = s ∧ r ∈ p.recv ∧ cfg.isConn r = false ∧
    ∃ w', PipeRoute cfg p w' ∧ w = Node.cap p.id :: w'

/-! ## routing -/

/-- every route the configuration describes is a walk of the built graph -/
theorem C09_route_is_walk (cfg : Cfg) (p : Pipeline) (w : List Node) (h : PipeRoute cfg p w) :
    IsRouteWalk (edges cfg) (Node.cap p.id) w := by
  induction h with
  | direct p e hp he hc =>
    refine walk_chain (chain_edge_mem hp) rfl (fun x hx => chain_nonexp x (List.mem_cons_of_mem _ hx)) ?_
    exact isRouteWalk_cons.mpr ⟨rfl, mem_edges.mpr ⟨p, hp, Or.inr (Or.inr ⟨rfl, mem_pipeExpNodes.mpr (Or.inl ⟨e, he, hc, rfl⟩)⟩)⟩,
      isRouteWalk_nil.mpr rfl⟩
  | via p c q w hp hce hic hq hcr hs _ ih =>
    obtain ⟨h1, h2⟩ := conn_hop_edges hp hq hce hcr hic hs
    exact walk_chain (chain_edge_mem hp) rfl (fun x hx => chain_nonexp x (List.mem_cons_of_mem _ hx))
      (isRouteWalk_cons.mpr ⟨rfl, h1, isRouteWalk_cons.mpr ⟨rfl, h2, ih⟩⟩)

/-- every walk of the built graph from a pipeline's entry to an exporter is a route the configuration describes -/
theorem C09_walk_is_route (cfg : Cfg) (wf : cfg.WF) : ∀ (n : Nat) (w : List Node), w.length ≤ n →
    ∀ p, p ∈ cfg.pipes → IsRouteWalk (edges cfg) (Node.cap p.id) w → PipeRoute cfg p w := by
  intro n
  induction n with
  | zero =>
    intro w hlen p _ hw
    have : w = [] := List.eq_nil_of_length_eq_zero (Nat.le_zero.mp hlen)
    subst this
    cases isRouteWalk_nil.mp hw
  | succ n ih =>
    intro w hlen p hp hw
    obtain ⟨rest, hr, hz⟩ := walk_forced (procNodes p) (Node.cap p.id) w (chain_nodup wf hp) chain_nonexp
      (fun x y hx hxy => chain_out wf hp hx hxy) hw
    subst hr
    cases rest with
    | nil => cases isRouteWalk_nil.mp hz
    | cons e rest' =>
      obtain ⟨_, hE, hw'⟩ := isRouteWalk_cons.mp hz
      have he := fanout_out wf hp hE
      cases rest' with
      | nil =>
        rcases mem_pipeExpNodes.mp he with ⟨x, hx, hc, rfl⟩ | ⟨_, _, _, _, _, _, _, rfl⟩
        · exact PipeRoute.direct p x hp hx hc
        · cases isRouteWalk_nil.mp hw'
      | cons m rest'' =>
        obtain ⟨_, hE2, hw''⟩ := isRouteWalk_cons.mp hw'
        obtain ⟨c, q, hce, hic, hq, hcr, hs, rfl, rfl⟩ := expSide_out he hE2
        have hlen' : rest''.length ≤ n := by
          simp only [List.length_append, List.length_cons] at hlen
          omega
        exact PipeRoute.via p c q rest'' hp hce hic hq hcr hs (ih rest'' hlen' q hq hw'')

/-- **routing, graph level**: the walks of the built graph from receiver `(s, r)` to exporters are exactly
the routes the configuration describes -/
theorem C09_routing (cfg : Cfg) (wf : cfg.WF) (s : Sig) (r : CompId) (w : List Node) :
    IsRouteWalk (edges cfg) (Node.recv s r) w ↔ CfgRoute cfg s r w := by
  constructor
  · intro hw
    cases w with
    | nil => cases isRouteWalk_nil.mp hw
    | cons m w' =>
      obtain ⟨_, hE, hw'⟩ := isRouteWalk_cons.mp hw
      obtain ⟨p, hp, hmem, rfl⟩ := edge_by_source hE
      rcases mem_pipeRecvNodes.mp hmem with ⟨r', hr', hc', h'⟩ | ⟨c', _, _, p'', _, _, _, h'⟩
      · injection h' with h1 h2
        subst h2
        exact ⟨p, hp, h1.symm, hr', hc', w', C09_walk_is_route cfg wf w'.length w' (Nat.le_refl _) p hp hw', rfl⟩
      · cases h'
  · rintro ⟨p, hp, rfl, hr, hc, w', hroute, rfl⟩
    exact isRouteWalk_cons.mpr ⟨rfl, mem_edges.mpr ⟨p, hp, Or.inl ⟨mem_pipeRecvNodes.mpr (Or.inl ⟨r, hr, hc, rfl⟩), rfl⟩⟩,
      C09_route_is_walk cfg p w' hroute⟩

/-- routing at run time, for any behaviour that uses only the edges passing `f` -/
theorem delivery_filter (cfg : Cfg) (wf : cfg.WF) (f : Node × Node → Bool) (s : Sig) (r : CompId) :
    (∀ k ws, deliver (succOf ((edges cfg).filter f)) k (Node.recv s r) = some ws →
      ws.Nodup ∧ ∀ w, w ∈ ws ↔ (CfgRoute cfg s r w ∧ PairsOk f (Node.recv s r) w)) ∧
    (build cfg = none → Node.recv s r ∈ nodes cfg →
      ∃ k ws, deliver (succOf ((edges cfg).filter f)) k (Node.recv s r) = some ws) := by
  refine ⟨fun k ws h => ?_, fun hb hn => ?_⟩
  · have hspec := deliver_spec _ k _ ws h
    exact ⟨hspec.1, fun w => by rw [hspec.2 w, isRouteWalk_filter, C09_routing cfg wf s r w]⟩
  · obtain ⟨ws, hws⟩ := peel_deliver_sub (sc' := succOf ((edges cfg).filter f))
      (fun n m hm => mem_succOf.mpr (List.mem_filter.mp (mem_succOf.mp hm)).1) _ _ (sortable_mem (build_eq_none.mp hb).2 hn)
    exact ⟨_, ws, hws⟩

/-- **routing, run time**: when the configuration is accepted, pushing a payload into receiver `(s, r)`
terminates and produces one delivery per configured route and nothing else (`ws` lists the visited nodes of
every delivery; the exporter is the last node, `trailOf` its processors/connectors in order) -/
theorem C09_delivery (cfg : Cfg) (wf : cfg.WF) (hb : build cfg = none) (s : Sig) (r : CompId)
    (hn : Node.recv s r ∈ nodes cfg) :
    ∃ k ws, deliver (succ cfg) k (Node.recv s r) = some ws ∧ ws.Nodup ∧ ∀ w, w ∈ ws ↔ CfgRoute cfg s r w := by
  obtain ⟨hspec, htot⟩ := delivery_filter cfg wf (fun _ => true) s r
  obtain ⟨k, ws, h⟩ := htot hb hn
  have := hspec k ws h
  simp only [List.filter_eq_self.mpr (fun _ _ => rfl), ← succ_eq, pairsOk_true, and_true] at h this
  exact ⟨k, ws, h, this⟩

/-- the outcome does not depend on the fuel given to the model's recursion -/
theorem C09_delivery_unique (cfg : Cfg) (k k' : Nat) (n : Node) (a b : List (List Node))
    (h1 : deliver (succ cfg) k n = some a) (h2 : deliver (succ cfg) k' n = some b) : a = b :=
  deliver_det _ h1 h2

/-- processors in configured order, per pipeline: what the payload shows at the exporter on a direct route -/
theorem C09_trail_direct (p : Pipeline) (e : CompId) :
    trailOf (Node.cap p.id :: (procNodes p ++ Node.fanout p.id :: [Node.exp p.id.sig e])) = procNodes p := by
  simp [trailOf, procNodes]

/-! ## instance sharing -/

/-- one node (= one component instance) per key (by construction: `nodes` is a `dedup`) -/
theorem C09_nodes_nodup (cfg : Cfg) : (nodes cfg).Nodup := nodup_dedup _

/-- receivers: one instance per (signal, id) used, whatever the number of pipelines of that signal listing it -/
theorem C09_sharing_receivers (cfg : Cfg) (s : Sig) (r : CompId) :
    Node.recv s r ∈ nodes cfg ↔ ∃ p, p ∈ cfg.pipes ∧ p.id.sig = s ∧ r ∈ p.recv ∧ cfg.isConn r = false := by
  -- `reduceCtorEq` empties the parts of `pipeNodes` that cannot hold this constructor
  simp only [mem_nodes, mem_pipeNodes, mem_pipeRecvNodes, mem_pipeExpNodes, mem_procNodes, Node.recv.injEq,
    reduceCtorEq, and_false, exists_false, or_false]
  constructor
  · rintro ⟨p, hp, r', hr', hc', rfl, rfl⟩; exact ⟨p, hp, rfl, hr', hc'⟩
  · rintro ⟨p, hp, rfl, hr, hc⟩; exact ⟨p, hp, r, hr, hc, rfl, rfl⟩

theorem C09_sharing_exporters (cfg : Cfg) (s : Sig) (e : CompId) :
    Node.exp s e ∈ nodes cfg ↔ ∃ p, p ∈ cfg.pipes ∧ p.id.sig = s ∧ e ∈ p.exps ∧ cfg.isConn e = false := by
  simp only [mem_nodes, mem_pipeNodes, mem_pipeRecvNodes, mem_pipeExpNodes, mem_procNodes, Node.exp.injEq,
    reduceCtorEq, and_false, exists_false, or_false, false_or]
  constructor
  · rintro ⟨p, hp, e', he', hc', rfl, rfl⟩; exact ⟨p, hp, rfl, he', hc'⟩
  · rintro ⟨p, hp, rfl, he, hc⟩; exact ⟨p, hp, e, he, hc, rfl, rfl⟩

/-- processors: one instance per (pipeline, id) occurrence -/
theorem C09_sharing_processors (cfg : Cfg) (pid : PipeId) (x : CompId) :
    Node.proc pid x ∈ nodes cfg ↔ ∃ p, p ∈ cfg.pipes ∧ p.id = pid ∧ x ∈ p.procs := by
  simp only [mem_nodes, mem_pipeNodes, mem_pipeRecvNodes, mem_pipeExpNodes, mem_procNodes, Node.proc.injEq,
    reduceCtorEq, and_false, exists_false, or_false, false_or]
  constructor
  · rintro ⟨p, hp, x', hx', rfl, rfl⟩; exact ⟨p, hp, rfl, hx'⟩
  · rintro ⟨p, hp, rfl, hx⟩; exact ⟨p, hp, x, hx, rfl, rfl⟩

/-- connectors: one instance per (exporter-side signal, receiver-side signal) pair it is used for and supports -/
theorem C09_sharing_connectors (cfg : Cfg) (es rs : Sig) (c : CompId) :
    Node.conn es rs c ∈ nodes cfg ↔
      cfg.isConn c = true ∧ cfg.supp c es rs = true ∧
      (∃ p, p ∈ cfg.pipes ∧ p.id.sig = es ∧ c ∈ p.exps) ∧ (∃ q, q ∈ cfg.pipes ∧ q.id.sig = rs ∧ c ∈ q.recv) := by
  simp only [mem_nodes, mem_pipeNodes, mem_pipeRecvNodes, mem_pipeExpNodes, mem_procNodes, Node.conn.injEq,
    reduceCtorEq, and_false, exists_false, false_or]
  constructor
  · rintro ⟨p, hp, ⟨c', hc', hic, p', hp', hce, hs, rfl, rfl, rfl⟩ | ⟨c', hc', hic, q', hq', hcr, hs, rfl, rfl, rfl⟩⟩
    · exact ⟨hic, hs, ⟨p', hp', rfl, hce⟩, ⟨p, hp, rfl, hc'⟩⟩
    · exact ⟨hic, hs, ⟨p, hp, rfl, hc'⟩, ⟨q', hq', rfl, hcr⟩⟩
  · rintro ⟨hic, hs, ⟨p, hp, rfl, hce⟩, ⟨q, hq, rfl, hcr⟩⟩
    exact ⟨p, hp, Or.inr ⟨c, hce, hic, q, hq, hcr, hs, rfl, rfl, rfl⟩⟩

/-! ## rejection: unsupported connector use -/

/-- a configured connector is listed in some pipeline whose signal has no supported counterpart among the
pipelines on its other side (this includes a connector used on one side only) -/
def UnsupportedUse (cfg : Cfg) : Prop :=
  ∃ c, cfg.isConn c = true ∧
    ((∃ p, p ∈ cfg.pipes ∧ c ∈ p.exps ∧ ∀ q, q ∈ cfg.pipes → c ∈ q.recv → cfg.supp c p.id.sig q.id.sig = false) ∨
     (∃ q, q ∈ cfg.pipes ∧ c ∈ q.recv ∧ ∀ p, p ∈ cfg.pipes → c ∈ p.exps → cfg.supp c p.id.sig q.id.sig = false))

theorem createNodesOk_false {cfg : Cfg} : createNodesOk cfg = false ↔ UnsupportedUse cfg := by
  simp only [createNodesOk, List.all_eq_false, Bool.not_eq_true, mem_usedConns, connValid_eq_false, UnsupportedUse]
  constructor
  · rintro ⟨c, ⟨hic, _⟩, h⟩
    exact ⟨c, hic, h⟩
  · rintro ⟨c, hic, h⟩
    refine ⟨c, ⟨hic, ?_⟩, h⟩
    rcases h with ⟨p, hp, hce, _⟩ | ⟨q, hq, hcr, _⟩
    · exact ⟨p, hp, Or.inr hce⟩
    · exact ⟨q, hq, Or.inl hcr⟩

theorem createNodesOk_true {cfg : Cfg} : createNodesOk cfg = true ↔ ¬ UnsupportedUse cfg := by
  rw [← createNodesOk_false, Bool.not_eq_false]

/-- **rejection (connector)**: the build fails with the connector error exactly when some connector use has no
supported counterpart -/
theorem C09_unsupported (cfg : Cfg) : build cfg = some .connector ↔ UnsupportedUse cfg := by
  rw [build_eq_connector, createNodesOk_false]

/-! ## rejection: connector cycles -/

/-- one or more connector hops between pipelines -/
inductive FeedsPath (cfg : Cfg) : Pipeline → Pipeline → Prop
  | single {p q : Pipeline} : p ∈ cfg.pipes → q ∈ cfg.pipes → feeds cfg p q = true → FeedsPath cfg p q
  | cons {p q r : Pipeline} : p ∈ cfg.pipes → q ∈ cfg.pipes → feeds cfg p q = true → FeedsPath cfg q r → FeedsPath cfg p r

/-- the connector usage of the configuration forms a cycle -/
def ConnectorCycle (cfg : Cfg) : Prop := ∃ p, FeedsPath cfg p p

theorem feedsPath_path {cfg : Cfg} {p q : Pipeline} (h : FeedsPath cfg p q) :
    Path (edges cfg) (Node.cap p.id) (Node.cap q.id) := by
  induction h with
  | single hp hq h => exact feeds_path hp hq h
  | cons hp hq h _ ih => exact (feeds_path hp hq h).trans ih

theorem FeedsPath.head_mem {cfg : Cfg} {p q : Pipeline} (h : FeedsPath cfg p q) : p ∈ cfg.pipes := by
  cases h with
  | single hp _ _ => exact hp
  | cons hp _ _ _ => exact hp

/-- **rejection (cycle)**: a configuration whose connector usage forms a cycle is never accepted; when its
connector uses are all supported the error is the cycle error -/
theorem C09_cycle_rejected (cfg : Cfg) (hc : ConnectorCycle cfg) : build cfg ≠ none ∧
    (createNodesOk cfg = true → build cfg = some .cycle) := by
  obtain ⟨p, hp⟩ := hc
  have hns : sortable (succ cfg) (nodes cfg) = false :=
    Bool.eq_false_iff.mpr fun hs => sortable_graph_iff.mp hs _ (cap_mem_nodes hp.head_mem) (feedsPath_path hp)
  refine ⟨fun hb => ?_, fun hok => build_eq_cycle.mpr ⟨hok, hns⟩⟩
  rw [(build_eq_none.mp hb).2] at hns
  cases hns

/-- an accepted configuration has no closed walk through any node of its graph, no connector cycle, no unsupported use -/
theorem C09_accepted_acyclic (cfg : Cfg) (hb : build cfg = none) :
    (∀ n, n ∈ nodes cfg → ¬ Path (edges cfg) n n) ∧ ¬ ConnectorCycle cfg ∧ ¬ UnsupportedUse cfg :=
  ⟨sortable_graph_iff.mp (build_eq_none.mp hb).2, fun hc => (C09_cycle_rejected cfg hc).1 hb,
    createNodesOk_true.mp (build_eq_none.mp hb).1⟩

/-! ## acceptance of valid configurations -/

def C09_accepts_valid_full : Prop :=
  ∀ cfg : Cfg, cfg.WF → ¬ UnsupportedUse cfg → ¬ ConnectorCycle cfg → build cfg = none

/-- the cycle error is only returned when the component graph really has a directed cycle (`sortable_graph_iff`) -/
theorem C09_accepts_valid_partial (cfg : Cfg) (h : build cfg = some .cycle) :
    ∃ n, n ∈ nodes cfg ∧ Path (edges cfg) n n := by
  refine Classical.byContradiction fun hno => ?_
  have hs := sortable_graph_iff.mpr fun n hn hp => hno ⟨n, hn, hp⟩
  rw [(build_eq_cycle.mp h).2] at hs
  cases hs

theorem path_to_feeds {cfg : Cfg} (wf : cfg.WF) {x y : Node} (h : Path (edges cfg) x y) :
    ∀ p, p ∈ cfg.pipes → (x = Node.cap p.id ∨ Behind cfg p x) → ∀ p0, p0 ∈ cfg.pipes → y = Node.cap p0.id → FeedsPath cfg p p0 := by
  induction h with
  | single hE =>
    intro p hp hx p0 hp0 hy
    rcases step_in_pipe wf hp hx hE with hb | ⟨q, hq, hf, rfl⟩
    · exact absurd (hy ▸ hb) cap_not_behind
    · cases pipe_eq_of_id wf hq hp0 (Node.cap.inj hy)
      exact FeedsPath.single hp hq hf
  | cons hE _ ih =>
    intro p hp hx p0 hp0 hy
    rcases step_in_pipe wf hp hx hE with hb | ⟨q, hq, hf, rfl⟩
    · exact ih p hp (Or.inr hb) p0 hp0 hy
    · exact FeedsPath.cons hp hq hf (ih q hq (Or.inl rfl) p0 hp0 hy)

/-- a closed walk of the built graph projects to a connector cycle of the configuration -/
theorem closed_walk_connectorCycle {cfg : Cfg} (wf : cfg.WF) {x : Node} (hp : Path (edges cfg) x x) : ConnectorCycle cfg := by
  obtain ⟨q, hq, hqq⟩ := closed_to_cap wf hp
  exact ⟨q, path_to_feeds wf hqq q hq (Or.inl rfl) q hq rfl⟩

/-- **acceptance**: every well-formed configuration without unsupported connector use and without connector
cycle is accepted (`C09_accepts_valid_full` holds) — so the hypothesis `build cfg = none` of `C09_delivery` is
implied by the configuration-level validity the property speaks of -/
theorem C09_accepts_valid : C09_accepts_valid_full := by
  intro cfg wf hu hc
  cases hb : build cfg with
  | none => rfl
  | some e =>
    cases e with
    | connector => exact absurd ((C09_unsupported cfg).mp hb) hu
    | cycle =>
      obtain ⟨n, _, hp⟩ := C09_accepts_valid_partial cfg hb
      exact absurd (closed_walk_connectorCycle wf hp) hc

/-- the cycle error is returned exactly for the configurations whose connector uses are all supported and
form a cycle -/
theorem C09_cycle_iff (cfg : Cfg) (wf : cfg.WF) : build cfg = some .cycle ↔ (¬ UnsupportedUse cfg ∧ ConnectorCycle cfg) := by
  constructor
  · intro hb
    obtain ⟨n, _, hp⟩ := C09_accepts_valid_partial cfg hb
    exact ⟨createNodesOk_true.mp (build_eq_cycle.mp hb).1, closed_walk_connectorCycle wf hp⟩
  · rintro ⟨hu, hc⟩
    exact (C09_cycle_rejected cfg hc).2 (createNodesOk_true.mpr hu)

theorem build_none_iff_valid (cfg : Cfg) (wf : cfg.WF) : build cfg = none ↔ (¬ UnsupportedUse cfg ∧ ¬ ConnectorCycle cfg) :=
  ⟨fun hb => ⟨(C09_accepted_acyclic cfg hb).2.2, (C09_accepted_acyclic cfg hb).2.1⟩, fun h => C09_accepts_valid cfg wf h.1 h.2⟩

/-- routing for every valid configuration, with validity stated on the configuration alone -/
theorem C09_delivery_valid (cfg : Cfg) (wf : cfg.WF) (hu : ¬ UnsupportedUse cfg) (hc : ¬ ConnectorCycle cfg)
    (s : Sig) (r : CompId) (hn : Node.recv s r ∈ nodes cfg) :
    ∃ k ws, deliver (succ cfg) k (Node.recv s r) = some ws ∧ ws.Nodup ∧ ∀ w, w ∈ ws ↔ CfgRoute cfg s r w :=
  C09_delivery cfg wf (C09_accepts_valid cfg wf hu hc) s r hn

/-! ## content of the cycle error -/

/-- whatever printed cycle the monitor accepts is a genuine closed walk of the built graph through every listed
processor and connector — hence (by `closed_walk_connectorCycle`) witnesses a connector cycle of the configuration -/
theorem C09_cycle_message_sound (cfg : Cfg) (wf : cfg.WF) (l : List Node) (h : cycleMsgOk cfg l = true) :
    ∃ n rest, l = n :: rest ∧ isConnNode n = true ∧ Path (edges cfg) n n ∧
      (∀ x, x ∈ rest → Path (edges cfg) n x) ∧ ConnectorCycle cfg := by
  cases l with
  | nil => simp [cycleMsgOk] at h
  | cons n rest =>
    simp only [cycleMsgOk, Bool.and_eq_true, Bool.not_eq_true', beq_iff_eq] at h
    obtain ⟨⟨⟨hc, _⟩, hlast⟩, hchain⟩ := h
    have hall := linkedChain_path rest n hchain
    have hmem : n ∈ rest := List.mem_of_getLast? hlast
    exact ⟨n, rest, rfl, hc, hall n hmem, hall, closed_walk_connectorCycle wf (hall n hmem)⟩

/-! ## content of the connector error -/

/-- **content of the connector error**: whatever `connector … used as exporter|receiver in [pipelines] pipeline but not used
in any supported …` message the monitor `connMsgOk` accepts names a configured connector, lists exactly the pipelines of the
reported signal that use it on the reported side (at least one), and no pipeline on the other side offers a supported signal
pair for that signal — a genuine `UnsupportedUse` -/
theorem C09_connector_message_sound (cfg : Cfg) (role : Role) (c : CompId) (s : Sig) (l : List PipeId)
    (h : connMsgOk cfg role c s l = true) :
    cfg.isConn c = true ∧ l ≠ [] ∧
    (∀ pid, pid ∈ l ↔ ∃ p, p ∈ cfg.pipes ∧ p.id = pid ∧ p.id.sig = s ∧ c ∈ role.list p) ∧
    (match role with
     | .exp => ∀ q, q ∈ cfg.pipes → c ∈ q.recv → cfg.supp c s q.id.sig = false
     | .recv => ∀ p, p ∈ cfg.pipes → c ∈ p.exps → cfg.supp c p.id.sig s = false) ∧
    UnsupportedUse cfg := by
  simp only [connMsgOk, Bool.and_eq_true, Bool.not_eq_true', List.isEmpty_eq_false_iff] at h
  obtain ⟨⟨⟨hc, hne⟩, hbag⟩, hun⟩ := h
  have hmem : ∀ pid, pid ∈ l ↔ ∃ p, p ∈ cfg.pipes ∧ p.id = pid ∧ p.id.sig = s ∧ c ∈ role.list p :=
    fun pid => (sameBag_mem hbag pid).trans mem_usesOf
  obtain ⟨pid, hpid⟩ := List.exists_mem_of_ne_nil l hne
  obtain ⟨p, hp, _, hs, hcl⟩ := (hmem pid).mp hpid
  cases role with
  | exp =>
    have hno : ∀ q, q ∈ cfg.pipes → c ∈ q.recv → cfg.supp c s q.id.sig = false := by
      intro q hq hcr
      simp only [List.all_eq_true, mem_asRecv, Bool.not_eq_true', and_imp] at hun
      exact hun q hq hcr
    exact ⟨hc, hne, hmem, hno, c, hc, Or.inl ⟨p, hp, hcl, fun q hq hcr => hs ▸ hno q hq hcr⟩⟩
  | recv =>
    have hno : ∀ p', p' ∈ cfg.pipes → c ∈ p'.exps → cfg.supp c p'.id.sig s = false := by
      intro q hq hce
      simp only [List.all_eq_true, mem_asExp, Bool.not_eq_true', and_imp] at hun
      exact hun q hq hce
    exact ⟨hc, hne, hmem, hno, c, hc, Or.inr ⟨p, hp, hcl, fun q hq hce => hs ▸ hno q hq hce⟩⟩

/-- the monitor is complete: for every configuration with an unsupported connector use, the message `createNodes` would print for that
use — the connector, the side, the signal, all pipelines of that signal using it on that side — is accepted by `connMsgOk`
(so the monitor rejects a message only for a reason) -/
theorem C09_connector_message_complete (cfg : Cfg) (h : UnsupportedUse cfg) :
    ∃ role c s, connMsgOk cfg role c s (usesOf cfg role c s) = true := by
  obtain ⟨c, hc, ⟨p, hp, hce, hno⟩ | ⟨q, hq, hcr, hno⟩⟩ := h
  · refine ⟨.exp, c, p.id.sig, ?_⟩
    have hmem : p.id ∈ usesOf cfg .exp c p.id.sig := mem_usesOf.mpr ⟨p, hp, rfl, rfl, hce⟩
    simp only [connMsgOk, hc, sameBag_refl, Bool.true_and, Bool.and_eq_true, Bool.not_eq_true', List.isEmpty_eq_false_iff,
      List.all_eq_true, mem_asRecv, and_imp]
    exact ⟨⟨List.ne_nil_of_mem hmem, trivial⟩, fun q hq hcr => hno q hq hcr⟩
  · refine ⟨.recv, c, q.id.sig, ?_⟩
    have hmem : q.id ∈ usesOf cfg .recv c q.id.sig := mem_usesOf.mpr ⟨q, hq, rfl, rfl, hcr⟩
    simp only [connMsgOk, hc, sameBag_refl, Bool.true_and, Bool.and_eq_true, Bool.not_eq_true', List.isEmpty_eq_false_iff,
      List.all_eq_true, mem_asExp, and_imp]
    exact ⟨⟨List.ne_nil_of_mem hmem, trivial⟩, fun p hp hce => hno p hp hce⟩

/-! ## per-signal(-pair) dispatch: regenerated tables (`Gen/GraphDispatch.lean`, translator `graphdispatch`) -/

/-- **`connectorStability` reads the factory's own cell**: the nested switch has exactly the 16 cells, the cell for
`(expType, recType)` returns the factory's `<expType>To<recType>Stability()`, behind the `xconnector.Factory` assertion exactly
when profiles are involved; hence for a factory with support matrix `M` the model's `Cfg.supp` (= "stability is not
Undefined") IS `M` for an `xconnector` factory, and `M` minus the profiles pairs for a plain `connector` factory -/
theorem C09_stability_dispatch :
    OtelVerif.Gen.GraphDispatch.stabilityTable.length = 16 ∧
    (∀ e r : Sig, stabCell e r = some (e.toNat, r.toNat, decide (e = .profiles ∨ r = .profiles))) ∧
    (∀ (M : Sig → Sig → Bool) (e r : Sig), stabilityDefined M true e r = M e r) ∧
    (∀ (M : Sig → Sig → Bool) (e r : Sig), stabilityDefined M false e r = (M e r && !(decide (e = .profiles ∨ r = .profiles)))) := by
  have h2 : ∀ e r : Sig, stabCell e r = some (e.toNat, r.toNat, decide (e = .profiles ∨ r = .profiles)) :=
    Sig.forall₂_of_all (by decide +kernel)
  refine ⟨by decide +kernel, h2, ?_, ?_⟩
  · intro M e r
    simp [stabilityDefined, h2 e r, Sig.ofNat?_toNat]
  · intro M e r
    simp only [stabilityDefined, h2 e r, Sig.ofNat?_toNat]
    cases decide (e = .profiles ∨ r = .profiles) <;> simp

/-- **a connector node is built through its own signal pair**: `connectorNode.buildComponent` has exactly the 16 cells and the node
for (exporter-side `e`, receiver-side `r`) calls `builder.Create<e>To<r>` with the router of signal `r` as next consumer -/
theorem C09_connector_build_dispatch :
    OtelVerif.Gen.GraphDispatch.connBuildTable.length = 16 ∧
    ∀ e r : Sig, connBuildCell r e = some (e.toNat, r.toNat, r.toNat) :=
  ⟨by decide +kernel, Sig.forall₂_of_all (by decide +kernel)⟩

/-- **every builder / node / glue switch stays within its signal**: each `builders.*Builder.Create…` logs the stability of and
returns the result of the factory method of its own signal (pair), all 4 + 4 + 4 + 16 exist; each per-signal case of
`receiverNode/processorNode/exporterNode.buildComponent`, of the receiver's fan-out, of the capabilities node and of the fan-out
node in `buildComponents` calls the constructor of its own signal, all four signals present -/
theorem C09_component_build_dispatch :
    OtelVerif.Gen.GraphDispatch.builderTable.length = 28 ∧
    OtelVerif.Gen.GraphDispatch.builderTable.all builderRowOk = true ∧
    (∀ e r : Sig, builderHas 3 e.toNat r.toNat = true) ∧
    (∀ s : Sig, builderHas 0 s.toNat 0 = true ∧ builderHas 1 s.toNat 0 = true ∧ builderHas 2 s.toNat 0 = true) ∧
    OtelVerif.Gen.GraphDispatch.nodeTable.length = 24 ∧
    OtelVerif.Gen.GraphDispatch.nodeTable.all nodeRowOk = true ∧
    (∀ s : Sig, ∀ k, k ∈ [0, 1, 2, 4, 5, 6] → nodeHas k s.toNat = true) :=
  ⟨by decide +kernel, by decide +kernel, Sig.forall₂_of_all (by decide +kernel), Sig.forall_of_all (by decide +kernel),
    by decide +kernel, by decide +kernel, Sig.forall_of_all (by decide +kernel)⟩

/-- tie of the two message monitors to the source text: the formats the harness parsers (`vConnErrTokens`, `vCycleTokens`) are written
against are the ones `createNodes` / `cycleErr` have in the current tree (a data check on the regenerated table, not a property
theorem — hence not named `C09_`) -/
theorem graph_message_formats :
    (OtelVerif.Gen.GraphDispatch.formats.filter (fun r => r.1 == "createNodes")).map (·.2) =
      ["connector factory not available for: %q",
       "connector %q used as exporter in %v pipeline but not used in any supported receiver pipeline",
       "connector %q used as receiver in %v pipeline but not used in any supported exporter pipeline"] ∧
    (OtelVerif.Gen.GraphDispatch.formats.filter (fun r => r.1 == "cycleErr")).map (·.2) =
      ["processor %q in pipeline %q", "connector %q (%s to %s)", "cycle detected: %s"] := by
  simp [OtelVerif.Gen.GraphDispatch.formats]

/-! ## connectors that route by pipeline id -/

/-- **routing with selective connectors**: on an accepted configuration, with every connector delivering only to
the next pipelines it selects by id (`Conn.sel`), a payload pushed into receiver `(s, r)` terminates with one
delivery per configured route all of whose connector hops are selected — and nothing else.  With no selective
connector this is `C09_delivery` (`flowEdges_eq_edges`). -/
theorem C09_delivery_selective (cfg : Cfg) (wf : cfg.WF) (hb : build cfg = none) (s : Sig) (r : CompId)
    (hn : Node.recv s r ∈ nodes cfg) :
    ∃ k ws, deliver (succOf (flowEdges cfg)) k (Node.recv s r) = some ws ∧ ws.Nodup ∧
      ∀ w, w ∈ ws ↔ (CfgRoute cfg s r w ∧ PairsOk (flowAllowed cfg) (Node.recv s r) w) := by
  obtain ⟨hspec, htot⟩ := delivery_filter cfg wf (flowAllowed cfg) s r
  obtain ⟨k, ws, h⟩ := htot hb hn
  exact ⟨k, ws, h, hspec k ws h⟩

/-! ## the driver's property oracles are sound -/

/-- **check soundness**: the three oracles the driver evaluates on the implementation's observations are computed with
model functions whose meaning is fixed by the theorems above, stated here on the configuration alone:
* routing — whatever `deliver` over `flowEdges` returns, with any fuel, is duplicate-free and consists exactly of the
  configured routes whose connector hops are selected;
* sharing — the component nodes are exactly: receivers / exporters per (signal, non-connector id listed by a pipeline of
  that signal), processors per (pipeline, listed id), connectors per supported signal pair used on both sides;
* rejection — the connector error iff some use is unsupported, the cycle error iff all uses are supported and the
  connector usage is cyclic, acceptance iff neither. -/
theorem C09_check_sound (cfg : Cfg) (wf : cfg.WF) :
    (∀ k s r ws, deliver (succOf (flowEdges cfg)) k (Node.recv s r) = some ws →
      ws.Nodup ∧ ∀ w, w ∈ ws ↔ (CfgRoute cfg s r w ∧ PairsOk (flowAllowed cfg) (Node.recv s r) w)) ∧
    (∀ n, n ∈ (nodes cfg).filter Node.isComp ↔
      ((∃ s r, n = Node.recv s r ∧ ∃ p, p ∈ cfg.pipes ∧ p.id.sig = s ∧ r ∈ p.recv ∧ cfg.isConn r = false) ∨
       (∃ s e, n = Node.exp s e ∧ ∃ p, p ∈ cfg.pipes ∧ p.id.sig = s ∧ e ∈ p.exps ∧ cfg.isConn e = false) ∨
       (∃ pid x, n = Node.proc pid x ∧ ∃ p, p ∈ cfg.pipes ∧ p.id = pid ∧ x ∈ p.procs) ∨
       (∃ es rs c, n = Node.conn es rs c ∧ cfg.isConn c = true ∧ cfg.supp c es rs = true ∧
          (∃ p, p ∈ cfg.pipes ∧ p.id.sig = es ∧ c ∈ p.exps) ∧ (∃ q, q ∈ cfg.pipes ∧ q.id.sig = rs ∧ c ∈ q.recv)))) ∧
    (build cfg = some .connector ↔ UnsupportedUse cfg) ∧
    (build cfg = some .cycle ↔ (¬ UnsupportedUse cfg ∧ ConnectorCycle cfg)) ∧
    (build cfg = none ↔ (¬ UnsupportedUse cfg ∧ ¬ ConnectorCycle cfg)) := by
  refine ⟨fun k s r => (delivery_filter cfg wf (flowAllowed cfg) s r).1 k, ?_, C09_unsupported cfg, C09_cycle_iff cfg wf, build_none_iff_valid cfg wf⟩
  · intro n
    rw [List.mem_filter]
    constructor
    · rintro ⟨hn, hc⟩
      cases n with
      | recv s r => exact Or.inl ⟨s, r, rfl, (C09_sharing_receivers cfg s r).mp hn⟩
      | exp s e => exact Or.inr (Or.inl ⟨s, e, rfl, (C09_sharing_exporters cfg s e).mp hn⟩)
      | proc pid x => exact Or.inr (Or.inr (Or.inl ⟨pid, x, rfl, (C09_sharing_processors cfg pid x).mp hn⟩))
      | conn es rs c => exact Or.inr (Or.inr (Or.inr ⟨es, rs, c, rfl, (C09_sharing_connectors cfg es rs c).mp hn⟩))
      | cap p => cases hc
      | fanout p => cases hc
    · rintro (⟨s, r, rfl, h⟩ | ⟨s, e, rfl, h⟩ | ⟨pid, x, rfl, h⟩ | ⟨es, rs, c, rfl, h⟩)
      · exact ⟨(C09_sharing_receivers cfg s r).mpr h, rfl⟩
      · exact ⟨(C09_sharing_exporters cfg s e).mpr h, rfl⟩
      · exact ⟨(C09_sharing_processors cfg pid x).mpr h, rfl⟩
      · exact ⟨(C09_sharing_connectors cfg es rs c).mpr h, rfl⟩

/-! ## a failing factory -/

/-- the rejections of the configuration take precedence (no factory is called for a rejected configuration); a factory
error is returned exactly when the configuration is accepted and a component of the graph has a failing factory; without
failing factories `buildWith` is `build` -/
theorem C09_build_with_failing_factory (cfg : Cfg) (failCreate : Node → Bool) :
    (∀ e, buildWith cfg failCreate = some (.build e) ↔ build cfg = some e) ∧
    (buildWith cfg failCreate = some .create ↔
      (build cfg = none ∧ ∃ n, n ∈ nodes cfg ∧ n.isComp = true ∧ failCreate n = true)) ∧
    (buildWith cfg (fun _ => false) = (build cfg).map BuildErrW.build) := by
  simp only [← nodes_any_failing, buildWith]
  cases build cfg with
  | some e => simp
  | none => cases (nodes cfg).any (fun n => n.isComp && failCreate n) <;> simp

/-! ## validation -/

/-- a configuration that passes validation (and whose pipelines have distinct ids — they are keys of a Go map)
meets the well-formedness hypothesis of the routing theorems, and every pipeline has a receiver and an exporter -/
theorem C09_validate_wf (cfg : Cfg) (hids : (cfg.pipes.map (·.id)).Nodup) (hv : validate cfg = []) :
    cfg.WF ∧ ∀ p, p ∈ cfg.pipes → p.recv ≠ [] ∧ p.exps ≠ [] := by
  have hnone := fun p hp => validatePipe_eq_none.mp (validate_eq_nil.mp hv p hp)
  exact ⟨⟨hids, fun p hp => nodup_of_hasDup_false _ (hnone p hp).2.2⟩, fun p hp => ⟨(hnone p hp).1, (hnone p hp).2.1⟩⟩

/-- **the whole validation** (`pipelines.Config.Validate` + every `PipelineConfig.Validate`, as `xconfmap.Validate` runs them): a configuration
that passes has at least one pipeline, no profiles pipeline unless the feature gate is on, passes the per-pipeline validation — and therefore
(`C09_validate_wf`) meets the hypothesis `WF` of the routing theorems; with the gate on and a pipeline present it is the per-pipeline validation alone -/
theorem C09_validate_all (gate : Bool) (cfg : Cfg) :
    (validateAll gate cfg = [] →
      cfg.pipes ≠ [] ∧ (gate = false → ∀ p, p ∈ cfg.pipes → p.id.sig ≠ Sig.profiles) ∧ validate cfg = []) ∧
    (cfg.pipes ≠ [] → validateAll true cfg = validate cfg) := by
  constructor
  · intro h
    -- `dedup l = []` iff `l = []`; `a ++ b = []` iff both are; `if c then [e] else []` is `[]` iff `¬ c`
    simp only [validateAll, validateMap, dedup_eq_nil, List.append_eq_nil_iff, ite_eq_right_iff, reduceCtorEq, imp_false,
      List.isEmpty_iff, Bool.and_eq_true, Bool.not_eq_true', List.any_eq_true, beq_iff_eq, not_and, not_exists] at h
    obtain ⟨⟨h1, h2⟩, h3⟩ := h
    exact ⟨h1, fun hg p hp hs => h2 hg p hp hs, by rw [validate, h3]; rfl⟩
  · intro hne
    simp [validateAll, validate, validateMap, hne]

/-! ## non-vacuity -/

/-- traces/0 and traces/1 share receiver 1 and exporter 1; traces/0 also feeds connector 5 into metrics/0 -/
def exCfg : Cfg :=
  { conns := [{ id := 5, supp := [(.traces, .metrics)] }],
    pipes := [{ id := ⟨.traces, 0⟩, recv := [1], procs := [1, 2], exps := [5, 1] },
              { id := ⟨.traces, 1⟩, recv := [1, 2], procs := [2], exps := [1] },
              { id := ⟨.metrics, 0⟩, recv := [5], procs := [1], exps := [2] }] }

theorem build_exCfg : build exCfg = none := by decide +kernel

example : build exCfg = none := build_exCfg
example : validate exCfg = [] := by decide +kernel
example : validate { exCfg with pipes := { id := ⟨.logs, 0⟩, recv := [1], procs := [2, 1, 2], exps := [] } :: exCfg.pipes } = [.noExporters] := by decide +kernel
example : exCfg.WF := ⟨by decide +kernel, by decide +kernel⟩
example : Node.recv .traces 1 ∈ nodes exCfg := by decide +kernel
example : (nodes exCfg).filter Node.isComp =
    [Node.proc ⟨.traces, 0⟩ 1, Node.proc ⟨.traces, 0⟩ 2, Node.recv .traces 1, Node.recv .traces 2,
     Node.proc ⟨.traces, 1⟩ 2, Node.exp .traces 1, Node.conn .traces .metrics 5, Node.proc ⟨.metrics, 0⟩ 1,
     Node.exp .metrics 2] := by decide +kernel
/-- three deliveries from receiver traces/1: via the connector into metrics/0, and exporter 1 twice (once per pipeline) -/
example : (deliver (succ exCfg) 12 (Node.recv .traces 1)).map (·.map (fun w => (w.getLast?, trailOf w))) =
    some [(some (Node.exp .metrics 2), [Node.proc ⟨.traces, 0⟩ 1, Node.proc ⟨.traces, 0⟩ 2, Node.conn .traces .metrics 5, Node.proc ⟨.metrics, 0⟩ 1]),
          (some (Node.exp .traces 1), [Node.proc ⟨.traces, 0⟩ 1, Node.proc ⟨.traces, 0⟩ 2]),
          (some (Node.exp .traces 1), [Node.proc ⟨.traces, 1⟩ 2])] := by decide +kernel

/-- `exCfg` with connector 5 selecting only pipelines named 1: the route through metrics/0 disappears -/
example : (deliver (succOf (flowEdges { exCfg with conns := [{ id := 5, supp := [(.traces, .metrics)], sel := some [1] }] })) 12
      (Node.recv .traces 1)).map (·.map (fun w => (w.getLast?, trailOf w))) =
    some [(some (Node.exp .traces 1), [Node.proc ⟨.traces, 0⟩ 1, Node.proc ⟨.traces, 0⟩ 2]),
          (some (Node.exp .traces 1), [Node.proc ⟨.traces, 1⟩ 2])] := by decide +kernel

/-- a two-pipeline connector cycle across signals -/
def exCyc : Cfg :=
  { conns := [{ id := 5, supp := [(.traces, .metrics)] }, { id := 6, supp := [(.metrics, .traces)] }],
    pipes := [{ id := ⟨.traces, 0⟩, recv := [1, 6], procs := [1], exps := [5] },
              { id := ⟨.metrics, 0⟩, recv := [5], procs := [], exps := [6, 1] }] }

example : build exCyc = some .cycle := by decide +kernel
/-- the message the real code prints for `exCyc` is accepted by the monitor -/
example : cycleMsgOk exCyc [Node.conn .traces .metrics 5, Node.conn .metrics .traces 6, Node.proc ⟨.traces, 0⟩ 1,
    Node.conn .traces .metrics 5] = true := by decide +kernel
example : cycleMsgOk exCyc [Node.conn .traces .metrics 5, Node.proc ⟨.traces, 0⟩ 1, Node.conn .traces .metrics 5] = false := by decide +kernel
example : ConnectorCycle exCyc :=
  ⟨exCyc.pipes[0], FeedsPath.cons (q := exCyc.pipes[1]) (by decide +kernel) (by decide +kernel) (by decide +kernel)
    (FeedsPath.single (by decide +kernel) (by decide +kernel) (by decide +kernel))⟩

/-- connector 5 supports only traces→metrics but is also listed as receiver of a logs pipeline and nowhere else: rejected -/
def exUnsup : Cfg :=
  { conns := [{ id := 5, supp := [(.traces, .metrics)] }],
    pipes := [{ id := ⟨.logs, 0⟩, recv := [5], procs := [], exps := [1] },
              { id := ⟨.logs, 1⟩, recv := [1], procs := [], exps := [5] }] }

example : build exUnsup = some .connector := by decide +kernel
example : UnsupportedUse exUnsup :=
  ⟨5, by decide +kernel, Or.inl ⟨exUnsup.pipes[1], by decide +kernel, by decide +kernel, by decide +kernel⟩⟩

/-- non-vacuity of `C09_connector_message_sound`: the message the real code prints for `exUnsup` ("connector 5 used as exporter in
[logs/1] pipeline …") is accepted; naming the wrong pipeline, a pipeline too many, or the supported side is not -/
example : connMsgOk exUnsup .exp 5 .logs [⟨.logs, 1⟩] = true := by decide +kernel
example : connMsgOk exUnsup .recv 5 .logs [⟨.logs, 0⟩] = true := by decide +kernel
example : connMsgOk exUnsup .exp 5 .logs [⟨.logs, 0⟩] = false := by decide +kernel
example : connMsgOk exUnsup .exp 5 .logs [⟨.logs, 1⟩, ⟨.logs, 0⟩] = false := by decide +kernel
example : connMsgOk exCfg .exp 5 .traces [⟨.traces, 0⟩] = false := by decide +kernel

end OtelVerif.C09

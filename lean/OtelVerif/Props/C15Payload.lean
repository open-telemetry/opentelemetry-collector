import OtelVerif.Props.C08
import OtelVerif.Lemmas.Basic
/-!
# C15 payload clause, linked to C08's proved marshalling theorems; apart, so that `Props/C15` does not depend on C08

Part of `./check C15` (module in `lean_modules`, `otlpschema` translator in C15's spec): the theorems below are counted C15 obligations.
The marshalling halves are C08's PROVED theorems for the schema regenerated from /repo; what the transport adds — a compression and,
for JSON, the text layer — enters as explicit, NAMED hypotheses (`hcomp`, `htext`, `hT`), listed under `assumptions` in
`lib/props/c15.py`, because nothing in this framework instantiates them (C16 samples the codec law, C08 samples the float/text law).
-/
namespace OtelVerif.C15

/-- **Payload, protobuf transports (gRPC and HTTP/proto).** For every root of the regenerated schema (the four
`Export*ServiceRequest`s that cross the hop, their responses, the bare payloads), every payload built through the public pdata API
and every compression pair satisfying the codec law `hcomp`: what the receiver obtains by decompressing and running the root's
`Unmarshal` (+ `otlp.Migrate*`) is exactly the payload the exporter marshalled.
Partial: `hcomp` is C16's hypothesis (sampled there for gzip/zlib/zstd/snappy/lz4); HTTP/gRPC framing is exercised, not modelled. -/
theorem C15_payload_pb_partial (compress : Wire.Bytes → Wire.Bytes) (decompress : Wire.Bytes → Option Wire.Bytes)
    (hcomp : ∀ b, decompress (compress b) = some b)
    (root : String) (m : Nat) (hroot : (root, m) ∈ C08.otlp.roots) (v : Proto.Val) (h : C08.ApiBuilt C08.otlp m v)
    (hlen : (C08.encode C08.otlp m v).length < 2 ^ 63) :
    (decompress (compress (C08.encode C08.otlp m v))).bind (C08.decodeRoot C08.otlp C08.otlpD root m) = some v := by
  rw [hcomp, Option.bind_some]
  -- C08: the wrapper's decode returns the payload; `Migrate*` is a no-op on API-built payloads (derived there, not assumed)
  refine C08.C08_wrappers_pb C08.otlp C08.otlpD C08.C08_schema_wf root m v h.1 hlen (fun hm => ?_)
  exact C08.migrate_noop_api C08.otlp C08.C08_api_mig_shape m v (C08.otlp_root_first hroot (Or.inl hm)) h.1 h.2

/-- **Payload, HTTP/JSON.** The same through `MarshalJSON` / `UnmarshalJSON` of the root, for every text layer satisfying `htext`
(what jsoniter writes, it reads back), every float/text pair satisfying C08's `TxtLaws` (`hT`) and every lawful compression: the
receiver gets the payload with NaNs canonicalised (`normV`, C08).
Partial: `hcomp`, `htext`, `hT` are hypotheses (sampled by C16 resp. C08's harness). -/
theorem C15_payload_json_partial (compress : Wire.Bytes → Wire.Bytes) (decompress : Wire.Bytes → Option Wire.Bytes)
    (hcomp : ∀ b, decompress (compress b) = some b)
    (write : C08.Json → Wire.Bytes) (read : Wire.Bytes → Option C08.Json) (htext : ∀ j, read (write j) = some j)
    (T : C08.Txt) (hT : C08.TxtLaws T) (root : String) (m : Nat)
    (hroot : (root, m) ∈ C08.otlp.roots) (v : Proto.Val) (h : C08.ApiBuilt C08.otlp m v)
    (hlen : (C08.encode C08.otlp m v).length < 2 ^ 63) :
    ((decompress (compress (write (C08.toJson C08.otlp T m v)))).bind read).bind
        (C08.fromJsonRoot C08.otlp T C08.otlpD root m)
      = some (C08.normV C08.otlp (.slots (C08.otlp.slots m)) v) := by
  rw [hcomp, Option.bind_some, htext, Option.bind_some]
  exact (C08.C08_wrappers_otlp_api T hT root m hroot v h hlen).2

/-! ## non-vacuity -/

/-- the four request roots the exporters send exist in the regenerated schema -/
example : ("logsreq", 1) ∈ C08.otlp.roots ∧ ("metricsreq", 4) ∈ C08.otlp.roots ∧ ("tracesreq", 10) ∈ C08.otlp.roots ∧
    ("profilesreq", 7) ∈ C08.otlp.roots := by decide +kernel

/-- the hypotheses of `C15_payload_pb_partial` are met at the real schema: a root of the hop (`ExportLogsServiceResponse` with a
partial-success body — C08's `C08_apibuilt_example`), a payload that is `ApiBuilt`, and a compression pair with the law (identity);
the theorem then yields the round trip for it. -/
theorem C15_payload_nonvacuous :
    ∃ (root : String) (m : Nat) (v : Proto.Val), (root, m) ∈ C08.otlp.roots ∧ C08.ApiBuilt C08.otlp m v ∧
      ((C08.encode C08.otlp m v).length < 2 ^ 63 →
        (some (C08.encode C08.otlp m v)).bind (C08.decodeRoot C08.otlp C08.otlpD root m) = some v) := by
  obtain ⟨m, hm, hv⟩ := C08.C08_apibuilt_example
  refine ⟨"logsresp", m, _, mem_of_lookup hm, hv, fun hlen => ?_⟩
  exact C15_payload_pb_partial id some (fun _ => rfl) "logsresp" m (mem_of_lookup hm) _ hv hlen

end OtelVerif.C15

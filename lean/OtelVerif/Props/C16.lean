import OtelVerif.Lemmas.C16
/-!
# C16 — HTTP body compression round-trips and the decompressed-size limit holds

Every evaluation over `Compression.*` is re-checked against the tables the translator regenerates from
`config/confighttp` and `config/configcompression` on every run.
All theorems quantify over every byte string, every limit, every enabled-decoder list and every compression
library (`Codec`), lawful where the round trip needs it, arbitrary (hostile) for the limit. The client's writer pools: `Lemmas/C16Pool.lean`.
-/
namespace OtelVerif.C16
open OtelVerif.Gen

/-! ## tie obligations over the regenerated tables -/

/-- Every client compression type has a server decoder of the same name, and that decoder reads the format
the client's writer produces (same library on both sides; `deflate` is zlib on both sides). -/
theorem C16_client_server_names :
    ∀ w ∈ Compression.writers, resolve w.1 = some (.lib w.2) := by decide +kernel

theorem C16_client_types_have_writers :
    ∀ t ∈ Compression.clientTypes, isCompressed t = true → (assoc Compression.writers t).isSome = true := by decide +kernel

/-- The default decoder list enables the identity, every available decoder and every alias; nothing in it is
without a decoder; every compressed client type is accepted by a default server. -/
theorem C16_defaults :
    "" ∈ Compression.defaultCompressionAlgorithms ∧
    (∀ d ∈ Compression.availableDecoders, d.1 ∈ Compression.defaultCompressionAlgorithms) ∧
    (∀ a ∈ Compression.aliases, a.1 ∈ Compression.defaultCompressionAlgorithms) ∧
    (∀ n ∈ Compression.defaultCompressionAlgorithms, decodable n = true) ∧
    (∀ t ∈ Compression.clientTypes, isCompressed t = true → t ∈ Compression.defaultCompressionAlgorithms) ∧
    0 < Compression.defaultMaxRequestBodySize := by decide +kernel

/-- structural facts the theorems below rest on: the wire-side limit wraps the decompressor, rejection is a
client error, no alias points at a missing decoder, no-encoding resolves to the identity, and the enable
loop does not install a nil func for an unknown name. -/
theorem C16_gen_shape :
    Compression.outerLimitOnWire = true ∧
    (400 ≤ Compression.rejectStatus ∧ Compression.rejectStatus < 500) ∧
    (∀ a ∈ Compression.aliases, avail a.2 ≠ .nilFunc) ∧
    resolve "" = some .identity ∧
    Compression.installsNilForUnknown = false :=
  ⟨outerLimitOnWire_eq, by decide, alias_targets_exist, resolve_empty, installsNilForUnknown_eq⟩

/-! ## compression levels -/

/-- **Levels.** Every level `ClientConfig.Validate` accepts (the regenerated rules of `Type.ValidateParams`, every integer) gives a
writer that exists once `ToClient` has replaced an unset level — so `compress` cannot meet the nil writer that a level outside
the library's range would produce. (The library's own range is the trusted fact `libLevelOk`; that the writer then round-trips is
the codec law, sampled by the differential at every accepted boundary level.) Breaks if `ValidateParams` is widened, if the
writer switch starts/stops passing the level, or if the unset-level replacement changes. -/
theorem C16_validated_level_constructs (t : String) (ht : t ∈ Compression.clientTypes) (hc : isCompressed t = true) (l : Int)
    (h : levelAccepted t l = true) : writerLevelOk t (effLevel l) = true := by
  have hw := C16_client_types_have_writers t ht hc
  unfold writerLevelOk
  cases hx : assoc Compression.writers t with
  | none => rw [hx] at hw; cases hw
  | some lib =>
    -- only a flate writer that is given the level can fail to exist; its type then has the flate rule
    simp only
    split
    · rename_i hp
      unfold libLevelOk
      split
      · rename_i hl
        obtain ⟨ha, hr⟩ : Compression.anyLevelTypes.contains t = false ∧
            assoc Compression.levelRules t = some ([-1, -2, 0], [(1, 9)]) :=
          flate_writers_have_flate_rule (t, lib) (assoc_mem hx) hp hl
        have hrange : -2 ≤ l ∧ l ≤ 9 := by
          simp only [levelAccepted, ha, hr, Bool.false_eq_true, if_false, Compression.fallbackLevel] at h
          simp at h
          -- `h`: `l` is -1, -2 or 0, or within 1..9 — or equals the fallback level 0
          rcases h with h | h
          · omega
          · have := of_decide_eq_true h
            omega
        simpa using effLevel_flate_range hrange
      · rfl
    · rfl

example : levelAccepted "gzip" (-2) = true ∧ levelAccepted "gzip" (-3) = false ∧ levelAccepted "gzip" 9 = true ∧
    levelAccepted "gzip" 10 = false ∧ levelAccepted "zstd" 100 = true ∧ levelAccepted "snappy" 0 = true ∧
    levelAccepted "snappy" 1 = false ∧ levelAccepted "lz4" (-1) = false := by decide +kernel

/-- what the theorem protects against: were level 10 accepted for gzip, no writer would exist -/
example : writerLevelOk "gzip" (effLevel 10) = false ∧ writerLevelOk "deflate" (effLevel (-3)) = false := by decide +kernel

/-! ## the property's clauses, for all bodies / limits / lists / libraries -/

theorem C16_limit_custom (codec : String → Codec) (s : Server) (r : Request) (st : Stream)
    (h : serveS codec s r = .handled st) : st.data.length ≤ s.limit := by
  rcases serveS_cases codec s r with e | e | ⟨x, e⟩ <;> rw [e] at h <;> cases h
  exact limitRead_le _ _

/-- **Limit.** Whatever the library does with whatever stream (lawful or hostile, intact or cut), a handler
never reads more than the configured maximum, counted after decompression. -/
theorem C16_limit (codec : String → Codec) (cfg : Cfg) (r : Request) (s : Stream)
    (h : serve codec cfg r = .handled s) : s.data.length ≤ cfg.limit :=
  C16_limit_custom codec ⟨cfg, []⟩ r s ((serveS_no_custom codec cfg r).trans h)

/-- **Reject with `WithDecoder`.** Registering custom decoders never widens the list: an encoding that this
server did not register, and that is not listed (or has no decoder), is still rejected before the handler. -/
theorem C16_reject_custom (codec : String → Codec) (s : Server) (r : Request)
    (hc : assoc s.custom r.encoding = none)
    (h : r.encoding ∉ s.enabled ∨ decodable r.encoding = false) :
    serveS codec s r = .rejected Compression.rejectStatus := by
  have he : decoderFor s r.encoding = none := by
    simp only [decoderFor, hc, assoc_buildEnabled]
    cases h with
    | inl h => simp [h]
    | inr h => simp [resolve_none_of_not_decodable h]
  rw [serveS_eq, he]

/-- **Reject.** An encoding that is not listed, or is listed but has no decoder behind it, is answered with
the client-error status before the handler runs (`Outcome.rejected` = base handler not invoked). -/
theorem C16_reject (codec : String → Codec) (cfg : Cfg) (r : Request)
    (h : r.encoding ∉ cfg.enabled ∨ decodable r.encoding = false) :
    serve codec cfg r = .rejected Compression.rejectStatus ∧
      400 ≤ Compression.rejectStatus ∧ Compression.rejectStatus < 500 :=
  ⟨(serveS_no_custom codec cfg r).symm.trans (C16_reject_custom codec ⟨cfg, []⟩ r rfl h), C16_gen_shape.2.1⟩

/-- No request can make the server call a nil decoder. (Fails to build on a tree whose enable loop stores
`availableDecoders[name]` unconditionally: `Compression.installsNilForUnknown = true`.) -/
theorem C16_no_panic (codec : String → Codec) (cfg : Cfg) (r : Request) : serve codec cfg r ≠ .panicked :=
  serveS_no_custom codec cfg r ▸ serveS_no_panic codec ⟨cfg, []⟩ r

/-- the wire a compressing client produces for `b`, as a request -/
def compressedRequest (codec : String → Codec) (t l : String) (b : Bytes) : Request := ⟨t, ⟨(codec l).enc b, true⟩⟩

theorem C16_client_compresses (codec : String → Codec) (t l : String) (b : Bytes)
    (ht : isCompressed t = true) (hw : assoc Compression.writers t = some l) :
    clientSend codec t "" b = some (compressedRequest codec t l b) := by
  simp [clientSend, ht, hw, compressedRequest]

/-- The client never re-encodes a body that already carries a `Content-Encoding`, and a client without
compression sends the body as is. -/
theorem C16_client_passthrough (codec : String → Codec) (t hdr : String) (b : Bytes)
    (ht : t ∈ Compression.clientTypes) (h : hdr ≠ "" ∨ isCompressed t = false) :
    clientSend codec t hdr b = some ⟨hdr, ⟨b, true⟩⟩ := by
  unfold clientSend
  by_cases hc : isCompressed t = true
  · have hw := C16_client_types_have_writers t ht hc
    cases hx : assoc Compression.writers t with
    | none => simp [hx] at hw
    | some l =>
      cases h with
      | inl h => simp [hc, h]
      | inr h => simp [hc] at h
  · simp [hc]

theorem serve_compressedRequest (codec : String → Codec) (hlaw : ∀ l, (codec l).Lawful) (cfg : Cfg) (t l : String) (b : Bytes)
    (hw : assoc Compression.writers t = some l) (hen : t ∈ cfg.enabled) (hwire : ((codec l).enc b).length ≤ cfg.limit) :
    serve codec cfg (compressedRequest codec t l b) = .handled (limitRead cfg.limit ⟨b, true⟩) :=
  serve_lawful codec cfg t l b (hlaw l) (C16_client_server_names (t, l) (assoc_mem hw)) hen hwire

/-- The full round-trip statement: every body within the limit, every client type the server lists. -/
def C16_roundtrip_full : Prop :=
  ∀ (codec : String → Codec), (∀ l, (codec l).Lawful) →
  ∀ (cfg : Cfg) (t l : String) (b : Bytes),
    isCompressed t = true → assoc Compression.writers t = some l → t ∈ cfg.enabled →
    b.length ≤ cfg.limit →
    (clientSend codec t "" b).map (serve codec cfg) = some (.handled ⟨b, true⟩)

/-- **Round trip** (partial: additionally the *compressed* form must fit the limit, because
`maxRequestBodySizeInterceptor` applies the same limit to the wire before decompression). -/
theorem C16_roundtrip_partial (codec : String → Codec) (hlaw : ∀ l, (codec l).Lawful)
    (cfg : Cfg) (t l : String) (b : Bytes)
    (ht : isCompressed t = true) (hw : assoc Compression.writers t = some l) (hen : t ∈ cfg.enabled)
    (hb : b.length ≤ cfg.limit) (hwire : ((codec l).enc b).length ≤ cfg.limit) :
    (clientSend codec t "" b).map (serve codec cfg) = some (.handled ⟨b, true⟩) := by
  rw [C16_client_compresses codec t l b ht hw, Option.map_some, serve_compressedRequest codec hlaw cfg t l b hw hen hwire,
    limitRead_of_le (s := ⟨b, true⟩) hb]

/-- a lawful library whose output is one byte longer than its input -/
def padCodec : Codec :=
  { enc := fun b => 0 :: b,
    dec := fun s => match s.data with
      | [] => none
      | _ :: d => some ⟨d, s.ok⟩ }

theorem padCodec_lawful : padCodec.Lawful := by intro b; rfl

/-- The full statement is false for the code as it is: a body that fits the limit exactly but whose
compressed form does not is cut on the wire (replayed on the real code: corpus case 1, gzip, 1000
incompressible bytes, limit 1000). -/
theorem C16_roundtrip_full_fails : ¬ C16_roundtrip_full := by
  intro h
  have := h (fun _ => padCodec) (fun _ => padCodec_lawful) ⟨["gzip"], 1⟩ "gzip" "gzip" [7]
    (by decide) (by decide) (by decide) (by decide)
  revert this
  decide

/-- **Oversize.** A body beyond the limit whose compressed form fits (zip-bomb shape): the handler gets
exactly the first `limit` bytes and then an error — never more. -/
theorem C16_limit_exact (codec : String → Codec) (hlaw : ∀ l, (codec l).Lawful)
    (cfg : Cfg) (t l : String) (b : Bytes)
    (ht : isCompressed t = true) (hw : assoc Compression.writers t = some l) (hen : t ∈ cfg.enabled)
    (hb : cfg.limit < b.length) (hwire : ((codec l).enc b).length ≤ cfg.limit) :
    (clientSend codec t "" b).map (serve codec cfg) = some (.handled ⟨b.take cfg.limit, false⟩) := by
  rw [C16_client_compresses codec t l b ht hw, Option.map_some, serve_compressedRequest codec hlaw cfg t l b hw hen hwire,
    limitRead_of_gt (s := ⟨b, true⟩) hb]

/-- The full identity statement: a request without content encoding passes through untouched, whatever the list. -/
def C16_identity_full : Prop :=
  ∀ (codec : String → Codec) (cfg : Cfg) (t : String) (b : Bytes),
    t ∈ Compression.clientTypes → isCompressed t = false → b.length ≤ cfg.limit →
    (clientSend codec t "" b).map (serve codec cfg) = some (.handled ⟨b, true⟩)

/-- **Identity** (partial: the decoder list must contain `""`, which the default list does). -/
theorem C16_identity_partial (codec : String → Codec) (cfg : Cfg) (t : String) (b : Bytes)
    (ht : t ∈ Compression.clientTypes) (hc : isCompressed t = false) (hen : "" ∈ cfg.enabled)
    (hb : b.length ≤ cfg.limit) :
    (clientSend codec t "" b).map (serve codec cfg) = some (.handled ⟨b, true⟩) := by
  rw [C16_client_passthrough codec t "" b ht (Or.inr hc), Option.map_some, serve_identity codec hen,
    limitRead_of_le (s := ⟨b, true⟩) hb]

/-- The full statement is false for the code as it is: with `compression_algorithms: [gzip]` an unencoded
request is rejected (replayed on the real code: corpus case 0). -/
theorem C16_identity_full_fails : ¬ C16_identity_full := by
  intro h
  have := h (fun _ => padCodec) ⟨["gzip"], 10⟩ "none" [1] (by decide) (by decide) (by decide)
  revert this
  decide

theorem C16_identity_oversize (codec : String → Codec) (cfg : Cfg) (b : Bytes)
    (hen : "" ∈ cfg.enabled) (hb : cfg.limit < b.length) :
    serve codec cfg ⟨"", ⟨b, true⟩⟩ = .handled ⟨b.take cfg.limit, false⟩ := by
  rw [serve_identity codec hen, limitRead_of_gt (s := ⟨b, true⟩) hb]

/-- defaults of `ToServer`: an absent list is the default list, a non-positive size the default size (with `C16_defaults`: a
default server meets the hypotheses of the round-trip theorems for every client type). -/
theorem C16_effective_defaults (mx : Int) (hmx : mx ≤ 0) :
    (ServerConfig.mk none mx).eff = ⟨Compression.defaultCompressionAlgorithms, Compression.defaultMaxRequestBodySize⟩ := by
  simp [ServerConfig.eff, hmx]

/-! ## the search oracle is sound, and the model satisfies it -/

/-- `exchangeCheck` (evaluated by the driver on what the REAL server showed) accepts only exchanges on which
the property holds. -/
theorem C16_check_sound (x : Exchange) (h : exchangeCheck x = none) : PropOn x := by
  unfold exchangeCheck at h
  unfold PropOn
  cases ho : x.outcome with
  | panicked =>
    rw [ho] at h
    simp only at h
    split at h <;> cases h
  | rejected st =>
    rw [ho] at h
    simp only at h
    refine ⟨(by intro s hs; cases hs), ?_, ?_⟩
    · intro hon
      simp only [hon] at h
      by_cases hst : (decide (400 ≤ st) && decide (st < 500)) = true
      · simp only [Bool.and_eq_true, decide_eq_true_eq] at hst
        exact ⟨st, rfl, hst.1, hst.2⟩
      · simp [hst] at h
    · intro hon b hb hlen
      simp only [hon, if_true, hb] at h
      simp only [hlen, if_true] at h
      cases h
  | handled s =>
    rw [ho] at h
    simp only at h
    by_cases h1 : x.limit < s.data.length
    · simp [h1] at h
    · simp only [h1, if_false] at h
      by_cases hon : x.on = true
      · simp only [hon, Bool.not_true] at h
        refine ⟨?_, ?_, ?_⟩
        · intro s' hs'; cases hs'; omega
        · intro hoff; rw [hon] at hoff; cases hoff
        · intro _ b hb hlen
          simp only [hb] at h
          by_cases hne : (decide (b.length ≤ x.limit) && s != ⟨b, true⟩) = true
          · simp [hne] at h
          · simp only [Bool.and_eq_true, decide_eq_true_eq, not_and, bne_iff_ne, ne_eq, Decidable.not_not] at hne
            rw [hne hlen]
      · have hoff : x.on = false := by simpa using hon
        simp [hoff] at h

def modelExchange (codec : String → Codec) (cfg : Cfg) (rq : Request) (sent : Option Bytes) : Exchange :=
  { enabled := cfg.enabled, limit := cfg.limit, encoding := rq.encoding, sent := sent,
    wireLen := rq.wire.data.length, outcome := serve codec cfg rq, custom := [] }

/-- The whole property on the model, for every exchange whose `sent` is what the wire lawfully encodes
(partial: identity needs `""` in the list; the wire must fit the limit — the two recorded findings). -/
theorem C16_model_satisfies_partial (codec : String → Codec) (hlaw : ∀ l, (codec l).Lawful)
    (cfg : Cfg) (rq : Request) (sent : Option Bytes)
    (hsent : ∀ b, sent = some b →
      (rq.encoding = "" ∧ rq.wire = ⟨b, true⟩) ∨
      (∃ l, resolve rq.encoding = some (.lib l) ∧ rq.wire = ⟨(codec l).enc b, true⟩))
    (hid : rq.encoding = "" → "" ∈ cfg.enabled)
    (hwire : rq.wire.data.length ≤ cfg.limit) :
    PropOn (modelExchange codec cfg rq sent) := by
  obtain ⟨e, w⟩ := rq
  unfold PropOn modelExchange
  refine ⟨fun s hs => C16_limit codec cfg _ s hs, ?_, ?_⟩
  · intro hoff
    simp only [Exchange.on, List.contains_nil, Bool.or_false, Bool.or_eq_false_iff, Bool.and_eq_false_iff, beq_eq_false_iff_ne, ne_eq] at hoff
    have hr := C16_reject codec cfg ⟨e, w⟩ (by
      cases hoff.2 with
      | inl h => left; simpa using h
      | inr h => right; exact h)
    exact ⟨_, hr.1, hr.2.1, hr.2.2⟩
  · intro hon b hb hlen
    simp only at hb hlen hid hwire hsent ⊢
    rcases hsent b hb with ⟨rfl, rfl⟩ | ⟨l, hres, rfl⟩
    · rw [serve_identity codec (hid rfl), limitRead_of_le (s := ⟨b, true⟩) hlen]
    · have hne : e ≠ "" := by
        intro he
        rw [he, resolve_empty] at hres
        cases hres
      have hen : e ∈ cfg.enabled := by
        simp only [Exchange.on, List.contains_nil, Bool.or_false, Bool.or_eq_true, Bool.and_eq_true, beq_iff_eq] at hon
        cases hon with
        | inl h => exact absurd h hne
        | inr h => simpa using h.1
      rw [serve_lawful codec cfg e l b (hlaw l) hres hen hwire, limitRead_of_le (s := ⟨b, true⟩) hlen]

/-! ## options: `WithDecoder`, `WithErrorHandler`, read modes, what the handler sees, isolation of servers -/

theorem C16_custom_overrides (codec : String → Codec) (s : Server) (name id : String) (b : Bytes)
    (hc : assoc s.custom name = some id) (hid : id ≠ passThroughId) (hlaw : (codec (customLib id)).Lawful)
    (hb : b.length ≤ s.limit) (hw : ((codec (customLib id)).enc b).length ≤ s.limit) :
    serveS codec s ⟨name, ⟨(codec (customLib id)).enc b, true⟩⟩ = .handled ⟨b, true⟩ := by
  rw [serveS_lawful codec (by simp only [decoderFor, hc, hid, if_false]) hlaw b hw, limitRead_of_le (s := ⟨b, true⟩) hb]

/-- **Limit behind a pass-through decoder.** A `WithDecoder` decoder that returns `nil, nil` leaves the body to
the wire-side wrapper alone — which therefore must apply to *every* request, encoded or not: the handler gets
the raw bytes, cut at the limit. (Instance of `C16_limit_custom`, stated exactly.) -/
theorem C16_passthrough_limited (codec : String → Codec) (s : Server) (name : String) (w : Stream)
    (hc : assoc s.custom name = some passThroughId) :
    serveS codec s ⟨name, w⟩ = .handled (limitRead s.limit w) ∧ (limitRead s.limit w).data.length ≤ s.limit :=
  ⟨serveS_identity codec (by simp only [decoderFor, hc, if_true]) w, limitRead_le _ _⟩

/-- **`WithErrorHandler`** (bookkeeping: true by the shape of `Outcome.answeredBy`, which only rewrites the rejection arm; the tie
to the code is the translator's shape check of `ServeHTTP` — one `errHandler` call, followed by `return` — and the harness's custom
handler; the driver executes `Outcome.answeredBy`). A custom error handler changes nothing about *whether* the base handler runs or
what it reads; it only decides how a rejection is answered, and it is handed the client-error status. -/
theorem C16_error_handler (eh : Option (Nat → Nat)) (codec : String → Codec) (s : Server) (r : Request) :
    (∀ st, serveE eh codec s r = .handled st ↔ serveS codec s r = .handled st) ∧
    (serveE eh codec s r = .panicked ↔ serveS codec s r = .panicked) ∧
    ((∃ st, serveE eh codec s r = .rejected st) ↔ serveS codec s r = .rejected Compression.rejectStatus) := by
  have hrej : ∀ st, serveS codec s r = .rejected st → st = Compression.rejectStatus := by
    intro st h
    rcases serveS_cases codec s r with e | e | ⟨x, e⟩ <;> rw [e] at h <;> cases h
    rfl
  unfold serveE
  cases ho : serveS codec s r with
  | handled st' => simp [Outcome.answeredBy]
  | panicked => simp [Outcome.answeredBy]
  | rejected st' =>
    have := hrej st' ho
    subst this
    simp [Outcome.answeredBy]

/-- **Streaming** (bookkeeping: `handlerReads` is *defined* as a prefix, so the only content beyond `C16_limit_custom` is that
definition, which the harness's read modes tie to `net/http` bodies). However the handler consumes the body — all at once, in
chunks, a prefix only, not at all — what it has in hand is a prefix of what a full read yields, hence never more than the limit. -/
theorem C16_limit_any_read_mode (codec : String → Codec) (s : Server) (r : Request) (m : ReadMode) (st : Stream)
    (h : (serveS codec s r).read m = .handled st) :
    st.data.length ≤ s.limit ∧ ∃ full, serveS codec s r = .handled full ∧ st.data = full.data.take st.data.length := by
  cases ho : serveS codec s r with
  | rejected x => simp [ho, Outcome.read] at h
  | panicked => simp [ho, Outcome.read] at h
  | handled full =>
    have hl := C16_limit_custom codec s r full ho
    simp only [ho, Outcome.read, Outcome.handled.injEq] at h
    subst h
    cases m with
    | all => exact ⟨hl, full, rfl, by simp [handlerReads]⟩
    | none => exact ⟨by simp [handlerReads], full, rfl, by simp [handlerReads]⟩
    | upTo k =>
      by_cases hk : k ≤ full.data.length
      · refine ⟨by simp [handlerReads, hk]; omega, full, rfl, ?_⟩
        simp [handlerReads, hk, Nat.min_eq_left hk]
      · exact ⟨by simp [handlerReads, hk]; exact hl, full, rfl, by simp [handlerReads, hk]⟩

/-- (bookkeeping: read off the definition of `handlerView`, which mirrors the `if newBody != nil` block of `ServeHTTP` and is
tied by the recording handler's `obs view` line.) A handler behind a real decoder never sees the compressed length or the
encoding label: it cannot mistake the compressed size for the size of what it reads. -/
theorem C16_decoded_request_is_relabelled (s : Server) (r : Request) (k : Bool) (l : String)
    (h : decoderFor s r.encoding = some (.lib l)) : handlerView s r k = ⟨none, false⟩ := by
  simp [handlerView, h]

theorem C16_package_state_only_read : Compression.availableDecodersOnlyRead = true := by decide +kernel

/-- **Isolation** (bookkeeping over a translator flag: `Proc.construct` is the identity exactly when
`Compression.availableDecodersOnlyRead`, so this theorem *is* that flag — the content is the translator's scan of every non-test file
of the package plus the multi-server harness cases; the `else` branch of `Proc.construct` is a hypothetical, tied to no code).
Whatever servers (with whatever `WithDecoder` options) were built before, the process-level decoder table is untouched … -/
theorem C16_isolation (ss : List Server) : ss.foldl Proc.construct Proc.clean = Proc.clean := by
  induction ss with
  | nil => rfl
  | cons s rest ih =>
    rw [List.foldl_cons]
    have : Proc.construct Proc.clean s = Proc.clean := by
      simp [Proc.construct, C16_package_state_only_read]
    rw [this]; exact ih

/-- … so a server built later behaves exactly as if it were alone: a default server hands its handler the
client's bytes no matter what an earlier server registered (combine with `C16_roundtrip_partial`). -/
theorem C16_isolation_serve (ss : List Server) (codec : String → Codec) (s : Server) (r : Request) :
    serveP (ss.foldl Proc.construct Proc.clean) codec s r = serveS codec s r := by
  rw [C16_isolation]
  simp [serveP, Proc.server, Proc.clean]

/-! ## non-vacuity -/

example : serveS (fun _ => padCodec) ⟨⟨[""], 3⟩, [("x-raw", passThroughId)]⟩ ⟨"x-raw", ⟨[1, 2, 3, 4, 5], true⟩⟩
    = .handled ⟨[1, 2, 3], false⟩ := by decide +kernel

example : serveS (fun l => if l = "custom:xor" then padCodec else ⟨id, fun _ => none⟩) ⟨⟨["", "gzip"], 10⟩, [("snappy", "xor")]⟩
    ⟨"zstd", ⟨[0, 1], true⟩⟩ = .rejected 400 := by decide +kernel
example : serveS (fun l => if l = "custom:xor" then padCodec else ⟨id, fun _ => none⟩) ⟨⟨["", "gzip"], 10⟩, [("snappy", "xor")]⟩
    ⟨"snappy", ⟨[0, 1], true⟩⟩ = .handled ⟨[1], true⟩ := by decide +kernel
example : exchangeCheck ⟨["", "gzip"], 10, "zstd", some [1], 3, .handled ⟨[1], true⟩, ["snappy"]⟩
    = some "C16/reject/disabled-encoding-reached-handler" := by decide +kernel
example : exchangeCheck ⟨["", "gzip"], 10, "snappy", some [1], 3, .handled ⟨[1], true⟩, ["snappy"]⟩ = none := by decide +kernel

/-- a lawful library exists (so the round-trip theorems are not vacuous), and the hypotheses of
`C16_roundtrip_partial` are met by a concrete configuration -/
example : (clientSend (fun _ => padCodec) "gzip" "" [1, 2, 3]).map (serve (fun _ => padCodec) ⟨["", "gzip"], 10⟩)
    = some (.handled ⟨[1, 2, 3], true⟩) :=
  C16_roundtrip_partial (fun _ => padCodec) (fun _ => padCodec_lawful) ⟨["", "gzip"], 10⟩ "gzip" "gzip" [1, 2, 3]
    (by decide) (by decide) (by decide) (by decide) (by decide)

/-- zip-bomb shape on the model: a hostile library that expands one byte into a hundred is still cut at the limit -/
example : serve (fun _ => { enc := id, dec := fun _ => some ⟨List.replicate 100 0, true⟩ }) ⟨["zstd"], 7⟩ ⟨"zstd", ⟨[1], true⟩⟩
    = .handled ⟨List.replicate 7 0, false⟩ := by decide +kernel

example : serve (fun _ => padCodec) ⟨["", "gzip"], 10⟩ ⟨"deflate", ⟨[0, 1], true⟩⟩ = .rejected 400 := by decide +kernel

example : serve (fun l => if l = "zlib" then padCodec else ⟨id, fun _ => none⟩) ⟨["deflate"], 10⟩ ⟨"deflate", ⟨[0, 1], true⟩⟩
    = .handled ⟨[1], true⟩ := by decide +kernel

/-- the oracle rejects each failure with its own signature -/
example : exchangeCheck ⟨["gzip"], 1000, "", some [1], 1, .rejected 400, []⟩ = some "C16/decoder-list-without-identity" := by decide +kernel
example : exchangeCheck ⟨["gzip"], 2, "gzip", some [1, 2], 3, .handled ⟨[1], false⟩, []⟩
    = some "C16/roundtrip/wire-exceeds-limit-body-within-limit" := by decide +kernel
example : exchangeCheck ⟨["", "br"], 1000, "br", none, 3, .panicked, []⟩
    = some "C16/reject/unknown-name-in-list-nil-decoder-panic" := by decide +kernel
example : exchangeCheck ⟨["", "gzip"], 3, "gzip", none, 3, .handled ⟨[1, 2, 3, 4], false⟩, []⟩
    = some "C16/limit/handler-read-beyond-limit" := by decide +kernel

end OtelVerif.C16

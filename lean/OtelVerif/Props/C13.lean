import OtelVerif.Lemmas.Basic
import OtelVerif.Lemmas.C13Walk
import OtelVerif.Lemmas.C13Refs
import OtelVerif.Lemmas.C13Validate
import OtelVerif.Lemmas.C13Strict
import OtelVerif.Lemmas.C13Load
import OtelVerif.Lemmas.C13Faithful
import OtelVerif.Lemmas.C13Hooks
import OtelVerif.Lemmas.C13Builtin
import OtelVerif.Model.C13HooksGen
/-!
# C13 — configuration loading is faithful and strict

Property theorems, clause by clause; proofs in `Lemmas/C13*`, or here where the statement is the theorem's own.  A primed
section states its clause for the interpreter of the statements regenerated from the source (`Gen/*`).  A specification sits
in the lowest file whose statements mention it: `Fails` in `Model/C13`, `Offending` in `Lemmas/C13Refs`, `shownAs` in
`Lemmas/C13Faithful`, `RefsOk`, `Bad`, `BadK` here.
Partial: the text round trip of `MarshalText` and the result of `sanitizeURLPath` are covered by the differential only.
-/
namespace OtelVerif.C13

/-! ## (a) validation walk -/

/-- **Every validation rule of every nested value is evaluated**: the walk reports `(path, n)` exactly
when the node at `path` — reached through exported fields, slice/array elements, map keys and
values, pointers and interfaces, *whatever its ancestors' own `Validate()` returned* — fails with `n`. -/
theorem C13_validate_complete (t : VT) (p : Path) (n : Nat) : (p, n) ∈ validate t ↔ Fails t p n :=
  validate_iff_all.1 t p n

/-- non-vacuity: an invalid leaf below a valid struct, inside a slice below a *failing* map entry -/
example : validate (.struct none [("a", true, .map (some 7) [("k", .leaf none, .seq none [.ptr (.struct none [("x", true, .leaf (some 9))])])])])
    = [(["a"], 7), (["a", "k", "0", "x"], 9)] := by decide +kernel

/-- what the walk does not reach: unexported fields (kept explicit) -/
theorem C13_validate_skips_unexported (e : Option Nat) (name : String) (v : VT) :
    validate (.struct e [(name, false, v)]) = own e := by
  simp [validate, validateF]

/-! ## (a') the walk of the regenerated clause table (`Gen/ValidateWalk.lean`) -/

/-- the regenerated clause table of `xconfmap.validate` prescribes the hand model's walk, on every tree -/
theorem C13_walk_regenerated (t : VT) : walkG Gen.ValidateWalk.cases t = validate t := walkG_eq_all.1 t

/-- `C13_validate_complete` on the regenerated table: about the walk that today's source prescribes -/
theorem C13_validate_complete_regenerated (t : VT) (p : Path) (n : Nat) :
    (p, n) ∈ walkG Gen.ValidateWalk.cases t ↔ Fails t p n := by
  rw [C13_walk_regenerated]; exact C13_validate_complete t p n

/-- the regenerated table treats slices and arrays, pointers and interfaces alike (`tablePaired`) -/
theorem C13_walk_table_paired : tablePaired Gen.ValidateWalk.cases = true := by decide +kernel

example : walkG Gen.ValidateWalk.cases (.struct none [("a", true, .map (some 7) [("k", .leaf none, .seq none [.ptr (.struct none [("x", true, .leaf (some 9))])])])])
    = [(["a"], 7), (["a", "k", "0", "x"], 9)] := by decide +kernel

/-! ## (b) references, ambiguity, pipeline shape -/

/-- what `Config.Validate` accepts: a receiver, an exporter, no ambiguous connector id, every reference defined -/
def RefsOk (c : Top) : Prop :=
  ¬ (c.receivers = [] ∧ c.exporters = [] ∧ c.processors = [] ∧ c.connectors = [] ∧ c.extensions = []) ∧
  c.receivers ≠ [] ∧ c.exporters ≠ [] ∧
  (∀ conn ∈ c.connectors, conn ∉ c.exporters ∧ conn ∉ c.receivers) ∧
  (∀ r ∈ c.svcExtensions, configured c.extensions r = true) ∧
  (∀ p ∈ c.pipelines,
    (∀ r ∈ p.2.recv, r ∈ c.receivers ∨ r ∈ c.connectors) ∧
    (∀ r ∈ p.2.procs, configured c.processors r = true) ∧
    (∀ r ∈ p.2.exps, r ∈ c.exporters ∨ r ∈ c.connectors))

/-- **References and ambiguity**: `Config.Validate` returns nil exactly on `RefsOk`. -/
theorem C13_refs (c : Top) : rootErrs c = [] ↔ RefsOk c := by
  unfold RefsOk
  -- each conjunct of `RefsOk`, read backwards, is "that statement reports nothing"
  have hconn : (∀ conn ∈ c.connectors, conn ∉ c.exporters ∧ conn ∉ c.receivers) ↔ c.connectors.filterMap (connErr c) = [] := by
    simp only [List.filterMap_eq_nil_iff, connErr_none]
  have hpipe : (∀ p ∈ c.pipelines, (∀ r ∈ p.2.recv, r ∈ c.receivers ∨ r ∈ c.connectors) ∧
      (∀ r ∈ p.2.procs, configured c.processors r = true) ∧ (∀ r ∈ p.2.exps, r ∈ c.exporters ∨ r ∈ c.connectors)) ↔
      c.pipelines.filterMap (fun p => pipeRefErr c p.1 p.2) = [] := by
    simp only [List.filterMap_eq_nil_iff, pipeRefErr_none]
  simp only [rootErrs, ite_eq_nil, Bool.and_eq_true, List.isEmpty_iff, and_assoc, ne_eq, hconn, hpipe,
    ← find?_not_none (ok := configured c.extensions)]
  split
  · rename_i h; simp only [h, reduceCtorEq, false_and, and_false]
  · rename_i h
    split
    · rename_i h'; simp only [h, h', reduceCtorEq, false_and, and_false]
    · rename_i h'; simp only [h, h', true_and]

/-- non-vacuity: a configuration that passes, and one with a dangling exporter that does not -/
example : rootErrs { receivers := [1], exporters := [2], connectors := [3], processors := [(4, true)], extensions := [(5, true)],
                     svcExtensions := [5], pipelines := [(0, ⟨[1], [4], [3]⟩), (1, ⟨[3], [], [2]⟩)] } = [] := by decide +kernel
example : rootErrs { receivers := [1], exporters := [2], connectors := [], processors := [], extensions := [],
                     svcExtensions := [], pipelines := [(0, ⟨[1], [], [9]⟩)] } = [.danglingExporter 0 9] := by decide +kernel

/-- every reported reference error names an entry that is really offending (each conjunct, here, in the next
theorem and in `C13_shape_names_duplicate`, is `Offending c e` at that constructor) -/
theorem C13_refs_names_entry (c : Top) (pid : Nat) (ref : Id) :
    (RErr.danglingReceiver pid ref ∈ rootErrs c → ∃ p, (pid, p) ∈ c.pipelines ∧ ref ∈ p.recv ∧ ref ∉ c.receivers ∧ ref ∉ c.connectors) ∧
    (RErr.danglingExporter pid ref ∈ rootErrs c → ∃ p, (pid, p) ∈ c.pipelines ∧ ref ∈ p.exps ∧ ref ∉ c.exporters ∧ ref ∉ c.connectors) ∧
    (RErr.danglingProcessor pid ref ∈ rootErrs c → ∃ p, (pid, p) ∈ c.pipelines ∧ ref ∈ p.procs ∧ configured c.processors ref = false) :=
  ⟨rootErrs_offending, rootErrs_offending, rootErrs_offending⟩

/-- … likewise a dangling service extension and an ambiguous connector id -/
theorem C13_refs_names_extension_and_ambiguous (c : Top) (r : Id) :
    (RErr.danglingExtension r ∈ rootErrs c → r ∈ c.svcExtensions ∧ configured c.extensions r = false) ∧
    (RErr.ambiguousExporter r ∈ rootErrs c → r ∈ c.connectors ∧ r ∈ c.exporters) ∧
    (RErr.ambiguousReceiver r ∈ rootErrs c → r ∈ c.connectors ∧ r ∈ c.receivers) :=
  ⟨rootErrs_offending, rootErrs_offending, rootErrs_offending⟩

/-- **Pipeline shape**: no shape error exactly when there is a pipeline and each has a receiver, an exporter
and no processor listed twice. -/
theorem C13_shape (c : Top) : shapeErrs c = [] ↔
    c.pipelines ≠ [] ∧ ∀ p ∈ c.pipelines, p.2.recv ≠ [] ∧ p.2.exps ≠ [] ∧ p.2.procs.Nodup := by
  simp only [shapeErrs, List.append_eq_nil_iff, ite_eq_nil, List.isEmpty_iff, and_true, List.filterMap_eq_nil_iff, pipeErr_none,
    ne_eq]

example : shapeErrs { receivers := [], exporters := [], connectors := [], processors := [], extensions := [], svcExtensions := [],
                      pipelines := [(0, ⟨[1], [4, 5, 4], [2]⟩), (1, ⟨[], [], [2]⟩)] } = [.dupProcessor 0 4, .pipeNoReceivers 1] := by decide +kernel

/-- a reported duplicate processor names a pipeline that lists that processor and lists some processor more than once -/
theorem C13_shape_names_duplicate (c : Top) (pid : Nat) (r : Id) (h : RErr.dupProcessor pid r ∈ shapeErrs c) :
    ∃ p, (pid, p) ∈ c.pipelines ∧ r ∈ p.procs ∧ ¬ p.procs.Nodup :=
  shapeErrs_offending h

/-! ## (b') the regenerated statements of `Config.Validate` / `PipelineConfig.Validate` (`Gen/ConfigValidate.lean`) -/

/-- the interpreter of the regenerated statement list of `otelcol.Config.Validate` is the hand model -/
theorem C13_root_phases_regenerated (c : Top) : evalPhases c Gen.ConfigValidate.rootPhases = rootErrs c := by
  unfold rootErrs
  rw [Gen.ConfigValidate.rootPhases, evalPhases_allEmpty, evalPhases_gatedEmpty, evalPhases_gatedEmpty, evalPhases_cons, clash_eq,
    evalPhases_cons, evalPhases_cons]
  simp only [phaseErrs, loops_eq, Top.secEmpty, List.all_cons, List.all_nil, Bool.and_true, EK.mk, evalPhases, Top.look,
    List.any_cons, List.any_nil, Bool.or_false, Bool.and_assoc]
  -- the same `if`s around differently written `match`es: by cases on what the loops find
  cases h3 : c.connectors.filterMap (connErr c) with
  | cons e es => rfl
  | nil =>
    cases h4 : c.svcExtensions.find? (fun r => !configured c.extensions r) with
    | some r => rfl
    | none => cases h5 : c.pipelines.filterMap (fun p => pipeRefErr c p.1 p.2) <;> rfl

/-- … and of `pipelines.PipelineConfig.Validate` / `pipelines.Config.Validate` (the `len(cfg) == 0` test) -/
theorem C13_pipe_phases_regenerated (c : Top) :
    (∀ pid p, evalPipe pid p Gen.ConfigValidate.pipePhases = pipeErr pid p) ∧
    evalShape c Gen.ConfigValidate.noPipelines.2 Gen.ConfigValidate.pipePhases = shapeErrs c :=
  ⟨pipe_regen, by simp only [evalShape, shapeErrs, pipe_regen, Gen.ConfigValidate.noPipelines, EK.mk]⟩

/-- `C13_refs` on the regenerated statements: what the source accepts today -/
theorem C13_refs_regenerated (c : Top) : evalPhases c Gen.ConfigValidate.rootPhases = [] ↔ RefsOk c := by
  rw [C13_root_phases_regenerated]; exact C13_refs c

/-- `C13_shape` on the regenerated statements -/
theorem C13_shape_regenerated (c : Top) :
    evalShape c Gen.ConfigValidate.noPipelines.2 Gen.ConfigValidate.pipePhases = [] ↔
      c.pipelines ≠ [] ∧ ∀ p ∈ c.pipelines, p.2.recv ≠ [] ∧ p.2.exps ≠ [] ∧ p.2.procs.Nodup := by
  rw [(C13_pipe_phases_regenerated c).2]; exact C13_shape c

/-- every regenerated error message of a loop names the offending entry: each loop variable (connector id; service
extension reference; pipeline id AND reference) is the root of one of the `fmt.Errorf` arguments, and no verb lacks its argument -/
theorem C13_messages_name_entry :
    (∀ ph ∈ Gen.ConfigValidate.rootPhases, ph.namesEntry = true) ∧ (∀ ph ∈ Gen.ConfigValidate.pipePhases, ph.namesEntry = true) := by
  constructor <;> decide +kernel

/-- the signal switch of `pipelines.Config.Validate` (outside the property: which signals exist) still has the reviewed
clauses — (labels, number of returns); an alarm, not semantics -/
theorem C13_signal_switch_as_reviewed : Gen.ConfigValidate.signalSwitch =
    [("pipeline.SignalTraces,pipeline.SignalMetrics,pipeline.SignalLogs", 0), ("xpipeline.SignalProfiles", 1), ("default", 1)] := rfl

/-- both entry points of package otelcol that judge a configuration — start-up / reload (`setupConfigurationComponents`) and the
`validate` sub-command (`DryRun`) — go through the walk `xconfmap.Validate` (every nested `Validate()`), and nothing in the package calls
a top-level `Validate()` method directly; the harness additionally runs every corpus mistake and generated documents through BOTH -/
theorem C13_validation_entry_points :
    Gen.ConfigValidate.validationCalls =
      [("otelcol/collector.go", "Collector.setupConfigurationComponents", "xconfmap.Validate(cfg)"),
       ("otelcol/collector.go", "Collector.DryRun", "xconfmap.Validate(cfg)")] := rfl

example : evalPhases { receivers := [1], exporters := [2], connectors := [3], processors := [(4, true)], extensions := [(5, true)],
                       svcExtensions := [5], pipelines := [(0, ⟨[1], [4, 9], [2, 3]⟩)] } Gen.ConfigValidate.rootPhases
    = [.danglingProcessor 0 9] := by decide +kernel

/-! ## (c) strict decode: `decodeOk` on hand `Schema`s (the types the `dec` harness builds); on the regenerated key-space
schemas `KS`: `C13_strict_ks` under (e) -/

/-- the value contains, at some depth, a key that the schema position it sits at does not accept -/
inductive Bad : Schema → Val → Prop
  | here {fs kvs k x} : (k, x) ∈ kvs → k ∉ structKeys fs → Bad (.struct fs) (.map kvs)
  | field {fs kvs k s v} : (k, false, s) ∈ fs → lookupVal kvs k = some v → Bad s v → Bad (.struct fs) (.map kvs)
  /-- below a field of a SQUASHED struct (`tls::bogus` under a squashed client configuration) -/
  | squashField {fs kvs sq gs k s v} : (sq, true, .struct gs) ∈ fs → (k, false, s) ∈ gs → lookupVal kvs k = some v → Bad s v →
      Bad (.struct fs) (.map kvs)
  | ptr {s v} : Bad s v → Bad (.ptr s) v
  | elem {s vs v} : v ∈ vs → Bad s v → Bad (.slice s) (.list vs)
  | mapVal {s kvs k v} : (k, v) ∈ kvs → Bad s v → Bad (.map s) (.map kvs)

/-- **Strictness**: a key that no field accepts — in the component's own map or at any depth below it,
through fields, pointers used as optionals, slice elements and map values — makes the strict
decode fail instead of being ignored.  (Keys below a *squashed* struct are judged at the level of
the embedding struct: `structKeys` flattens them.) -/
theorem C13_strict {S : Schema} {v : Val} (h : Bad S v) : decodeOk S v = false := by
  induction h with
  | here hm hk =>
    rename_i fs kvs k x
    simp only [decodeOk, Bool.and_eq_false_iff]
    left
    rw [List.all_eq_false]
    exact ⟨(k, x), hm, by simpa using hk⟩
  | field hm hl _ ih =>
    simp only [decodeOk, Bool.and_eq_false_iff]
    right
    exact decodeFields_false hm hl ih
  | squashField hq hm hl _ ih =>
    simp only [decodeOk, Bool.and_eq_false_iff]
    right
    exact decodeFields_false_squash hq (decodeFields_false hm hl ih)
  | ptr _ ih => simp only [decodeOk, ih]
  | elem hm _ ih => simp only [decodeOk]; exact decodeAll_false hm ih
  | mapVal hm _ ih => simp only [decodeOk]; exact decodeVals_false hm ih

/-- non-vacuity: `sending_queue: {queue_size: 1, bogus: 2}` inside an exporter with a squashed client config -/
example : Bad (.struct [("timeout", false, .scalar), ("", true, .struct [("endpoint", false, .scalar)]),
                        ("sending_queue", false, .ptr (.struct [("queue_size", false, .scalar)]))])
              (.map [("endpoint", .scalar 1), ("sending_queue", .map [("queue_size", .scalar 1), ("bogus", .scalar 2)])]) :=
  .field (k := "sending_queue") (s := .ptr (.struct [("queue_size", false, .scalar)]))
    (v := .map [("queue_size", .scalar 1), ("bogus", .scalar 2)]) (by simp) (by simp [lookupVal])
    (.ptr (.here (fs := [("queue_size", false, .scalar)]) (kvs := [("queue_size", .scalar 1), ("bogus", .scalar 2)])
      (k := "bogus") (x := .scalar 2) (by simp) (by simp [structKeys])))

example : decodeOk (.struct [("timeout", false, .scalar), ("", true, .struct [("endpoint", false, .scalar)])])
            (.map [("endpoint", .scalar 1), ("timeout", .scalar 3)]) = true := by
  simp [decodeOk, decodeFields, structKeys, squashKeys, lookupVal]

/-! ## (d) several instances in one section -/

/-- **Instances are independent**: for every section (any number of instances, any iteration order
of the Go map, several instances of the same type), every instance ends up with the factory defaults
of its type overlaid by exactly *its own* written keys — what its neighbours write is irrelevant.
Rests on `loadStep` allocating a fresh default object per id (differentially checked against the real
`otelcol.ConfigProvider.Get` with the built-in factories). -/
theorem C13_instances_independent (defaults : String → Obj) (entries : List (CId × List (String × String)))
    (hnd : (entries.map (·.1)).Nodup) :
    ∀ e ∈ entries, (loadAll defaults entries).result e.1 = some (overlay (defaults e.1.1) e.2) :=
  (fold_load defaults entries {} (.of_out_nil rfl)).1 hnd

/-- one `setKey` step of `overlay`: the key then holds the written value -/
theorem C13_overlay_reflects (d : Obj) (k v : String) : (setKey d k v).lookup k = some v := by
  unfold setKey
  by_cases h : d.any (fun p => p.1 == k) = true
  · simp only [h, if_true]; exact lookup_map_set k v d h
  · simp only [h, Bool.false_eq_true, if_false]; exact lookup_append_new k v d (by simpa only [Bool.not_eq_true] using h)

/-- non-vacuity: two exporters of the same type writing different keys -/
example : (loadAll (fun _ => [("endpoint", ""), ("timeout", "30")])
            [(("otlphttp", "a"), [("endpoint", "x")]), (("otlphttp", "b"), [("timeout", "5")])]).result ("otlphttp", "b")
          = some [("endpoint", ""), ("timeout", "5")] := by decide +kernel

/-! ## (d') the regenerated statements of `Configs.Unmarshal` (`Gen/ConfigsLoad.lean`) -/

/-- the interpreter of the regenerated statements of `configunmarshaler.Configs.Unmarshal` (before the loop / loop body, over
local registers and the heap) is the hand model -/
theorem C13_load_regenerated (defaults : String → Obj) (entries : List (CId × List (String × String))) :
    runLoad Gen.ConfigsLoad.before Gen.ConfigsLoad.body defaults entries = loadAll defaults entries := by
  simp only [runLoad, runLoadFrom, runBefore_eq, loadAll, runBody_fun]

/-- `C13_instances_independent` on the regenerated statements -/
theorem C13_instances_independent_regenerated (defaults : String → Obj) (entries : List (CId × List (String × String)))
    (hnd : (entries.map (·.1)).Nodup) (id : CId) (w : List (String × String)) (hm : (id, w) ∈ entries) :
    (runLoad Gen.ConfigsLoad.before Gen.ConfigsLoad.body defaults entries).result id = some (overlay (defaults id.1) w) := by
  rw [C13_load_regenerated]; exact C13_instances_independent defaults entries hnd (id, w) hm

/-- successive loads in one process: whatever state an earlier load left (`s0`: its result map, its objects), the next
`Unmarshal` shows no id that the new document does not write (`c.cfgs = make(…)` before the loop) -/
theorem C13_reload_forgets (defaults : String → Obj) (s0 : LoadSt) (entries : List (CId × List (String × String))) (id : CId)
    (h : id ∉ entries.map (·.1)) :
    (runLoadFrom Gen.ConfigsLoad.before Gen.ConfigsLoad.body defaults s0 entries).result id = none := by
  simp only [runLoadFrom, runBefore_eq, runBody_fun]
  exact (fold_load defaults entries _ (.of_out_nil rfl)).2 id h

example : ((runLoadFrom Gen.ConfigsLoad.before Gen.ConfigsLoad.body (fun _ => [("endpoint", "")])
    { heap := [(0, [("endpoint", "old")])], next := 1, out := [(("otlp", "a"), 0)] } [(("otlp", "b"), [("endpoint", "x")])]).result ("otlp", "a"),
    (runLoadFrom Gen.ConfigsLoad.before Gen.ConfigsLoad.body (fun _ => [("endpoint", "")])
    { heap := [(0, [("endpoint", "old")])], next := 1, out := [(("otlp", "a"), 0)] } [(("otlp", "b"), [("endpoint", "x")])]).result ("otlp", "b"))
    = (none, some [("endpoint", "x")]) := by decide +kernel

/-! ## (e) faithfulness: typed and effective configuration reflect exactly the written keys

`decodeV` / `encodeV` (Model/C13Faithful.lean) over key-space schemas `KS`; the schemas and factory
defaults of the built-in components are **regenerated by reflection** (`Gen/ConfigSchemas.lean`). -/

/-- **Typed configuration**: a key written at a leaf position (scalar, text kind, opaque string, slice,
map — through any nesting of structs and optionals, squashed structs inlined) holds exactly the
written value after decoding onto any defaults of the right shape. -/
theorem C13_faithful_written (S : KS) (d : TV) (v : Val) (t : TV) (p : List String) (x : Val)
    (hs : shape S d = true) (hd : decodeV S d v = some t) (hv : valGet v p = some x)
    (hk : (kindAt S p).map isLeafKind = some true) : getS S t p = some (.atom x) :=
  written_reflected S d v t p x hs hd hv hk

/-- **Siblings**: a position at or above which nothing is written keeps its default (a nil optional
counts as the zero value of its type): writing one setting never changes another one. -/
theorem C13_faithful_unwritten (S : KS) (d : TV) (v : Val) (t : TV) (p : List String)
    (hs : shape S d = true) (hd : decodeV S d v = some t) (hu : untouched v p = true) :
    getPath S t p = getPath S d p :=
  (decode_spec S d v t hs hd).2.2.2 p hu

/-- **Effective configuration**: at every written leaf the marshalled typed configuration shows what the
encoder shows for a leaf of that kind holding the written value (`shownAs`; kind by kind in the corollaries below). -/
theorem C13_effective (S : KS) (d : TV) (v : Val) (t : TV) (p : List String) (x : Val)
    (hs : shape S d = true) (hd : decodeV S d v = some t) (hv : valGet v p = some x)
    (hk : (kindAt S p).map isLeafKind = some true) :
    evGet (encodeV S t) p = shownAs (kindAt S p) x :=
  effective_shows S t p _ (decode_shape S d v t hs hd) (written_reflected S d v t p x hs hd hv hk)

/-- what `shownAs` is, kind by kind: secrets are redacted also as elements of maps and slices -/
theorem C13_effective_opaque_redacted (x : Val) : shownAs (some .opaque) x = some .redacted := rfl

theorem C13_effective_opaque_map_elements_redacted (ko : Bool) (kvs : List (String × Val)) :
    shownAs (some (.map ko .opaque)) (.map kvs) = some (.map (kvs.map (fun p => (p.1, EV.redacted)))) := rfl

theorem C13_effective_opaque_slice_elements_redacted (vs : List Val) :
    shownAs (some (.slice .opaque)) (.list vs) = some (.list (vs.map (fun _ => EV.redacted))) := rfl

theorem C13_effective_plain_verbatim (x : Val) :
    shownAs (some .scalar) x = some (.val x) ∧ (∀ n, shownAs (some (.text n)) x = some (.val x)) ∧
    shownAs (some (.slice .scalar)) x = some (.val x) ∧ (∀ ko, shownAs (some (.map ko .scalar)) x = some (.val x)) :=
  ⟨rfl, fun _ => rfl, rfl, fun _ => rfl⟩

/-- non-vacuity: writing `tls::key_pem` and `endpoint` below a nil optional; `read_buffer_size` untouched -/
example :
    let S : KS := .struct [("grpc", .ptr (.struct [("endpoint", .scalar), ("read_buffer_size", .scalar),
                    ("tls", .ptr (.struct [("key_pem", .opaque), ("min_version", .scalar)]))]))]
    let d : TV := .struct [("grpc", .struct [("endpoint", .atom (.scalar 1)), ("read_buffer_size", .atom (.scalar 2)), ("tls", .nilp)])]
    let v : Val := .map [("grpc", .map [("tls", .map [("key_pem", .scalar 77)]), ("endpoint", .scalar 5)])]
    (decodeV S d v).map (fun t => (evGet (encodeV S t) ["grpc", "tls", "key_pem"], evGet (encodeV S t) ["grpc", "endpoint"],
                                    getPath S t ["grpc", "read_buffer_size"]))
      = some (some .redacted, some (.val (.scalar 5)), some (.atom (.scalar 2))) := rfl

/-! ### regenerated obligations over the built-in components -/

open OtelVerif.Gen in
/-- every factory default has the shape of its schema (the hypothesis of the theorems above) -/
theorem C13_builtin_defaults_shaped : ∀ c ∈ ConfigSchemas.components, shape c.2.1 c.2.2 = true :=
  fun c hc => (builtin_checked c hc).1

open OtelVerif.Gen in
/-- no struct level of a built-in configuration (squashed structs inlined) has two fields with the same
key: a written key never feeds two settings -/
theorem C13_builtin_keys_unique : ∀ c ∈ ConfigSchemas.components, keysUnique c.2.1 = true :=
  fun c hc => (builtin_checked c hc).2.1

open OtelVerif.Gen in
/-- no built-in configuration has a map keyed by an opaque string (the JSON-map-key leak of C14 is not reachable) -/
theorem C13_builtin_no_opaque_map_key : ∀ c ∈ ConfigSchemas.components, noOpaqueKey c.2.1 = true :=
  fun c hc => (builtin_checked c hc).2.2.1

/-! ### strictness on key-space schemas (`decodeV` / `decodeC`) -/

/-- `Bad` for key-space schemas (through struct fields and optionals; squashed structs are inlined in `KS`) -/
inductive BadK : KS → Val → Prop
  | here {fs kvs k x} : (k, x) ∈ kvs → (fs.map (·.1)).contains k = false → BadK (.struct fs) (.map kvs)
  | field {fs kvs k s v} : (k, s) ∈ fs → lookupVal kvs k = some v → BadK s v → BadK (.struct fs) (.map kvs)
  | ptr {s v} : BadK s v → BadK (.ptr s) v

/-- **Strictness on key-space schemas**: an unknown key at any depth through struct fields and optionals makes the generic
decode fail, for every default -/
theorem C13_strict_ks {S : KS} {v : Val} (h : BadK S v) : ∀ d, decodeV S d v = none := by
  induction h with
  | here hm hk =>
    intro d
    refine Option.eq_none_iff_forall_ne_some.mpr fun t hd => ?_
    obtain ⟨_, _, _, _, hv, _, hall, _⟩ := decodeV_struct hd
    cases hv
    have := List.all_eq_true.mp hall _ hm
    rw [hk] at this
    cases this
  | field hm hl _ ih =>
    intro d
    refine Option.eq_none_iff_forall_ne_some.mpr fun t hd => ?_
    obtain ⟨dfs, _, _, _, hv, _, _, hf⟩ := decodeV_struct hd
    cases hv
    rw [decodeFs_none hm hl ih dfs] at hf
    cases hf
  | ptr _ ih =>
    intro d
    obtain ⟨d', _, hd', _⟩ := ptr_default _ d
    rw [hd']
    exact ih d'

/-- … and so does a component's own `Unmarshal` (fix-ups around the generic decode), for every schema and every fix-up list -/
theorem C13_strict_builtin (hooks : List Hook) (S : KS) (d : TV) (v : Val) (h : BadK S v) : decodeC hooks S d v = none := by
  simp [decodeC, C13_strict_ks h]

/-- non-vacuity: `tls::bogus` below an optional section -/
example : BadK (.struct [("endpoint", .scalar), ("tls", .ptr (.struct [("insecure", .scalar)]))])
    (.map [("tls", .map [("bogus", .scalar 1)])]) :=
  .field (k := "tls") (s := .ptr (.struct [("insecure", .scalar)])) (v := .map [("bogus", .scalar 1)]) (by simp) rfl
    (.ptr (.here (fs := [("insecure", .scalar)]) (kvs := [("bogus", .scalar 1)]) (k := "bogus") (x := .scalar 1) (by simp) (by decide +kernel)))

/-- … and evaluated on the regenerated OTLP/HTTP exporter schema and default (`tls` sits in a squash-inlined client configuration) -/
example : decodeV Gen.ConfigSchemas.exporters_otlphttp_schema Gen.ConfigSchemas.exporters_otlphttp_default
    (.map [("tls", .map [("bogus", .scalar 1)])]) = none := by decide +kernel

/-! ### custom `Unmarshal` methods: the same theorems through `decodeC` -/

/-- **Typed configuration through a component's own `Unmarshal`** (generic decode with the fix-ups of
`hooksOfType`): a key written at a leaf position holds exactly the written value, unless a fix-up that
fires for this configuration rewrites that very position (`Hook.compatible`; the only such cases in the
built-in components are the `*_url_path` normalisation of the OTLP receiver). -/
theorem C13_faithful_written_hooked (hooks : List Hook) (S : KS) (d : TV) (v : Val) (t : TV) (p : List String) (x : Val)
    (hs : shape S d = true) (hd : decodeC hooks S d v = some t) (hv : valGet v p = some x)
    (hk : (kindAt S p).map isLeafKind = some true) (hc : ∀ h ∈ hooks, h.compatible v p = true) :
    getS S t p = some (.atom x) := by
  obtain ⟨t0, h0, rfl⟩ := Option.map_eq_some_iff.mp hd
  rw [List.foldlRecOn (motive := fun t' => getS S t' p = getS S t0 p) hooks (postHook S v) rfl
    (fun t' ht' h hm => (getS_postHook S v t' p h (hc h hm)).trans ht')]
  exact written_reflected S _ v t0 p x (shape_preHooks S v hooks d hs) h0 hv hk

/-- … and the effective configuration shows it (redacted where opaque). -/
theorem C13_effective_hooked (hooks : List Hook) (S : KS) (d : TV) (v : Val) (t : TV) (p : List String) (x : Val)
    (hs : shape S d = true) (hw : ∀ h ∈ hooks, h.wellPlaced S = true) (hd : decodeC hooks S d v = some t)
    (hv : valGet v p = some x) (hk : (kindAt S p).map isLeafKind = some true)
    (hc : ∀ h ∈ hooks, h.compatible v p = true) :
    evGet (encodeV S t) p = shownAs (kindAt S p) x :=
  effective_shows S t p _ (decodeC_shape hooks S d v t hs hw hd)
    (C13_faithful_written_hooked hooks S d v t p x hs hd hv hk hc)

/-- the precedence of the deprecated `blocking`: a written `block_on_overflow` is what the typed
configuration holds, whatever `blocking` says; an unwritten one takes the alias -/
example :
    let S : KS := .struct [("sending_queue", .struct [("block_on_overflow", .scalar), ("blocking", .scalar)])]
    let d : TV := .struct [("sending_queue", .struct [("block_on_overflow", .atom (.scalar 0)), ("blocking", .atom (.scalar 0))])]
    let hooks := [Hook.aliasIfUnset ["sending_queue"] "blocking" "block_on_overflow"]
    ((decodeC hooks S d (.map [("sending_queue", .map [("block_on_overflow", .scalar 1), ("blocking", .scalar 0)])])).bind
        (fun t => getS S t ["sending_queue", "block_on_overflow"]),
     (decodeC hooks S d (.map [("sending_queue", .map [("blocking", .scalar 1)])])).bind
        (fun t => getS S t ["sending_queue", "block_on_overflow"]))
      = (some (.atom (.scalar 1)), some (.atom (.scalar 1))) := rfl

open OtelVerif.Gen in
/-- the positions decoded by a type's own `Unmarshal` (regenerated).  A new custom `Unmarshal` in a
built-in configuration changes the list and this obligation stops checking until it has been modelled. -/
theorem C13_builtin_custom_positions : ConfigSchemas.customPositions =
    [("exporters/otlp", [], "otlpexporter.Config"),
     ("exporters/otlp", ["sending_queue"], "queuebatch.Config"),
     ("exporters/otlphttp", ["sending_queue"], "queuebatch.Config"),
     ("receivers/otlp", [], "otlpreceiver.Config")] := rfl

open OtelVerif.Gen in
/-- every one of them has a hand-modelled fix-up, placed on positions of the kinds it expects in the
regenerated schema: the hooked theorems apply to every built-in component -/
theorem C13_builtin_hooks_modelled : ∀ c ∈ ConfigSchemas.components,
    (componentHooks ConfigSchemas.customPositions c.1).elim false (fun hooks => hooks.all (fun h => h.wellPlaced c.2.1)) = true :=
  fun c hc => (builtin_checked c hc).2.2.2

/-- the bodies of those `Unmarshal` methods are the ones that were modelled (fingerprints regenerated
by `translators/cmd/unmarshalhooks`; a changed body has to be re-modelled) -/
theorem C13_hook_bodies_as_modelled : Gen.UnmarshalHooks.bodies =
    [("queuebatch.Config", "3777169255574fb5d81fac26ddfab4057e5ec4f4401a9fa6a2427885c74534a2"),
     ("otlpreceiver.Config", "9a8d8bb2dace14b923772a9a4c9e1027a4268861d3f5e71003168db0f577066b"),
     ("otlpexporter.Config", "5c336cc63ed79c6d70b775bf8a0756cca9543546da5e7f0c1339a5c17f7b08f5"),
     -- service section: fingerprints only (these four are NOT modelled; their strictness and faithfulness are probed by the harness)
     ("telemetry.Config", "1fa71947749faef6b73cfa5c1c80075db6875beac1f913a72034c014b105e186"),
     ("migration.TracesConfigV030", "1ba9a87292570564fe821ce801dbd5a51eb81d66bb413d6a0792b8989ac382f3"),
     ("migration.MetricsConfigV030", "13f5d6c5c194abe01fc46134145b8748d89af054cd2896416249c80bb9c76c4e"),
     ("migration.LogsConfigV030", "b909d8abf8984fa5a97e34987d10badd1f96955e360f3f91318e9d51ac1908c9")] := rfl

/-- the named exceptions of the OTLP receiver: the key paths a fix-up may rewrite although they are not written (unwritten
protocols) and the written leaves it may normalise (`*_url_path`) -/
example : (componentHooks Gen.ConfigSchemas.customPositions "receivers/otlp").map (fun hs => hs.flatMap Hook.targets)
    = some [["protocols", "grpc"], ["protocols", "http"], ["protocols", "http", "traces_url_path"],
            ["protocols", "http", "metrics_url_path"], ["protocols", "http", "logs_url_path"]] := by decide +kernel

/-! ## (e') the regenerated fix-ups of the components' own `Unmarshal` (`Gen/UnmarshalHooks.lean`) -/

/-- the regenerated translation of the three `Unmarshal` bodies, placed at any position, is the reviewed hand table: the
hooked theorems and the driver's `decodeC` are about the fix-ups of today's source -/
theorem C13_hooks_regenerated (t : String) (q : List String) : hooksOfTypeG t q = hooksOfType t q := by
  -- the regenerated rows and the `if` chain of `hooksOfType` test the same type names in the same order
  simp only [hooksOfTypeG, hooksOfType, Gen.UnmarshalHooks.hooks, List.lookup]
  by_cases h1 : (t == "queuebatch.Config") = true
  · simp [h1, Hook.placed]
  · by_cases h2 : (t == "otlpreceiver.Config") = true
    · simp [h1, h2, Hook.placed]
    · by_cases h3 : (t == "otlpexporter.Config") = true
      · simp [h1, h2, h3, Hook.placed]
      · simp [h1, h2, h3]

/-- … hence per component, from the regenerated custom positions -/
theorem C13_component_hooks_regenerated (custom : List (String × List String × String)) (comp : String) :
    componentHooksG custom comp = componentHooks custom comp := by
  simp only [componentHooksG, componentHooks, C13_hooks_regenerated]

open OtelVerif.Gen in
/-- `C13_builtin_hooks_modelled` with the regenerated fix-ups (positions and kinds by reflection, fix-ups by go/ast) -/
theorem C13_builtin_hooks_regenerated_well_placed : ∀ c ∈ ConfigSchemas.components,
    (componentHooksG ConfigSchemas.customPositions c.1).elim false (fun hooks => hooks.all (fun h => h.wellPlaced c.2.1)) = true := by
  simpa only [C13_component_hooks_regenerated] using C13_builtin_hooks_modelled

/-- the regenerated fix-ups of the OTLP exporter at work on its regenerated schema and default: `blocking` written alone
is copied to `block_on_overflow`; written together, `block_on_overflow` keeps what was written -/
example :
    (((componentHooksG Gen.ConfigSchemas.customPositions "exporters/otlp").bind (fun hooks =>
        decodeC hooks Gen.ConfigSchemas.exporters_otlp_schema Gen.ConfigSchemas.exporters_otlp_default
          (.map [("sending_queue", .map [("blocking", .scalar 777)])]))).bind
      (fun t => getS Gen.ConfigSchemas.exporters_otlp_schema t ["sending_queue", "block_on_overflow"])).elim false
        (fun t => match t with | .atom (.scalar n) => n == 777 | _ => false) = true := by
  decide +kernel

/-- the v0.2.0 → v0.3.0 migration of `service::telemetry` (taken when the strict v0.3.0 decode of a section fails, e.g. OTLP `headers`
written as a mapping): every field-to-field assignment / composite-literal entry of the `…V02ToV03` functions (regenerated list) copies
the source field OF THE SAME NAME — a written legacy-shaped setting lands in its own v0.3.0 field, not in a sibling's -/
theorem C13_migration_fields_correspond : ∀ r ∈ Gen.UnmarshalHooks.migrationAssigns, (r.2.1 == r.2.2) = true := by
  -- equal literals are compared as literals, not decoded
  have h : Gen.UnmarshalHooks.migrationAssigns.map (·.2.1) = Gen.UnmarshalHooks.migrationAssigns.map (·.2.2) := rfl
  exact fun r hr => beq_iff_eq.mpr (List.map_inj_left.mp h r hr)

example : ("logsConfigV02ToV03", "ErrorOutputPaths", "ErrorOutputPaths") ∈ Gen.UnmarshalHooks.migrationAssigns ∧
    ("otlpV02ToV03", "Headers", "Headers") ∈ Gen.UnmarshalHooks.migrationAssigns ∧ Gen.UnmarshalHooks.migrationAssigns.length ≥ 60 := by decide +kernel

end OtelVerif.C13

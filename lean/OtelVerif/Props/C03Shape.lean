import OtelVerif.Model.C03Shape
import OtelVerif.Props.C03
/-!
# C03 — the LTS has the order of the SOURCE (tie T)

`Gen/C03Shape.lean` is rewritten from /repo on every run; `Model/C03Shape.lean` interprets it.  The theorems below relate the
interpreted skeletons to `fire`: they are about ALL states and labels of the LTS, and they quantify over whatever the generated
data evaluates to — when the source reorders the shutdown path (batcher before queue, join dropped, an early return inserted,
`Read` checking `stopped` first, the worker slot taken after `go`, …) the generated lists change and these proofs stop building.
-/
namespace OtelVerif.C03

theorem shape_steps (p : Bool) : Shape.phaseSteps p = some shutSteps := by
  revert p; decide +kernel

theorem finalise_phase (s : State) (f : Nat) (fl : Flight) (k : Bool) (n : Nat) : (finalise s f fl k n).phase = s.phase := rfl

/-- **Phase order = source order.**  Whatever the queue kind: the phase-advancing labels extracted from the source (callees inlined,
no function on the path returns early) are five; the LTS fires the `k`-th of them exactly in phase `k` and thereby moves to phase
`k + 1`; no other label changes the phase.  So the only way to "Shutdown returned" (`phase = 5`) is: retry sender stopped, queue
stopped, consumers joined, batcher's `shutdownCh` closed (final flush), flush goroutines awaited — in the order the code executes. -/
theorem C03_shape_phase_order (p : Bool) :
    ∃ steps, Shape.phaseSteps p = some steps ∧ steps.length = 5 ∧
      ∀ (s s' : State) (l : Label), fire s l = some s' →
        (l ∈ steps → steps[s.phase]? = some l ∧ s'.phase = s.phase + 1) ∧ (l ∉ steps → s'.phase = s.phase) := by
  refine ⟨_, shape_steps p, rfl, ?_⟩
  intro s s' l hf
  rcases step_phase (fire_step hf) with ⟨hn, e⟩ | ⟨hl, e⟩
  · exact ⟨fun h => absurd h hn, fun _ => e⟩
  · exact ⟨fun _ => ⟨hl, e⟩, fun h => absurd (List.mem_of_getElem? hl) h⟩

/-- … and `phase = 5` is reached only through all five, in order: a run that ends "returned" contains them as a subsequence -/
theorem C03_shape_all_steps_taken (p : Bool) {s s' : State} {ls : List Label} (h0 : s.phase = 0) (hr : runFrom s ls = some s')
    (h5 : s'.phase = 5) : ∃ steps, Shape.phaseSteps p = some steps ∧ steps.Sublist ls := by
  have := sublist_of_run h5 ls s hr
  rw [h0, List.drop_zero] at this
  exact ⟨_, shape_steps p, this⟩

/-- **Read / exit rules = source order of the checks.**  `memoryQueue.Read` looks at its items before `stopped` (serves after the
stop until empty; a consumer leaves only when stopped AND empty); `persistentQueue.Read` looks at `stopped` first (dispatches
nothing after the stop; a consumer leaves although requests remain — they stay stored) and resets the size when drained. -/
theorem C03_shape_read_rules :
    Shape.memoryServesAfterStop = true ∧ Shape.persistentStopsFirst = true ∧ Shape.persistentResetsSize = true ∧ Shape.consumerLoop = true ∧
    (∀ (s : State) (i : Nat) (b : Batch) (late : Bool) (rest : List (Batch × Bool)), s.cfg.persistent = false → s.cons[i]? = some .idle →
        s.queue = (b, late) :: rest → ∃ s', fire s (.read i) = some s' ∧ s'.cons[i]? = some (.holding b) ∧ s'.queue = rest) ∧
    (∀ (s s' : State) (i : Nat), s.cfg.persistent = false → fire s (.exit i) = some s' → 2 ≤ s.phase ∧ s.queue = []) ∧
    (∀ (s : State) (i : Nat), s.cfg.persistent = true → 2 ≤ s.phase → fire s (.read i) = none) ∧
    (∀ (s : State) (i : Nat), s.cfg.persistent = true → 2 ≤ s.phase → s.cons[i]? = some .idle → (fire s (.exit i)).isSome = true) := by
  refine ⟨by decide +kernel, by decide +kernel, by decide +kernel, by decide +kernel, ?_, ?_, ?_, ?_⟩
  · intro s i b late rest hm hc hq
    have hi : i < s.cons.length := by
      rcases Nat.lt_or_ge i s.cons.length with h | h
      · exact h
      · simp [List.getElem?_eq_none h] at hc
    exact ⟨_, step_fire (.read s i b late rest hc hq (by simp [hm])), by simp [hi], rfl⟩
  · intro s s' i hm hf
    have hs := fire_step hf
    cases hs with
    | exit _ hc hp hq => exact ⟨hp, by simpa [hm] using hq⟩
  · intro s i hp h2; exact C03_persistent_stops_dispatch s i hp h2
  · intro s i hp h2 hc; rw [step_fire (.exit s i hc h2 (.inl hp))]; rfl

/-- **Worker pool / flush goroutine protocol = source order of `flush`.**  The slot is taken before the goroutine starts and given
back after `done.OnDone`: in the LTS every hand-over of a batch to a flush goroutine (`spawn`, `timerSpawn`, `shutSpawn`) needs and
takes a free slot and creates a pending flight that no consumer owns; the timer goroutine exists only with a flush timeout and
leaves only once `shutdownCh` is closed; the disabled batcher runs the chain on the consumer. -/
theorem C03_shape_flush_protocol :
    Shape.flushProtocol = true ∧ Shape.takeThenFlush = true ∧ Shape.timerLoop = true ∧ Shape.disabledSync = true ∧
    (∀ (s s' : State) (l : Label), (l = .timerSpawn ∨ l = .shutSpawn ∨ ∃ i, l = .spawn i) → fire s l = some s' →
        0 < s.workers ∧ s'.workers + 1 = s.workers ∧ ∃ b, s'.flights = s.flights ++ [Flight.new b none]) ∧
    (∀ (s s' : State), fire s .timerExit = some s' → 4 ≤ s.phase) ∧
    (∀ (s s' : State) (i : Nat), fire s (.sendSync i) = some s' → s.cfg.batching = false ∧
        ∃ b, s'.flights = s.flights ++ [Flight.new b (some i)]) := by
  refine ⟨by decide +kernel, by decide +kernel, by decide +kernel,
    by simp only [Shape.disabledSync, Gen.C03Shape.disabledConsume, beq_self_eq_true], ?_, ?_, ?_⟩
  · intro s s' l hl hf
    have hs := fire_step hf
    rcases hl with h | h | ⟨i, h⟩
    · subst h
      cases hs with
      | timerSpawn b ht hw => exact ⟨hw, by simp; omega, b, rfl⟩
    · subst h
      cases hs with
      | shutSpawn b hh hp hw => exact ⟨hw, by simp; omega, b, rfl⟩
    · subst h
      cases hs with
      | spawn _ b rest hc hw => exact ⟨hw, by simp; omega, b, rfl⟩
  · intro s s' hf
    have hs := fire_step hf
    cases hs with
    | timerExit ht hp => exact hp
  · intro s s' i hf
    have hs := fire_step hf
    cases hs with
    | sendSync _ b hc hb => exact ⟨hb, b, rfl⟩

/-- **Retry loop = source order of its selects**, and the retry sender sits inside the queue sender: the stop is checked before the
back-off, so in the LTS a stopped retry sender schedules nothing (`C03_stopped_retry_schedules_nothing`) and a back-off can end "kept"
only after the stop. -/
theorem C03_shape_retry :
    Shape.stopCheckedBeforeBackoff = true ∧ Shape.chainOrder = true ∧
    (∀ (s : State) (f : Nat) (o : Outcome), 1 ≤ s.phase → fire s (.expEnd f o .again) = none) ∧
    (∀ (s s' : State) (f : Nat), fire s (.giveUp f true) = some s' → 1 ≤ s.phase) := by
  refine ⟨by simp only [Shape.stopCheckedBeforeBackoff, Gen.C03Shape.retrySelects, beq_self_eq_true], by decide +kernel,
    fun s f o hp => C03_stopped_retry_schedules_nothing s f o hp, ?_⟩
  intro s s' f hf
  have hs := fire_step hf
  cases hs with
  | giveUp _ fl _ hfl hst hk => exact hk rfl

/-- **`Done` = source order of `onDone` / `refCountDone`.**  A flight that ends with a shutdown error leaves the storage untouched (the
persistent queue returns before deleting), any other ending removes exactly the flight's items; the queue size never grows by a `Done`
(clamped release); a request's `Done` receives an error iff SOME part of it ended with an error (all part errors are joined — not only
the first). -/
theorem C03_shape_done :
    Shape.persistentKeepsOnShutdownErr = true ∧ Shape.doneJoinsAll = true ∧
    (∀ (s : State) (f : Nat) (fl : Flight) (n : Nat), (finalise s f fl true n).stored = s.stored) ∧
    (∀ (s : State) (f : Nat) (fl : Flight) (n : Nat), (finalise s f fl false n).stored = s.stored.filter (fun x => !fl.batch.contains x)) ∧
    (∀ (s : State) (f : Nat) (fl : Flight) (k : Bool) (n : Nat), (finalise s f fl k n).qsize ≤ s.qsize) ∧
    (∀ (fs : List Flight) (r : Batch), reqFailed fs r = true ↔
        ∃ fl ∈ fs, fl.st = .done ∧ fl.attempts ≠ fl.failures + 1 ∧ ∃ x ∈ r, x ∈ fl.batch) := by
  refine ⟨by decide +kernel,
    by simp only [Shape.doneJoinsAll, Gen.C03Shape.refCountOnDone, Gen.C03Shape.multiOnDone, beq_self_eq_true, Bool.and_self],
    fun _ _ _ _ => rfl, fun _ _ _ _ => rfl, ?_, ?_⟩
  · intro s f fl k n
    simp only [finalise]
    exact Nat.sub_le _ _
  · intro fs r
    simp only [reqFailed, List.any_eq_true, Bool.and_eq_true, beq_iff_eq, bne_iff_ne, ne_eq, List.contains_iff_mem]
    constructor
    · rintro ⟨fl, hfl, ⟨hd, ha⟩, x, hx, hb⟩; exact ⟨fl, hfl, hd, ha, x, hx, hb⟩
    · rintro ⟨fl, hfl, hd, ha, x, hx, hb⟩; exact ⟨fl, hfl, ⟨hd, ha⟩, x, hx, hb⟩

end OtelVerif.C03

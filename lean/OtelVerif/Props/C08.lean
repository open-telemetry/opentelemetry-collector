import OtelVerif.Gen.OtlpSchema
import OtelVerif.Gen.OtlpSchemaX
import OtelVerif.Lemmas.C08Names
import OtelVerif.Lemmas.C08Root
import OtelVerif.Lemmas.C08JFix
/-!
# C08 — OTLP protobuf and JSON codecs are lossless, consistent and total

Theorems about the generic codec model of `Model/C08.lean`, for EVERY well-formed schema, conforming value, byte string and JSON tree,
then at the schema regenerated from `/repo` (`Gen/OtlpSchema.lean`); ties over the regenerated tables; kernel witnesses refuting the two
"full" readings; the concrete text codecs; `CodecSpec`, the property stated abstractly, which every public entry point refines.
-/
namespace OtelVerif.C08
open OtelVerif.Wire OtelVerif.Proto

abbrev otlp : Schema := Gen.OtlpSchema.schema

abbrev otlpD : List Val := defaults otlp

/-! ## ties over the regenerated tables (`Gen`) -/

def fieldsOf (m : Msg) : List Field :=
  m.slots.flatMap (fun s => match s with | .one f => [f] | .oneof _ alts => alts)

/-- (message, Go field) pairs whose JSON name or proto name is NOT a `case` label of the message's hand-written reader -/
def uncovered (S : Schema) : List (String × String) :=
  S.msgs.flatMap (fun m => (fieldsOf m).filterMap (fun f =>
    if m.jsonKeys.contains f.json && m.jsonKeys.contains f.orig then none else some (m.name, f.go)))

/-- the table checks that share name literals, decided in ONE evaluation: the kernel's cost is turning each `String` literal into data,
once per evaluation (DESIGN.md §2.1a) -/
structure OtlpTables : Prop where
  wf : WF otlp otlpD = true
  jwf : JWF otlp = true
  cov : covOk otlp = true
  jfix : enumsOk otlp = true ∧ keysSymOk otlp = true ∧ depUncovOk otlp = true
  uncov : uncovered otlp = [("logs.ResourceLogs", "DeprecatedScopeLogs"), ("metrics.ResourceMetrics", "DeprecatedScopeMetrics"),
    ("trace.ResourceSpans", "DeprecatedScopeSpans")]
  readers : readersOk otlp Gen.OtlpSchema.readers = true
  skip : List.all Gen.OtlpSchemaX.readerDefaults (fun r => r.2.1 == "skip" && r.2.2) = true ∧
    List.map (·.1) Gen.OtlpSchemaX.readerDefaults = otlp.msgs.map (·.name)
  helpers : otlp.msgs.all (fun m => List.any Gen.OtlpSchemaX.pbHelperPkgs (fun p => (p ++ ".").toList.isPrefixOf m.name.toList)) = true ∧
    List.all Gen.OtlpSchemaX.pbHelperPkgs (fun p => otlp.msgs.any (fun m => (p ++ ".").toList.isPrefixOf m.name.toList)) = true

theorem otlp_tables : OtlpTables := by
  refine (fun (h : _ ∧ _ ∧ _ ∧ _ ∧ _ ∧ _ ∧ _ ∧ _) =>
    ⟨h.1, h.2.1, h.2.2.1, h.2.2.2.1, h.2.2.2.2.1, h.2.2.2.2.2.1, h.2.2.2.2.2.2.1, h.2.2.2.2.2.2.2⟩) ?_
  unfold JWF covOk covOkAt keysSymOk keysSymAt depUncovOk depUncovAt
  simp only [jslotsOkFrom_eq, slotCovOk_eq, covered_eq, any_str_beq, isPrefixOf_toList]
  decide +kernel

/-- distinct legal field numbers per message, admissible (type, cardinality) pairs, one-of alternatives found by
their number, and `defaults` is the fixed point of "`&T{}` with every `nullable=false` message filled in". -/
theorem C08_schema_wf : WF otlp otlpD = true := otlp_tables.wf

/-- **Every field has its `case`, in both spellings** (tie over the regenerated reader tables).  The only fields the JSON readers do
not know are the three deprecated scope lists, which the public API cannot set and `otlp.Migrate*` clears on every decode path. -/
theorem C08_json_cases_cover :
    uncovered otlp = [("logs.ResourceLogs", "DeprecatedScopeLogs"), ("metrics.ResourceMetrics", "DeprecatedScopeMetrics"),
      ("trace.ResourceSpans", "DeprecatedScopeSpans")] :=
  otlp_tables.uncov

/-! ## protobuf: size, round trip -/

/-- `Size()` equals the length of `Marshal()` — for every schema and EVERY value tree (no conformance needed). -/
theorem C08_size (S : Schema) (m : Nat) (v : Val) : size S m v = (encode S m v).length :=
  sz_eq_length S _ v

/-- **`sovX(x) = (bits.Len64(x|1)+6)/7` is the varint byte count**, for every `x`: the `sov` summands of `C08_size` are the
formula the generated `Size()` evaluates (`bitLen` = `bits.Len64`). -/
theorem C08_sov_formula (n : Nat) : sovBits n = sov n ∧ sovBits n = (varint n).length := by
  rw [sovBits_eq_sov, varint_length]; exact ⟨rfl, rfl⟩

/-- **Lossless (protobuf).** For every well-formed schema and every conforming value, decoding what the marshaler produced yields the
value.  (`hlen`: a Go slice is shorter than 2^63 bytes.) -/
theorem C08_pb_roundtrip (S : Schema) (D : List Val) (hwf : WF S D = true) (m : Nat) (v : Val)
    (hc : Conforms S m v) (hlen : (encode S m v).length < 2 ^ 63) :
    decode S D m (encode S m v) = some v :=
  rt_msg (wf_defaults hwf) m v (rt_all S D (wf_slots hwf) (wf_defaults hwf) _ v) hc hlen

/-- … in particular for the schema regenerated from the Go sources of `/repo`, all signals and wrappers. -/
theorem C08_pb_roundtrip_otlp (m : Nat) (v : Val) (hc : Conforms otlp m v) (hlen : (encode otlp m v).length < 2 ^ 63) :
    decode otlp otlpD m (encode otlp m v) = some v :=
  C08_pb_roundtrip otlp otlpD C08_schema_wf m v hc hlen

/-- consequently the marshaler is injective on conforming values (two different payloads never share an encoding) -/
theorem C08_pb_injective (S : Schema) (D : List Val) (hwf : WF S D = true) (m : Nat) (v w : Val)
    (hv : Conforms S m v) (hw : Conforms S m w) (hl : (encode S m v).length < 2 ^ 63)
    (he : encode S m v = encode S m w) : v = w := by
  have h1 := C08_pb_roundtrip S D hwf m v hv hl
  have h2 := C08_pb_roundtrip S D hwf m w hw (he ▸ hl)
  rw [he, h2] at h1
  exact (Option.some.inj h1).symm

/-- a corollary of `C08_pb_roundtrip`; the decoder's fixed point is `C08_total_fixpoint(_root)` -/
theorem superseded_total_fixpoint_partial (S : Schema) (D : List Val) (hwf : WF S D = true) (m : Nat) (b : Bytes) (v : Val)
    (_hd : decode S D m b = some v) (hc : Conforms S m v) (hlen : (encode S m v).length < 2 ^ 63) :
    decode S D m (encode S m v) = some v ∧
    ∀ v', decode S D m (encode S m v) = some v' → encode S m v' = encode S m v := by
  have h := C08_pb_roundtrip S D hwf m v hc hlen
  exact ⟨h, fun v' hv' => by rw [h] at hv'; rw [← Option.some.inj hv']⟩

/-! ### the full statement fails: a Go-nil bytes alternative is not written -/

/-- index of `common.AnyValue` in the regenerated schema -/
def anyValueIdx : Nat := (otlp.msgs.findIdx? (fun m => m.name == "common.AnyValue")).getD 0

/-- what `pcommon.NewValueBytes()` / `Value.SetEmptyBytes()` build: alternative 7 selected, Go-nil slice -/
def nilBytesValue : Val := .cons (.cons (.num 7) .nil) .nil

/-- lossless for every shape the public API can build -/
def C08_pb_roundtrip_full : Prop :=
  ∀ m v, ApiShape otlp m v → (encode otlp m v).length < 2 ^ 63 → decode otlp otlpD m (encode otlp m v) = some v

/-- read off the regenerated schema: `AnyValue` is a single one-of whose alternative 7 is a `bytes` field -/
theorem anyValue_shape : ∃ g alts a, otlp.slots anyValueIdx = [Slot.oneof g alts] ∧ findAlt alts 7 = some a ∧ a.ty = .bytes := by
  have h : (match otlp.slots anyValueIdx with
      | [Slot.oneof _ alts] => (match findAlt alts 7 with | some a => a.ty == .bytes | none => false)
      | _ => false) = true := by decide +kernel
  split at h
  · next g alts hs =>
    split at h
    · next a ha => exact ⟨g, alts, a, hs, ha, by simpa using h⟩
    · simp at h
  · simp at h

theorem nilBytes_encodes_empty : encode otlp anyValueIdx nilBytesValue = [] := by
  obtain ⟨g, alts, a, hs, _, _⟩ := anyValue_shape
  rw [encode, hs, nilBytesValue, enc_slots_cons, enc_slots_nil]
  rw [enc]
  · rfl
  · intro k p h; cases h

/-- kernel-checked witness: an API-built empty-bytes value and the empty value both encode to `[]`, so the bytes value comes back as
`ValueTypeEmpty` (corpus case 1, `C08/pb/roundtrip/oneof-nil-bytes-not-encoded`). -/
theorem C08_pb_roundtrip_full_fails : ¬ C08_pb_roundtrip_full := by
  intro h
  have hshape : ApiShape otlp anyValueIdx nilBytesValue := by
    obtain ⟨g, alts, a, hs, ha, hty⟩ := anyValue_shape
    rw [ApiShape, hs, nilBytesValue]
    simp [conf, ha, hty]
  have := h anyValueIdx nilBytesValue hshape (by rw [nilBytes_encodes_empty]; decide)
  rw [nilBytes_encodes_empty, decode, decMsg_nil] at this
  have hd : otlpD.getD anyValueIdx .nil = .cons .nil .nil := by decide +kernel
  rw [hd] at this
  exact absurd (Option.some.inj this) (by decide)

/-! ## JSON leaf readers: integers and enums in both spellings -/

/-- **64-bit integers as strings or as numbers — same result** (`json.ReadInt64/ReadUint64`, `pdata/internal/json/number.go`): two
branches, `NumberValue →` jsoniter's digit loop (`parseNum`) and `StringValue → strconv` (`parseInt`).  For the four 64-bit types and EVERY
text `t` that can be written both ways (`jsonIntLit`): if the STRING `"t"` is accepted, the NUMBER `t` is accepted with the same result.
("For every text, equal" is false: `C08_json_int64_variants_alltext_fails`.) -/
theorem C08_json_int64_variants (S : Schema) (ffmt : Nat → List Nat) (fparse : List Nat → Option Nat) (ty : Ty) (t : List Nat)
    (hty : ty = .u64 ∨ ty = .i64 ∨ ty = .fixed64 ∨ ty = .sfixed64) (hlit : jsonIntLit t = true) (x : Val)
    (hs : readLeaf S (mkTxtF ffmt fparse) ty (.str t) = some x) :
    readLeaf S (mkTxtF ffmt fparse) ty (.num t) = some x := by
  rcases hty with h | h | h | h <;> subst h <;> simp only [readLeaf, Option.map_eq_some_iff] at hs ⊢ <;>
    obtain ⟨n, hn, hx⟩ := hs
  · exact ⟨n, parseNum_of_parseInt _ _ false 64 t n (by decide) hlit hn, hx⟩
  · exact ⟨n, parseNum_of_parseInt _ _ true 64 t n (by decide) hlit hn, hx⟩
  · exact ⟨n, parseNum_of_parseInt _ _ false 64 t n (by decide) hlit hn, hx⟩
  · exact ⟨n, parseNum_of_parseInt _ _ true 64 t n (by decide) hlit hn, hx⟩

/-- the same for the 32-bit readers (`json.ReadInt32/ReadUint32`) -/
theorem C08_json_int32_variants (S : Schema) (ffmt : Nat → List Nat) (fparse : List Nat → Option Nat) (ty : Ty) (t : List Nat)
    (hty : ty = .u32 ∨ ty = .i32 ∨ ty = .fixed32) (hlit : jsonIntLit t = true) (x : Val)
    (hs : readLeaf S (mkTxtF ffmt fparse) ty (.str t) = some x) :
    readLeaf S (mkTxtF ffmt fparse) ty (.num t) = some x := by
  rcases hty with h | h | h <;> subst h <;> simp only [readLeaf, Option.map_eq_some_iff] at hs ⊢ <;>
    obtain ⟨n, hn, hx⟩ := hs
  · exact ⟨n, parseNum_of_parseInt _ _ false 32 t n (by decide) hlit hn, hx⟩
  · exact ⟨n, parseNum_of_parseInt _ _ true 32 t n (by decide) hlit hn, hx⟩
  · exact ⟨n, parseNum_of_parseInt _ _ false 32 t n (by decide) hlit hn, hx⟩

/-- non-vacuity of the two theorems above: `-9223372036854775808` is a JSON integer literal the string branch accepts -/
example : jsonIntLit (str "-9223372036854775808") = true ∧
    readLeaf otlp (mkTxtF (fun _ => []) (fun _ => none)) .i64 (.str (str "-9223372036854775808")) = some (.num (2 ^ 63)) := by
  constructor <;> decide +kernel

/-- … and `4294967295` for the 32-bit readers -/
example : jsonIntLit (str "4294967295") = true ∧
    readLeaf otlp (mkTxtF (fun _ => []) (fun _ => none)) .u32 (.str (str "4294967295")) = some (.num (2 ^ 32 - 1)) := by
  constructor <;> decide +kernel

/-- OBSERVATION (not a violation: the property speaks of 64-bit integers): "for EVERY text, equal" is false in both directions —
(a) jsoniter's overflow test (`value*10+d < value` after wrap-around) misses `27670116110564327420 > 2^64`: the NUMBER reads as
`9223372036854775804`, the STRING is a range error; (b) `strconv.ParseInt` accepts a leading `+` and leading zeros, which are not JSON
numbers.  Replayed on the real readers (`intspell` block). -/
theorem C08_json_int64_variants_alltext_fails :
    ¬ (∀ (t : List Nat), readLeaf otlp (mkTxtF (fun _ => []) (fun _ => none)) .u64 (.num t)
        = readLeaf otlp (mkTxtF (fun _ => []) (fun _ => none)) .u64 (.str t)) := by
  intro h
  have := h (str "27670116110564327420")
  revert this
  decide +kernel

/-- **The NUMBER branch is exact on every in-range literal** (jsoniter's digit loop, whose overflow test is incomplete, never mis-reads
a number that fits): for every JSON natural-number literal `t` of value `n < 2^64`, `json.ReadUint64` on the token `t` returns `n`; for
`n < 2^63`, `json.ReadInt64` returns `n` on `t` and `-n` on `-t`. -/
theorem C08_json_int64_number_exact (S : Schema) (T : Txt) (t : List Nat) (n : Nat) (hl : natLit t = true)
    (hv : undecDigits t = some n) :
    (n < 2 ^ 64 → readLeaf S T .u64 (.num t) = some (.num n)) ∧
    (n < 2 ^ 63 → readLeaf S T .i64 (.num t) = some (.num n) ∧
      readLeaf S T .i64 (.num (45 :: t)) = some (.num ((2 ^ 64 - n) % 2 ^ 64))) := by
  refine ⟨fun hn => ?_, fun hn => ⟨?_, ?_⟩⟩
  · simp [readLeaf, parseNum_lit false 64 t n (by decide) hl hv (by simpa using hn)]
  · simp [readLeaf, parseNum_lit true 64 t n (by decide) hl hv (by simpa using hn)]
  · simp [readLeaf, parseNum_neg_lit 64 t n (by decide) hl hv (by omega)]

/-- non-vacuity: `18446744073709551615` is such a literal -/
example : natLit (str "18446744073709551615") = true ∧ undecDigits (str "18446744073709551615") = some (2 ^ 64 - 1) := by
  constructor <;> decide +kernel

/-- **Both spellings of every 64-bit integer literal give that integer** — the clause of the property, for ARBITRARY literals: for
every JSON natural-number literal `t` of value `n`, `n < 2^64` ⇒ the `uint64` readers return `n` for `t` and `"t"`; `n < 2^63` ⇒ the `int64`
readers return `n` for `t` / `"t"` and `-n` for `-t` / `"-t"` (number branch: jsoniter; string branch: strconv). -/
theorem C08_json_int64_literal_agree (S : Schema) (ffmt : Nat → List Nat) (fparse : List Nat → Option Nat) (t : List Nat) (n : Nat)
    (hl : natLit t = true) (hv : undecDigits t = some n) :
    (n < 2 ^ 64 → readLeaf S (mkTxtF ffmt fparse) .u64 (.num t) = some (.num n) ∧
                  readLeaf S (mkTxtF ffmt fparse) .u64 (.str t) = some (.num n)) ∧
    (n < 2 ^ 63 → (readLeaf S (mkTxtF ffmt fparse) .i64 (.num t) = some (.num n) ∧
                   readLeaf S (mkTxtF ffmt fparse) .i64 (.str t) = some (.num n)) ∧
                  (readLeaf S (mkTxtF ffmt fparse) .i64 (.num (45 :: t)) = some (.num ((2 ^ 64 - n) % 2 ^ 64)) ∧
                   readLeaf S (mkTxtF ffmt fparse) .i64 (.str (45 :: t)) = some (.num ((2 ^ 64 - n) % 2 ^ 64)))) := by
  obtain ⟨hu, hi⟩ := C08_json_int64_number_exact S (mkTxtF ffmt fparse) t n hl hv
  have hs := fun signed => parseInt_lit (mkTxtF ffmt fparse) signed 64 t n (natLit_noSign t hl) hv
  refine ⟨fun hn => ⟨hu hn, by simp [readLeaf, hs, hn]⟩, fun hn => ⟨⟨(hi hn).1, by simp [readLeaf, hs, hn]⟩, (hi hn).2, ?_⟩⟩
  have : n ≤ 2 ^ (64 - 1) := by omega
  simp [readLeaf, parseInt_neg_lit (mkTxtF ffmt fparse) true 64 t n hv, this]

/-- non-vacuity: `9223372036854775807` (and hence `-9223372036854775807`) is such a literal -/
example : natLit (str "9223372036854775807") = true ∧ undecDigits (str "9223372036854775807") = some (2 ^ 63 - 1) := by
  constructor <;> decide +kernel

/-- … and both spellings of EVERY 64-bit value, written as the marshaler writes it (unsigned / signed decimal), decode to
that value — through the two different branches. -/
theorem C08_json_int64_value (S : Schema) (T : Txt) (h : DecLaws T) (n : Nat) (hn : n < 2 ^ 64) :
    (readLeaf S T .u64 (.num (T.dec n)) = some (.num n) ∧ readLeaf S T .u64 (.str (T.dec n)) = some (.num n)) ∧
    (readLeaf S T .i64 (.num (sdec T 64 n)) = some (.num n) ∧ readLeaf S T .i64 (.str (sdec T 64 n)) = some (.num n)) := by
  have h1 := parseInt_dec T h false 64 n (by simpa using hn)
  have h2 := parseNum_dec T h false 64 n (by decide) (by simpa using hn)
  have h3 := parseInt_sdec T h 64 n (by decide) hn
  have h4 := parseNum_sdec T h 64 n (by decide) hn
  simp [readLeaf, h1, h2, h3, h4]

/-- 64-bit integers at the extremes survive both spellings (a reader that goes through float64 does not) -/
theorem C08_json_int64_extremes (S : Schema) (ffmt : Nat → List Nat) (fparse : List Nat → Option Nat) :
    ∀ n ∈ [2 ^ 53 + 1, 2 ^ 63 - 1, 2 ^ 63, 2 ^ 64 - 1],
      readLeaf S (mkTxtF ffmt fparse) .u64 (.num (decDigits n)) = some (.num n) ∧
      readLeaf S (mkTxtF ffmt fparse) .i64 (.str (sdec (mkTxtF ffmt fparse) 64 n)) = some (.num n) := by
  intro n hn
  have hd : DecLaws (mkTxtF ffmt fparse) := ⟨undec_dec, dec_nosign, dec_noplus, jiter_dec⟩
  have hlt : n < 2 ^ 64 := by
    simp only [List.mem_cons, List.mem_nil_iff, or_false] at hn
    rcases hn with h | h | h | h <;> subst h <;> decide
  exact ⟨(C08_json_int64_value S _ hd n hlt).1.1, (C08_json_int64_value S _ hd n hlt).2.2⟩

/-- **Enum values as numbers or as names — same result** (`json.ReadEnumValue`), for every enum of every schema:
the name of a value and its decimal number decode to the same stored value. -/
theorem C08_json_enum_variants (S : Schema) (T : Txt) (h : DecLaws T) (e : Nat) (en : EnumT) (name : String) (val : Nat)
    (he : S.enums[e]? = some en)
    (hf : en.values.find? (fun p => str p.1 == str name) = some (name, val)) (hv : val < 2 ^ 31) :
    readLeaf S T (.enum e) (.str (str name)) = some (.num val) ∧
    readLeaf S T (.enum e) (.num (T.dec val)) = some (.num val) := by
  have := parseNum_dec T h true 32 val (by decide) (by simpa using hv)
  simp [readLeaf, enumByName, he, hf, this]

/-- non-vacuity: in the regenerated schema every enum name is found by `find?` at its own value and all values fit -/
theorem C08_json_enum_names_ok :
    otlp.enums.all (fun en => en.values.all (fun p =>
      (en.values.find? (fun q => str q.1 == str p.1)).map (·.2) == some p.2 && decide (p.2 < 2 ^ 31))) = true := by
  simp only [str_beq]
  decide +kernel

/-! ## JSON: round trip, consistency with protobuf -/

/-- no theorem speaks of it: the statements are `C08_json_roundtrip*`, `C08_consistent`, `C08_wrappers_*` -/
def C08_json_roundtrip_full : Prop :=
  ∀ (T : Txt), DecLaws T → ∀ m v, Conforms otlp m v →
    ∃ v', fromJson otlp T otlpD m (toJson otlp T m v) = some v' ∧ encode otlp m v' = encode otlp m (canon otlp (.slots (otlp.slots m)) v)

/-- **Lossless (JSON).** For every well-formed schema with consistent reader tables (`JWF`), every lawful text codec, every conforming
value that is JSON-representable (`jcov`: every populated field has a `case` in its reader — for OTLP all but the deprecated scope lists,
`C08_json_cases_cover` — and bytes are bytes): reading back what the marshaler wrote yields the value with every NaN canonicalised
(`normV`; the marshaler prints `"NaN"`).  Any nesting depth, any one-of alternative, recursive `AnyValue`s included. -/
theorem C08_json_roundtrip (S : Schema) (D : List Val) (T : Txt) (hwf : WF S D = true) (hj : JWF S = true)
    (hT : TxtLaws T) (m : Nat) (v : Val) (hc : Conforms S m v) (hcov : jcov S m (.slots (S.slots m)) v = true) :
    fromJson S T D m (toJson S T m v) = some (normV S (.slots (S.slots m)) v) := by
  have h := jrt_msg (wf_defaults hwf) m v (jrt_all S T D hT (wf_slots hwf) (jwf_slots hj) (wf_defaults hwf) _ v) hc hcov
  rcases toJ_slots_isObj S T v (S.slots m) with ho | ⟨k, j, tl, ho⟩
  · rw [ho] at h; simp only [toJson, fromJson, ho]; exact h
  · rw [ho] at h; simp only [toJson, fromJson, ho]; exact h

/-- **Consistent.** Decoding the JSON form and encoding the result as protobuf gives the bytes of the (NaN-normalised)
original; for a payload without non-canonical NaNs exactly the bytes of the original. -/
theorem C08_consistent (S : Schema) (D : List Val) (T : Txt) (hwf : WF S D = true) (hj : JWF S = true)
    (hT : TxtLaws T) (m : Nat) (v : Val) (hc : Conforms S m v) (hcov : jcov S m (.slots (S.slots m)) v = true) :
    ∃ v', fromJson S T D m (toJson S T m v) = some v' ∧ encode S m v' = encode S m (normV S (.slots (S.slots m)) v) ∧
      (normV S (.slots (S.slots m)) v = v → encode S m v' = encode S m v) :=
  ⟨_, C08_json_roundtrip S D T hwf hj hT m v hc hcov, rfl, fun h => by rw [h]⟩

/-- every field that has a `case` is found by its JSON name at its own slot (no two fields of a message share a JSON/proto name) -/
theorem C08_json_wf : JWF otlp = true :=
  otlp_tables.jwf

/-- … in particular for OTLP, all signals and wrappers. -/
theorem C08_json_roundtrip_otlp (T : Txt) (hT : TxtLaws T) (m : Nat) (v : Val) (hc : Conforms otlp m v)
    (hcov : jcov otlp m (.slots (otlp.slots m)) v = true) :
    fromJson otlp T otlpD m (toJson otlp T m v) = some (normV otlp (.slots (otlp.slots m)) v) :=
  C08_json_roundtrip otlp otlpD T C08_schema_wf C08_json_wf hT m v hc hcov

/-! ## total: whatever decodes is canonical and re-encodes to a fixed point -/

/-- no `nullable=false` embedding cycle in the regenerated schema (ranking computed by iteration) -/
theorem C08_schema_rank : reqRankOk otlp (reqRanks otlp) = true := by decide +kernel

/-- **The decoder's result is canonical**, for EVERY byte string: it has the decoder shape (`confD`: every slot filled, scalars within
their Go width, ids empty-or-n-bytes, one-ofs well formed at any depth), and what the API observes of it (`canon`) conforms. -/
theorem C08_decode_canonical (S : Schema) (D : List Val) (r : List Nat) (hwf : WF S D = true) (hr : reqRankOk S r = true)
    (m : Nat) (b : Bytes) (v : Val) (hd : decode S D m b = some v) :
    confD S (.slots (S.slots m)) v = true ∧ Conforms S m (canon S (.slots (S.slots m)) v) := by
  have hdef : ∀ sub, confD S (.slots (S.slots sub)) (D.getD sub .nil) = true :=
    fun sub => defaults_confD S D r (wf_slots hwf) (wf_defaults hwf) hr sub
  have h := decMsg_confD S D (wf_slots hwf) hdef m _ b v (hdef m) hd
  exact ⟨h, canon_conf S _ v h⟩

/-- The fixed point of `decode` followed by ANY post-processing `g` that keeps the decoder shape and is stationary on what the API
observes: `g = id` is the generated `Unmarshal` alone, `g = migrate` an entry point that runs `otlp.Migrate*`. -/
theorem fixpoint_post (S : Schema) (D : List Val) (r : List Nat) (hwf : WF S D = true) (hr : reqRankOk S r = true) (m : Nat)
    (g : Val → Val)
    (hg : ∀ v, confD S (.slots (S.slots m)) v = true → confD S (.slots (S.slots m)) (g v) = true ∧
      g (canon S (.slots (S.slots m)) (g v)) = canon S (.slots (S.slots m)) (g v))
    (b : Bytes) (w : Val) (hd : (decode S D m b).map g = some w) (hlen : (encode S m w).length < 2 ^ 63) :
    encode S m (canon S (.slots (S.slots m)) w) = encode S m w ∧
    (decode S D m (encode S m w)).map g = some (canon S (.slots (S.slots m)) w) ∧
    (decode S D m (encode S m (canon S (.slots (S.slots m)) w))).map g = some (canon S (.slots (S.slots m)) w) := by
  have he : encode S m (canon S (.slots (S.slots m)) w) = encode S m w := canon_enc S _ w
  simp only [Option.map_eq_some_iff] at hd
  obtain ⟨v, hv, rfl⟩ := hd
  obtain ⟨hgv, hst⟩ := hg v (C08_decode_canonical S D r hwf hr m b v hv).1
  have hrt := C08_pb_roundtrip S D hwf m _ (canon_conf S _ _ hgv) (by rw [he]; exact hlen)
  exact ⟨he, by rw [← he, hrt, Option.map_some, hst], by rw [hrt, Option.map_some, hst]⟩

/-- **Fixed point.** For every byte string that decodes, the bytes `b1` of the result decode to the canonical value `c`, `c` encodes to
`b1` again, and decoding that returns `c`: `decode ∘ encode` is stationary after one step, at value and at byte level. -/
theorem C08_total_fixpoint (S : Schema) (D : List Val) (r : List Nat) (hwf : WF S D = true) (hr : reqRankOk S r = true)
    (m : Nat) (b : Bytes) (v : Val) (hd : decode S D m b = some v) (hlen : (encode S m v).length < 2 ^ 63) :
    encode S m (canon S (.slots (S.slots m)) v) = encode S m v ∧
    decode S D m (encode S m v) = some (canon S (.slots (S.slots m)) v) ∧
    decode S D m (encode S m (canon S (.slots (S.slots m)) v)) = some (canon S (.slots (S.slots m)) v) := by
  simpa using fixpoint_post S D r hwf hr m id (fun v hv => ⟨hv, rfl⟩) b v (by simpa using hd) hlen

/-- … for OTLP: every byte string offered to any of the protobuf unmarshalers. -/
theorem C08_total_fixpoint_otlp (m : Nat) (b : Bytes) (v : Val) (hd : decode otlp otlpD m b = some v)
    (hlen : (encode otlp m v).length < 2 ^ 63) :
    decode otlp otlpD m (encode otlp m v) = some (canon otlp (.slots (otlp.slots m)) v) ∧
    decode otlp otlpD m (encode otlp m (canon otlp (.slots (otlp.slots m)) v)) = some (canon otlp (.slots (otlp.slots m)) v) :=
  (C08_total_fixpoint otlp otlpD _ C08_schema_wf C08_schema_rank m b v hd hlen).2

/-! ## migration; export request / response wrappers -/

/-- **`otlp.Migrate*` is idempotent** on every payload whose deprecated list slot holds a list, for any schema in which fields 2 and
1000 of the resource message are different slots (`MigOk`; a stand-alone fact: the root fixed points go through `migrate_canon_migrate`). -/
theorem C08_migrate_idem (S : Schema) (m : Nat) (v : Val)
    (h : ∀ f rest r, S.slots m = .one f :: rest → f.ty = .msg r → MigOk (S.slots r) (Val.get v 0)) :
    migrate S m (migrate S m v) = migrate S m v := by
  rcases migrate_cases S m with hid | ⟨f, rest, r, hs, hty⟩
  · rw [hid, hid]
  · obtain ⟨hne, hch⟩ := h f rest r hs hty
    simp only [migrate_eq hs hty]
    rcases get_set_self_or v 0 (mapChain (migrateRes (S.slots r)) (Val.get v 0)) with h1 | ⟨_, h2⟩
    · rw [h1, set_set, mapChain_idem _ _ (fun x hx => migrateRes_idem _ x hne (hch x hx))]
    · rw [h2]; exact h2

/-- … and leaves a payload without deprecated data untouched. -/
theorem C08_migrate_noop (S : Schema) (m : Nat) (v : Val)
    (h : ∀ f rest r, S.slots m = .one f :: rest → f.ty = .msg r → ∀ rv, rv ∈ Val.toList (Val.get v 0) →
      (∀ d, slotIdx (S.slots r) 1000 = some d → Val.get rv d = .nil) ∧
      (∀ i, slotIdx (S.slots r) 2 = some i → chainy (Val.get rv i))) :
    migrate S m v = v :=
  migrate_noop_of_res S m v fun f rest r hs hty x hx => migrateRes_noop _ x fun d hd => ⟨(h f rest r hs hty x hx).1 d hd, (h f rest r hs hty x hx).2⟩

/-- in the regenerated schema the regular (2) and the deprecated (1000) scope list are different slots of every message
that has both -/
theorem C08_migrate_slots_distinct :
    otlp.msgs.all (fun msg => match slotIdx msg.slots 2, slotIdx msg.slots 1000 with
      | some i, some d => i != d
      | _, _ => true) = true := by decide +kernel

/-- **Wrappers, protobuf.** For every root (four `*Data` payloads, four `Export*ServiceRequest`s, four `Export*ServiceResponse`s):
decoding what the wrapper marshalled returns the original, for every conforming payload without deprecated data (`migrate v = v`,
`C08_migrate_noop`). -/
theorem C08_wrappers_pb (S : Schema) (D : List Val) (hwf : WF S D = true) (root : String) (m : Nat) (v : Val)
    (hc : Conforms S m v) (hlen : (encode S m v).length < 2 ^ 63) (hm : migratesPb root = true → migrate S m v = v) :
    decodeRoot S D root m (encode S m v) = some v := by
  rw [decodeRoot, C08_pb_roundtrip S D hwf m v hc hlen]
  cases hr : migratesPb root
  · simp
  · simp [hm hr]

/-- **Wrappers, JSON.** The same through `MarshalJSON` / `UnmarshalJSON` of every root, up to NaN canonicalisation. -/
theorem C08_wrappers_json (S : Schema) (D : List Val) (T : Txt) (hwf : WF S D = true) (hj : JWF S = true) (hT : TxtLaws T)
    (root : String) (m : Nat) (v : Val) (hc : Conforms S m v) (hcov : jcov S m (.slots (S.slots m)) v = true)
    (hm : migratesJson root = true → migrate S m (normV S (.slots (S.slots m)) v) = normV S (.slots (S.slots m)) v) :
    fromJsonRoot S T D root m (toJson S T m v) = some (normV S (.slots (S.slots m)) v) := by
  rw [fromJsonRoot, C08_json_roundtrip S D T hwf hj hT m v hc hcov]
  cases hr : migratesJson root
  · simp
  · simp [hm hr]

/-! ## the concrete text codecs -/

/-- **Decimal, hex and base64 are proved**: the model's concrete codecs (`strconv` decimal integers, `encoding/hex`, `encoding/base64`
std with padding — the ones the driver runs against the real code) satisfy every law the JSON theorems use; the float64 text pair
remains a hypothesis. -/
theorem C08_txt_laws (ffmt : Nat → List Nat) (fparse : List Nat → Option Nat) (h : FloatLaws ffmt fparse) :
    TxtLaws (mkTxtF ffmt fparse) where
  undec_dec := undec_dec
  dec_nosign := dec_nosign
  dec_noplus := dec_noplus
  jnum_dec := jiter_dec
  fparse_ffmt := h.fparse_ffmt
  fparse_nan := h.fparse_nan
  fparse_pinf := h.fparse_pinf
  fparse_ninf := h.fparse_ninf
  unb64_b64 := b64Read_b64enc
  unhex_hex := hexDec_hexEnc
  hex_length := hexEnc_length
  hex_noquote := hexEnc_noquote

/-! ## ids in hex, bytes in base64, as the code does them -/

/-- **Trace/span/profile ids in JSON, as `pdata/internal/data/{traceid,spanid,profileid,bytesid}.go` do it**, for ANY id size `n` and
every `n`-byte id `p`: (1) `UnmarshalJSON(MarshalJSON p) = p` — the zero id through `""`, any other through its `2n` lower-case hex
digits; (2) the same with the literal quotes `MarshalJSON` returns; (3) upper-case digits give the same result (`hex.Decode`); (4) a
non-empty text is REJECTED when `len/2 ≠ n`, when its length is odd, or when it holds a non-hex byte; (5) the model's id reader after the
model's id writer (zero id ≡ empty) is the identity (`readLeaf_id_eq`). -/
theorem C08_hexid_roundtrip (n : Nat) (p : List Nat) (hl : p.length = n) (hb : bytesOk p = true) :
    idUnmarshalJSON n (idMarshalJSON p) = some p ∧
    idUnmarshalJSON n (34 :: idMarshalJSON p ++ [34]) = some p ∧
    idUnmarshalJSON n ((idMarshalJSON p).map hexUp) = some p ∧
    (∀ t, (stripQuotes t).isEmpty = false →
      ((stripQuotes t).length / 2 ≠ n ∨ (stripQuotes t).length % 2 = 1 ∨ ∃ c ∈ stripQuotes t, hexVal c = none) →
      idUnmarshalJSON n t = none) ∧
    (∀ (S : Schema) (ffmt : Nat → List Nat) (fparse : List Nat → Option Nat),
      readLeaf S (mkTxtF ffmt fparse) (.id n) (leafJson (mkTxtF ffmt fparse) (.id n) (.bytes (if allZero p then [] else p)))
        = some (.bytes (if allZero p then [] else p))) := by
  have hrt := idJSON_roundtrip n p hl hb
  refine ⟨hrt, ?_, ?_, ?_, ?_⟩
  · -- quoted
    have : idUnmarshalJSON n (34 :: idMarshalJSON p ++ [34]) = idUnmarshalJSON n (idMarshalJSON p) := by
      have hs : stripQuotes (idMarshalJSON p) = idMarshalJSON p := by
        unfold idMarshalJSON; split
        · rfl
        · exact hexEnc_noquote p
      simp only [idUnmarshalJSON, stripQuotes_quoted, hs]
    rw [this]; exact hrt
  · -- upper case
    by_cases hz : allZero p = true
    · have : (idMarshalJSON p).map hexUp = idMarshalJSON p := by simp [idMarshalJSON, hz]
      rw [this]; exact hrt
    · have hm : idMarshalJSON p = hexEnc p := by simp [idMarshalJSON, hz]
      have hs : stripQuotes ((hexEnc p).map hexUp) = (hexEnc p).map hexUp := by
        apply stripQuotes_noquote
        cases p with
        | nil => simp [hexEnc]
        | cons x xs => simp [hexEnc, hexChar_up_ne_quote]
      have hs0 : stripQuotes (hexEnc p) = hexEnc p := hexEnc_noquote p
      rw [hm] at hrt ⊢
      simp only [idUnmarshalJSON, hs, hs0, List.isEmpty_map, List.length_map, hexDec_map_hexUp] at hrt ⊢
      exact hrt
  · -- rejections
    intro t hne hbad
    simp only [idUnmarshalJSON, hne, Bool.false_eq_true, if_false]
    rcases hbad with h | h | ⟨c, hc, hv⟩
    · have : n ≠ (stripQuotes t).length / 2 := fun hh => h hh.symm
      simp [this]
    · split
      · rfl
      · exact hexDec_odd _ h
    · split
      · rfl
      · cases hd : hexDec (stripQuotes t) with
        | none => rfl
        | some b => have := (hexDec_spec _ b hd).2.2 c hc; simp [hv] at this
  · intro S ffmt fparse
    have : leafJson (mkTxtF ffmt fparse) (.id n) (.bytes (if allZero p then [] else p)) = .str (idMarshalJSON p) := by
      unfold idMarshalJSON
      by_cases hz : allZero p = true <;> simp [hz, leafJson, mkTxtF, hexEnc]
    rw [this, readLeaf_id_eq, hrt]; rfl

/-- … instantiated at the REGENERATED id sizes (`Gen.OtlpSchemaX.idTypes`: TraceID 16, SpanID 8, ProfileID 16) -/
theorem C08_hexid_roundtrip_otlp (ty : String) (n : Nat) (_h : (ty, n) ∈ Gen.OtlpSchemaX.idTypes) (p : List Nat)
    (hl : p.length = n) (hb : bytesOk p = true) : idUnmarshalJSON n (idMarshalJSON p) = some p :=
  (C08_hexid_roundtrip n p hl hb).1

/-- non-vacuity: a span id with a single non-zero byte, and the zero trace id -/
example : ("data.SpanID", 8) ∈ Gen.OtlpSchemaX.idTypes ∧ idMarshalJSON [0, 0, 0, 0, 0, 0, 0, 171] = str "00000000000000ab" ∧
    idUnmarshalJSON 8 (str "00000000000000AB") = some [0, 0, 0, 0, 0, 0, 0, 171] ∧
    idUnmarshalJSON 16 (idMarshalJSON (List.replicate 16 0)) = some (List.replicate 16 0) := by decide +kernel

/-- **base64, as the reader does it**, for EVERY byte string: `DecodeString(EncodeToString b) = b`; `\r`/`\n` are ignored wherever they
stand; a text whose length (without them) is not a multiple of four — an UNPADDED one — is rejected; so is any character outside the
std alphabet (the url-safe `-`, `_`); the model's `bytes` reader is exactly this function on the string content (`null` ↦ empty). -/
theorem C08_base64_roundtrip (b : List Nat) (hb : bytesOk b = true) :
    b64Read (b64enc b) = some b ∧
    (∀ pre post, b64Read (pre ++ 10 :: post) = b64Read (pre ++ post) ∧ b64Read (pre ++ 13 :: 10 :: post) = b64Read (pre ++ post)) ∧
    (∀ t, (t.filter (fun c => c != 10 && c != 13)).length % 4 ≠ 0 → b64Read t = none) ∧
    (∀ t c, c ∈ t → c ≠ 10 → c ≠ 13 → c ≠ 61 → b64val c = none → b64Read t = none) ∧
    (b64val 45 = none ∧ b64val 95 = none ∧ b64val 32 = none) ∧
    (∀ (S : Schema) (ffmt : Nat → List Nat) (fparse : List Nat → Option Nat) (t : List Nat),
      readLeaf S (mkTxtF ffmt fparse) .bytes (.str t) = (b64Read t).map .bytes) ∧
    (∀ (S : Schema) (ffmt : Nat → List Nat) (fparse : List Nat → Option Nat),
      readLeaf S (mkTxtF ffmt fparse) .bytes (leafJson (mkTxtF ffmt fparse) .bytes (.bytes b)) = some (.bytes b)) := by
  refine ⟨b64Read_b64enc b hb, ?_, ?_, ?_, by decide, ?_, ?_⟩
  · intro pre post
    constructor <;> simp [b64Read, List.filter_append]
  · intro t hlen
    cases hd : b64Read t with
    | none => rfl
    | some out => exact absurd (b64dec_spec _ out hd).2.1 hlen
  · intro t c hc h1 h2 h3 hv
    cases hd : b64Read t with
    | none => rfl
    | some out =>
      rcases b64Read_chars t out hd c hc with h | h | h | h
      · exact absurd h h1
      · exact absurd h h2
      · exact absurd h h3
      · simp [hv] at h
  · intro S ffmt fparse t; rfl
  · intro S ffmt fparse
    simp [readLeaf, leafJson, mkTxtF, b64Read_b64enc b hb]

/-- non-vacuity: padded accepted, unpadded / url-safe / padding-in-the-middle rejected, `\n` ignored also inside the padding,
non-zero trailing bits tolerated -/
example : b64Read (str "QUI=") = some [65, 66] ∧ b64Read (str "QUI") = none ∧ b64Read (str "-_-_") = none ∧
    b64Read (str "QQ==QUJD") = none ∧ b64Read [81, 81, 61, 10, 61] = some [65] ∧ b64Read (str "QR==") = some [65] := by decide +kernel

/-! ## malformed ids -/

/-- **Wrong-length id ⇒ error.** An id whose text (after the optional pair of literal quotes the reader strips) is non-empty and not
exactly `2·n` characters is rejected by the id reader, whatever its characters, for every text codec (`bytesid.go unmarshalJSON`:
`len(dst) != hex.DecodedLen(nLen)`). -/
theorem C08_json_id_wrong_length (S : Schema) (T : Txt) (n : Nat) (b : List Nat)
    (h0 : (stripQuotes b).isEmpty = false) (hl : (stripQuotes b).length ≠ 2 * n) :
    readLeaf S T (.id n) (.str b) = none := by
  simp [readLeaf, h0, hl]

/-- … and so is the whole document: such a member makes `fromJ` fail (no partial result), wherever it sits in the message. -/
theorem C08_json_bad_id_rejected (S : Schema) (T : Txt) (D : List Val) (m : Nat) (acc : Val) (k b : List Nat) (tl : Json)
    (hit : Hit) (n : Nat)
    (hkey : (jsonKeysOf S m).any (fun s => str s == k) = true) (hfind : findKey (S.slots m) 0 k = some hit)
    (hty : hit.f.ty = .id n) (halt : hit.alt = false) (hcard : hit.f.card = .req)
    (h0 : (stripQuotes b).isEmpty = false) (hl : (stripQuotes b).length ≠ 2 * n) :
    fromJ S T D m acc (.ocons k (.str b) tl) = none := by
  rw [fromJ_step S T D m acc k _ tl hit hkey hfind]
  simp [slotRead, readElem, hty, halt, hcard, C08_json_id_wrong_length S T n b h0 hl]

/-! ## unknown members: skipped, but not unread -/

/-- **An unknown member is skipped exactly when `iter.Skip()` accepts its value**: for a key no `case` of the reader names, the member
contributes nothing and the rest of the object is read — unless the value (at any depth) holds a number literal that the fast scanner
hands to `ReadFloat64` and `strconv.ParseFloat` rejects (`1e400`): then the WHOLE document is an error. -/
theorem C08_json_unknown_member (S : Schema) (T : Txt) (D : List Val) (m : Nat) (acc : Val) (k : List Nat) (v tl : Json)
    (hkey : (jsonKeysOf S m).any (fun s => str s == k) = false) :
    fromJ S T D m acc (.ocons k v tl) = if skipOk T v then fromJ S T D m acc tl else none :=
  fromJ_skip S T D m acc k v tl (Or.inl hkey)

/-- a number literal without an exponent mark is never handed to the float reader: skipping it cannot fail, whatever its magnitude -/
theorem C08_json_skip_plain_number (T : Txt) (t : List Nat) (h : skipNeedsFloat t = false) : skipOk T (.num t) = true := by
  simp [skipOk, h]

/-- strings, `true` / `false` / `null`, empty containers always skip; containers skip iff every value inside does -/
theorem C08_json_skip_structural (T : Txt) (b k : List Nat) (h v t : Json) :
    skipOk T (.str b) = true ∧ skipOk T .null = true ∧ skipOk T .tt = true ∧ skipOk T .ff = true ∧
    skipOk T .anil = true ∧ skipOk T .onil = true ∧
    skipOk T (.acons h t) = (skipOk T h && skipOk T t) ∧ skipOk T (.ocons k v t) = (skipOk T v && skipOk T t) := by
  simp [skipOk]

/-- non-vacuity: `1e400` and `1E+2` go to the float reader, `5`, `-7`, `2.5` and a 23-digit integer do not -/
example : skipNeedsFloat (str "1e400") = true ∧ skipNeedsFloat (str "1E+2") = true ∧ skipNeedsFloat (str "5") = false ∧
    skipNeedsFloat (str "-7") = false ∧ skipNeedsFloat (str "2.5") = false ∧
    skipNeedsFloat (str "12345678901234567890123") = false := by decide

/-! ## payloads built through the public API -/

/-- regenerated reader tables: every field that is not a `Deprecated*` repeated list has its `case` (both in a one-of or plain) -/
theorem C08_api_cov : covOk otlp = true :=
  otlp_tables.cov

/-- wherever a message has field 1000 it is a `Deprecated*` repeated list and field 2 is a repeated list -/
theorem C08_api_mig_shape : migShapeOk otlp = true := by decide +kernel

/-- every root on which some decode path migrates starts with the repeated resource list -/
theorem C08_api_roots : otlp.roots.all (fun rm => !(migratesPb rm.1 || migratesJson rm.1) ||
    (match otlp.slots rm.2 with | .one f :: _ => f.card == .rep | _ => false)) = true := by decide +kernel

/-- from `C08_api_roots`, in the form the `_otlp` theorems take -/
theorem otlp_root_first {root : String} {m : Nat} (hroot : (root, m) ∈ otlp.roots)
    (hmig : migratesPb root = true ∨ migratesJson root = true) :
    ∀ f rest, otlp.slots m = .one f :: rest → f.card = .rep := by
  intro f rest hs
  have hrm := List.all_eq_true.mp C08_api_roots (root, m) hroot
  simp only [Bool.or_eq_true, Bool.not_eq_true', Bool.or_eq_false_iff] at hrm
  rcases hrm with ⟨h1, h2⟩ | h3
  · rcases hmig with hh | hh
    · rw [h1] at hh; cases hh
    · rw [h2] at hh; cases hh
  · rw [hs] at h3; simpa using h3

/-- **`apiVal` implies `jcov`**: a payload built through the public API is JSON-representable, for every schema whose readers cover
all non-deprecated fields. -/
theorem C08_api_jcov (S : Schema) (hcov : covOk S = true) (m : Nat) (v : Val)
    (ha : apiVal S (.slots (S.slots m)) v = true) : jcov S m (.slots (S.slots m)) v = true :=
  jcov_of_apiVal S (fun m s hs => covOk_mem hcov m s hs) m _ v ha (fun s hs => covOk_mem hcov m s hs)

/-- **JSON round trip for OTLP, no side hypothesis**: every payload built through the public pdata API (`ApiBuilt`) of every signal /
wrapper message comes back from `UnmarshalJSON(MarshalJSON(v))` as `v` with NaNs canonicalised. -/
theorem C08_json_roundtrip_otlp_api (T : Txt) (hT : TxtLaws T) (m : Nat) (v : Val) (h : ApiBuilt otlp m v) :
    fromJson otlp T otlpD m (toJson otlp T m v) = some (normV otlp (.slots (otlp.slots m)) v) :=
  C08_json_roundtrip_otlp T hT m v h.1 (C08_api_jcov otlp C08_api_cov m v h.2)

/-- **All public entry points, both codecs, no side hypothesis**: for every root of the regenerated schema and every payload built
through the public API, the protobuf entry point returns the payload and the JSON entry point returns it with NaNs canonicalised —
`otlp.Migrate*` is a no-op on such payloads (`migrate_noop_api`). -/
theorem C08_wrappers_otlp_api (T : Txt) (hT : TxtLaws T) (root : String) (m : Nat) (hroot : (root, m) ∈ otlp.roots)
    (v : Val) (h : ApiBuilt otlp m v) (hlen : (encode otlp m v).length < 2 ^ 63) :
    decodeRoot otlp otlpD root m (encode otlp m v) = some v ∧
    fromJsonRoot otlp T otlpD root m (toJson otlp T m v) = some (normV otlp (.slots (otlp.slots m)) v) := by
  have hfirst := fun hmig => otlp_root_first hroot hmig
  constructor
  · exact C08_wrappers_pb otlp otlpD C08_schema_wf root m v h.1 hlen
      (fun hm => migrate_noop_api otlp C08_api_mig_shape m v (hfirst (Or.inl hm)) h.1 h.2)
  · exact C08_wrappers_json otlp otlpD T C08_schema_wf C08_json_wf hT root m v h.1
      (C08_api_jcov otlp C08_api_cov m v h.2)
      (fun hm => migrate_noop_api otlp C08_api_mig_shape m _ (hfirst (Or.inr hm))
        (conf_normV otlp _ v h.1) (apiVal_normV otlp _ v h.2))

/-! ## a non-zero id is always written -/

/-- **Non-zero id ⇒ encoded, in both codecs.** For an id field (`TraceID`/`SpanID`/`ProfileID`, always `nullable=false`) holding a
conforming non-empty `b` — exactly `n` bytes, NOT all zero, wherever the non-zero byte sits — the protobuf marshaler writes tag, length
and all `n` bytes, the JSON marshaler the hex string of all `n` bytes. -/
theorem C08_id_nonzero_encoded (S : Schema) (T : Txt) (f : Field) (n : Nat) (b : List Nat)
    (hty : f.ty = .id n) (hcard : f.card = .req) (hb : b ≠ [])
    (hc : conf S false (.slot (.one f)) (.bytes b) = true) :
    b.length = n ∧ allZero b = false ∧
    enc S (.slot (.one f)) (.bytes b) = tag f.num 2 ++ lenPrefixed b ∧
    toJ S T (.slot (.one f)) (.bytes b) = .str (T.hex b) := by
  have hty' : ∀ sub, f.ty ≠ .msg sub := by intro sub h; rw [hty] at h; cases h
  rw [conf_slot_one] at hc
  simp only [hcard] at hc
  rw [conf_elem_leaf S false f _ hty', hty] at hc
  simp only [leafOk, Bool.or_eq_true, Bool.and_eq_true, beq_iff_eq, Bool.not_eq_true', List.isEmpty_iff] at hc
  rcases hc with h0 | ⟨hl, hz⟩
  · exact absurd h0 hb
  · refine ⟨hl, hz, ?_, ?_⟩
    · rw [enc_slot_one]; simp only [hcard]
      rw [enc_elem_leaf S f _ hty', hty]; simp [wireType, leaf, isScalar]
    · rw [toJ_slot_one]; simp only [hcard]
      rw [toJ_elem_leaf S T f _ hty', hty]; rfl

/-! ## fixed point through the public protobuf entry points -/

/-- wherever a message has fields 2 and 1000 they are different repeated slots of the same element type -/
theorem C08_migrate_shape2 : migShape2Ok otlp = true := by decide +kernel

/-- **Fixed point at root level, for EVERY byte string** — including inputs with the deprecated field 1000, on which `otlp.Migrate*`
really moves data: if the entry point of `root` decodes `b` to `w`, the bytes of `w` decode *through the same entry point* to
`c = canon w`; `c` encodes to the same bytes and decodes to itself.  `fixpoint_post` at `g = migrate` (`confD_migrate`,
`migrate_canon_migrate`). -/
theorem C08_total_fixpoint_root (S : Schema) (D : List Val) (r : List Nat) (hwf : WF S D = true) (hr : reqRankOk S r = true)
    (hsh : migShape2Ok S = true) (root : String) (m : Nat)
    (hfirst : migratesPb root = true → ∀ f rest, S.slots m = .one f :: rest → f.card = .rep)
    (b : Bytes) (w : Val) (hd : decodeRoot S D root m b = some w) (hlen : (encode S m w).length < 2 ^ 63) :
    encode S m (canon S (.slots (S.slots m)) w) = encode S m w ∧
    decodeRoot S D root m (encode S m w) = some (canon S (.slots (S.slots m)) w) ∧
    decodeRoot S D root m (encode S m (canon S (.slots (S.slots m)) w)) = some (canon S (.slots (S.slots m)) w) := by
  refine fixpoint_post S D r hwf hr m _ (fun v hv => ?_) b w hd hlen
  cases hmig : migratesPb root
  · exact ⟨hv, rfl⟩
  · exact ⟨confD_migrate S hsh m v (hfirst hmig) hv, migrate_canon_migrate S hsh m v (hfirst hmig) hv⟩

/-- … for every public protobuf entry point of OTLP (4 payload unmarshalers, 4 export requests, 4 export responses). -/
theorem C08_total_fixpoint_root_otlp (root : String) (m : Nat) (hroot : (root, m) ∈ otlp.roots) (b : Bytes) (w : Val)
    (hd : decodeRoot otlp otlpD root m b = some w) (hlen : (encode otlp m w).length < 2 ^ 63) :
    decodeRoot otlp otlpD root m (encode otlp m w) = some (canon otlp (.slots (otlp.slots m)) w) ∧
    decodeRoot otlp otlpD root m (encode otlp m (canon otlp (.slots (otlp.slots m)) w))
      = some (canon otlp (.slots (otlp.slots m)) w) := by
  have hfirst := fun hmig => otlp_root_first hroot (Or.inl hmig)
  exact (C08_total_fixpoint_root otlp otlpD _ C08_schema_wf C08_schema_rank C08_migrate_shape2 root m hfirst b w hd hlen).2

/-! ## static ties: readers, id sizes, helpers, jsonpb -/

/-- **Every `case` of every hand-written JSON reader assigns the field named by its labels, through the `Read*` helper the model
assumes for that field's type**: regenerated per clause (labels, assigned Go field, helper calls) and decided against the schema —
`label ↦ field`, `64-bit ↦ json.ReadInt64/ReadUint64`, `enum ↦ json.ReadEnumValue`, `bytes ↦ base64`,
`id ↦ UnmarshalJSON`, `sint32 ↦ iter.ReadInt32`, repeated ↦ `ReadArrayCB`, message ↦ its reader. -/
theorem C08_json_readers_typed : readersOk otlp Gen.OtlpSchema.readers = true :=
  otlp_tables.readers

/-- **Unknown members are skipped by every reader** (tie for `fromJ_skip`): regenerated per reader — the `default:` clause of the key
switch is exactly `iter.Skip()` on the callback's iterator and the callback's only `return` is the trailing `return true`.
One entry per message. -/
theorem C08_json_readers_skip_unknown :
    List.all Gen.OtlpSchemaX.readerDefaults (fun r => r.2.1 == "skip" && r.2.2) = true ∧
    List.map (·.1) Gen.OtlpSchemaX.readerDefaults = otlp.msgs.map (·.name) :=
  otlp_tables.skip

/-- **Id sizes are regenerated**: the `n` of every `Ty.id n` field is the `const <x>Size` of its Go customtype in
`pdata/internal/data/{traceid,spanid,profileid}.go` (the translator also pins the code of their six methods and of `bytesid.go` to the
shape `Ty.id` models, exit 2 otherwise). -/
theorem C08_id_sizes_tie :
    List.map (·.1) Gen.OtlpSchemaX.idTypes = ["data.ProfileID", "data.SpanID", "data.TraceID"] ∧
    otlp.msgs.all (fun m => (fieldsOf m).all (fun f => match f.ty with
      | .id n => (List.map (·.2) Gen.OtlpSchemaX.idTypes).contains n
      | _ => true)) = true := by
  constructor <;> decide +kernel

/-- **Per-package copies of the varint helpers**: every `*.pb.go` carries its own `encodeVarint<X>` / `sov<X>` / `soz<X>` / `skip<X>`;
the model has ONE `varint` / `sov` (`C08_sov_formula`) / `skipLoop`.  The translator compares each copy, suffix renamed away, with the
shape `Model/Wire.lean` has (exit 2 otherwise) and lists the packages that passed. -/
theorem C08_pb_helpers_tie :
    otlp.msgs.all (fun m => List.any Gen.OtlpSchemaX.pbHelperPkgs (fun p => (p ++ ".").toList.isPrefixOf m.name.toList)) = true ∧
    List.all Gen.OtlpSchemaX.pbHelperPkgs (fun p => otlp.msgs.any (fun m => (p ++ ".").toList.isPrefixOf m.name.toList)) = true :=
  otlp_tables.helpers

/-- **The jsonpb configuration `toJ` models**: the `jsonpb.Marshaler{…}` literal of `pdata/internal/json/json.go`, regenerated — enums
as numbers, lowerCamel names, defaults omitted, no indentation, no other field; `json.Marshal` is `marshaler.Marshal(out, pb)`
(translator, exit 2). -/
theorem C08_jsonpb_config_tie :
    List.lookup "EnumsAsInts" Gen.OtlpSchemaX.jsonpbConfig = some "true" ∧
    (List.lookup "OrigName" Gen.OtlpSchemaX.jsonpbConfig).getD "false" = "false" ∧
    (List.lookup "EmitDefaults" Gen.OtlpSchemaX.jsonpbConfig).getD "false" = "false" ∧
    (List.lookup "Indent" Gen.OtlpSchemaX.jsonpbConfig).getD "\"\"" = "\"\"" ∧
    List.all Gen.OtlpSchemaX.jsonpbConfig (fun kv => ["EnumsAsInts", "OrigName", "EmitDefaults", "Indent"].contains kv.1) = true := by
  decide +kernel

/-! ## observation: `-0.0` in a plain double field comes back as `+0.0` -/

/-- index of `metrics.SummaryDataPoint_ValueAtQuantile` (two plain doubles: `quantile`, `value`) -/
def quantileIdx : Nat := (otlp.msgs.findIdx? (fun m => m.name == "metrics.SummaryDataPoint_ValueAtQuantile")).getD 0

/-- `ValueAtQuantile{Quantile: -0.0, Value: 0}` as the decoder / the setters store it -/
def negZeroQuantile : Val := .cons (.num (2 ^ 63)) (.cons (.num 0) .nil)

/-- lossless **bit for bit** for every decoder-shaped value (`confD` admits the stored `-0.0`; `Conforms` excludes it) -/
def C08_pb_bitwise_full : Prop :=
  ∀ m v, confD otlp (.slots (otlp.slots m)) v = true → (encode otlp m v).length < 2 ^ 63 →
    decode otlp otlpD m (encode otlp m v) = some v

theorem quantile_shape : ∃ f1 f2, otlp.slots quantileIdx = [.one f1, .one f2] ∧
    f1.card = .opt ∧ f1.ty = .double ∧ f2.card = .opt ∧ f2.ty = .double := by
  have h : (match otlp.slots quantileIdx with
      | [.one f1, .one f2] => f1.card == .opt && f1.ty == .double && f2.card == .opt && f2.ty == .double
      | _ => false) = true := by decide +kernel
  split at h
  · next f1 f2 hs =>
    simp only [Bool.and_eq_true, beq_iff_eq] at h
    exact ⟨f1, f2, hs, h.1.1.1, h.1.1.2, h.1.2, h.2⟩
  · cases h

theorem negZero_encodes_empty : encode otlp quantileIdx negZeroQuantile = [] := by
  obtain ⟨f1, f2, hs, hc1, ht1, hc2, ht2⟩ := quantile_shape
  rw [encode, hs, negZeroQuantile, enc_slots_cons, enc_slots_cons, enc_slots_nil]
  simp [enc_slot_one, hc1, ht1, hc2, ht2, isZero]

/-- **Observation (kernel-checked), not a finding**: under a BIT-EXACT reading of "equal" the round trip fails — the generated marshaler
tests a plain double with `!= 0`, false for `-0.0`, so the field is not written and comes back as `+0.0`.  The property's equality is Go's
`==`, which identifies the two zeros (as `Conforms` does); the harness counts `stat negative_zero_sign_lost` and raises nothing. -/
theorem C08_pb_bitwise_full_fails : ¬ C08_pb_bitwise_full := by
  intro h
  obtain ⟨f1, f2, hs, hc1, ht1, hc2, ht2⟩ := quantile_shape
  have hconf : confD otlp (.slots (otlp.slots quantileIdx)) negZeroQuantile = true := by
    rw [hs, negZeroQuantile, confD_slots_cons, confD_slots_cons, confD_slots_nil, confD_slot_one, confD_slot_one]
    simp [hc1, hc2, ht1, ht2, leafOk, scalarOk]
  have := h quantileIdx negZeroQuantile hconf (by rw [negZero_encodes_empty]; decide)
  rw [negZero_encodes_empty, decode, decMsg_nil] at this
  have hd : otlpD.getD quantileIdx .nil = .cons (.num 0) (.cons (.num 0) .nil) := by decide +kernel
  rw [hd] at this
  exact absurd (Option.some.inj this) (by decide)

/-! ## static ties: which entry points migrate, and their steps -/

/-- the resource message of root `m` carries a deprecated field 1000 (otherwise `migrate` is the identity on it) -/
def rootHasDep (S : Schema) (m : Nat) : Bool :=
  match S.slots m with
  | .one f :: _ => (match f.ty with | .msg r => (slotIdx (S.slots r) 1000).isSome | _ => false)
  | _ => false

/-- `migratesPb` / `migratesJson` (Model) agree with the REGENERATED lists of decode entry points that call `otlp.Migrate*`
(`ProtoUnmarshaler.Unmarshal*`, `JSONUnmarshaler.Unmarshal*`, `ExportRequest.UnmarshalProto/UnmarshalJSON`), on every root on which
migration can do anything.  An entry point that forgets `Migrate*` makes this fail statically. -/
theorem C08_migrate_roots_tie : otlp.roots.all (fun rm => !rootHasDep otlp rm.2 ||
    (migratesPb rm.1 == Gen.OtlpSchema.migratesPbRoots.contains rm.1 &&
     migratesJson rm.1 == Gen.OtlpSchema.migratesJsonRoots.contains rm.1)) = true := by decide +kernel

/-- steps of the entry point (root, op) in the regenerated table -/
def entrySteps (eps : List (String × String × List String)) (root op : String) : Option (List String) :=
  (eps.find? (fun e => e.1 == root && e.2.1 == op)).map (·.2.2)

/-- the steps of a direct JSON decode entry point: iterator borrowed and returned, the message reader, the error test -/
def jdecBase : List String := ["BorrowIterator", "ReturnIterator", "unmarshalJsoniter", "iter.Error"]

/-- the pipeline `encode` / `size` / `decodeRoot` / `toJson` / `fromJsonRoot` assume for one root -/
def entryOk (S : Schema) (eps : List (String × String × List String)) (rm : String × Nat) : Bool :=
  let root := rm.1
  let dep := rootHasDep S rm.2
  let direct := fun (r : String) (st : List String) =>
    (st == jdecBase || st == jdecBase ++ ["Migrate"]) && (!dep || ((st == jdecBase ++ ["Migrate"]) == migratesJson r))
  entrySteps eps root "pbenc" == some ["Marshal"] &&
  entrySteps eps root "jenc" == some ["json.Marshal"] &&
  (match entrySteps eps root "size" with
   | some st => st == ["Size"]
   | none => true) &&
  (match entrySteps eps root "pbdec" with
   | some st => (st == ["Unmarshal"] || st == ["Unmarshal", "Migrate"]) &&
                (!dep || ((st == ["Unmarshal", "Migrate"]) == migratesPb root))
   | none => false) &&
  (match entrySteps eps root "jdec" with
   | some [d] =>   -- ExportRequest.UnmarshalJSON delegates to the JSONUnmarshaler of its payload: that one must be direct, and migrate alike
     S.roots.any (fun pr => d == "delegate:" ++ pr.1 && migratesJson root == migratesJson pr.1 &&
       (match entrySteps eps pr.1 "jdec" with
        | some st => direct pr.1 st
        | none => false))
   | some st => direct root st
   | none => false)

/-- **The glue between the modelled core and the public API, entry point by entry point**: the translator lists the steps of each public
(un)marshaler of the 12 roots over a closed vocabulary.  Decided here: marshal = `Marshal` alone (`encode`), size = `Size` alone (`size`;
also every sub-message sizer), JSON marshal = `json.Marshal` alone (`toJson`), protobuf decode = `Unmarshal` then `otlp.Migrate*` (`decodeRoot`), JSON decode = borrow/return
the iterator, the message reader, the `iter.Error` test, then `otlp.Migrate*` (`fromJsonRoot`), or a delegation to the payload's
`JSONUnmarshaler` that migrates alike — `Migrate*` exactly where `migratesPb` / `migratesJson` say ON THE ROOTS THAT HAVE A DEPRECATED FIELD
(`rootHasDep`; elsewhere migration is the identity). -/
theorem C08_entry_points_tie :
    otlp.roots.all (entryOk otlp Gen.OtlpSchemaX.entryPoints) = true ∧
    List.all Gen.OtlpSchemaX.entryPoints (fun e => !("size:".toList.isPrefixOf e.2.1.toList) || e.2.2 == ["Size"]) = true := by
  simp only [isPrefixOf_toList]
  decide +kernel

/-! ## JSON: fixed point, every document tree -/

/-- ties over the regenerated tables: enum values fit `int32`; a reader with a `case` for a proto name has one for the JSON name; no
reader has a `case` for a deprecated list -/
theorem C08_json_fix_ties : enumsOk otlp = true ∧ keysSymOk otlp = true ∧ depUncovOk otlp = true :=
  otlp_tables.jfix

/-- the concrete decoders return well-formed data; for the float parser that is the (assumed) `fparse_lt` -/
theorem C08_txt_out (ffmt : Nat → List Nat) (fparse : List Nat → Option Nat) (hlt : ∀ t n, fparse t = some n → n < 2 ^ 64) :
    TxtOut (mkTxtF ffmt fparse) where
  fparse_lt := hlt
  unb64_bytes := b64Read_out
  unhex_bytes := hexDec_out

/-- **The JSON readers' results are canonical, for EVERY document tree**: a successful `fromJson` returns a decoder-shaped value
(`confD`) that is JSON-representable (`jcov`: only fields with a `case` were written; bytes are bytes). -/
theorem C08_json_decode_canonical (S : Schema) (D : List Val) (T : Txt) (r : List Nat) (hwf : WF S D = true)
    (hr : reqRankOk S r = true) (hcov : covOk S = true) (hsym : keysSymOk S = true) (he : enumsOk S = true) (hTo : TxtOut T)
    (m : Nat) (j : Json) (v : Val) (hd : fromJson S T D m j = some v) : CJ S m v := by
  have hdef : ∀ sub, CJ S sub (D.getD sub .nil) := fun sub =>
    ⟨defaults_confD S D r (wf_slots hwf) (wf_defaults hwf) hr sub,
     defaults_jcov S D r hcov (wf_defaults hwf) hr sub⟩
  have H : JHyp S T D := ⟨wf_slots hwf, hsym, hTo, he, hdef⟩
  have hA := (fromJ_CJ S T D H j.size).1 j (Nat.le_refl _) m (D.getD m .nil) v (hdef m)
  cases j <;> simp only [fromJson] at hd <;> first | exact hA hd | cases hd

/-- **Fixed point (JSON).** For every document tree `j` that the reader of message `m` accepts, with result `v`: `c = canon v` is
conforming, marshalling it and reading it back gives `normV c`, and `normV c` is stationary under marshal → unmarshal.  Arbitrary JSON:
any depth, unknown / duplicate / reordered members, either spelling.  (The lexer, text → tree, is outside: trusted jsoniter.) -/
theorem C08_json_fixpoint (S : Schema) (D : List Val) (T : Txt) (r : List Nat) (hwf : WF S D = true) (hj : JWF S = true)
    (hr : reqRankOk S r = true) (hcov : covOk S = true) (hsym : keysSymOk S = true) (he : enumsOk S = true)
    (hT : TxtLaws T) (hTo : TxtOut T) (m : Nat) (j : Json) (v : Val) (hd : fromJson S T D m j = some v) :
    Conforms S m (canon S (.slots (S.slots m)) v) ∧
    fromJson S T D m (toJson S T m (canon S (.slots (S.slots m)) v))
      = some (normV S (.slots (S.slots m)) (canon S (.slots (S.slots m)) v)) ∧
    fromJson S T D m (toJson S T m (normV S (.slots (S.slots m)) (canon S (.slots (S.slots m)) v)))
      = some (normV S (.slots (S.slots m)) (canon S (.slots (S.slots m)) v)) := by
  have hcan := fun j v => C08_json_decode_canonical S D T r hwf hr hcov hsym he hTo m j v
  obtain ⟨hc, hjc⟩ := hcan j v hd
  have hconf : Conforms S m (canon S (.slots (S.slots m)) v) := canon_conf S _ v hc
  have h1 := C08_json_roundtrip S D T hwf hj hT m _ hconf (jcov_canon S _ v m hjc)
  -- `normV (canon v)` is what the reader returned in `h1`, so it is JSON-representable
  have h2 := C08_json_roundtrip S D T hwf hj hT m _ (conf_normV S _ _ hconf) (hcan _ _ h1).2
  rw [normV_idem] at h2
  exact ⟨hconf, h1, h2⟩

/-- … through the PUBLIC JSON entry points of OTLP: the `otlp.Migrate*` they run is the identity on everything a reader returns (no
reader has a `case` for a deprecated list), so the root-level decode equals `fromJson` and the fixed point above is the entry point's. -/
theorem C08_json_fixpoint_root_otlp (T : Txt) (hT : TxtLaws T) (hTo : TxtOut T) (root : String) (m : Nat)
    (hroot : (root, m) ∈ otlp.roots) (j : Json) (w : Val) (hd : fromJsonRoot otlp T otlpD root m j = some w) :
    fromJson otlp T otlpD m j = some w ∧
    fromJsonRoot otlp T otlpD root m (toJson otlp T m (normV otlp (.slots (otlp.slots m)) (canon otlp (.slots (otlp.slots m)) w)))
      = some (normV otlp (.slots (otlp.slots m)) (canon otlp (.slots (otlp.slots m)) w)) := by
  obtain ⟨he, hsym, hdu⟩ := C08_json_fix_ties
  have hfirst := fun hmig => otlp_root_first hroot (Or.inr hmig)
  have hnoop : ∀ x, CJ otlp m x → (if migratesJson root = true then migrate otlp m x else x) = x := by
    intro x hx
    cases hmig : migratesJson root
    · simp
    · simp only [if_true]; exact migrate_noop_jcov otlp C08_migrate_shape2 hdu m x (hfirst hmig) hx
  simp only [fromJsonRoot, Option.map_eq_some_iff] at hd
  obtain ⟨v, hv, hw⟩ := hd
  have hcj := C08_json_decode_canonical otlp otlpD T _ C08_schema_wf C08_schema_rank C08_api_cov hsym he hTo m j v hv
  rw [hnoop v hcj] at hw
  subst hw
  refine ⟨hv, ?_⟩
  obtain ⟨_, _, h3⟩ := C08_json_fixpoint otlp otlpD T _ C08_schema_wf C08_json_wf C08_schema_rank C08_api_cov hsym he hT hTo m j v hv
  simp only [fromJsonRoot, h3, Option.map_some]
  have hcj2 := C08_json_decode_canonical otlp otlpD T _ C08_schema_wf C08_schema_rank C08_api_cov hsym he hTo m _ _ h3
  rw [hnoop _ hcj2]

/-! ## non-vacuity: an `ApiBuilt` export response of OTLP -/

/-- `ExportLogsServiceResponse{PartialSuccess{RejectedLogRecords: 3, ErrorMessage: "ok"}}` is `ApiBuilt` for the regenerated schema -/
theorem C08_apibuilt_example : ∃ m, otlp.roots.lookup "logsresp" = some m ∧
    ApiBuilt otlp m (.cons (.cons (.num 3) (.cons (.bytes [111, 107]) .nil)) .nil) := by
  have h : (match otlp.roots.lookup "logsresp" with
      | some m => (match otlp.slots m with
        | [.one f] => f.card == .req && !isDep f && (match f.ty with
          | .msg sub => (match otlp.slots sub with
            | [.one a, .one b] => a.card == .opt && a.ty == .i64 && b.card == .opt && b.ty == .string && !isDep a && !isDep b
            | _ => false)
          | _ => false)
        | _ => false)
      | none => false) = true := by decide +kernel
  split at h
  · next m hm =>
    refine ⟨m, hm, ?_⟩
    split at h
    · next f hs =>
      simp only [Bool.and_eq_true, beq_iff_eq, Bool.not_eq_true'] at h
      obtain ⟨⟨hcard, hdep⟩, h3⟩ := h
      split at h3
      · next sub hty =>
        split at h3
        · next a b hss =>
          simp only [Bool.and_eq_true, beq_iff_eq, Bool.not_eq_true'] at h3
          obtain ⟨⟨⟨⟨⟨hca, hta⟩, hcb⟩, htb⟩, hda⟩, hdb⟩ := h3
          constructor
          · rw [Conforms, hs, conf_slots_cons, conf_slots_nil_nil, conf_slot_one]
            simp only [hcard, Bool.and_true]
            rw [conf_elem_msg otlp false f _ sub hty]
            rw [hss, conf_slots_cons, conf_slots_cons, conf_slots_nil_nil, conf_slot_one, conf_slot_one]
            simp [hca, hcb, hta, htb, leafOk, scalarOk]
          · rw [hs, apiVal_slots_cons, apiVal_slot_one]
            simp only [hcard, hdep, Bool.not_false, Bool.true_or, Bool.true_and]
            rw [apiVal_elem_msg otlp f _ sub hty, hss, apiVal_slots_cons, apiVal_slots_cons, apiVal_slot_one, apiVal_slot_one]
            simp only [hca, hcb, hda, hdb, Bool.not_false, Bool.true_or, Bool.true_and]
            rw [apiVal.eq_def]
            simp [hta, htb, apiVal]
        · cases h3
      · cases h3
    · cases h
  · cases h

/-! ## end-to-end: every public entry point refines a small abstract codec specification

The property, stated once, abstractly — payloads `V`, protobuf bytes `B`, JSON documents `J` — and the theorem that each of the 12 public
entry points of OTLP, as modelled by `encode` / `decodeRoot` / `size` / `toJson` / `fromJsonRoot`, satisfies it.  The clauses of C08 are
the fields of `CodecSpec.Holds`; the theorems above are their proofs. -/

/-- one codec endpoint -/
structure CodecSpec (V B J : Type) where
  /-- payloads of the data model (what the public API can build) whose encoding fits a Go slice -/
  ok : V → Prop
  enc : V → B
  dec : B → Option V
  size : V → Nat
  len : B → Nat
  jenc : V → J
  jdec : J → Option V
  /-- JSON's representative of a payload (every NaN is `math.NaN()`; identity on NaN-free payloads) -/
  jeq : V → V
  /-- what the API observes of a decoded value (`-0.0` of a plain proto3 double reads as `+0.0`) -/
  obs : V → V
  /-- a decoded value whose re-encoding fits a Go slice -/
  small : V → Prop

/-- the property C08 for one endpoint -/
structure CodecSpec.Holds {V B J : Type} (C : CodecSpec V B J) : Prop where
  /-- decoding what the protobuf marshaler produced yields the original -/
  lossless_pb : ∀ v, C.ok v → C.dec (C.enc v) = some v
  /-- the reported size is the length of the encoding -/
  size_exact : ∀ v, C.size v = C.len (C.enc v)
  /-- decoding what the JSON marshaler produced yields the original (up to the NaN payload) -/
  lossless_json : ∀ v, C.ok v → C.jdec (C.jenc v) = some (C.jeq v)
  /-- the two encodings agree: protobuf of the JSON-decoded value = protobuf of the original -/
  consistent : ∀ v, C.ok v → ∀ v', C.jdec (C.jenc v) = some v' → C.enc v' = C.enc (C.jeq v)
  /-- whatever decodes successfully from ARBITRARY bytes re-encodes to a fixed point -/
  fixpoint_pb : ∀ b w, C.dec b = some w → C.small w →
    C.dec (C.enc w) = some (C.obs w) ∧ C.dec (C.enc (C.obs w)) = some (C.obs w)
  /-- whatever decodes successfully from an ARBITRARY JSON document re-encodes to a fixed point -/
  fixpoint_json : ∀ j w, C.jdec j = some w → C.jdec (C.jenc (C.jeq (C.obs w))) = some (C.jeq (C.obs w))

/-- the model of the public entry point `root` (message `m`) of OTLP as a codec endpoint -/
def otlpCodec (T : Txt) (root : String) (m : Nat) : CodecSpec Val Bytes Json where
  ok v := ApiBuilt otlp m v ∧ (encode otlp m v).length < 2 ^ 63
  enc := encode otlp m
  dec := decodeRoot otlp otlpD root m
  size := size otlp m
  len := List.length
  jenc := toJson otlp T m
  jdec := fromJsonRoot otlp T otlpD root m
  jeq := normV otlp (.slots (otlp.slots m))
  obs := canon otlp (.slots (otlp.slots m))
  small w := (encode otlp m w).length < 2 ^ 63

/-- **Refinement.** Every public entry point of the regenerated OTLP schema satisfies the abstract specification, for every lawful text
codec (only its float pair is assumed, `C08_txt_laws`) — through `otlp.Migrate*` where the entry point calls it. -/
theorem C08_refines_spec (T : Txt) (hT : TxtLaws T) (hTo : TxtOut T) (root : String) (m : Nat) (hroot : (root, m) ∈ otlp.roots) :
    (otlpCodec T root m).Holds where
  lossless_pb := fun v hv => (C08_wrappers_otlp_api T hT root m hroot v hv.1 hv.2).1
  size_exact := fun v => C08_size otlp m v
  lossless_json := fun v hv => (C08_wrappers_otlp_api T hT root m hroot v hv.1 hv.2).2
  consistent := fun v hv v' h => by
    have h2 := (C08_wrappers_otlp_api T hT root m hroot v hv.1 hv.2).2
    simp only [otlpCodec] at h ⊢
    rw [h2] at h
    rw [← Option.some.inj h]
  fixpoint_pb := fun b w hd hs => C08_total_fixpoint_root_otlp root m hroot b w hd hs
  fixpoint_json := fun j w hd => (C08_json_fixpoint_root_otlp T hT hTo root m hroot j w hd).2

/-- non-vacuity of the specification's `ok`: the payload of `C08_apibuilt_example` at the `logsresp` endpoint (8 bytes encoded) -/
example (T : Txt) : ∃ m v, otlp.roots.lookup "logsresp" = some m ∧ (otlpCodec T "logsresp" m).ok v := by
  obtain ⟨m, hm, ha⟩ := C08_apibuilt_example
  refine ⟨m, _, hm, ha, ?_⟩
  have h2 : otlp.roots.lookup "logsresp" = some 2 := by decide +kernel
  rw [h2] at hm
  have hm' : m = 2 := (Option.some.inj hm).symm
  subst hm'
  have hs2 : otlp.slots 2 = [.one { num := 1, go := "PartialSuccess", json := "partialSuccess", orig := "partial_success", ty := .msg 0, card := .req }] := by
    decide +kernel
  have hs0 : otlp.slots 0 = [.one { num := 1, go := "RejectedLogRecords", json := "rejectedLogRecords", orig := "rejected_log_records", ty := .i64 },
      .one { num := 2, go := "ErrorMessage", json := "errorMessage", orig := "error_message", ty := .string }] := by decide +kernel
  rw [← C08_size]
  simp [size, sz, hs2, hs0, leafSize, scalarSize, isZero, isScalar, wireType, sov]

/-! ## with the concrete codecs only the float pair is assumed -/

/-- JSON round trip for OTLP with the concrete codecs: the only assumption left is the float text law. -/
theorem C08_json_roundtrip_otlp_concrete (ffmt : Nat → List Nat) (fparse : List Nat → Option Nat) (h : FloatLaws ffmt fparse)
    (m : Nat) (v : Val) (hc : Conforms otlp m v) (hcov : jcov otlp m (.slots (otlp.slots m)) v = true) :
    fromJson otlp (mkTxtF ffmt fparse) otlpD m (toJson otlp (mkTxtF ffmt fparse) m v)
      = some (normV otlp (.slots (otlp.slots m)) v) :=
  C08_json_roundtrip_otlp _ (C08_txt_laws ffmt fparse h) m v hc hcov

/-- JSON fixed point through every public entry point, concrete decimal / hex / base64 codecs: assumptions = `FloatLaws` + float range -/
theorem C08_json_fixpoint_root_otlp_concrete (ffmt : Nat → List Nat) (fparse : List Nat → Option Nat) (h : FloatLaws ffmt fparse)
    (hlt : ∀ t n, fparse t = some n → n < 2 ^ 64) (root : String) (m : Nat) (hroot : (root, m) ∈ otlp.roots) (j : Json) (w : Val)
    (hd : fromJsonRoot otlp (mkTxtF ffmt fparse) otlpD root m j = some w) :
    fromJson otlp (mkTxtF ffmt fparse) otlpD m j = some w ∧
    fromJsonRoot otlp (mkTxtF ffmt fparse) otlpD root m
        (toJson otlp (mkTxtF ffmt fparse) m (normV otlp (.slots (otlp.slots m)) (canon otlp (.slots (otlp.slots m)) w)))
      = some (normV otlp (.slots (otlp.slots m)) (canon otlp (.slots (otlp.slots m)) w)) :=
  C08_json_fixpoint_root_otlp _ (C08_txt_laws ffmt fparse h) (C08_txt_out ffmt fparse hlt) root m hroot j w hd

/-- the refinement theorem with the concrete codecs: every clause of the property for every entry point, float pair assumed only -/
theorem C08_refines_spec_concrete (ffmt : Nat → List Nat) (fparse : List Nat → Option Nat) (h : FloatLaws ffmt fparse)
    (hlt : ∀ t n, fparse t = some n → n < 2 ^ 64) (root : String) (m : Nat) (hroot : (root, m) ∈ otlp.roots) :
    (otlpCodec (mkTxtF ffmt fparse) root m).Holds :=
  C08_refines_spec _ (C08_txt_laws ffmt fparse h) (C08_txt_out ffmt fparse hlt) root m hroot

/-! ## non-vacuity: a small schema with every slot discipline -/

def S0 : Schema := { msgs := [
  { name := "t.Inner", slots := [.one { num := 1, go := "A", json := "a", orig := "a", ty := .u64 }], jsonKeys := ["a"] },
  { name := "t.Outer", slots := [
      .one { num := 1, go := "N", json := "n", orig := "n", ty := .i32 },
      .one { num := 2, go := "In", json := "in", orig := "in", ty := .msg 0, card := .req },
      .one { num := 3, go := "Rs", json := "rs", orig := "rs", ty := .msg 0, card := .rep },
      .oneof "V" [{ num := 4, go := "S", json := "s", orig := "s", ty := .string }, { num := 7, go := "B", json := "b", orig := "b", ty := .bytes }],
      .one { num := 9, go := "P", json := "p", orig := "p", ty := .double, card := .packed }],
    jsonKeys := ["n", "in", "rs", "s", "b", "p"] }], enums := [], roots := [("outer", 1)] }

/-- N = -1, In = {A: 300}, Rs = [{}, {A: 2^64-1}], V = S:"hi", P = [NaN, -0.0] -/
def v0 : Val := Val.ofList [.num (2 ^ 32 - 1), Val.ofList [.num 300], Val.ofList [Val.ofList [.num 0], Val.ofList [.num (2 ^ 64 - 1)]],
  Val.ofList [.num 4, .bytes [104, 105]], Val.ofList [.num 0x7FF8000000000001, .num (2 ^ 63)]]

example : WF S0 (defaults S0) = true := by decide

theorem v0_conforms : Conforms S0 1 v0 := by
  simp [Conforms, v0, S0, Schema.slots, Val.ofList, conf, leafOk, scalarOk, packedOk, findAlt]
example : Conforms S0 1 v0 := v0_conforms
example : covOk S0 = true ∧ JWF S0 = true ∧ migShapeOk S0 = true := by decide +kernel
example : ApiBuilt S0 1 v0 :=
  ⟨v0_conforms,
   by simp [v0, S0, Schema.slots, Val.ofList, apiVal, findAlt, isDep, Val.isCons]⟩
example : decode S0 (defaults S0) 1 (encode S0 1 v0) = some v0 :=
  C08_pb_roundtrip S0 (defaults S0) (by decide) 1 v0 v0_conforms
    (by rw [← C08_size]; simp [size, v0, S0, Schema.slots, Val.ofList, sz, findAlt, leafSize, scalarSize, packedSize, isZero, isScalar, wireType, Val.isCons, sext32]; simp [sov])

end OtelVerif.C08

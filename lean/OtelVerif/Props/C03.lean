import OtelVerif.Model.C03Mon
import OtelVerif.Lemmas.C03Term
/-!
# C03 — graceful exporter shutdown drains accepted data and stops all work

Theorems over EVERY reachable state of the LTS `Model/C03.lean` (every interleaving of any number of producers, `n` consumers,
the batcher's timer goroutine, any number of flush goroutines limited by any worker pool, the retry loops and the goroutine that
runs `Shutdown`; every re-partition of the batches; every backend outcome; every configuration `Cfg`).
`phase = 5` is "Shutdown has returned".  Trace-level monitor (`verdict`, `checkMemory`, `checkPersistent`) is proved sound
for the trace reading of the same clauses (`C03_check_memory_sound`, `C03_check_persistent_sound`, `C03_check_interrupted_sound`); it is
what the driver evaluates on the traces recorded from the real exporter.  Termination is `C03_not_stuck` … `C03_shutdown_terminates_without_offers`
(from `Lemmas/C03Term`).  Further C03 theorems: `Props/C03Shape`, `C03Cfg`, `C03Direct`, `C03Bridge`, `C03Refine`, `C03RefCount`, `C03ReplaySound`.
-/
namespace OtelVerif.C03

theorem C03_fire_iff_step (s s' : State) (l : Label) : fire s l = some s' ↔ Step s l s' :=
  ⟨fire_step, step_fire⟩

theorem C03_invariant {s : State} (h : Reachable s) : Inv s := inv_reachable h

/-- **Quiet.** When `Shutdown` has returned: every consumer goroutine has left its loop, the timer goroutine is gone, no batch is
held anywhere, every flight (flush goroutine / export chain pass) has ended — hence every export call has returned —, no export
call can begin, and this remains so whatever happens afterwards (`Reachable` is closed under steps and the phase stays 5). -/
theorem C03_quiet {s : State} (h : Reachable s) (hp : s.phase = 5) :
    (∀ c ∈ s.cons, c = .exited) ∧ s.cur = none ∧ s.shutHand = none ∧ s.timer = .dead ∧
    (∀ fl ∈ s.flights, fl.st = .done) ∧ (∀ f, fire s (.expStart f) = none) := by
  have w := (inv_reachable h).wf
  have hall := w.joined (by omega)
  have hdone := w.flights_done hp
  refine ⟨hall, w.cur4 (by omega), ?_, ?_, hdone, ?_⟩
  · cases hb : s.cfg.batching with
    | true => exact (w.ret hp hb).1
    | false => exact w.nb_hand hb
  · cases hb : s.cfg.batching with
    | true => exact (w.ret hp hb).2.1
    | false => exact w.nb_timer hb
  · intro f
    cases hf : fire s (.expStart f) with
    | none => rfl
    | some s' =>
      cases fire_step hf with
      | expStart _ fl hfl hs => have := hdone fl (List.mem_of_getElem? hfl); rcases hs with h | h <;> rw [h] at this <;> cases this

theorem C03_returned_stable {s s' : State} {l : Label} (hf : fire s l = some s') (hp : s.phase = 5) : s'.phase = 5 := by
  have hs := fire_step hf
  have := phase_mono hs
  have := phase_le5_step (Nat.le_of_eq hp) hs
  omega

/-- **Memory queue, drained.** When `Shutdown` has returned, every item whose enqueue completed before shutdown was requested
(wherever it was: in the queue, in a consumer's hands, in the partially filled current batch, waiting for a worker, in a retry
back-off) lies in a flight that has ended after at least one call of the export function — exactly one call when no call of
that flight failed. -/
theorem C03_memory_drained {s : State} (h : Reachable s) (hp : s.phase = 5) (hm : s.cfg.persistent = false) (hn : s.cons ≠ [])
    (x : Item) (hx : x ∈ s.early) :
    ∃ fl ∈ s.flights, x ∈ fl.batch ∧ fl.st = .done ∧ 1 ≤ fl.attempts ∧ (fl.failures = 0 → fl.attempts = 1) := by
  have inv := inv_reachable h
  obtain ⟨hall, hcur, hhand, htimer, hdone, _⟩ := C03_quiet h hp
  have hex := exists_exited hall hn
  have hq := all_late_queueEarly (inv.late hm hex).2
  have hcount := inv.early x
  have hpos : 0 < s.early.count x := List.count_pos_iff.mpr hx
  have hmem : x ∈ flightItems s.flights := by
    have : 0 < (placesEarly s).count x := by omega
    have := List.count_pos_iff.mp this
    simpa [placesEarly, hq, all_exited_items hall, hcur, hhand, htimer, optItems, TSt.items] using this
  simp only [flightItems, List.mem_flatMap] at hmem
  obtain ⟨fl, hfl, hxb⟩ := hmem
  have hd := hdone fl hfl
  have hok := (FlightOK.done_iff hd).mp (inv.flights fl hfl)
  exact ⟨fl, hfl, hxb, hd, hok.1, by omega⟩

/-- **Memory queue, exactly once.** If moreover the item was enqueued once, it lies in exactly one flight (once): the number of
export calls that contained it is that flight's `attempts`, which is 1 when none of its calls failed (`C03_memory_drained`). -/
theorem C03_memory_no_duplication {s : State} (h : Reachable s) (hp : s.phase = 5) (hm : s.cfg.persistent = false) (hn : s.cons ≠ [])
    (x : Item) (hx : x ∈ s.early) (h1 : s.accepted.count x = 1) : (flightItems s.flights).count x = 1 := by
  have inv := inv_reachable h
  obtain ⟨fl, hfl, hxb, _⟩ := C03_memory_drained h hp hm hn x hx
  have hge : 0 < (flightItems s.flights).count x :=
    List.count_pos_iff.mpr (by simp only [flightItems, List.mem_flatMap]; exact ⟨fl, hfl, hxb⟩)
  have hc := inv.conserved x
  simp only [places, List.count_append] at hc
  omega

/-- **Persistent queue.** At every moment — in particular when `Shutdown` has returned — every item enqueued before the shutdown request is still in storage or
lies in a flight that has ended (after at least one call of the export function) without a shutdown error. -/
theorem C03_persistent_kept {s : State} (h : Reachable s) (hpq : s.cfg.persistent = true) (x : Item) (hx : x ∈ s.early) :
    x ∈ s.stored ∨ ∃ fl ∈ s.flights, x ∈ fl.batch ∧ fl.st = .done ∧ fl.kept = false ∧ 1 ≤ fl.attempts := by
  have inv := inv_reachable h
  cases inv.kept hpq x (inv.sub x hx) with
  | inl h1 => exact .inl h1
  | inr h1 =>
    obtain ⟨fl, hfl, hd, hk, hb⟩ := h1
    have hok := (FlightOK.done_iff hd).mp (inv.flights fl hfl)
    exact .inr ⟨fl, hfl, hb, hd, hk, hok.1⟩

/-- the persistent queue serves nothing after it was stopped: what is in the queue then stays (stored) for the next start -/
theorem C03_persistent_stops_dispatch (s : State) (i : Nat) (hpq : s.cfg.persistent = true) (hp : 2 ≤ s.phase) : fire s (.read i) = none := by
  cases hf : fire s (.read i) with
  | none => rfl
  | some s' => cases fire_step hf with | read _ b late rest hc hq hg => exact absurd ⟨hpq, hp⟩ hg

/-- Termination of `Shutdown`, full statement (proved below as `C03_shutdown_terminates`): from every reachable state in which
shutdown has been requested some schedule reaches `phase = 5`, provided the default batcher's worker pool has at least one slot
(free or in use). -/
def C03_shutdown_terminates_full : Prop :=
  ∀ s : State, Reachable s → 1 ≤ s.phase →
    (s.cfg.batching = true → 0 < s.workers + (s.flights.filter (fun fl => fl.owner.isNone && fl.st != .done)).length) →
    ∃ ls s', runFrom s ls = some s' ∧ s'.phase = 5

/-- **Stuck-freedom.** While `Shutdown` has not returned, some step other than the environment's `offer` is enabled: a helper
goroutine, a retry loop, the backend returning ("every export call returns"), or the shutdown goroutine itself can move. -/
theorem C03_not_stuck {s : State} (h : Reachable s) (hpool : PoolOK s) (hp : s.phase < 5) :
    ∃ l s', isOffer l = false ∧ fire s l = some s' := not_stuck h hpool hp

theorem C03_pool_invariant {s s' : State} {l : Label} (h : PoolOK s) (hf : fire s l = some s') : PoolOK s' := poolOK_step h hf

/-- **Measure.** Once shutdown has been requested every non-offer step strictly decreases the lexicographic measure `mu`
(no retry is scheduled any more: `expEnd … again` needs `phase = 0`). -/
theorem C03_drain_measure {s s' : State} {l : Label} (hp : 1 ≤ s.phase) (hl : isOffer l = false) (hf : fire s l = some s') :
    Prod.Lex (· < ·) (· < ·) (mu s') (mu s) := mu_decreases_step hp hl (fire_step hf)

/-- **No infinite drain.** After the shutdown request there is no infinite sequence of non-offer steps: with `C03_not_stuck`,
every maximal offer-free execution is finite and ends with `Shutdown` returned. -/
theorem C03_drain_wellFounded :
    WellFounded (fun s' s : State => 1 ≤ s.phase ∧ ∃ l, isOffer l = false ∧ fire s l = some s') := drain_wellFounded

/-- **Termination.** -/
theorem C03_shutdown_terminates : C03_shutdown_terminates_full :=
  fun _ h hp hpool => let ⟨ls, s', _, hr, h5⟩ := shutdown_terminates h hp hpool; ⟨ls, s', hr, h5⟩

theorem C03_shutdown_terminates_without_offers {s : State} (h : Reachable s) (hp : 1 ≤ s.phase) (hpool : PoolOK s) :
    ∃ ls s', (∀ l ∈ ls, isOffer l = false) ∧ runFrom s ls = some s' ∧ s'.phase = 5 := shutdown_terminates h hp hpool

/-- **A stopped retry sender schedules nothing**: once `stopCh` is closed (`phase ≥ 1`) a failed call can only end its flight (drop or
keep), no further retry is scheduled.  This is an unfolding of the model's `fire` (the modelling decision mirrors the `stopCh` check
of the repaired `retry_sender.go`; property C05 ties it to the code).
QUEUE-LESS exporters (no sending queue, no batcher) are NOT covered by this LTS: there `Shutdown` only stops the retry sender and
returns while callers may still be inside the export function (the LTS reaches "returned" only through `join`, i.e. with every
consumer gone).  For them clause "all export calls have returned" does not hold in the code and is not claimed; what holds and is
MONITORED on the implementation (not proved) is: no retry is scheduled after the return, so no export call BEGINS after it except
the documented same-instant tie between a back-off timer and `Shutdown`. -/
theorem C03_stopped_retry_schedules_nothing (s : State) (f : Nat) (o : Outcome) (hp : 1 ≤ s.phase) :
    fire s (.expEnd f o .again) = none := by
  cases hf : fire s (.expEnd f o .again) with
  | none => rfl
  | some s' =>
    -- the only step with this label has the guard `phase = 0`
    cases fire_step hf with
    | expEndAgain fl hfl hs hr hp0 => omega

/-- **The batcher is shut down whatever the queue's shutdown did.**  `QueueBatch.Shutdown` = `errors.Join(queue.Shutdown, batcher.Shutdown)`:
once the consumers are joined (`phase = 3`) — whatever the queue's own `Shutdown` returned: failed size snapshot, failed storage
`Close` — the batcher's shutdown step is enabled; it takes the partial batch for the final flush, and there is no other way to
"returned" (`phase` only grows by one).  Errors are collected, never branched on: the model has no error outcome. -/
theorem C03_batcher_shutdown_unconditional {s : State} (h : Reachable s) (hp : s.phase = 3) :
    ∃ s', fire s .shutBatcher = some s' ∧ s'.phase = 4 ∧ s'.shutHand = s.cur ∧ s'.cur = none := by
  have hh := (inv_reachable h).wf.hand3 (by omega)
  exact ⟨_, step_fire (.shutBatcher s hp hh), rfl, rfl, rfl⟩

/-! ## non-vacuity: concrete schedules -/

/-- memory queue, default batcher, retry on: two requests, the second is split, one batch stays as the partial current batch;
shutdown is requested while one flight is in a retry back-off and the partial batch is waiting; the drain ends in phase 5 -/
def demoSchedule : List Label :=
  [.offer [1, 2], .offer [3, 4, 5], .read 0, .consume 0 [] (some [1, 2]), .read 0, .consume 0 [[1, 2, 3]] (some [4, 5]),
   .spawn 0, .expStart 0, .expEnd 0 .trans .again,
   .shutRetry, .offer [9], .shutQueue, .giveUp 0 true, .read 0, .consume 0 [] (some [4, 5, 9]), .exit 0, .join, .shutBatcher, .shutSpawn,
   .expStart 1, .expEnd 1 .ok .drop, .timerExit, .shutWait]

def demoFinal : Option State := runFrom (init { persistent := false, batching := true, retry := true } 1 1 true) demoSchedule

example : (demoFinal.map (·.phase)) = some 5 := by decide +kernel
example : (demoFinal.map (·.early)) = some [1, 2, 3, 4, 5] := by decide +kernel
example : (demoFinal.map (fun s => s.flights.map (fun fl => (fl.batch, fl.attempts, fl.failures)))) =
    some [([1, 2, 3], 1, 1), ([4, 5, 9], 1, 0)] := by decide +kernel

/-- persistent queue, disabled batcher, two consumers: shutdown interrupts a retry (kept in storage), one request is never read -/
def demoPersistent : List Label :=
  [.offer [1], .offer [2], .offer [3], .read 0, .sendSync 0, .expStart 0, .expEnd 0 .trans .again, .read 1, .sendSync 1, .expStart 1,
   .shutRetry, .giveUp 0 true, .shutQueue, .expEnd 1 .ok .drop, .exit 0, .exit 1, .join, .shutBatcher, .shutWait]

def demoPFinal : Option State := runFrom (init { persistent := true, batching := false, retry := true } 2 0 false) demoPersistent

example : (demoPFinal.map (fun s => (s.phase, s.stored, s.queue.map (·.1)))) = some (5, [1, 3], [[3]]) := by decide +kernel

/-! ## trace-level reading and soundness of the monitor -/

/-- the property's observable clauses on a recorded trace (memory queue) -/
def TraceOK (t : List Ev) : Prop :=
  (∃ e ∈ t, isShutRet e = true) ∧
  (∀ x ∈ earlyItems t, 1 ≤ attemptsOf (evsBefore isShutRet t) x) ∧
  (∀ x ∈ earlyItems t, failedFor (evsBefore isShutRet t) x = false → (earlyItems t).count x ≤ 1 →
      attemptsOf (evsBefore isShutRet t) x ≤ 1) ∧
  (∀ p ∈ startsOf (evsBefore isShutRet t), p.1 ∈ (endsOf (evsBefore isShutRet t)).map (·.1)) ∧
  startsOf (evsAfter isShutRet t) = []

/-- persistent queue: "attempted before the return, or delivered again by the next start" -/
def TraceOKPersistent (t : List Ev) (recovered : List Item) : Prop :=
  (∃ e ∈ t, isShutRet e = true) ∧
  (∀ x ∈ earlyItems t, 1 ≤ attemptsOf (evsBefore isShutRet t) x ∨ x ∈ recovered) ∧
  (∀ p ∈ startsOf (evsBefore isShutRet t), p.1 ∈ (endsOf (evsBefore isShutRet t)).map (·.1)) ∧
  startsOf (evsAfter isShutRet t) = []

theorem C03_check_memory_sound (t : List Ev) (h : checkMemory t = true) : TraceOK t := by
  simp only [checkMemory, verdict, Bool.and_eq_true] at h
  obtain ⟨⟨⟨⟨h1, h2⟩, h3⟩, h4⟩, h5⟩ := h
  refine ⟨by simpa [List.any_eq_true] using h1, ?_, ?_, ?_, ?_⟩
  · intro x hx
    have := filter_isEmpty h2 x hx
    simp at this; omega
  · intro x hx hf hc
    have := filter_isEmpty h3 x hx
    simp [hf, hc] at this; exact this
  · intro p hp
    have := filter_isEmpty h4 p.1 (List.mem_map.mpr ⟨p, hp, rfl⟩)
    simp at this ⊢
    exact Decidable.or_iff_not_imp_left.mpr this
  · have := List.isEmpty_iff.mp h5
    simpa using this

theorem C03_check_persistent_sound (t : List Ev) (r : List Item) (h : checkPersistent t r = true) : TraceOKPersistent t r := by
  simp only [checkPersistent, verdict, lostPersistent, Bool.and_eq_true] at h
  obtain ⟨⟨⟨h1, h2⟩, h4⟩, h5⟩ := h
  refine ⟨by simpa [List.any_eq_true] using h1, ?_, ?_, ?_⟩
  · intro x hx
    have := filter_isEmpty h2 x hx
    simp at this
    by_cases ha : attemptsOf (evsBefore isShutRet t) x = 0
    · exact .inr (this ha)
    · exact .inl (by omega)
  · intro p hp
    have := filter_isEmpty h4 p.1 (List.mem_map.mpr ⟨p, hp, rfl⟩)
    simp at this ⊢
    exact Decidable.or_iff_not_imp_left.mpr this
  · have := List.isEmpty_iff.mp h5
    simpa using this

/-- the monitor is not vacuous: it accepts a good trace and rejects an undrained one, a late call, an open call -/
example : checkMemory [.acc [1, 2], .acc [3], .shutReq, .es 0 [1, 2, 3], .ee 0 false, .shutRet] = true := by decide +kernel
example : checkMemory [.acc [1, 2], .acc [3], .shutReq, .es 0 [1, 2], .ee 0 false, .shutRet] = false := by decide +kernel
example : checkMemory [.acc [1], .shutReq, .es 0 [1], .ee 0 false, .shutRet, .es 1 [7]] = false := by decide +kernel
example : checkMemory [.acc [1], .shutReq, .es 0 [1], .shutRet, .ee 0 false] = false := by decide +kernel
example : checkMemory [.acc [1], .es 0 [1], .ee 0 false, .shutReq, .es 1 [1], .ee 1 false, .shutRet] = false := by decide +kernel
example : checkPersistent [.acc [1], .acc [2], .shutReq, .es 0 [1], .ee 0 true, .shutRet] [2] = true := by decide +kernel
example : checkPersistent [.acc [1], .acc [2], .shutReq, .es 0 [1], .ee 0 true, .shutRet] [] = false := by decide +kernel

/-- the persistent-queue clauses about shutdown-interrupted flights (request-level keeping, whatever the other parts of a split
request did): every early item of a flight that the shutdown interrupted is in storage at the return AND is delivered by the next start -/
def InterruptedKept (t : List Ev) (ends : List EndInfo) (stored recovered : List Item) : Prop :=
  ∀ p ∈ interruptedCalls t ends, ∀ x ∈ p.2, x ∈ earlyItems t → x ∈ stored ∧ x ∈ recovered

theorem C03_check_interrupted_sound (t : List Ev) (ends : List EndInfo) (stored recovered : List Item)
    (h : checkInterrupted t ends stored recovered = true) : InterruptedKept t ends stored recovered := by
  simp only [checkInterrupted, Bool.and_eq_true, List.isEmpty_iff, interruptedNotStored, interruptedNotRedelivered] at h
  obtain ⟨h1, h2⟩ := h
  intro p hp x hx he
  have hs : x ∈ stored := by
    have := List.flatMap_eq_nil_iff.mp h1 p hp
    have := List.filter_eq_nil_iff.mp this x hx
    simp [he] at this; exact this
  refine ⟨hs, ?_⟩
  have := List.flatMap_eq_nil_iff.mp h2 p hp
  have := List.filter_eq_nil_iff.mp this x hx
  simp [he, hs] at this; exact this

/-- non-vacuity: request [1,2,3,4,5] split in two parts; part [1,2,3] fails permanently (finished), part [4,5] is flushed by the
shutdown and fails with retries left (interrupted): kept and redelivered → accepted; deleted from storage → rejected -/
example : checkInterrupted [.acc [1, 2, 3, 4, 5], .es 0 [1, 2, 3], .ee 0 true, .shutReq, .es 1 [4, 5], .ee 1 true, .shutRet]
    [⟨0, true, true, false⟩, ⟨1, true, false, true⟩] [1, 2, 3, 4, 5] [1, 2, 3, 4, 5] = true := by decide +kernel
example : checkInterrupted [.acc [1, 2, 3, 4, 5], .es 0 [1, 2, 3], .ee 0 true, .shutReq, .es 1 [4, 5], .ee 1 true, .shutRet]
    [⟨0, true, true, false⟩, ⟨1, true, false, true⟩] [] [] = false := by decide +kernel
example : checkInterrupted [.acc [1, 2], .es 0 [1, 2], .ee 0 true, .shutReq, .shutRet]
    [⟨0, true, false, true⟩] [1, 2] [] = false := by decide +kernel

end OtelVerif.C03

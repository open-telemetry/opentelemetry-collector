import OtelVerif.Lemmas.C15Route
/-!
# C15 — addressing theorems

The regenerated registration / URL tables of both exporters and the receiver (`Gen/OtlpRoutes.lean`) put every signal on the
address the OTLP specification and the two configurations name, and deliver it to the consumer of the SAME signal.
-/
namespace OtelVerif.C15
open OtelVerif.Gen

/-- the URL each `pushX` of the OTLP/HTTP exporter posts to is the one the configuration names: the signal's own override if set,
else the endpoint (a trailing "/" is not doubled) followed by the OTLP default path of THAT signal; no endpoint at all = refused.
For every endpoint / override string. -/
theorem C15_route_url_matches_spec (g : Signal) (c : ExpCfg) :
    exportUrl g c = specUrl g c.endpoint (c.overrideOf g) := by
  rw [exportUrl_compose, composeSignalURL_eq, specUrl, specPath_eq]

example : exportUrl .logs ⟨"http://collector:4318/", [("TracesEndpoint", "https://t.example/in")]⟩ = some "http://collector:4318/v1/logs" ∧
    exportUrl .traces ⟨"http://collector:4318/", [("TracesEndpoint", "https://t.example/in")]⟩ = some "https://t.example/in" := by decide +kernel

/-- the model of the hop's addressing (regenerated tables) equals the specification of it (hand tables only), for every signal,
every exporter configuration, every receiver base address and every receiver path configuration -/
theorem C15_route_matches_spec (g : Signal) (c : ExpCfg) (base : String) (rc : RecvCfg) :
    hopRoute g c base rc = specRoute g c base rc := by
  unfold hopRoute specRoute
  rw [C15_route_url_matches_spec]
  cases specUrl g c.endpoint (c.overrideOf g) with
  | none => rfl
  | some u =>
    simp only []
    cases stripBase base u with
    | none => rfl
    | some p =>
      simp only [routeHttp_eq]
      cases Signal.all.find? (fun s => specRecvPath rc s = some p) <;> rfl

/-- with both sides on their DEFAULTS every signal of the OTLP/HTTP exporter reaches the consumer of that very signal, decoded as
that signal — for every receiver address, written with or without a trailing "/" in the exporter's `endpoint` -/
theorem C15_route_default_reaches (g : Signal) (base : String) (hb : base ≠ "") (hs : hasSuffix base "/" = false) :
    hopRoute g ⟨base, []⟩ base recvDefaultCfg = .delivered g g ∧
    hopRoute g ⟨base ++ "/", []⟩ base recvDefaultCfg = .delivered g g := by
  have hov : ∀ e, (ExpCfg.mk e []).overrideOf g = "" := by
    intro e
    unfold ExpCfg.overrideOf
    split <;> rfl
  have hroute : routeHttp recvDefaultCfg (specPath g) = some (g, g) := by
    rw [routeHttp_eq]
    cases g <;> decide +kernel
  have key : ∀ e, specUrl g e "" = some (base ++ specPath g) → hopRoute g ⟨e, []⟩ base recvDefaultCfg = .delivered g g := by
    intro e he
    unfold hopRoute
    rw [C15_route_url_matches_spec, hov, he]
    simp only [stripBase_append, hroute]
  constructor
  · exact key base (by simp [specUrl, hb, hs])
  · have h1 : base ++ "/" ≠ "" := by simp
    have h2 : hasSuffix (base ++ "/") "/" = true := by simp [hasSuffix, String.toList_append]
    have h3 : String.ofList (base ++ "/").toList.dropLast = base := by simp [String.toList_append]
    exact key _ (by simp only [specUrl, ne_eq, not_true_eq_false, if_false, h1, h2, if_true, h3])

example : hasSuffix "http://127.0.0.1:4318" "/" = false ∧ "http://127.0.0.1:4318" ≠ "" := by decide +kernel

/-- custom receiver paths: with `traces_url_path` / `metrics_url_path` / `logs_url_path` set to pairwise different paths (none of
them the fixed profiles path) each path reaches exactly its own signal's consumer and every other path is not found -/
theorem C15_route_custom_paths (tp mp lp : String) (h1 : tp ≠ mp) (h2 : tp ≠ lp) (h3 : mp ≠ lp)
    (h4 : tp ≠ specPath .profiles) (h5 : mp ≠ specPath .profiles) (h6 : lp ≠ specPath .profiles) :
    let rc : RecvCfg := [("TracesURLPath", tp), ("MetricsURLPath", mp), ("LogsURLPath", lp)]
    routeHttp rc tp = some (.traces, .traces) ∧ routeHttp rc mp = some (.metrics, .metrics) ∧
    routeHttp rc lp = some (.logs, .logs) ∧ routeHttp rc (specPath .profiles) = some (.profiles, .profiles) ∧
    ∀ p, p ≠ tp → p ≠ mp → p ≠ lp → p ≠ specPath .profiles → routeHttp rc p = none := by
  intro rc
  have e1 : rAssoc rc "TracesURLPath" = some tp := by simp [rc, rAssoc]
  have e2 : rAssoc rc "MetricsURLPath" = some mp := by simp [rc, rAssoc]
  have e3 : rAssoc rc "LogsURLPath" = some lp := by simp [rc, rAssoc]
  simp only [routeHttp_eq, Signal.all, List.find?, specRecvPath, e1, e2, e3, Option.some.injEq]
  refine ⟨by simp, by simp [h1], by simp [h2, h3], ?_, ?_⟩
  · simp [h4, h5, h6]
  · intro p hp1 hp2 hp3 hp4
    simp [Ne.symm hp1, Ne.symm hp2, Ne.symm hp3, Ne.symm hp4]

example : ("/in/t" : String) ≠ "/in/m" ∧ ("/in/t" : String) ≠ specPath .profiles := by decide +kernel

/-- gRPC: the service every `pushX` of the OTLP/gRPC exporter calls is registered by the receiver with a handler that decodes the
request as, and delivers it to the consumer of, the SAME signal; and the OTLP/HTTP push functions marshal the request type and
decode the partial-success response type of their own signal; the gRPC client of a signal is that signal's otlp package -/
theorem C15_route_grpc_and_types :
    (∀ g ∈ Signal.all, (grpcServiceOf g).bind routeGrpc = some (g, g)) ∧
    (∀ g ∈ Signal.all, httpPushTypes g = some (g, g)) ∧
    (∀ g ∈ Signal.all, ((grpcServiceOf g).bind sigOfOtlp) = some g) := by decide +kernel

/-- the OTLP/gRPC exporter dials `host:port` whether the operator wrote it bare, as `http://host:port` or as `https://host:port`
(for every string), and anything without such a scheme is dialled as written -/
theorem C15_route_grpc_target (a : String) :
    grpcDialTarget ("http://" ++ a) = a ∧ grpcDialTarget ("https://" ++ a) = a ∧
    (hasPrefix a "http://" = false → hasPrefix a "https://" = false → grpcDialTarget a = a) := by
  refine ⟨?_, ?_, ?_⟩
  · simp only [grpcDialTarget, OtlpRoutes.grpcEndpointPrefixes, List.find?, hasPrefix_append]
    exact trimPrefix_append _ _
  · simp only [grpcDialTarget, OtlpRoutes.grpcEndpointPrefixes, List.find?, https_not_http, hasPrefix_append]
    exact trimPrefix_append _ _
  · intro h1 h2
    simp only [grpcDialTarget, OtlpRoutes.grpcEndpointPrefixes, List.find?, h1, h2]
    rfl

/-- over gRPC a signal sent to the receiver's `host:port` — written bare, with `http://` or with `https://` — is delivered to the consumer
of that very signal, decoded as that signal (dial target from `sanitizedEndpoint`, service from the exporter's client table, handler and
consumer from the receiver's registration table) -/
theorem C15_route_grpc_reaches (g : Signal) (addr : String)
    (h1 : hasPrefix addr "http://" = false) (h2 : hasPrefix addr "https://" = false) :
    ∀ e ∈ [addr, "http://" ++ addr, "https://" ++ addr], hopRouteGrpc g e addr = .delivered g g ∧ specRouteGrpc g e addr = .delivered g g := by
  have ht := C15_route_grpc_target addr
  have hr : (grpcServiceOf g).bind routeGrpc = some (g, g) := C15_route_grpc_and_types.1 g (Signal.mem_all g)
  intro e he
  simp only [List.mem_cons, List.mem_nil_iff, or_false] at he
  have htgt : grpcDialTarget e = addr := by
    rcases he with rfl | rfl | rfl
    · exact ht.2.2 h1 h2
    · exact ht.1
    · exact ht.2.1
  constructor
  · simp only [hopRouteGrpc, htgt, if_true, hr]
  · unfold specRouteGrpc
    rw [if_pos he]

example : hasPrefix "127.0.0.1:4317" "http://" = false ∧ hasPrefix "127.0.0.1:4317" "https://" = false ∧
    hopRouteGrpc .profiles "http://127.0.0.1:4317" "127.0.0.1:4317" = .delivered .profiles .profiles ∧
    hopRouteGrpc .logs "127.0.0.1:4318" "127.0.0.1:4317" = .elsewhere := by
  have h1 : hasPrefix "127.0.0.1:4317" "http://" = false := by decide +kernel
  have h2 : hasPrefix "127.0.0.1:4317" "https://" = false := by decide +kernel
  exact ⟨h1, h2, (C15_route_grpc_reaches .profiles _ h1 h2 _ (by simp)).1, by decide +kernel⟩

/-- gRPC compression: every configcompression type is either uncompressed, or refused when the client is built (no silent
fall-back to another algorithm), or mapped to a compressor package that config/configgrpc itself links — so the compressor is
registered in every process that can build a configgrpc client OR server (the receiver side can always decode it) -/
theorem C15_grpc_compression_registered :
    (∀ t ∈ OtlpRoutes.compressionTypeConsts, grpcCompressionRow t = true) ∧
    -- not vacuous: the three algorithms the OTLP/gRPC exporter documents are mapped, each to the compressor of its own name
    (∀ t ∈ ["gzip", "snappy", "zstd"], grpcCompressor t = some t) ∧
    (∀ t ∈ ["zlib", "deflate", "lz4"], grpcCompressor t = none ∧ OtlpRoutes.grpcCompressionDefaultErrors = true) := by decide +kernel

/-- `sanitizeURLPath` (receiver `Config.Unmarshal`): the registered path is absolute, an absolute path is kept, sanitising twice changes nothing -/
theorem C15_route_sanitize (p : String) :
    (sanitizeURLPath p).toList.head? = some '/' ∧ (p.toList.head? = some '/' → sanitizeURLPath p = p) ∧
    sanitizeURLPath (sanitizeURLPath p) = sanitizeURLPath p := by
  have gen : ∀ q : String, q.toList.head? = some '/' → sanitizeURLPath q = q := by
    intro q h; simp [sanitizeURLPath, h]
  have key : (sanitizeURLPath p).toList.head? = some '/' := by
    unfold sanitizeURLPath
    split
    · assumption
    · simp [OtlpRoutes.sanitizePrependsSlash, String.toList_append]
  exact ⟨key, gen p, gen _ key⟩

end OtelVerif.C15

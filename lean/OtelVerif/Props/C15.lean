import OtelVerif.Lemmas.C15
/-!
# C15 — OTLP exporter → OTLP receiver preserves data and the meaning of failures

`OtlpTables.*` is regenerated from the `switch` statements of the receiver and the two exporters on every run, so
every statement below is re-checked against what the code says now. Statements range over **all** numeric codes /
statuses / delays (no enumeration bound): finite tables are lifted to all of `Nat` through the explicit default branches
(`lookupD_rel`). Success-iff, the delay theorems and the cross-transport statement are read off `C15_commutes_grpc/http`.
-/
namespace OtelVerif.C15
open OtelVerif.Gen

/-! ## the regenerated tables are the specification's tables, for every number -/

/-- otlphttpexporter `isRetryableStatusCode` = the spec's retryable response codes {429, 502, 503, 504}, for every status -/
theorem C15_http_table_total (n : Nat) : OtlpTables.httpRetryable.contains n = specHttpRetryable n := by
  simp [OtlpTables.httpRetryable, specHttpRetryable, Bool.or_assoc]

/-- otlpexporter `shouldRetry` = the spec's gRPC table, for every code, with and without RetryInfo -/
theorem C15_grpc_table_total (c : Nat) (ri : Option Nat) : shouldRetry c ri = specGrpcRetryable c ri.isSome := by
  simp [shouldRetry, specGrpcRetryable, OtlpTables.grpcRetryAlways, OtlpTables.grpcRetryIfInfo, Bool.or_assoc]

/-- receiver `GetHTTPStatusCodeFromStatus` = the documented gRPC→HTTP mapping, for every code (default branch: 500) -/
theorem C15_httpOf_total (c : Nat) : httpOf c = specHttpOf c := by
  refine httpOf_rel (fun c st => st = specHttpOf c) (by decide +kernel) (fun x h => ?_) c
  simp [specHttpOf, h]

theorem C15_gen_shape :
    OtlpTables.plainCode = 14 ∧ OtlpTables.permanentCode = 13 ∧
    OtlpTables.successLo = 200 ∧ OtlpTables.successHi = 299 ∧
    OtlpTables.expThrottleStatuses = [429, 503] ∧ OtlpTables.recvThrottleStatuses = [429, 503] ∧
    OtlpTables.retryAfterRoundsUp = true ∧ OtlpTables.errorHandlerKeepsStatus = true ∧
    OtlpTables.methodStatus = 405 ∧ OtlpTables.contentTypeStatus = 415 ∧
    OtlpTables.unmarshalStatus = 400 ∧ OtlpTables.readBodyStatus = 400 ∧
    -- the stages in front of the handlers (confighttp / configgrpc): statuses, and `ToServer` wraps decompressor → max-body → auth,
    -- i.e. the authenticator runs first, as `httpFront` has it
    OtlpTables.authStatusHttp = 401 ∧ OtlpTables.encodingStatus = 400 ∧ OtlpTables.authCodeGrpc = 16 ∧
    OtlpTables.authOutermost = true :=
  ⟨rfl, rfl, successLo_eq, successHi_eq, expThrottleStatuses_eq, recvThrottleStatuses_eq, retryAfterRoundsUp_eq,
    errorHandlerKeepsStatus_eq, rfl, rfl, rfl, rfl, rfl, rfl, rfl, rfl⟩

/-- the sender's inverse table sends each retryable HTTP status back to a retryable gRPC code and each
non-retryable one to a non-retryable code: the error the exporter *returns* means what the wire said -/
theorem C15_inverse_table_consistent (n : Nat) :
    specGrpcRetryable (lookupD OtlpTables.grpcOfHttp OtlpTables.grpcOfHttpDefault n) true = specHttpRetryable n := by
  refine lookupD_rel (fun n c => specGrpcRetryable c true = specHttpRetryable n) (by decide +kernel) (fun x h => ?_) n
  simp only [OtlpTables.grpcOfHttp, List.forall_mem_cons, List.not_mem_nil, false_imp_iff, implies_true, and_true] at h
  simp only [specHttpRetryable, h, decide_false, Bool.or_false]
  -- the default code 2 (Unknown) is not retryable
  decide

/-! ## the sender classifies what it receives exactly as the specification prescribes -/

theorem C15_exporter_matches_spec_grpc (w : WireGrpc) : expGrpc w = specGrpc w := by
  unfold expGrpc specGrpc
  rw [C15_grpc_table_total]
  cases w.retry with
  | none => rfl
  | some d => simp only [ne_eq, ite_not]

theorem C15_exporter_matches_spec_http (w : WireHttp) : expHttp w = specHttp w := by
  unfold expHttp specHttp
  rw [C15_http_table_total, successLo_eq, successHi_eq, expThrottleStatuses_eq]
  simp only [throttle_contains]

/-! ## what the receiver puts on the wire -/

/-- **Status mapping.** An explicit status is reported with that status (gRPC: same code and RetryInfo;
HTTP: Status body with that code under the mapped HTTP status); any other permanent error with a
non-retryable status, any other error with a retryable one — on both transports. -/
theorem C15_status_mapping :
    (∀ c ri, recvGrpc (.status c ri) = ⟨c, ri⟩) ∧
    (∀ c ri, (recvHttp (.status c ri)).bodyCode = c ∧ (recvHttp (.status c ri)).status = specHttpOf c) ∧
    specGrpcRetryable (recvGrpc (.plain true)).code (recvGrpc (.plain true)).retry.isSome = false ∧
    specHttpRetryable (recvHttp (.plain true)).status = false ∧
    specGrpcRetryable (recvGrpc (.plain false)).code (recvGrpc (.plain false)).retry.isSome = true ∧
    specHttpRetryable (recvHttp (.plain false)).status = true :=
  ⟨fun _ _ => rfl, fun c _ => ⟨rfl, C15_httpOf_total c⟩, by decide, by decide, by decide, by decide⟩

/-! ## the hop commutes: sender verdict = meaning of the consumer's outcome -/

/-- what a consumer outcome means to a gRPC sender, by the specification's gRPC table -/
def meaningGrpc : Outcome → Verdict
  | .ok => .success
  | .plain true => .permanent
  | .plain false => .retryable
  | .status c ri => specGrpc ⟨c, ri⟩

/-- what it means to an HTTP sender: the gRPC code's class, where RESOURCE_EXHAUSTED is always retryable
(HTTP 429 is retryable unconditionally in the spec's HTTP table), and a requested delay is carried in whole
seconds, rounded up -/
def meaningHttp : Outcome → Verdict
  | .ok => .success
  | .plain true => .permanent
  | .plain false => .retryable
  | .status c ri =>
    if specGrpcRetryable c true then
      match ri with
      | some d => .throttle ((d + (nsPerSec - 1)) / nsPerSec * nsPerSec)
      | none => .retryable
    else .permanent

theorem expGrpc_recvGrpc (o : Outcome) : expGrpc (recvGrpc o) = meaningGrpc o := by
  rw [C15_exporter_matches_spec_grpc]
  cases o with
  | ok => rfl
  | plain p => cases p <;> decide
  | status c ri => rfl

theorem C15_commutes_grpc (o : Outcome) (h : o.wf) : expGrpc (recvGrpc o) = meaningGrpc o := expGrpc_recvGrpc o

theorem C15_commutes_http (o : Outcome) : expHttp (recvHttp o) = meaningHttp o := by
  cases o with
  | ok => rfl
  | plain p => cases p <;> decide
  | status c ri =>
    -- the mapped status is never 2xx; it is retryable, and a throttle status, iff the gRPC table retries `c`
    obtain ⟨h2, hr, ht⟩ := httpOf_class c
    simp only [expHttp, recvHttp, recvStatus, meaningHttp, C15_http_table_total, successLo_eq, successHi_eq,
      expThrottleStatuses_eq, recvThrottleStatuses_eq, h2, hr, ht, if_false]
    cases specGrpcRetryable c true
    · rfl
    · cases ri with
      | none => rfl
      | some d => simp [secondsOf, retryAfterRoundsUp_eq]

theorem meaningGrpc_success (o : Outcome) (h : o.wf) : meaningGrpc o = .success ↔ o = .ok := by
  cases o with
  | ok => simp [meaningGrpc]
  | plain p => cases p <;> simp [meaningGrpc]
  | status c ri =>
    have hc : c ≠ 0 := h
    -- `c ≠ 0` removes the only `success` branch of `specGrpc`
    simp only [meaningGrpc, specGrpc, hc, if_false, reduceCtorEq, iff_false]
    repeat' split
    all_goals simp

theorem meaningHttp_success (o : Outcome) : meaningHttp o = .success ↔ o = .ok := by
  cases o with
  | ok => simp [meaningHttp]
  | plain p => cases p <;> simp [meaningHttp]
  | status c ri => cases h : specGrpcRetryable c true <;> cases ri <;> simp [meaningHttp, h]

/-- **Success iff accepted**, gRPC: the sender sees success exactly when the consumer returned nil -/
theorem C15_success_iff_grpc (o : Outcome) (h : o.wf) : expGrpc (recvGrpc o) = .success ↔ o = .ok := by
  rw [expGrpc_recvGrpc]
  exact meaningGrpc_success o h

theorem C15_success_iff_http (o : Outcome) : expHttp (recvHttp o) = .success ↔ o = .ok := by
  rw [C15_commutes_http]
  exact meaningHttp_success o

theorem throttle_http_eq {c d d' : Nat} (h : expHttp (recvHttp (.status c (some d))) = .throttle d') :
    d' = (d + 999999999) / 1000000000 * 1000000000 := by
  rw [C15_commutes_http] at h
  simp only [meaningHttp] at h
  split at h
  · exact (Verdict.throttle.inj h).symm
  · cases h

/-- **Throttle delay, HTTP.** Whatever delay the consumer asked for, an HTTP sender that is told to throttle
waits at least that long (whole-second `Retry-After`, rounded up). Does not build on a tree that truncates. -/
theorem C15_throttle_delay_http (c d d' : Nat) (h : expHttp (recvHttp (.status c (some d))) = .throttle d') : d ≤ d' := by
  rw [throttle_http_eq h]
  omega

/-- … and no more than the header's granularity allows: strictly less than one second above the requested delay. Together with
`C15_throttle_delay_http` this pins the HTTP delay to "the requested delay rounded up to whole seconds" independently of how
`meaningHttp` is written. -/
theorem C15_throttle_delay_http_tight (c d d' : Nat) (h : expHttp (recvHttp (.status c (some d))) = .throttle d') :
    d' < d + 1000000000 := by
  rw [throttle_http_eq h]
  omega

/-- **Throttle delay, gRPC.** RetryInfo travels as is: the sender waits exactly the requested delay. -/
theorem C15_throttle_delay_grpc (c d d' : Nat) (h : expGrpc (recvGrpc (.status c (some d))) = .throttle d') : d' = d := by
  rw [expGrpc_recvGrpc] at h
  exact (Option.some.inj (specGrpc_throttle h)).symm

theorem C15_requested_delay_honoured (c d : Nat) (hc : c ≠ 0) (hd : d ≠ 0) (hr : specGrpcRetryable c true = true) :
    expGrpc (recvGrpc (.status c (some d))) = .throttle d ∧
    ∃ d', expHttp (recvHttp (.status c (some d))) = .throttle d' ∧ d ≤ d' := by
  constructor
  · rw [expGrpc_recvGrpc]
    simp [meaningGrpc, specGrpc, hc, hd, hr]
  · rw [C15_commutes_http]
    simp only [meaningHttp, hr, if_true]
    exact ⟨_, rfl, by simp only [nsPerSec]; omega⟩

/-- Both transports agree on whether an outcome is retryable — except RESOURCE_EXHAUSTED without RetryInfo,
which the spec's gRPC table makes permanent and its HTTP table (429) retryable. -/
theorem C15_transports_agree_partial (o : Outcome) (h : o.wf) (hx : o ≠ .status 8 none) :
    (expGrpc (recvGrpc o)).isRetry = (expHttp (recvHttp o)).isRetry := by
  rw [expGrpc_recvGrpc, C15_commutes_http]
  cases o with
  | ok => rfl
  | plain p => cases p <;> rfl
  | status c ri =>
    have hc : c ≠ 0 := h
    -- both verdicts are retries exactly when the gRPC table retries `c`, and RetryInfo matters to that table for code 8 only
    have hr : specGrpcRetryable c ri.isSome = specGrpcRetryable c true := by
      cases ri with
      | some d => rfl
      | none => simp [specGrpcRetryable, show c ≠ 8 from fun h8 => hx (h8 ▸ rfl)]
    simp only [meaningGrpc, meaningHttp, specGrpc, hc, if_false, hr]
    cases specGrpcRetryable c true
    · rfl
    · cases ri with
      | none => rfl
      | some d => by_cases hd : d = 0 <;> simp [hd, Verdict.isRetry]

theorem C15_resource_exhausted_without_info :
    expGrpc (recvGrpc (.status 8 none)) = .permanent ∧ expHttp (recvHttp (.status 8 none)) = .retryable := by decide

/-- "a failure means the same thing on both sides of the hop", read ACROSS transports: the same consumer outcome is retried by a
gRPC sender iff it is retried by an HTTP sender -/
def C15_transports_agree_full : Prop :=
  ∀ o : Outcome, o.wf → (expGrpc (recvGrpc o)).isRetry = (expHttp (recvHttp o)).isRetry

/-- (OBSERVATION, spec-induced — not a finding.) … is false, and necessarily so: the OTLP specification's two tables disagree on this one outcome. OTLP/gRPC: RESOURCE_EXHAUSTED is
retryable "only if the server signals that recovery is possible" (RetryInfo); OTLP/HTTP: 429 is in the list of retryable response
codes without condition. The receiver maps RESOURCE_EXHAUSTED to 429 (its documented mapping), each sender follows its own table
(`C15_exporter_matches_spec_grpc/http`), so a consumer's RESOURCE_EXHAUSTED without RetryInfo is permanent over gRPC and retried over
HTTP. Spec-induced, not a deviation of the code: the property's clause holds per transport table (`C15_commutes_grpc/http`). -/
theorem C15_transports_agree_full_fails : ¬ C15_transports_agree_full := by
  intro h
  have := h (.status 8 none) (by decide)
  rw [C15_resource_exhausted_without_info.1, C15_resource_exhausted_without_info.2] at this
  cases this

/-! ## the senders against any server -/

/-- the HTTP exporter equals its own normal form `specHttpX`, which carries the two
implementation traits; the statement against the trait-free specification is `C15_expHttpX_matches_spec_partial` -/
theorem expHttpX_normal_form (r : HttpResp) : expHttpX r = specHttpX r := by
  unfold expHttpX specHttpX
  rw [C15_http_table_total, successLo_eq, successHi_eq, expThrottleStatuses_eq]
  simp only [throttle_contains]
  cases r.body <;> cases r.ra <;> rfl

/-- **The HTTP exporter follows the specification** `specHttpXPure` (no implementation trait on the spec side) for every status,
every `Retry-After` form and every body inside `inDomain`. Partial: outside the domain the code deviates, see the two witnesses. -/
theorem C15_expHttpX_matches_spec_partial (r : HttpResp) (hd : r.inDomain = true) : expHttpX r = specHttpXPure r := by
  rw [expHttpX_normal_form]
  obtain ⟨st, ra, b⟩ := r
  simp only [HttpResp.inDomain, Bool.and_eq_true, Bool.or_eq_true, Bool.not_eq_true', bne_iff_ne, ne_eq] at hd
  obtain ⟨hb, hra⟩ := hd
  unfold specHttpX specHttpXPure
  by_cases h2 : 200 ≤ st ∧ st ≤ 299
  · have : b ≠ .undecodable := by
      rcases hb with hb | hb
      · simp [h2.1, h2.2] at hb
      · exact hb
    simp [h2, this]
  · simp only [h2, if_false]
    cases ra with
    | seconds s =>
      simp only [Bool.and_eq_true, decide_eq_true_eq] at hra
      simp [wrap64_seconds hra.1 hra.2]
    | _ => rfl

def C15_expHttpX_matches_spec_full : Prop := ∀ r : HttpResp, expHttpX r = specHttpXPure r

/-- (OBSERVATION, outside the property's quantifier — the real receiver never sends this.) … is false for the code as it is, witness 1: `Retry-After: 9223372037` on a 503 — `time.Duration(seconds)*time.Second`
wraps to a negative delay instead of ≈ 292 years (observed on the real exporter: fake-server corpus case) -/
theorem C15_expHttpX_matches_spec_full_fails : ¬ C15_expHttpX_matches_spec_full := by
  intro h
  have := h ⟨503, .seconds 9223372037, .empty⟩
  revert this
  decide

/-- (OBSERVATION, outside the property's quantifier.) witness 2: a 200 whose body is declared protobuf/JSON but does not decode is returned as a plain error, i.e. the batch is
RETRIED although the server acknowledged it (the spec: 200 = success) -/
theorem C15_undecodable_2xx_is_retried :
    expHttpX ⟨200, .absent, .undecodable⟩ = .retryable ∧ specHttpXPure ⟨200, .absent, .undecodable⟩ = .success := by decide

theorem C15_expHttpX_irrelevant_inputs (st : Nat) (ra ra' : RetryAfter) (b b' : SuccessBody) :
    (¬ (200 ≤ st ∧ st ≤ 299) → expHttpX ⟨st, ra, b⟩ = expHttpX ⟨st, ra, b'⟩) ∧
    (st ≠ 429 → st ≠ 503 → expHttpX ⟨st, ra, b⟩ = expHttpX ⟨st, ra', b⟩) := by
  rw [expHttpX_normal_form, expHttpX_normal_form, expHttpX_normal_form]
  constructor
  · intro h; simp [specHttpX, h]
  · intro h1 h2; simp [specHttpX, h1, h2]

theorem C15_partial_success_is_success (st : Nat) (ra : RetryAfter) (b : SuccessBody)
    (h : 200 ≤ st ∧ st ≤ 299) (hb : b ≠ .undecodable) : expHttpX ⟨st, ra, b⟩ = .success := by
  rw [expHttpX_normal_form]
  simp [specHttpX, h, hb]

/-- **Retry-After honoured, exactly** for every delay-seconds value that fits a `time.Duration`
(|s| ≤ 9 223 372 036 s ≈ 292 years), and for every HTTP-date; (partial: beyond that range
`time.Duration(seconds)*time.Second` wraps — see `C15_retry_after_overflow_wraps`). -/
theorem C15_retry_after_honoured_partial (st : Nat) (b : SuccessBody) (hst : st = 429 ∨ st = 503) :
    (∀ s : Int, -9223372036 ≤ s → s ≤ 9223372036 → expHttpX ⟨st, .seconds s, b⟩ = .throttle (s * 1000000000)) ∧
    (∀ d : Int, expHttpX ⟨st, .date d, b⟩ = .throttle d) ∧
    expHttpX ⟨st, .absent, b⟩ = .retryable ∧ expHttpX ⟨st, .unusable, b⟩ = .retryable := by
  have hns : ¬ (200 ≤ st ∧ st ≤ 299) := by cases hst <;> omega
  have hre : specHttpRetryable st = true := by cases hst with
    | inl h => simp [h, specHttpRetryable]
    | inr h => simp [h, specHttpRetryable]
  refine ⟨?_, ?_, ?_, ?_⟩
  · intro s h1 h2
    rw [expHttpX_normal_form]
    simp only [specHttpX, hns, if_false, hre, Bool.not_true, Bool.false_eq_true, hst, if_true, wrap64_seconds h1 h2]
    rfl
  all_goals
    intros
    rw [expHttpX_normal_form]
    simp [specHttpX, hns, hre, hst]

theorem C15_retry_after_overflow_wraps :
    expHttpX ⟨503, .seconds 9223372037, .empty⟩ = .throttle (-9223372036709551616) := by decide

/-- on the wires the real receiver produces the complete function agrees with `expHttp` -/
theorem C15_expHttpX_extends (w : WireHttp) (b : SuccessBody) (hb : b ≠ .undecodable)
    (hs : ∀ s, w.retryAfter = some s → s ≤ 9223372036) :
    expHttpX ⟨w.status, (match w.retryAfter with | some s => .seconds s | none => .absent), b⟩ = (expHttp w).toI := by
  rw [expHttpX_normal_form, C15_exporter_matches_spec_http]
  unfold specHttpX specHttp
  simp only [apply_ite Verdict.toI, hb, if_false]
  cases hra : w.retryAfter with
  | none => rfl
  | some s =>
    have hw : wrap64 ((s : Int) * nsPerSec) = (s * nsPerSec : Nat) := by
      rw [wrap64_seconds (by omega) (by have := hs s hra; omega)]
      rfl
    simp only [hw]
    rfl

/-- the gRPC exporter on every code and every signed RetryInfo delay: retryability by the spec table, a
non-zero delay (of either sign) is handed on unchanged -/
theorem C15_expGrpcX_total (c : Nat) (ri : Option Int) : expGrpcX c ri = specGrpcX c ri := by
  unfold specGrpcX expGrpcX
  rw [C15_grpc_table_total, Option.isSome_map]
  cases ri with
  | none => rfl
  | some d => simp only [ne_eq, ite_not]

/-! ## requests that must not reach the consumer -/

/-- **Client errors, HTTP.** Unauthenticated, badly encoded, unknown path, wrong method, unsupported media
type, undecodable body: a 4xx status, the consumer is not invoked, the sender will not retry. -/
theorem C15_client_errors_http (r : HttpReq) (sink : Outcome)
    (h : r.authOk = some false ∨ r.encodingOk = false ∨ r.pathKnown = false ∨ r.isPost = false ∨
         r.ctype = .other ∨ r.bodyReads = false ∨ r.bodyDecodes = false) :
    400 ≤ (httpFront r sink).1.status ∧ (httpFront r sink).1.status ≤ 499 ∧ (httpFront r sink).2 = 0 ∧
      expHttp (httpFront r sink).1 = .permanent :=
  (by decide : ∀ x ∈ [((⟨401, none, 16⟩ : WireHttp), 0), (⟨400, none, 3⟩, 0), (⟨404, none, 0⟩, 0), (⟨405, none, 0⟩, 0),
      (⟨415, none, 0⟩, 0)], 400 ≤ x.1.status ∧ x.1.status ≤ 499 ∧ x.2 = 0 ∧ expHttp x.1 = .permanent)
    _ (httpFront_rejected r sink h)

/-- **Client errors, gRPC** (partial: the statuses of the stages grpc-go handles itself are the library's choice — unknown
method / unknown `grpc-encoding` → `Unimplemented`, oversized message → `ResourceExhausted`, undecodable frame → `Internal`, which is
non-retryable but not a "client error" code; an unauthenticated call gets `Unauthenticated` from configgrpc's interceptor).
Whatever the stage: not OK, the consumer is not invoked, the sender will not retry. -/
theorem C15_client_errors_grpc_partial (r : GrpcReq) (sink : Outcome)
    (h : r.methodKnown = false ∨ r.encodingKnown = false ∨ r.fitsMaxRecv = false ∨ r.bodyDecodes = false ∨ r.authOk = some false) :
    (grpcFront r sink).1.code ≠ 0 ∧ (grpcFront r sink).2 = 0 ∧ expGrpc (grpcFront r sink).1 = .permanent ∧
      (r.methodKnown = true → r.encodingKnown = true → r.fitsMaxRecv = true → r.bodyDecodes = true → (grpcFront r sink).1.code = 16) := by
  obtain ⟨h1, h2, h3⟩ := (by decide : ∀ x ∈ [((⟨12, none⟩ : WireGrpc), 0), (⟨8, none⟩, 0), (⟨13, none⟩, 0), (⟨16, none⟩, 0)],
    x.1.code ≠ 0 ∧ x.2 = 0 ∧ expGrpc x.1 = .permanent) _ (grpcFront_rejected r sink h)
  refine ⟨h1, h2, h3, fun hm he hf hb => ?_⟩
  have ha : r.authOk = some false := by simpa [hm, he, hf, hb] using h
  simp only [grpcFront, hm, he, hf, hb, ha, Bool.not_true, Bool.false_eq_true, if_false, if_true]
  rfl

/-- **Empty acknowledgement.** A well-formed request with no items is acknowledged as success without
invoking the consumer, whatever the consumer would have answered — on both transports. -/
theorem C15_empty_ack (sink : Outcome) (auth : Option Bool) (ct : CType) (ha : auth ≠ some false) (hct : ct ≠ .other) :
    httpFront ⟨auth, true, true, true, ct, true, true, 0⟩ sink = (⟨200, none, 0⟩, 0) ∧
    expHttp (httpFront ⟨auth, true, true, true, ct, true, true, 0⟩ sink).1 = .success ∧
    grpcFront ⟨auth, true, 0, true, true, true⟩ sink = (⟨0, none⟩, 0) ∧
    expGrpc (grpcFront ⟨auth, true, 0, true, true, true⟩ sink).1 = .success := by
  have e1 : httpFront ⟨auth, true, true, true, ct, true, true, 0⟩ sink = (⟨200, none, 0⟩, 0) := by
    simp [httpFront, ha, hct, receive, recvHttp, recvStatus]
  have e2 : grpcFront ⟨auth, true, 0, true, true, true⟩ sink = (⟨0, none⟩, 0) := by
    simp [grpcFront, ha, receive, recvGrpc, recvStatus]
  refine ⟨e1, ?_, e2, ?_⟩
  · rw [e1]; decide
  · rw [e2]; decide

theorem C15_consumer_once (sink : Outcome) (auth : Option Bool) (ct : CType) (n : Nat)
    (ha : auth ≠ some false) (hct : ct ≠ .other) (hn : n ≠ 0) :
    httpFront ⟨auth, true, true, true, ct, true, true, n⟩ sink = (recvHttp sink, 1) ∧
    grpcFront ⟨auth, true, n, true, true, true⟩ sink = (recvGrpc sink, 1) := by
  constructor
  · simp [httpFront, ha, hct, receive, hn]
  · simp [grpcFront, ha, receive, hn]

/-! ## payload -/

/-- (not counted) the shape of the counted payload theorems `C15_payload_pb_partial` / `C15_payload_json_partial`
(`Props/C15Payload.lean`), which take C08's proved wrapper round trips as `enc_law` and keep the transport's laws as hypotheses -/
theorem payload_composition {α β : Type} (encode : α → β) (decode : β → Option α) (compress : β → β) (decompress : β → Option β)
    (enc_law : ∀ v, decode (encode v) = some v) (comp_law : ∀ b, decompress (compress b) = some b) (v : α) :
    (decompress (compress (encode v))).bind decode = some v := by
  rw [comp_law, Option.bind_some, enc_law]

/-! ## the search oracle -/

/-- what `hopCheck` guarantees when it accepts a hop: the property's clauses, stated without any table of the code -/
def HopOk (x : Hop) : Prop :=
  if x.authFail then
    x.calls = 0 ∧ x.verdict = .permanent ∧
    (match x.transport with
     | .grpc => x.wireCode = 16
     | .http => 400 ≤ x.httpStatus ∧ x.httpStatus ≤ 499)
  else
    x.calls = (if x.items = 0 then 0 else 1) ∧ x.payloadEq = true ∧
    (x.verdict = .success ↔ x.effective = .ok) ∧
    -- an explicit status is reported as such: same code, on HTTP under the status the table names, RetryInfo untouched over gRPC
    (∀ c ri, x.effective = .status c ri →
      x.wireCode = c ∧ (x.transport = .http → x.httpStatus = specHttpOf c) ∧ (x.transport = .grpc → x.wireRetry = ri)) ∧
    -- any other permanent error travels as a non-retryable status, any other error as a retryable one
    (x.effective = .plain true → x.wireRetryable = false) ∧ (x.effective = .plain false → x.wireRetryable = true) ∧
    x.verdict = x.want ∧
    -- a requested delay is never shortened and never dropped
    (∀ c d d', x.effective = .status c (some d) → x.verdict = .throttle d' → d ≤ d') ∧
    (∀ c d, x.effective = .status c (some d) → x.verdict = .retryable → d = 0)

/-- the driver's oracle accepts only hops on which EVERY clause of the property holds (every clause of `hopClauses` that `HopOk` keeps, in both branches) -/
theorem C15_check_sound (x : Hop) (h : hopCheck x = none) : HopOk x := by
  unfold HopOk
  unfold hopCheck hopClauses at h
  by_cases ha : x.authFail = true
  · simp only [ha, if_true, firstFail_none] at h ⊢
    obtain ⟨h1, -, -, h4, h5, -⟩ := h
    refine ⟨by simpa using h1, by simpa using h5, ?_⟩
    cases ht : x.transport with
    | grpc => simp only [ht] at h4 ⊢; simpa using h4
    | http =>
      simp only [ht] at h4 ⊢
      simp only [Bool.or_eq_false_iff, decide_eq_false_iff_not, Nat.not_lt] at h4
      exact h4
  · simp only [ha, Bool.false_eq_true, if_false, firstFail_none] at h ⊢
    obtain ⟨h1, h2, h3, h4, h5, h6, h7, h8, h9, h10, h11, -⟩ := h
    refine ⟨by simpa using h1, by simpa using h2, ?_, ?_, ?_, ?_, by simpa using h9, ?_, ?_⟩
    · simp only [bne_eq_false_iff_eq, decide_eq_decide] at h3
      exact h3
    · intro c ri he
      rw [he] at h4 h5 h6
      refine ⟨by simpa using h4, ?_, ?_⟩
      · intro ht
        simp only [ht] at h5
        simpa using h5
      · intro ht
        simp only [ht] at h6
        simpa using h6
    · intro he
      rw [he] at h7
      simpa using h7
    · intro he
      rw [he] at h8
      simpa using h8
    · intro c d d' he hv
      rw [he, hv] at h10
      simp only [decide_eq_false_iff_not, Nat.not_lt] at h10
      exact h10
    · intro c d he hv
      rw [he, hv] at h11
      simpa using h11

/-- the hypothesis of `C15_check_sound` is met by a real-looking hop of every kind -/
example : hopCheck ⟨.http, 2, .plain true, 13, 500, none, .permanent, 1, true, false⟩ = none ∧
    hopCheck ⟨.grpc, 2, .status 8 (some 0), 8, 0, some 0, .retryable, 1, true, false⟩ = none ∧
    hopCheck ⟨.http, 3, .ok, 16, 401, none, .permanent, 0, true, true⟩ = none := by decide

/-! ## the error the exporter RETURNS (third encoding of the failure: Go error → status → Go error) -/

/-- Over gRPC the returned error carries the consumer's code itself; over HTTP exactly the codes 2, 3, 7, 8, 12, 14, 16 survive the
hop (`GetHTTPStatusCodeFromStatus` then `statusutil.NewStatusFromMsgAndHTTPCode`), the other retryable ones come back as
Unavailable and every other code as Unknown; the returned code is never OK for a failed export and its class under the gRPC
table (RetryInfo present) is the class of the consumer's own code — a collector relaying the error keeps its meaning.
Tie: `obs verdict … ecode=` on every hop. -/
theorem C15_returned_error_code (c : Nat) (ri : Option Nat) (hc : c ≠ 0) :
    expGrpcErrCode (recvGrpc (.status c ri)) = c ∧
    (expHttpErrCode (recvHttp (.status c ri)) = c ↔ c ∈ [2, 3, 7, 8, 12, 14, 16]) ∧
    expHttpErrCode (recvHttp (.status c ri)) ≠ 0 ∧
    specGrpcRetryable (expHttpErrCode (recvHttp (.status c ri))) true = specGrpcRetryable c true :=
  ⟨rfl, returned_http_code c ri⟩

example : expHttpErrCode (recvHttp (.status 4 (some 1500000000))) = 14 ∧ expHttpErrCode (recvHttp (.status 9 none)) = 2 ∧
    expHttpErrCode (recvHttp (.plain true)) = 2 ∧ expHttpErrCode (recvHttp .ok) = 0 := by decide

/-! ## non-vacuity -/

example : expHttp (recvHttp (.status 14 (some 500000000))) = .throttle 1000000000 := by decide
example : expGrpc (recvGrpc (.status 14 (some 500000000))) = .throttle 500000000 := by decide
example : expHttp (recvHttp (.status 3 (some 500000000))) = .permanent := by decide
example : expHttp (recvHttp (.status 99 none)) = .permanent ∧ (recvHttp (.status 99 none)).status = 500 := by decide
example : (httpFront ⟨some false, true, true, true, .other, true, true, 3⟩ (.plain false)).1.status = 401 := by decide
example : hopCheck ⟨.http, 2, .status 14 (some 500000000), 14, 503, some 0, .throttle 0, 1, true, false⟩
    = some "C15/http/retry-after-truncated" := by decide +kernel
example : hopCheck ⟨.http, 2, .status 14 (some 500000000), 14, 503, some 1, .throttle 1000000000, 1, true, false⟩ = none := by decide
example : hopCheck ⟨.grpc, 1, .plain true, 14, 0, none, .retryable, 1, true, false⟩
    = some "C15/grpc/permanent-reported-retryable" := by decide +kernel

end OtelVerif.C15

import OtelVerif.Lemmas.C03RefCount
/-! # C03: `refCountDone` fires once, with the join of all part errors -/
namespace OtelVerif.C03.RefCount

/-- **Fires exactly once, with the join.**  A request split into `n ≥ 1` parts: after the `n` calls of `OnDone` — in ANY order of the
parts — the wrapped `Done` has been called exactly once and received the join of ALL part errors; after fewer calls it has not been called. -/
theorem C03_refcount_fires_once (parts : List PErr) (hn : 0 < parts.length) :
    (RCD.run parts.length parts).fired = [joined parts] ∧
    ∀ k, k < parts.length → (RCD.run parts.length (parts.take k)).fired = [] := by
  constructor
  · obtain ⟨l, x, rfl⟩ : ∃ l x, parts = l ++ [x] := by
      cases h : parts.reverse with
      | nil => simp at h; subst h; simp at hn
      | cons x l => exact ⟨l.reverse, x, by simpa using congrArg List.reverse h⟩
    simp only [RCD.run, List.foldl_append, List.foldl_cons, List.foldl_nil]
    have hf := fold_fired l (RCD.new (l ++ [x]).length) (by simp [RCD.new]; omega)
    obtain ⟨he, hc⟩ := fold_state l (RCD.new (l ++ [x]).length)
    have hz : (List.foldl RCD.onDone (RCD.new (l ++ [x]).length) l).refCount - 1 = 0 := by
      rw [hc]; simp [RCD.new]; omega
    simp only [RCD.onDone, hz, if_true, hf, he, joins]
    cases x <;> simp [RCD.new, mappend, joined, List.filter_append]
  · intro k hk
    have := fold_fired (parts.take k) (RCD.new parts.length) (by simp [RCD.new]; omega)
    simpa [RCD.run, RCD.new] using this

/-- **Non-nil iff some part failed** -/
theorem C03_refcount_nonnil_iff (parts : List PErr) : nonNil (joined parts) = true ↔ ∃ p ∈ parts, p ≠ .ok := by
  simp [nonNil, joined, List.filter_eq_nil_iff]

/-- **Shutdown-classified iff some part ended with a shutdown error** — so a persistent queue (`onDone`: `if experr.IsShutdownErr(err)
{ return }` before deleting, `Shape.persistentKeepsOnShutdownErr`) keeps the WHOLE request iff some part was interrupted by the
shutdown, whatever the other parts did (succeeded, failed permanently, ran out of retries) and in whatever order they finished. -/
theorem C03_refcount_shutdown_iff (parts : List PErr) : isShutdown (joined parts) = true ↔ PErr.shutdown ∈ parts := by
  simp [isShutdown, joined, List.mem_filter]

theorem C03_refcount_order_irrelevant {a b : List PErr} (h : a.Perm b) :
    nonNil (joined a) = nonNil (joined b) ∧ isShutdown (joined a) = isShutdown (joined b) := by
  constructor
  · rw [Bool.eq_iff_iff, C03_refcount_nonnil_iff, C03_refcount_nonnil_iff]
    exact ⟨fun ⟨p, hp, hne⟩ => ⟨p, h.mem_iff.mp hp, hne⟩, fun ⟨p, hp, hne⟩ => ⟨p, h.mem_iff.mpr hp, hne⟩⟩
  · rw [Bool.eq_iff_iff, C03_refcount_shutdown_iff, C03_refcount_shutdown_iff]
    exact h.mem_iff

/-- keeping the first error only / the last error only is NOT this function: it loses the classification -/
example : isShutdown (joined [.final, .ok, .shutdown]) = true ∧ isShutdown [PErr.final] = false ∧
    nonNil (joined [.final, .ok, .ok]) = true ∧ nonNil (mappend [] PErr.ok) = false := by decide +kernel
example : (RCD.run 3 [.final, .ok, .shutdown]).fired = [[.final, .shutdown]] := by
  simp [RCD.run, RCD.new, RCD.onDone, joins, mappend]
example : (RCD.run 3 [.final, .ok]).fired = [] := by simp [RCD.run, RCD.new, RCD.onDone, joins, mappend]

end OtelVerif.C03.RefCount

import OtelVerif.Common.Line
import OtelVerif.Props.C01
import OtelVerif.Props.C02
import OtelVerif.Props.C03
import OtelVerif.Props.C03Cfg
import OtelVerif.Props.C03Shape
import OtelVerif.Props.C03Bridge
import OtelVerif.Props.C03Direct
import OtelVerif.Props.C03RefCount
import OtelVerif.Props.C03ReplaySound
import OtelVerif.Props.C03Refine
import OtelVerif.Props.C04
import OtelVerif.Props.C05
import OtelVerif.Props.C06
import OtelVerif.Props.C07
import OtelVerif.Props.C08
import OtelVerif.Props.C09
import OtelVerif.Props.C10
import OtelVerif.Props.C11
import OtelVerif.Props.C12
import OtelVerif.Props.C13
import OtelVerif.Props.C14
import OtelVerif.Props.C15
import OtelVerif.Props.C15Payload
import OtelVerif.Props.C15Route
import OtelVerif.Props.C16
import OtelVerif.Lemmas.C16Pool
import OtelVerif.Props.C17
import OtelVerif.Props.C18
import OtelVerif.Props.C19
import OtelVerif.Props.C19Balance
import OtelVerif.Props.C19PGauge
import OtelVerif.Lemmas.C19Sender
import OtelVerif.Props.C19SenderTrace
import OtelVerif.Lemmas.C19SigDup
import OtelVerif.Props.C20
/-! Library root: every module that holds property theorems, so that `lake build` checks all of them. -/
